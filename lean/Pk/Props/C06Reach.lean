/-
  C06Reach — "decided ⇒ correct" (C06) over whole histories: the theorems.

  The contracts (`TruthStep`, `ResultOK`, `ImportAddsNew`, `EvFeatOK`, `JobTextOK`), the ghost (`ghostNext`), the
  state invariants (`GenInv`, `TagFeatInv`) and the job invariant (`JobInv`) are defined, with a comment on every
  clause, in Pk/Props/C06ReachSpec.lean; the lemmas are in Pk/Proofs/MgrTruth*.lean.
-/
import Pk.Props.C06ReachSpec
import Pk.Props.C09Settles
import Pk.Proofs.MgrTruthEvKeep
import Pk.Proofs.MgrTruthEvEdit
import Pk.Proofs.MgrTruthExample
import Pk.Proofs.MgrTruthCexAddsNew
import Pk.Proofs.MgrTruthCexFeat
import Pk.Proofs.MgrTruthAba
import Pk.Proofs.MgrTruthCexJobText

namespace Pk.Props.C06Reach
open Pk.Mgr Pk.Props.MgrReach Pk.Proofs.MgrTruth Pk.Proofs.MgrTags

private theorem good_same_state (s : St) (e : Ev) (st : Started) (T T' g : Truth) (hg : Good s T g)
    (hs' : (step s e st).1 = s) (hsame : SameOn s T T') :
    C06.Inv (step s e st).1 T' ∧
    (∀ jn snap held, s.jTag = some (jn, snap, held) → JobInv (step s e st).1 T' g) := by
  rw [hs']
  exact ⟨inv_congr hg.inv hsame, fun _ _ _ _ => jobInv_congr hg.job hsame⟩

private theorem markAdd_nil (s : St) (name : String) (st : Started) : (step s (.markAdd name []) st).1 = s :=
  step_markAdd_cases (P := fun r => r.1 = s) s name [] st rfl (fun _ _ _ => rfl) fun _ ok => absurd rfl ok.nonempty

private theorem markDel_nil (s : St) (name : String) (st : Started) : (step s (.markDel name []) st).1 = s :=
  step_markDel_cases (P := fun r => r.1 = s) s name [] st rfl (fun _ _ _ => rfl) fun _ ok => absurd rfl ok.nonempty

private theorem updName_nil (s : St) (name : String) (st : Started) : (step s (.updName name "") st).1 = s :=
  step_updName_cases (P := fun r => r.1 = s) s name "" st rfl (fun _ _ _ => rfl) fun _ ok => absurd rfl ok.nonempty

/-- the invariants after one event, for the ghost of the job that was in flight before -/
private theorem core_step (s : St) (e : Ev) (st : Started) (T T' g : Truth) (hg : Good s T g)
    (hok : StepOK s T g e st T') (hA' : C09.Acyclic (step s e st).1) :
    C06.Inv (step s e st).1 T' ∧
    ((∀ n r, e ≠ .tagDone n r) → ∀ jn snap held, s.jTag = some (jn, snap, held) → JobInv (step s e st).1 T' g) := by
  have wrap : ∀ {P : Prop} {Q : Prop}, (P ∧ Q) → (P ∧ ((∀ n r, e ≠ .tagDone n r) → Q)) :=
    fun h => ⟨h.1, fun _ => h.2⟩
  have hr := hg.reach
  by_cases herr : (step s e st).2 = Res.err
  · have hsame : SameOn s T T' := hok.truth.1 (by rw [step_res_indep s e {} st]; exact herr)
    exact wrap (good_same_state s e st T T' g hg (step_rejected s e st herr) hsame)
  have herr0 : (step s e {}).2 ≠ Res.err := by rw [step_res_indep s e {} st]; exact herr
  have ht := hok.truth.2 herr0
  have hjt := hok.jobText
  cases e with
  | nop | importPcaps _ | mergeDone _ | viewOpen _ | viewRelease _ | updColor _ _ =>
    exact wrap (good_sameOn s _ st T T' g hg (fun _ h => h)
      (Pk.Proofs.MgrReach.step_all_next_other s _ st (fun p u c a b d h => by cases h)).2 ht)
  | updConv name convs =>
    have hok' := res_ok_updConv s name convs st herr
    by_cases hd : DropsOutput s (.updConv name convs)
    · exact wrap (good_dropped s _ st T T' g hg (Or.inl ⟨name, convs, rfl⟩) hok' hd fun n t _ => ht.2 hd n t)
    · exact wrap (good_sameOn s _ st T T' g hg (fun _ h => h)
        (Pk.Proofs.MgrReach.step_all_next_other s _ st (fun p u c a b d h => by cases h)).2 (ht.1 hd))
  | importDone p u c a b d =>
    cases hji : s.jImport with
    | none =>
      simp only [hji] at ht
      exact wrap (good_same_state s _ st T T' g hg
        (congrArg Prod.fst (Pk.Proofs.MgrTags.step_importDone_none s p u c a b d st hji)) ht)
    | some q =>
      obtain ⟨jn, held⟩ := q
      simp only [hji] at ht
      by_cases hc : c = []
      · subst hc
        simp only [if_true] at ht
        obtain ⟨s1, _, _, e3, _, hf⟩ := step_importDone_some (g := False) s p u [] a b d st jn held hji
        exact wrap (good_sameOn s _ st T T' g hg (fun _ h => h) (hf.next.trans e3) ht)
      · simp only [hc, if_false] at ht
        exact wrap (good_importDone s p u c a b d st T T' g hg jn held hji hc hok.payload hok.addsNew ht)
  | convertDone =>
    cases hjc : s.jConv with
    | none =>
      simp only [hjc] at ht
      exact wrap (good_sameOn s _ st T T' g hg (fun _ h => h)
        (Pk.Proofs.MgrReach.step_all_next_other s _ st (fun p u c a b d h => by cases h)).2 ht)
    | some q =>
      obtain ⟨sets, held⟩ := q
      simp only [hjc] at ht
      exact wrap (good_convertDone s st T T' g hg sets held hjc ht)
  | tagDone name result =>
    refine ⟨?_, fun h => absurd rfl (h name result)⟩
    cases hj : s.jTag with
    | none =>
      have : (step s (.tagDone name result) st).1 = s := by
        rw [step_tagDone_eq, hj]
      rw [this]
      exact inv_congr hg.inv ht
    | some j =>
      obtain ⟨jn, snap, held⟩ := j
      have hn : jn = name := hok.payload.2.1 jn snap held hj
      subst hn
      exact inv_tagDone s jn result st T T' g hg snap held hj ht (hok.result snap held hj)
  | addTag name color defn f =>
    have hok' := res_ok_addTag s name color defn f st herr
    exact wrap (good_addTag s name color defn f st T T' g hg hok' ht.1 ht.2)
  | updQuery name defn f =>
    have hok' := res_ok_updQuery s name defn f st herr
    exact wrap (good_updQuery s name defn f st T T' g hg hA' hok' ht
      (fun jn snap held hj t ht' hgn hd => hjt jn snap held hj t ht' hgn hd hok'))
  | updName name new =>
    have hok' := res_ok_updName s name new st herr
    by_cases hnew : new = ""
    · subst hnew
      simp only [if_true] at ht
      exact wrap (good_same_state s _ st T T' g hg (updName_nil s name st) ht)
    · simp only [hnew, if_false] at ht
      exact wrap (good_updName s name new st T T' g hg hok' hnew ht.1 ht.2)
  | markAdd name ids =>
    have hok' := (res_ok_markAdd s name ids st herr).1
    by_cases hne : ids = []
    · subst hne
      simp only [if_true] at ht
      exact wrap (good_same_state s _ st T T' g hg (markAdd_nil s name st) ht)
    · simp only [hne, if_false] at ht
      obtain ⟨t, hst⟩ := (res_ok_markAdd s name ids st herr).2
      exact wrap (good_markAdd s name ids st T T' g hg hok' hne t hst (ht t hst).1 (ht t hst).2 hjt)
  | markDel name ids =>
    have hok' := (res_ok_markDel s name ids st herr).1
    by_cases hne : ids = []
    · subst hne
      simp only [if_true] at ht
      exact wrap (good_same_state s _ st T T' g hg (markDel_nil s name st) ht)
    · simp only [hne, if_false] at ht
      obtain ⟨t, hst⟩ := (res_ok_markDel s name ids st herr).2
      exact wrap (good_markDel s name ids st T T' g hg hok' hne t hst (ht t hst).1 (ht t hst).2 hjt)
  | delTag name =>
    have hok' := res_ok_delTag s name st herr
    by_cases hd : DropsOutput s (.delTag name)
    · exact wrap (good_dropped s _ st T T' g hg (Or.inr ⟨name, rfl⟩) hok' hd
        fun n t hE => ht.2 hd n t fun h => hE h.symm)
    · exact wrap (good_delTag s name st T T' g hg hok' (ht.1 hd))

/-- ONE EVENT: every event that satisfies the contracts preserves all invariants, in particular
    "decided ⇒ correct" and the ghost invariant of the tagging job in flight -/
theorem decided_correct_step (s : St) (e : Ev) (st : Started) (T T' g : Truth) (hg : Good s T g)
    (hok : StepOK s T g e st T') : Good (step s e st).1 T' (ghostNext s e T' g) := by
  have hR' := reach_step s e st hg.reach hok.payload
  have hA' := C09.acyclic_step s e st hg.reach hok.payload hg.acyclic
  have hG' := genInv_step s e st hg.reach hg.gens
  have hF' := tagFeat_step s e st hg.reach hok.featOK hg.feats
  obtain ⟨hinv', hjob'⟩ := core_step s e st T T' g hg hok hA'
  refine ⟨hR', hA', hG', hF', hinv', ?_⟩
  unfold ghostNext
  cases hj : s.jTag with
  | none =>
    simp only [Option.isNone_none, if_true]
    exact jobInv_fresh s e st T' hg.reach hok.payload.2.1 hg.gens hG' (Or.inl hj) hinv' hR'.nextLeAll
  | some j =>
    obtain ⟨jn, snap, held⟩ := j
    simp only [Option.isNone_some, Bool.false_eq_true, if_false]
    by_cases hd : ∃ n r, e = .tagDone n r
    · obtain ⟨n, r, rfl⟩ := hd
      exact jobInv_fresh s _ st T' hg.reach hok.payload.2.1 hg.gens hG' (Or.inr ⟨n, r, rfl⟩) hinv' hR'.nextLeAll
    · have hne : ∀ n r, e ≠ .tagDone n r := fun n r h => hd ⟨n, r, h⟩
      have := hjob' hne jn snap held hj
      cases e with
      | tagDone n r => exact absurd rfl (hne n r)
      | _ => exact this

theorem runSt_eq (s : St) (h : Hist) : runSt s h = C13.run s (h.map fun x => (x.1, x.2.1)) := by
  induction h generalizing s with
  | nil => rfl
  | cons a rest ih => obtain ⟨e, st, T'⟩ := a; exact ih _

theorem good_run (s : St) (T g : Truth) (h : Hist) (hg : Good s T g) (hh : RunOK s T g h) :
    Good (runSt s h) (runT T h) (runG s g h) := by
  induction h generalizing s T g with
  | nil => exact hg
  | cons a rest ih =>
    obtain ⟨e, st, T'⟩ := a
    exact ih _ _ _ (decided_correct_step s e st T T' g hg hh.1) hh.2

theorem runOK_prefix (s : St) (T g : Truth) (h1 h2 : Hist) (hh : RunOK s T g (h1 ++ h2)) : RunOK s T g h1 := by
  induction h1 generalizing s T g with
  | nil => trivial
  | cons a rest ih =>
    obtain ⟨e, st, T'⟩ := a
    exact ⟨hh.1, ih _ _ _ hh.2⟩

theorem good_init (convs : List String) (T g : Truth) : Good (initSt convs) T g :=
  ⟨reach_init convs, rfl,
   ⟨fun _ _ h => (by cases h), fun _ _ _ h => (by cases h), fun _ _ _ _ h => (by cases h)⟩,
   ⟨fun _ _ h => (by cases h), fun _ _ _ h => (by cases h)⟩,
   fun _ _ h => (by cases h), fun _ _ _ _ _ h => (by cases h)⟩

/-- EVERY HISTORY: for every history of events (API calls and job completions in any order) from the initial
    state whose payloads satisfy the contracts and along which the ground truth moves as the frame contract
    allows, "decided ⇒ correct" holds in the state reached — and, since every prefix of such a history is
    one, in every state on the way (`decided_correct_everywhere`) -/
theorem decided_correct_run (convs : List String) (T0 : Truth) (h : Hist)
    (hh : RunOK (initSt convs) T0 T0 h) : C06.Inv (runSt (initSt convs) h) (runT T0 h) :=
  (good_run _ _ _ h (good_init convs T0 T0) hh).inv

theorem decided_correct_everywhere (convs : List String) (T0 : Truth) (h1 h2 : Hist)
    (hh : RunOK (initSt convs) T0 T0 (h1 ++ h2)) : C06.Inv (runSt (initSt convs) h1) (runT T0 h1) :=
  decided_correct_run convs T0 h1 (runOK_prefix _ _ _ h1 h2 hh)

/-- NON-VACUITY: the concrete history `exHist` (Pk/Proofs/MgrTruthExample.lean)
      `addTag tag/x "sport:80"`, `importPcaps ["a.pcap"]`, `importDone` adding stream 0 (the tagging job for
      tag/x starts), `tagDone tag/x [0]`
    with the concrete truth function `exT` (tag/x matches exactly stream 0) satisfies all hypotheses of
    `decided_correct_run`; in the state it reaches tag/x DECIDES stream 0 (`unc = []`, `next = 1`) with the
    answer "matches" (`mat = [0]`), and that answer is the truth -/
theorem decided_correct_example :
    RunOK (initSt []) exT exT exHist ∧
    C06.Inv (runSt (initSt []) exHist) (runT exT exHist) ∧
    (∃ t, sget (runSt (initSt []) exHist).tags "tag/x" = some t ∧ t.mat = [0] ∧ t.unc = [] ∧
      (runSt (initSt []) exHist).next = 1) ∧
    runT exT exHist "tag/x" 0 = true :=
  ⟨example_runOK, decided_correct_run [] exT exHist example_runOK, example_final, rfl⟩

/-- THE DELETE / RE-CREATE TRACE OF F54 IS SAFE:
      job for tag/x = "tag:m" in flight; `delTag tag/x`, `delTag mark/m`, `addTag mark/m "id:1"`,
      `addTag tag/x "tag:m"`, `tagDone tag/x [0]`.
    A completion that compares only the definition text publishes the answers computed from the deleted mark/m
    with `unc = []` (F54, confirmed on the real manager and repaired there by the identity `gen`).  With the
    identity the trace satisfies all hypotheses of `good_run` (`aba_runOK`, from the state `abaS` with
    `aba_good`), the completion discards the result (`aba_now_safe`: the new incarnation of tag/x keeps every
    stream pending) and "decided ⇒ correct" holds at its end BY the theorem. -/
theorem aba_decided_correct :
    C06.Inv (runSt abaS abaH) (runT abaT abaH) ∧
    (∃ t, sget (runSt abaS abaH).tags "tag/x" = some t ∧ t.mat = [] ∧ t.unc = [0, 1] ∧ t.gen = 3) :=
  ⟨(good_run abaS abaT abaT abaH aba_good aba_runOK).inv, aba_now_safe⟩

/-- THE HYPOTHESES `ImportAddsNew`, `EvFeatOK`, `JobTextOK` CANNOT BE DROPPED.
    Formal counterexamples (concrete witnesses evaluated on the model; proofs in Pk/Proofs/MgrTruthCex*.lean):
   * `importAddsNew_counterexample` — without `ImportAddsNew` the step theorem is false;
   * `featRefOK_counterexample`     — without the facts contract `EvFeatOK` three events from a state satisfying
     all invariants (`addTag` of a tag that references a mark tag with facts that lack the tag-reference feature,
     a mark removal on the referenced tag, the completion) break "decided ⇒ correct";
   * `jobTextOK_counterexample`     — without `JobTextOK` two events (an `updQuery` of the job's tag back to the
     snapshot's text for a definition that looks at ids only, with the abstract truth changing, then the
     completion) break "decided ⇒ correct".  (An artefact of indexing the truth by names: on the real system
     the same text of an id list has the same truth.) -/
theorem added_hypotheses_needed :
    (¬ (∀ (s : St) (e : Ev) (st : Started) (T T' g : Truth), Good s T g → PayloadOK s e → EvFeatOK e →
        TruthStep s e T T' → ResultOK s e g → JobTextOK s e st T T' → C06.Inv (step s e st).1 T')) ∧
    (¬ (∀ (s : St) (T g : Truth) (h : Hist), Good s T g → RunOK' s T g h → C06.Inv (runSt s h) (runT T h))) ∧
    (¬ (∀ (s : St) (T g : Truth) (e1 : Ev) (st1 : Started) (T1 : Truth) (e2 : Ev) (st2 : Started) (T2 : Truth),
        Good s T g → StepOK4 s T g e1 st1 T1 →
        StepOK4 (step s e1 st1).1 T1 (ghostNext s e1 T1 g) e2 st2 T2 →
        C06.Inv (step (step s e1 st1).1 e2 st2).1 T2)) :=
  ⟨importAddsNew_counterexample, featRefOK_counterexample, jobTextOK_counterexample⟩

end Pk.Props.C06Reach
