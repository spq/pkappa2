/-
  C10Reach — "a view is a complete and stable snapshot of everything imported" (C10) over whole histories.

  `Pk/Props/C10.lean` holds the single-step facts; "in its NEWEST version" is not expressible in the model (no
  payload bytes).  Here the property is stated over EVERY history of events from the initial state, with GHOST
  VERSIONS:
    `ver  : Nat → Nat`        the current version of the data of stream `id` (what all completed imports
                              together say; the same ghost and the same contract `VerStep` as C16Reach);
    `fver : Nat → Nat → Nat`  the version of the data of stream `id` stored in index file `o`.
  A stream id is resolved newest file first: the LAST file of a list that contains the id serves it (`servedBy`).

  Contracts (promises about what the builder / `index.Merge` deliver, on top of `PayloadOK` of MgrReach):
   * `C16Reach.VerStep`    — the version of an existing stream moves (increases) exactly when the completion of
                             an import job in flight that wrote a file reports it as updated or reset;
   * `ImportStoresChanged` — every stream such a completion reports as changed is stored in one of the created
                             files; (1) is false without it (`import_stores_changed_counterexample`);
   * `FVerStep`            — a created file stores, for each of its streams, the NEW current version;
                             `MergeKeepsVersions`: for every stream the version served through the merged files
                             is the version served through the run of files they replace (C07 `merge_view_eq'`
                             at the level of versions); every other file keeps what it stores;
   * `ContentOK`           — (for `fresh_view_lists_once_run` only) a file stores a stream at most once and an
                             import writes only ids below the `next` it establishes
                             (`content_nodup_counterexample`, `content_bounded_counterexample`).

  For every history whose payloads are admissible (`RunOK`):
   (1) `fresh_view_newest_run`: every id < next is served through the service list by a file that stores its
       CURRENT version; `fresh_view_lists_once_run`: a fresh view enumerates exactly the ids < next, each once.
   (2) `held_view_stable_run`: a view that is not released keeps its file list, those files stay open with
       unchanged content and versions (`files_immutable`), hence every id keeps its serving file and version.
   (3) `view_complete_at_open_run`: at the moment a view is opened it captures the service list of (1).
  Non-vacuity: `held_view_example`, and `splice_example` for the situation one may suspect — an import completes
  WHILE a merge job is in flight; the merged files are spliced in BEFORE the file the import appended, which keeps
  serving what it holds (`newest_mergeBase`).  The other one, file ordinals re-used after deletion, is harmless
  because an event's files are not open when reported (`C13.FreshFiles`) and nothing refers to a closed file.
-/
import Pk.Props.C10
import Pk.Props.MgrReach
import Pk.Props.MgrSpec
import Pk.Proofs.MgrViewsRun
import Pk.Proofs.MgrViewsRunExample

namespace Pk.Props.C10Reach
open Pk.Mgr Pk.Props.MgrReach Pk.Proofs.MgrViews Pk.Proofs.MgrViewsRun
open Pk.Props.C16Reach (Changed VerStep initSt)

abbrev Ver := Nat → Nat
/-- `fver o id`: file first -/
abbrev FVer := Nat → Nat → Nat

/-- `View.Stream(id)` on a list `l` of files (oldest first): the LAST file of the list whose content in state `s`
    contains the id -/
def servedBy (s : St) (l : List Nat) (id : Nat) : Option Nat := servedIn (withCont s.files l) id

def servedVer (s : St) (fver : FVer) (l : List Nat) (id : Nat) : Option Nat := verIn fver (withCont s.files l) id

theorem servedBy_spec (s : St) (l : List Nat) (id f : Nat) (h : servedBy s l id = some f) :
    ∃ a b, l = a ++ f :: b ∧ id ∈ C10.content s f ∧ ∀ g ∈ b, id ∉ C10.content s g := by
  -- the first hit in the reversed list, with nothing before it that holds the id
  unfold servedBy at h
  rw [servedIn_eq_find, withCont, ← List.map_reverse, List.find?_map, Option.map_map, Option.map_eq_some_iff] at h
  obtain ⟨g, hg, rfl⟩ := h
  obtain ⟨hp, as, bs, hl, hno⟩ := List.find?_eq_some_iff_append.1 hg
  refine ⟨bs.reverse, as.reverse, ?_, (by simpa using hp : id ∈ cont s.files g),
    fun x hx => (by simpa using hno x (List.mem_reverse.1 hx) : id ∉ cont s.files x)⟩
  rw [← List.reverse_reverse l, hl]; simp

theorem servedVer_eq (s : St) (fver : FVer) (l : List Nat) (id : Nat) :
    servedVer s fver l id = (servedBy s l id).map (fun f => fver f id) := rfl

/-- every stream the completion of an import job reports as changed (updated: more packets; reset:
    re-assembled) is stored in one of the files the job created: the builder writes the new state of every
    stream it touched.  (`Changed` = the event is the completion of an import job in flight that wrote at least
    one file and lists the id in `upd` or `rst`.)  `PayloadOK` does not imply it: it asks only that the NEW ids
    `jn ≤ id < jn + usednew` are stored in a created file.  Without it (1) is false:
    `import_stores_changed_counterexample`. -/
def ImportStoresChanged (s : St) (e : Ev) : Prop :=
  match e with
  | .importDone _ _ created _ _ _ => ∀ id, Changed s e id → ∃ c ∈ created, id ∈ c.2
  | _ => True

/-- payload contract of `index.Merge` (C07 `merge_view_eq'` at the level of versions): for every stream id the
    version a reader gets through the merged files equals the version it got through the run of files the merge
    replaces — `none` on both sides if the run does not hold the stream, so the merged files hold exactly the
    streams of the run -/
def MergeKeepsVersions (s : St) (fver fver' : FVer) (merged : List (Nat × List Nat)) : Prop :=
  ∀ off held, s.jMerge = some (off, held) → merged ≠ [] →
    ∀ id, verIn fver' merged id = servedVer s fver held id

/-- the contract on what the files store after event `e` taken in state `s` (`ver'` = versions after the event) -/
def FVerStep (s : St) (e : Ev) (fver : FVer) (ver' : Ver) (fver' : FVer) : Prop :=
  -- a file the event does not report (as created by the completing import job / written by the completing
  -- merge job) keeps what it stores: index files are never modified.  For every event other than the
  -- completion of a job in flight this says `fver' = fver`.
  (∀ o, o ∉ (reported s e).map (·.1) → fver' o = fver o) ∧
  match e with
  -- a file created by the import job holds, for each of its streams, the NEW current version: the builder
  -- writes the stream as it is after the import
  | .importDone _ _ _ _ _ _ => ∀ c ∈ reported s e, ∀ id ∈ c.2, fver' c.1 id = ver' id
  -- the merged files serve what the replaced run served
  | .mergeDone merged => MergeKeepsVersions s fver fver' merged
  | _ => True

theorem fverStep_unchanged {s : St} {e : Ev} {fver fver' : FVer} {ver' : Ver} (h : FVerStep s e fver ver' fver')
    (hr : reported s e = []) : fver' = fver := by
  funext o
  exact h.1 o (by rw [hr]; simp)

structure StepOK (s : St) (ver : Ver) (fver : FVer) (e : Ev) (ver' : Ver) (fver' : FVer) : Prop where
  payload : PayloadOK s e
  vers : VerStep s e ver ver'
  stores : ImportStoresChanged s e
  fvers : FVerStep s e fver ver' fver'

structure Good (s : St) (ver : Ver) (fver : FVer) : Prop where
  reach : Reach s
  newest : Newest s fver ver

/-- a history: events with the tagging choices the implementation made, annotated with the ghosts after each
    event -/
abbrev Hist := List (Ev × Started × Ver × FVer)

def RunOK (s : St) (ver : Ver) (fver : FVer) : Hist → Prop
  | [] => True
  | (e, st, ver', fver') :: rest => StepOK s ver fver e ver' fver' ∧ RunOK (step s e st).1 ver' fver' rest

def runSt (s : St) : Hist → St
  | [] => s
  | (e, st, _, _) :: rest => runSt (step s e st).1 rest
def runV (ver : Ver) : Hist → Ver
  | [] => ver
  | (_, _, ver', _) :: rest => runV ver' rest
def runF (fver : FVer) : Hist → FVer
  | [] => fver
  | (_, _, _, fver') :: rest => runF fver' rest

theorem runSt_append (s : St) (h1 h2 : Hist) : runSt s (h1 ++ h2) = runSt (runSt s h1) h2 := by
  induction h1 generalizing s with
  | nil => rfl
  | cons a r ih => obtain ⟨e, st, v, fv⟩ := a; exact ih _
theorem runV_append (v : Ver) (h1 h2 : Hist) : runV v (h1 ++ h2) = runV (runV v h1) h2 := by
  induction h1 generalizing v with
  | nil => rfl
  | cons a r ih => obtain ⟨e, st, v', fv⟩ := a; exact ih _
theorem runF_append (fv : FVer) (h1 h2 : Hist) : runF fv (h1 ++ h2) = runF (runF fv h1) h2 := by
  induction h1 generalizing fv with
  | nil => rfl
  | cons a r ih => obtain ⟨e, st, v', fv'⟩ := a; exact ih _

theorem runOK_append (s : St) (ver : Ver) (fver : FVer) (h1 h2 : Hist) :
    RunOK s ver fver (h1 ++ h2) ↔
      RunOK s ver fver h1 ∧ RunOK (runSt s h1) (runV ver h1) (runF fver h1) h2 := by
  induction h1 generalizing s ver fver with
  | nil => simp [RunOK, runSt, runV, runF]
  | cons a r ih =>
    obtain ⟨e, st, v, fv⟩ := a
    simp only [List.cons_append, RunOK, runSt, runV, runF, ih, and_assoc]

theorem reported_fresh (s : St) (e : Ev) (hok : PayloadOK s e) :
    ∀ p ∈ reported s e, nget s.used p.1 = none ∧ nget s.files p.1 = none := by
  intro p hp
  cases e with
  | importDone a b c d e' f =>
    simp only [reported] at hp
    split at hp
    · exact hok.1.1.2 p.1 (List.mem_map_of_mem hp)
    · cases hp
  | mergeDone m =>
    simp only [reported] at hp
    split at hp
    · exact hok.1.1.2 p.1 (List.mem_map_of_mem hp)
    · cases hp
  | _ => cases hp

private theorem changed_reported {s : St} {e : Ev} {id : Nat} (h : Changed s e id) : reported s e ≠ [] := by
  cases e with
  | importDone a b c d e' f => simp only [reported, h.1, if_true]; exact h.2.1
  | _ => exact h.elim

/-- ONE EVENT (1): after every event with an admissible payload along which the ghosts move as the contracts
    say, the service list serves every stream in its current version -/
theorem newest_step (s : St) (e : Ev) (st : Started) (ver ver' : Ver) (fver fver' : FVer)
    (hg : Good s ver fver) (hok : StepOK s ver fver e ver' fver') :
    Newest (step s e st).1 fver' ver' := by
  obtain ⟨b, mid, held, hb, hf, he, hh⟩ := step_vwalk s e st
  rw [he]
  refine newest_serves (serves_walk hf (hh hg.reach.count)) ?_
  have hsame : reported s e = [] → (∀ id, id < s.next → ¬ Changed s e id) → Newest s fver' ver' := by
    intro hr hc id hid
    obtain ⟨f, hf, hv⟩ := hg.newest id hid
    refine ⟨f, hf, ?_⟩
    rw [fverStep_unchanged hok.fvers hr, hv, (hok.vers id hid).2 (hc id hid)]
  obtain ⟨hf2, hf1⟩ := hok.fvers
  cases hb with
  | same _ hr => exact hsame hr fun id _ h => changed_reported h hr
  | vrel => exact hsame rfl fun _ _ h => h
  | @imp p u c a b d jn held' hj =>
    obtain ⟨hjn, _, hnew⟩ := hok.payload.1.2 jn held' hj
    rw [reported_importDone hj] at hf2; dsimp only at hf1; rw [reported_importDone hj] at hf1
    refine newest_importBase s jn held' u c _ _ _ fver fver' ver ver' hg.newest (holds_jImport hg.reach.count hj)
      hok.payload.1.1.1 hok.payload.1.1.2 hjn hnew (fun id hid hnot => (hok.vers id hid).2 fun hch => ?_) hf1 hf2
    obtain ⟨c', hc1, hc2⟩ := hok.stores id hch
    exact hnot c' hc1 hc2
  | @mrg m off held' hj =>
    rw [reported_mergeDone hj] at hf2
    exact newest_mergeBase s off held' m fver fver' ver ver' hg.newest (holds_jMerge hg.reach.count hj m).1
      hok.payload.1.1.1 hok.payload.1.1.2 (hok.payload.1.2 off held' hj).1 (fun hne => hf1 off held' hj hne) hf2
      (fun id hid => (hok.vers id hid).2 (fun h => h))

theorem good_step (s : St) (e : Ev) (st : Started) (ver ver' : Ver) (fver fver' : FVer)
    (hg : Good s ver fver) (hok : StepOK s ver fver e ver' fver') : Good (step s e st).1 ver' fver' :=
  ⟨reach_step s e st hg.reach hok.payload, newest_step s e st ver ver' fver fver' hg hok⟩

theorem good_init (convs : List String) (ver : Ver) (fver : FVer) : Good (initSt convs) ver fver :=
  ⟨reach_init convs, fun _ hid => absurd hid (Nat.not_lt_zero _)⟩

theorem good_run (s : St) (ver : Ver) (fver : FVer) (h : Hist) (hg : Good s ver fver) (hh : RunOK s ver fver h) :
    Good (runSt s h) (runV ver h) (runF fver h) := by
  induction h generalizing s ver fver with
  | nil => exact hg
  | cons a rest ih =>
    obtain ⟨e, st, ver', fver'⟩ := a
    exact ih _ _ _ (good_step s e st ver ver' fver fver' hg hh.1) hh.2

/-- EVERY HISTORY (1): for every history of events (API calls and job completions in any order) from the initial
    state whose payloads are admissible and along which the ghosts move as the contracts say, in the state
    reached — and, every prefix of such a history being one (`runOK_append`), in every state on the way — every
    stream id handed out so far is served through the service list, and the file that serves it (the newest
    file holding it) stores its CURRENT version.  A view opened now captures exactly this list
    (`view_complete_at_open`). -/
theorem fresh_view_newest_run (convs : List String) (ver0 : Ver) (fver0 : FVer) (h : Hist)
    (hh : RunOK (initSt convs) ver0 fver0 h) :
    ∀ id, id < (runSt (initSt convs) h).next →
      ∃ f, servedBy (runSt (initSt convs) h) (runSt (initSt convs) h).idx id = some f ∧
        runF fver0 h f id = runV ver0 h id :=
  (good_run _ _ _ h (good_init convs ver0 fver0) hh).newest

/-- … in other words: the version a fresh view serves for an existing stream is the current one -/
theorem fresh_view_servedVer_run (convs : List String) (ver0 : Ver) (fver0 : FVer) (h : Hist)
    (hh : RunOK (initSt convs) ver0 fver0 h) (id : Nat) (hid : id < (runSt (initSt convs) h).next) :
    servedVer (runSt (initSt convs) h) (runF fver0 h) (runSt (initSt convs) h).idx id = some (runV ver0 h id) :=
  (newest_iff _ _ _).1 (good_run _ _ _ h (good_init convs ver0 fver0) hh).newest id hid

/-- FILES ARE IMMUTABLE: a file that is open keeps its content across every event until it is closed; a file
    that is open after the event was open before with the same content, or it is one of the files the event
    reports (created by the completing import job / written by the completing merge job) -/
theorem files_immutable (s : St) (e : Ev) (st : Started) (hok : PayloadOK s e) :
    (∀ f ids, nget s.files f = some ids →
      nget (step s e st).1.files f = some ids ∨ nget (step s e st).1.files f = none) ∧
    (∀ f ids, nget (step s e st).1.files f = some ids → nget s.files f = some ids ∨ (f, ids) ∈ reported s e) := by
  refine ⟨fun f ids hf => ?_, files_step s e st⟩
  cases hx : nget (step s e st).1.files f with
  | none => exact .inr rfl
  | some x =>
    -- a reported file is not open before (`C13.FreshFiles`), so it does not overwrite `f`
    rcases files_step s e st f x hx with h | h
    · exact .inl (h.symm.trans hf)
    · rw [(reported_fresh s e hok (f, x) h).2] at hf; cases hf

/-- ONE EVENT (2): an open view that the event does not release keeps its captured file list; each of its files
    stays open with the same content and keeps the versions it stores -/
theorem held_view_step (s : St) (e : Ev) (st : Started) (ver ver' : Ver) (fver fver' : FVer)
    (hr : Reach s) (hok : StepOK s ver fver e ver' fver') (k : Nat) (fs : List Nat)
    (hv : nget s.views k = some fs) (hne : e ≠ .viewRelease k) :
    nget (step s e st).1.views k = some fs ∧
    ∀ f ∈ fs, (nget s.files f).isSome = true ∧ nget (step s e st).1.files f = nget s.files f ∧ fver' f = fver f := by
  have hv' := C10.view_held_stable s e st k fs hv hne
  refine ⟨hv', fun f hf => ?_⟩
  have ho := C10.view_files_open s hr.count k fs hv f hf
  have ho' := C10.view_files_open _ (reach_step s e st hr hok.payload).count k fs hv' f hf
  refine ⟨ho, ?_, ?_⟩
  · cases hs : nget s.files f with
    | none => rw [hs] at ho; cases ho
    | some ids =>
      rcases (files_immutable s e st hok.payload).1 f ids hs with h | h
      · exact h
      · rw [h] at ho'; cases ho'
  · refine hok.fvers.1 f (fun hm => ?_)
    obtain ⟨p, hp, rfl⟩ := List.mem_map.1 hm
    rw [(reported_fresh s e hok.payload p hp).2] at ho
    cases ho

def NoRelease (k : Nat) (h : Hist) : Prop := ∀ x ∈ h, x.1 ≠ Ev.viewRelease k

/-- EVERY HISTORY (2), from any state that satisfies the invariants: a view `k` that is open (holding the file
    list `fs`) and is not released along the history keeps, in the state reached,
     (a) its captured file list,
     (b) all those files open, with the content and the stored versions they had,
     (c) hence for every id the SAME serving file and the SAME version —
    whatever imports and merges complete meanwhile -/
theorem held_view_stable_from (s : St) (ver : Ver) (fver : FVer) (h : Hist) (hg : Good s ver fver)
    (hh : RunOK s ver fver h) (k : Nat) (fs : List Nat) (hv : nget s.views k = some fs) (hnr : NoRelease k h) :
    nget (runSt s h).views k = some fs ∧
    (∀ f ∈ fs, (nget s.files f).isSome = true ∧ nget (runSt s h).files f = nget s.files f ∧
      runF fver h f = fver f) ∧
    ∀ id, servedBy (runSt s h) fs id = servedBy s fs id ∧
      servedVer (runSt s h) (runF fver h) fs id = servedVer s fver fs id := by
  have key : nget (runSt s h).views k = some fs ∧
      (∀ f ∈ fs, (nget s.files f).isSome = true ∧ nget (runSt s h).files f = nget s.files f ∧
        runF fver h f = fver f) := by
    induction h generalizing s ver fver with
    | nil =>
      exact ⟨hv, fun f hf => ⟨C10.view_files_open s hg.reach.count k fs hv f hf, rfl, rfl⟩⟩
    | cons a rest ih =>
      obtain ⟨e, st, ver', fver'⟩ := a
      have hne : e ≠ .viewRelease k := hnr _ List.mem_cons_self
      obtain ⟨h1, h2⟩ := held_view_step s e st ver ver' fver fver' hg.reach hh.1 k fs hv hne
      obtain ⟨h3, h4⟩ := ih _ _ _ (good_step s e st ver ver' fver fver' hg hh.1) hh.2 h1
        (fun x hx => hnr x (List.mem_cons_of_mem _ hx))
      refine ⟨h3, fun f hf => ?_⟩
      obtain ⟨a1, a2, a3⟩ := h2 f hf
      obtain ⟨_, b2, b3⟩ := h4 f hf
      exact ⟨a1, b2.trans a2, b3.trans a3⟩
  refine ⟨key.1, key.2, fun id => ?_⟩
  have hw : withCont (runSt s h).files fs = withCont s.files fs :=
    withCont_congr (fun f hf => (key.2 f hf).2.1)
  refine ⟨by unfold servedBy; rw [hw], ?_⟩
  unfold servedVer
  rw [hw]
  exact verIn_congr (fun p hp => (key.2 p.1 (mem_withCont hp).1).2.2) id

/-- EVERY HISTORY (2), from the initial state: `h1` is the history up to and including the event that opened
    view `k` (so that the view holds `fs` in the state `h1` reaches), `h2` any continuation that does not release
    it.  At the end of `h2` — and at every state on the way, every prefix of `h2` being such a continuation — the
    view holds the same files, they are open with unchanged content and versions, and every id is served by the
    same file in the same version as when the view was opened. -/
theorem held_view_stable_run (convs : List String) (ver0 : Ver) (fver0 : FVer) (h1 h2 : Hist)
    (hh : RunOK (initSt convs) ver0 fver0 (h1 ++ h2)) (k : Nat) (fs : List Nat)
    (hv : nget (runSt (initSt convs) h1).views k = some fs) (hnr : NoRelease k h2) :
    nget (runSt (initSt convs) (h1 ++ h2)).views k = some fs ∧
    (∀ f ∈ fs, (nget (runSt (initSt convs) h1).files f).isSome = true ∧
      nget (runSt (initSt convs) (h1 ++ h2)).files f = nget (runSt (initSt convs) h1).files f ∧
      runF fver0 (h1 ++ h2) f = runF fver0 h1 f) ∧
    ∀ id, servedBy (runSt (initSt convs) (h1 ++ h2)) fs id = servedBy (runSt (initSt convs) h1) fs id ∧
      servedVer (runSt (initSt convs) (h1 ++ h2)) (runF fver0 (h1 ++ h2)) fs id =
        servedVer (runSt (initSt convs) h1) (runF fver0 h1) fs id := by
  obtain ⟨hh1, hh2⟩ := (runOK_append _ _ _ h1 h2).1 hh
  rw [runSt_append, runF_append]
  exact held_view_stable_from _ _ _ h2 (good_run _ _ _ h1 (good_init convs ver0 fver0) hh1) hh2 k fs hv hnr

theorem step_viewOpen_opens (s : St) (st : Started) (k : Nat) (hk : nget s.views k = none) (hi : s.idx ≠ []) :
    nget (step s (.viewOpen k) st).1.views k = some s.idx ∧ (step s (.viewOpen k) st).1.files = s.files ∧
      (step s (.viewOpen k) st).1.idx = s.idx ∧ (step s (.viewOpen k) st).1.next = s.next := by
  rw [Pk.Mgr.step_viewOpen_eq, if_neg (by simp [hk, hi])]
  exact ⟨by simp only [nget_nins, if_true]; rfl, rfl, rfl, rfl⟩

/-- ONE EVENT (3): when a view is opened (the key is free; at least one stream has been imported) it captures the
    service list, and through it every stream of every import completed so far (id < next) is served — by the
    newest file holding it — in the version current at that moment; opening changes neither the versions of the
    existing streams nor what the files store -/
theorem view_complete_at_open (s : St) (st : Started) (k : Nat) (ver ver' : Ver) (fver fver' : FVer)
    (hg : Good s ver fver) (hok : StepOK s ver fver (.viewOpen k) ver' fver')
    (hk : nget s.views k = none) (hn : 0 < s.next) :
    nget (step s (.viewOpen k) st).1.views k = some s.idx ∧
    (fver' = fver ∧ ∀ id, id < s.next → ver' id = ver id) ∧
    ∀ id, id < s.next →
      ∃ f, servedBy (step s (.viewOpen k) st).1 s.idx id = some f ∧ fver' f id = ver' id ∧
        servedVer (step s (.viewOpen k) st).1 fver' s.idx id = some (ver' id) := by
  have hi : s.idx ≠ [] := by
    obtain ⟨f, hf, _⟩ := hg.reach.covered 0 hn
    intro h; rw [h] at hf; cases hf
  obtain ⟨h1, h2, h3, h4⟩ := step_viewOpen_opens s st k hk hi
  have hg' := good_step s (.viewOpen k) st ver ver' fver fver' hg hok
  refine ⟨h1, ⟨fverStep_unchanged hok.fvers rfl, fun id hid => (hok.vers id hid).2 (fun h => h)⟩, fun id hid => ?_⟩
  obtain ⟨f, hf, hv⟩ := hg'.newest id (by rw [h4]; exact hid)
  rw [h3] at hf
  exact ⟨f, hf, hv, by rw [servedVer_eq]; unfold servedBy; rw [hf, Option.map_some, hv]⟩

/-- EVERY HISTORY (3): after any admissible history from the initial state, opening a view (free key, something
    imported) captures the service list of that moment, and the view covers every id of every import completed so
    far, each in the version current at that moment -/
theorem view_complete_at_open_run (convs : List String) (ver0 : Ver) (fver0 : FVer) (h : Hist) (st : Started)
    (k : Nat) (ver' : Ver) (fver' : FVer)
    (hh : RunOK (initSt convs) ver0 fver0 (h ++ [(.viewOpen k, st, ver', fver')]))
    (hk : nget (runSt (initSt convs) h).views k = none) (hn : 0 < (runSt (initSt convs) h).next) :
    nget (runSt (initSt convs) (h ++ [(.viewOpen k, st, ver', fver')])).views k = some (runSt (initSt convs) h).idx ∧
    ∀ id, id < (runSt (initSt convs) h).next →
      servedVer (runSt (initSt convs) (h ++ [(.viewOpen k, st, ver', fver')])) fver' (runSt (initSt convs) h).idx id =
        some (ver' id) ∧ ver' id = runV ver0 h id := by
  obtain ⟨hh1, hh2⟩ := (runOK_append _ _ _ h _).1 hh
  have hg := good_run _ _ _ h (good_init convs ver0 fver0) hh1
  obtain ⟨a1, ⟨_, a2⟩, a3⟩ := view_complete_at_open _ st k _ ver' _ fver' hg hh2.1 hk hn
  rw [runSt_append]
  refine ⟨a1, fun id hid => ?_⟩
  obtain ⟨f, _, _, hs⟩ := a3 id hid
  exact ⟨hs, a2 id hid⟩

/-- payload contract on the CONTENT of reported files: an index file stores a stream at most once, and an import
    job writes only streams that exist once it has completed (ids below the `next` it establishes).  (That a
    merge writes only streams of its inputs is part of `MergeKeepsVersions`.)  Used for "exactly once" and
    "nothing else" only, not for (1)–(3): `C10.enumeration_exact` asks that no file lists a stream twice, and
    nothing in `PayloadOK` says so (`content_nodup_counterexample`, `content_bounded_counterexample`). -/
def ContentOK (s : St) : Ev → Prop
  | .importDone _ usednew created _ _ _ =>
      ∀ jn held, s.jImport = some (jn, held) → ∀ c ∈ created, c.2.Nodup ∧ ∀ id ∈ c.2, id < jn + usednew
  | .mergeDone merged => ∀ m ∈ merged, m.2.Nodup
  | _ => True

def ContentRunOK (s : St) : Hist → Prop
  | [] => True
  | (e, st, _, _) :: rest => ContentOK s e ∧ ContentRunOK (step s e st).1 rest

def FilesWF (s : St) : Prop := ∀ f ids, nget s.files f = some ids → ids.Nodup ∧ ∀ id ∈ ids, id < s.next

private theorem FilesWF.content {s : St} (hw : FilesWF s) (f : Nat) :
    (C10.content s f).Nodup ∧ ∀ id ∈ C10.content s f, id < s.next := by
  unfold C10.content
  cases hx : nget s.files f with
  | none => exact ⟨List.nodup_nil, fun id hid => by cases hid⟩
  | some x => exact hw f x hx

theorem filesWF_step (s : St) (e : Ev) (st : Started) (ver ver' : Ver) (fver fver' : FVer)
    (hg : Good s ver fver) (hok : StepOK s ver fver e ver' fver') (hc : ContentOK s e) (hw : FilesWF s) :
    FilesWF (step s e st).1 := by
  intro f ids hf
  rcases (files_immutable s e st hok.payload).2 f ids hf with h | h
  · exact ⟨(hw f ids h).1, fun id hid => Nat.lt_of_lt_of_le ((hw f ids h).2 id hid)
      (Pk.Proofs.MgrReach.next_mono s e st hg.reach.importJob)⟩
  · cases e with
    | importDone a b c d e' g =>
      cases hj : s.jImport with
      | none => simp [reported, hj] at h
      | some q =>
        obtain ⟨jn, held⟩ := q
        have hm : (f, ids) ∈ c := by rwa [reported_importDone hj] at h
        obtain ⟨h1, h2⟩ := hc jn held hj (f, ids) hm
        have hne : c ≠ [] := fun h0 => by rw [h0] at hm; cases hm
        have hn := (Pk.Proofs.MgrReach.step_importDone_all_next s a b c d e' g st jn held hj).2
        rw [if_neg hne] at hn
        exact ⟨h1, fun id hid => by rw [hn]; exact h2 id hid⟩
    | mergeDone m =>
      cases hj : s.jMerge with
      | none => simp [reported, hj] at h
      | some q =>
        obtain ⟨off, held⟩ := q
        have hm : (f, ids) ∈ m := by rwa [reported_mergeDone hj] at h
        have hne : m ≠ [] := fun h0 => by rw [h0] at hm; cases hm
        refine ⟨hc (f, ids) hm, fun id hid => ?_⟩
        rw [(Pk.Proofs.MgrReach.step_all_next_other s _ st (by simp)).2]
        -- the merged files hold only streams of the replaced run
        obtain ⟨o, ho⟩ := servedIn_isSome_of_mem hm hid
        have hk := hok.fvers.2 off held hj hne id
        simp only [verIn, ho, Option.map_some, servedVer] at hk
        cases hr : servedIn (withCont s.files held) id with
        | none => rw [hr] at hk; cases hk
        | some g =>
          obtain ⟨p, hp, _, hp2⟩ := servedIn_some_mem hr
          exact (hw.content p.1).2 id (show id ∈ cont s.files p.1 from (mem_withCont hp).2 ▸ hp2)
    | _ => cases h

theorem filesWF_run (s : St) (ver : Ver) (fver : FVer) (h : Hist) (hg : Good s ver fver)
    (hh : RunOK s ver fver h) (hc : ContentRunOK s h) (hw : FilesWF s) : FilesWF (runSt s h) := by
  induction h generalizing s ver fver with
  | nil => exact hw
  | cons a rest ih =>
    obtain ⟨e, st, ver', fver'⟩ := a
    exact ih _ _ _ (good_step s e st ver ver' fver fver' hg hh.1) hh.2 hc.2
      (filesWF_step s e st ver ver' fver fver' hg hh.1 hc.1 hw)

/-- the enumeration of a fresh view (`C10.enumerate` on the contents of the service list: newest file first,
    skipping a stream a newer file contains) lists exactly the stream ids handed out so far, each once -/
theorem fresh_view_lists_once (s : St) (hr : Reach s) (hw : FilesWF s) :
    (C10.enumerate (s.idx.map (C10.content s))).Nodup ∧
    ∀ id, id ∈ C10.enumerate (s.idx.map (C10.content s)) ↔ id < s.next := by
  obtain ⟨h1, h2⟩ := C10.enumeration_exact (s.idx.map (C10.content s)) (fun ids hids => by
    obtain ⟨f, _, rfl⟩ := List.mem_map.1 hids
    exact (hw.content f).1)
  refine ⟨h1, fun id => ?_⟩
  rw [h2]
  constructor
  · rintro ⟨ids, hids, hid⟩
    obtain ⟨f, _, rfl⟩ := List.mem_map.1 hids
    exact (hw.content f).2 id hid
  · intro hid
    obtain ⟨f, hf, hm⟩ := hr.covered id hid
    exact ⟨C10.content s f, List.mem_map.2 ⟨f, hf, rfl⟩, hm⟩

/-- EVERY HISTORY (1, enumeration): in every state reached a fresh view lists every stream of every completed
    import (id < next) exactly once, and nothing else -/
theorem fresh_view_lists_once_run (convs : List String) (ver0 : Ver) (fver0 : FVer) (h : Hist)
    (hh : RunOK (initSt convs) ver0 fver0 h) (hc : ContentRunOK (initSt convs) h) :
    (C10.enumerate ((runSt (initSt convs) h).idx.map (C10.content (runSt (initSt convs) h)))).Nodup ∧
    ∀ id, id ∈ C10.enumerate ((runSt (initSt convs) h).idx.map (C10.content (runSt (initSt convs) h))) ↔
      id < (runSt (initSt convs) h).next :=
  fresh_view_lists_once _ (good_run _ _ _ h (good_init convs ver0 fver0) hh).reach
    (filesWF_run _ _ _ h (good_init convs ver0 fver0) hh hc (fun f ids hf => by cases hf))

/-- … and the enumeration of a HELD view does not change: it lists, at every later state, what it listed when
    the view was opened -/
theorem held_view_enumeration_stable (s : St) (ver : Ver) (fver : FVer) (h : Hist) (hg : Good s ver fver)
    (hh : RunOK s ver fver h) (k : Nat) (fs : List Nat) (hv : nget s.views k = some fs) (hnr : NoRelease k h) :
    C10.enumerate (fs.map (C10.content (runSt s h))) = C10.enumerate (fs.map (C10.content s)) := by
  obtain ⟨_, h2, _⟩ := held_view_stable_from s ver fver h hg hh k fs hv hnr
  congr 1
  apply List.map_congr_left
  intro f hf
  unfold C10.content
  rw [(h2 f hf).2.1]

section example_
open Pk.Proofs.MgrViewsRunExample

/-- the versions of the example: every stream starts with version 1; the third import bumps stream 1 to 2 -/
def exV1 : Ver := fun _ => 1
def exV2 : Ver := fun id => if id = 1 then 2 else 1
/-- what the files store: files 0 and 1 version 1 of everything; file 2 (third import) version 2 of stream 1;
    file 3 (the merge of 0, 1, 2) what the run served: version 2 of stream 1 -/
def exF1 : FVer := fun _ _ => 1
def exF2 : FVer := fun o id => if o = 2 ∧ id = 1 then 2 else 1
def exF3 : FVer := fun o id => if (o = 2 ∨ o = 3) ∧ id = 1 then 2 else 1

/-- import two captures, open view 7 (events and states: Pk/Proofs/MgrViewsRunExample.lean) -/
def exHist1 : Hist :=
  [ (e1, {}, exV1, exF1), (e2, {}, exV1, exF1), (e3, {}, exV1, exF1), (e4, {}, exV1, exF1), (e5, {}, exV1, exF1) ]
/-- import a capture that updates stream 1 and adds stream 3 (a merge job starts); the merge completes -/
def exHist2 : Hist := [ (e6, {}, exV1, exF1), (e7, {}, exV2, exF2), (e8, {}, exV2, exF3) ]

/-- an event that reports no file changes no version (`changed_reported`) -/
private theorem stepOK_same (s : St) (e : Ev) (v : Ver) (fv : FVer) (hp : PayloadOK s e) (hr : reported s e = []) :
    StepOK s v fv e v fv := by
  have hc : ∀ id, ¬ Changed s e id := fun id h => changed_reported h hr
  refine ⟨hp, fun id _ => ⟨fun h => absurd h (hc id), fun _ => rfl⟩, ?_, fun o _ => rfl, ?_⟩
  · cases e with
    | importDone => exact fun id h => absurd h (hc id)
    | _ => trivial
  · cases e with
    | importDone a b c d e' f => intro c' hc'; rw [hr] at hc'; cases hc'
    | mergeDone m => intro off held hj hne; exact absurd ((reported_mergeDone hj).symm.trans hr) hne
    | _ => trivial

/-- the completion of the import job in flight, when it wrote a file: `Changed` is "listed in `upd` or `rst`", and
    what is reported is `cr` -/
private theorem stepOK_import {s : St} {pr un : Nat} {cr : List (Nat × List Nat)} {upd rst add : List Nat}
    {v v' : Ver} {fv fv' : FVer} {jn : Nat} {held : List Nat}
    (hp : PayloadOK s (.importDone pr un cr upd rst add)) (hj : s.jImport = some (jn, held)) (hne : cr ≠ [])
    (hv : ∀ id, id < s.next → if id ∈ upd ++ rst then v id < v' id else v' id = v id)
    (hst : ∀ id ∈ upd ++ rst, ∃ c ∈ cr, id ∈ c.2)
    (hf2 : ∀ o, o ∉ cr.map (·.1) → fv' o = fv o) (hf1 : ∀ c ∈ cr, ∀ id ∈ c.2, fv' c.1 id = v' id) :
    StepOK s v fv (.importDone pr un cr upd rst add) v' fv' := by
  have hch : ∀ id, Changed s (.importDone pr un cr upd rst add) id ↔ id ∈ upd ++ rst := fun id => by
    simp only [Changed, hj, Option.isSome_some, true_and, List.mem_append]
    exact and_iff_right hne
  refine ⟨hp, fun id hid => ?_, fun id h => hst id ((hch id).1 h), ?_, ?_⟩
  · have := hv id hid
    by_cases h : id ∈ upd ++ rst
    · rw [if_pos h] at this; exact ⟨fun _ => this, fun hn => absurd ((hch id).2 h) hn⟩
    · rw [if_neg h] at this; exact ⟨fun hc => absurd ((hch id).1 hc) h, fun _ => this⟩
  · rw [reported_importDone hj]; exact hf2
  · show ∀ c ∈ reported s _, _
    rw [reported_importDone hj]; exact hf1

private theorem stepOK_merge {s : St} {mg : List (Nat × List Nat)} {v : Ver} {fv fv' : FVer} {off : Nat}
    {held : List Nat} (hp : PayloadOK s (.mergeDone mg)) (hj : s.jMerge = some (off, held))
    (hf2 : ∀ o, o ∉ mg.map (·.1) → fv' o = fv o)
    (hk : ∀ id, verIn fv' mg id = verIn fv (withCont s.files held) id) : StepOK s v fv (.mergeDone mg) v fv' := by
  refine ⟨hp, fun id _ => ⟨fun h => h.elim, fun _ => rfl⟩, trivial, ?_, fun off' held' hj' _ => ?_⟩
  · rw [reported_mergeDone hj]; exact hf2
  · rw [hj] at hj'; cases hj'; exact hk

private theorem ex_runOK : RunOK (initSt []) exV1 exF1 (exHist1 ++ exHist2) := by
  show RunOK s0 exV1 exF1 _
  refine ⟨stepOK_same _ _ _ _ ok1 rfl, ?_⟩
  rw [step1]
  refine ⟨stepOK_import ok2 rfl (by decide) (by decide) (by decide) (fun _ _ => rfl) (by decide), ?_⟩
  rw [step2]
  refine ⟨stepOK_same _ _ _ _ ok3 rfl, ?_⟩
  rw [step3]
  refine ⟨stepOK_import ok4 rfl (by decide) (by decide) (by decide) (fun _ _ => rfl) (by decide), ?_⟩
  rw [step4]
  refine ⟨stepOK_same _ _ _ _ ok5 rfl, ?_⟩
  rw [step5]
  refine ⟨stepOK_same _ _ _ _ ok6 rfl, ?_⟩
  rw [step6]
  refine ⟨stepOK_import ok7 rfl (by decide) (by decide) (by decide) (fun o ho => ?_) (by decide), ?_⟩
  · have : o ≠ 2 := by simpa using ho
    funext id
    simp [exF2, exF1, this]
  rw [step7]
  refine ⟨stepOK_merge ok8 rfl (fun o ho => ?_) (verIn_ext_of_bound 4 (by decide) (by decide) (by decide)), trivial⟩
  have : o ≠ 3 := by simpa using ho
  funext id
  simp [exF3, exF2, this]

private theorem ex_runSt1 : runSt (initSt []) exHist1 = s5 := by
  show runSt s0 exHist1 = s5
  simp only [exHist1, runSt, step1, step2, step3, step4, step5]

private theorem ex_runSt2 : runSt (initSt []) (exHist1 ++ exHist2) = s8 := by
  show runSt s0 _ = s8
  simp only [exHist1, exHist2, List.cons_append, List.nil_append, runSt, step1, step2, step3, step4, step5, step6,
    step7, step8]

/-- NON-VACUITY: the concrete history satisfies all hypotheses of the theorems above.  Two captures are imported
    (file 0 = streams {0,1}, file 1 = stream {2}) and view 7 is opened: it captures [0,1] and serves stream 1 from
    file 0 in version 1.  A third import updates stream 1 and adds stream 3 (file 2 = streams {1,3}); the merge job
    that starts inside that step replaces [0,1,2] by file 3.  At the end the service list is [3]: a fresh view
    serves stream 1 from file 3 in version 2 (the current one) and sees stream 3; the HELD view still holds [0,1],
    both files are still open, it still serves stream 1 from file 0 in version 1 and does not see stream 3. -/
theorem held_view_example :
    RunOK (initSt []) exV1 exF1 (exHist1 ++ exHist2) ∧ NoRelease 7 exHist2 ∧
    (nget (runSt (initSt []) exHist1).views 7 = some [0, 1] ∧
      servedBy (runSt (initSt []) exHist1) [0, 1] 1 = some 0 ∧
      servedVer (runSt (initSt []) exHist1) (runF exF1 exHist1) [0, 1] 1 = some 1 ∧ runV exV1 exHist1 1 = 1) ∧
    ((runSt (initSt []) (exHist1 ++ exHist2)).idx = [3] ∧
      servedBy (runSt (initSt []) (exHist1 ++ exHist2)) [3] 1 = some 3 ∧
      servedVer (runSt (initSt []) (exHist1 ++ exHist2)) (runF exF1 (exHist1 ++ exHist2)) [3] 1 = some 2 ∧
      runV exV1 (exHist1 ++ exHist2) 1 = 2 ∧
      servedBy (runSt (initSt []) (exHist1 ++ exHist2)) [3] 3 = some 3) ∧
    (nget (runSt (initSt []) (exHist1 ++ exHist2)).views 7 = some [0, 1] ∧
      servedBy (runSt (initSt []) (exHist1 ++ exHist2)) [0, 1] 1 = some 0 ∧
      servedVer (runSt (initSt []) (exHist1 ++ exHist2)) (runF exF1 (exHist1 ++ exHist2)) [0, 1] 1 = some 1 ∧
      servedBy (runSt (initSt []) (exHist1 ++ exHist2)) [0, 1] 3 = none ∧
      -- file 2 (held by nobody) is closed
      nget (runSt (initSt []) (exHist1 ++ exHist2)).files 2 = none) := by
  rw [ex_runSt1, ex_runSt2]
  refine ⟨ex_runOK, ?_, ⟨rfl, rfl, rfl, rfl⟩, ⟨rfl, rfl, rfl, rfl, rfl⟩, ⟨rfl, rfl, rfl, rfl, rfl⟩⟩
  intro x hx
  simp only [exHist2, List.mem_cons, List.not_mem_nil, or_false] at hx
  rcases hx with rfl | rfl | rfl <;> simp [e6, e7, e8]

/-- … and BY THE THEOREM: (2) applied to the example history -/
theorem held_view_example_by_theorem (id : Nat) :
    servedBy (runSt (initSt []) (exHist1 ++ exHist2)) [0, 1] id = servedBy (runSt (initSt []) exHist1) [0, 1] id ∧
    servedVer (runSt (initSt []) (exHist1 ++ exHist2)) (runF exF1 (exHist1 ++ exHist2)) [0, 1] id =
      servedVer (runSt (initSt []) exHist1) (runF exF1 exHist1) [0, 1] id :=
  (held_view_stable_run [] exV1 exF1 exHist1 exHist2 held_view_example.1 7 [0, 1] held_view_example.2.2.1.1
    held_view_example.2.1).2.2 id

/-- the versions after the fourth import: stream 0 is bumped as well -/
def exV3 : Ver := fun id => if id = 0 ∨ id = 1 then 2 else 1
/-- file 4 (fourth import) stores version 2 of stream 0; file 3 (the merge of 0, 1, 2, written while file 4 did not
    exist) stores what the run [0,1,2] served: version 1 of stream 0, version 2 of stream 1 -/
def exF4 : FVer := fun o id => if (o = 2 ∧ id = 1) ∨ (o = 4 ∧ id = 0) then 2 else 1
def exF5 : FVer := fun o id => if ((o = 2 ∨ o = 3) ∧ id = 1) ∨ (o = 4 ∧ id = 0) then 2 else 1

/-- after `e7` (the merge job over [0,1,2] is in flight): a fourth import completes and appends file 4 = stream {0}
    (updated); then the merge completes -/
def exHist3 : Hist := [ (g8, {}, exV2, exF2), (g9, {}, exV3, exF4), (g10, {}, exV3, exF5) ]

private theorem ex_runOK7 : RunOK (initSt []) exV1 exF1 (exHist1 ++ exHist2.take 2) :=
  ((runOK_append _ _ _ (exHist1 ++ exHist2.take 2) (exHist2.drop 2)).1 (by
    have := ex_runOK
    rw [List.append_assoc, List.take_append_drop]
    exact this)).1

private theorem ex_runSt7 : runSt (initSt []) (exHist1 ++ exHist2.take 2) = s7 := by
  show runSt s0 _ = s7
  simp only [exHist1, exHist2, List.take, List.cons_append, List.nil_append, runSt, step1, step2, step3, step4, step5,
    step6, step7]

private theorem ex_runOK_splice : RunOK (initSt []) exV1 exF1 (exHist1 ++ exHist2.take 2 ++ exHist3) := by
  refine (runOK_append _ _ _ _ _).2 ⟨ex_runOK7, ?_⟩
  rw [ex_runSt7]
  show RunOK s7 exV2 exF2 exHist3
  refine ⟨stepOK_same _ _ _ _ gok8 rfl, ?_⟩
  rw [gstep8]
  refine ⟨stepOK_import gok9 rfl (by decide) (by decide) (by decide) (fun o ho => ?_) (by decide), ?_⟩
  · have : o ≠ 4 := by simpa using ho
    funext id
    simp [exF4, exF2, this]
  rw [gstep9]
  refine ⟨stepOK_merge gok10 rfl (fun o ho => ?_) (verIn_ext_of_bound 4 (by decide) (by decide) (by decide)), trivial⟩
  have : o ≠ 3 := by simpa using ho
  funext id
  simp [exF5, exF4, this]

private theorem ex_runSt_splice : runSt (initSt []) (exHist1 ++ exHist2.take 2 ++ exHist3) = t10 := by
  rw [runSt_append, ex_runSt7]
  simp only [exHist3, runSt, gstep8, gstep9, gstep10]

/-- NON-VACUITY, THE SPLICE: while the merge job over [0,1,2] is in flight a fourth import completes and appends
    file 4, which holds version 2 of stream 0.  The merge then completes with file 3, which holds version 1 of
    stream 0 (what the run [0,1,2] served) — admissible: `MergeKeepsVersions` compares with the replaced run only.
    The merged file is spliced in BEFORE file 4: the service list is [3,4], stream 0 is served by file 4 in its
    current version 2, stream 1 by file 3 in its current version 2 — and by the theorem every stream is. -/
theorem splice_example :
    RunOK (initSt []) exV1 exF1 (exHist1 ++ exHist2.take 2 ++ exHist3) ∧
    (t8.jMerge = some (0, [0, 1, 2]) ∧ t8.jImport = some (4, [0, 1, 2]) ∧ t9.idx = [0, 1, 2, 4]) ∧
    (runSt (initSt []) (exHist1 ++ exHist2.take 2 ++ exHist3)).idx = [3, 4] ∧
    exF5 3 0 = 1 ∧
    servedBy (runSt (initSt []) (exHist1 ++ exHist2.take 2 ++ exHist3)) [3, 4] 0 = some 4 ∧
    servedBy (runSt (initSt []) (exHist1 ++ exHist2.take 2 ++ exHist3)) [3, 4] 1 = some 3 ∧
    (∀ id, id < 4 →
      servedVer (runSt (initSt []) (exHist1 ++ exHist2.take 2 ++ exHist3))
        (runF exF1 (exHist1 ++ exHist2.take 2 ++ exHist3)) [3, 4] id =
        some (runV exV1 (exHist1 ++ exHist2.take 2 ++ exHist3) id)) := by
  refine ⟨ex_runOK_splice, ⟨rfl, rfl, rfl⟩, ?_, rfl, ?_, ?_, ?_⟩
  · rw [ex_runSt_splice]; rfl
  · rw [ex_runSt_splice]; rfl
  · rw [ex_runSt_splice]; rfl
  · intro id hid
    have h := fresh_view_servedVer_run [] exV1 exF1 _ ex_runOK_splice id (by rw [ex_runSt_splice]; exact hid)
    rw [ex_runSt_splice] at h ⊢
    exact h

private theorem ex_runOK3 : RunOK (initSt []) exV1 exF1 (exHist1.take 3) :=
  ((runOK_append _ _ _ (exHist1.take 3) (exHist1.drop 3 ++ exHist2)).1 (by
    have := ex_runOK
    rw [← List.append_assoc, List.take_append_drop]
    exact this)).1

private theorem ex_runSt3 : runSt (initSt []) (exHist1.take 3) = s3 := by
  show runSt s0 _ = s3
  simp only [exHist1, List.take, runSt, step1, step2, step3]

/-- (1) is FALSE without `ImportStoresChanged`.  In the state after the first import (file 0 = streams {0,1}) with
    the second import job in flight, the completion `importDone 1 0 [(1,[0])] [1] [] []` reports stream 1 as
    updated but the file it created holds only stream 0.  `PayloadOK`, `VerStep` (the version of stream 1 goes
    from 1 to 2) and `FVerStep` (file 1 stores the current version of stream 0) all hold — and stream 1 is still
    served by file 0, which stores version 1. -/
theorem import_stores_changed_counterexample :
    ¬ (∀ (s : St) (e : Ev) (st : Started) (ver ver' : Ver) (fver fver' : FVer), Good s ver fver → PayloadOK s e →
        VerStep s e ver ver' → FVerStep s e fver ver' fver' → Newest (step s e st).1 fver' ver') := by
  intro h
  have hg := good_run _ _ _ _ (good_init [] exV1 exF1) ex_runOK3
  rw [ex_runSt3] at hg
  have hpay : PayloadOK s3 (.importDone 1 0 [(1, [0])] [1] [] []) :=
    payloadOK_of_check (by decide +kernel)
  have hch : ∀ id, Changed s3 (.importDone 1 0 [(1, [0])] [1] [] []) id ↔ id = 1 := fun id => by simp [Changed, s3, s2]
  have hver : VerStep s3 (.importDone 1 0 [(1, [0])] [1] [] []) (runV exV1 (exHist1.take 3)) exV2 := by
    intro id _
    refine ⟨fun hc => ?_, fun hn => ?_⟩
    · rw [(hch id).1 hc]; decide
    · have : id ≠ 1 := fun h1 => hn ((hch id).2 h1)
      simp [exV2, exHist1, runV, exV1, this]
  have hfv : FVerStep s3 (.importDone 1 0 [(1, [0])] [1] [] []) (runF exF1 (exHist1.take 3)) exV2 exF1 := by
    refine ⟨fun o _ => rfl, ?_⟩
    intro c hc id hid
    have hc' : c = (1, [0]) := by simpa [reported, s3, s2] using hc
    subst hc'
    have : id = 0 := by simpa using hid
    subst this; rfl
  obtain ⟨f, _, hv⟩ := h s3 _ {} _ exV2 _ exF1 hg hpay hver hfv 1 (by decide)
  revert hv
  simp [exF1, exV2]

private theorem ex_runOK_first (ids : List Nat) (h0 : 0 ∈ ids) :
    RunOK (initSt []) exV1 exF1 [(e1, {}, exV1, exF1), (.importDone 1 1 [(0, ids)] [] [] [0], {}, exV1, exF1)] := by
  have hok : PayloadOK s1 (.importDone 1 1 [(0, ids)] [] [] [0]) :=
    payloadOK_of_check ⟨⟨by simp, fun o ho => by cases List.mem_singleton.1 ho; exact ⟨rfl, rfl⟩⟩, by decide, fun j hj => by
      cases hj
      exact ⟨rfl, fun _ => List.cons_ne_nil _ _,
        fun id h _ => ⟨_, List.mem_singleton.2 rfl, by rw [show id = 0 by omega]; exact h0⟩, by decide, by decide, by decide⟩⟩
  show RunOK s0 exV1 exF1 _
  refine ⟨stepOK_same _ _ _ _ ok1 rfl, ?_⟩
  rw [step1]
  exact ⟨stepOK_import hok rfl (by simp) (by decide) (fun _ h => nomatch h) (fun _ _ => rfl) (fun _ _ _ _ => rfl), trivial⟩

/-- "exactly once" is FALSE without the clause "a file stores a stream at most once" of `ContentOK`: the history
    `importPcaps; importDone` whose created file lists stream 0 twice satisfies `RunOK`, and the enumeration of a
    fresh view lists stream 0 twice -/
theorem content_nodup_counterexample :
    ¬ (∀ (convs : List String) (ver0 : Ver) (fver0 : FVer) (h : Hist), RunOK (initSt convs) ver0 fver0 h →
        (C10.enumerate ((runSt (initSt convs) h).idx.map (C10.content (runSt (initSt convs) h)))).Nodup) := by
  intro h
  have := h [] exV1 exF1 _ (ex_runOK_first [0, 0] (by simp))
  revert this
  show ¬ (C10.enumerate ((runSt s0 _).idx.map (C10.content (runSt s0 _)))).Nodup
  simp only [runSt, step1]
  decide

/-- "and nothing else" is FALSE without the clause "an import writes only ids below the `next` it establishes" of
    `ContentOK`: the created file lists a stream 9 that does not exist (next = 1), and the enumeration of a fresh
    view lists it -/
theorem content_bounded_counterexample :
    ¬ (∀ (convs : List String) (ver0 : Ver) (fver0 : FVer) (h : Hist), RunOK (initSt convs) ver0 fver0 h →
        ∀ id, id ∈ C10.enumerate ((runSt (initSt convs) h).idx.map (C10.content (runSt (initSt convs) h))) →
          id < (runSt (initSt convs) h).next) := by
  intro h
  have := h [] exV1 exF1 _ (ex_runOK_first [0, 9] (by simp)) 9
  revert this
  show ¬ (9 ∈ C10.enumerate ((runSt s0 _).idx.map (C10.content (runSt s0 _))) → 9 < (runSt s0 _).next)
  simp only [runSt, step1]
  decide

end example_

end Pk.Props.C10Reach
