/-
  C12 (stream level) — every stream of a completed import is visible under its old id with its newest
  data after a restart from ANY crash point of an import or a merge.

  Model: Pk.Model.RecoverIdx.  A crash point is a prefix of the job's list of file operations
  (`List.take k`, every `k`).  The merge theorem needs a condition on where the inputs sit in the stack
  (`NoNewerOutsider`); its violation is finding F18, and the counterexamples show that it cannot be dropped.
-/
import Pk.Model.RecoverIdx
import Pk.Props.RecoverSpec
import Pk.Proofs.RecoverIdx
import Pk.Proofs.RecoverIdxOps
import Pk.Proofs.RecoverIdxMerge
import Pk.Proofs.RecoverIdxCut
import Pk.Proofs.RecoverIdxStack

namespace Pk.Props.C12Idx
open Pk.Recover Pk.Proofs.RecoverIdx

def DisjointAbove (d : List IndexFile) (inputs : List Nat) : Prop :=
  ∀ g ∈ d, g.name ∉ inputs → (∃ f ∈ d, f.name ∈ inputs ∧ f.name < g.name) →
    ∀ id ∈ g.ids, ¬ InputId d inputs id

def UniqueNames (d : List IndexFile) : Prop := (d.map (·.name)).Nodup

/-- `MergeBase` from bounded quantifiers only, so that `decide` proves it for a concrete disk -/
private theorem MergeBase.of_bounded {ver : Nat → Nat → Nat} {d : List IndexFile} {inputs : List Nat}
    {outputs : List (Nat × List Nat)}
    (fresh : ∀ o ∈ outputs, ∀ f ∈ d, f.name < o.1)
    (inputs_exist : ∀ n ∈ inputs, ∃ f ∈ d, f.name = n)
    (inputs_complete : ∀ f ∈ d, f.name ∈ inputs → f.complete = true)
    (out_in : ∀ o ∈ outputs, ∀ id ∈ o.2, ∃ f ∈ d, f.name ∈ inputs ∧ id ∈ f.ids)
    (in_out : ∀ f ∈ d, f.name ∈ inputs → ∀ id ∈ f.ids, ∃ o ∈ outputs, id ∈ o.2)
    (version : ∀ o ∈ outputs, ∀ id ∈ o.2, ∀ n ∈ newestInput d inputs id, ver o.1 id = ver n id) :
    MergeBase ver d inputs outputs :=
  ⟨fresh, inputs_exist, inputs_complete,
    fun id => ⟨fun ⟨o, ho, hid⟩ => out_in o ho id hid, fun ⟨f, hf, hn, hid⟩ => in_out f hf hn id hid⟩,
    fun o ho id hid n hn => version o ho id hid n hn⟩

theorem noNewerOutsider_of_disjoint (d : List IndexFile) (inputs : List Nat)
    (h : DisjointAbove d inputs) : NoNewerOutsider d inputs := by
  intro g hg _ hgi id hid hin
  obtain ⟨f, hf, hfi, hfid⟩ := hin
  refine ⟨f, hf, hfi, hfid, ?_⟩
  rcases Nat.lt_trichotomy g.name f.name with hlt | heq | hgt
  · exact hlt
  · exact absurd (heq ▸ hfi) hgi
  · exact absurd ⟨f, hf, hfi, hfid⟩ (h g hg hgi ⟨f, hf, hfi, hgt⟩ id hid)

/-- crash at any point of an import (any prefix of its file operations): before the last operation
    every id is served by the same file as before; after it the ids of the new file are served by
    the new file and all others as before.  `nextID` never decreases and ends above every new id. -/
theorem import_crash_safe (ver : Nat → Nat → Nat) (d : List IndexFile) (name : Nat) (ids : List Nat)
    (hnew : Newer d name) (k : Nat) :
    let ops := importOps name ids
    let d' := applyOps d (ops.take k)
    (k < ops.length → ∀ id, visibleIn d' id = visibleIn d id ∧ visibleVer d' ver id = visibleVer d ver id) ∧
    (ops.length ≤ k → ∀ id,
        visibleIn d' id = (if id ∈ ids then some name else visibleIn d id) ∧
        visibleVer d' ver id = (if id ∈ ids then some (ver name id) else visibleVer d ver id)) ∧
    (∀ id, (visibleIn d id).isSome = true → (visibleIn d' id).isSome = true) ∧
    nextID d ≤ nextID d' ∧
    (ops.length ≤ k → ∀ id ∈ ids, id < nextID d') := by
  intro ops d'
  have hlen : ops.length = 2 := rfl
  have hne : ∀ f ∈ d, f.name ≠ name := fun f hf => Nat.ne_of_lt (hnew f hf)
  rcases import_prefix_cases d name ids hne k with ⟨hk, E, hE, h⟩ | ⟨hk, h⟩
  · have hd : d' = d ++ E := h
    have hv : ∀ id, visibleIn d' id = visibleIn d id := fun id => by
      rw [hd]; exact visibleIn_append_incomplete d _ id hE
    refine ⟨fun _ id => ⟨hv id, by simp only [visibleVer, hv id]⟩, fun h => by omega,
      fun id h => by rw [hv id]; exact h, ?_, fun h => by omega⟩
    rw [hd, nextID_append_incomplete d _ hE]
    exact Nat.le_refl _
  · have hd : d' = d ++ [mkOut (name, ids)] := h
    have hv : ∀ id, visibleIn d' id = if id ∈ ids then some name else visibleIn d id := fun id => by
      rw [hd]; exact visibleIn_append_newer d (name, ids) id hnew
    refine ⟨fun h => by omega, fun _ id => ⟨hv id, ?_⟩, ?_, ?_, ?_⟩
    · simp only [visibleVer, hv id]
      split <;> rfl
    · intro id h
      rw [hv id]; split
      · rfl
      · exact h
    · rw [hd]
      exact nextID_mono _ _ fun f hf hc i hi => ⟨f, List.mem_append.mpr (Or.inl hf), hc, hi⟩
    · intro _ id hid
      rw [hd]
      exact lt_nextID _ (mkOut (name, ids)) (by simp) rfl id hid

/-- crash at any point of a merge (any prefix of "write every output completely, then remove the
    inputs"): every id is served in the same version as before and the next id is unchanged. -/
theorem merge_crash_safe (ver : Nat → Nat → Nat) (d : List IndexFile) (inputs : List Nat)
    (outputs : List (Nat × List Nat)) (h : MergeOK ver d inputs outputs) (k : Nat) :
    let d' := applyOps d ((mergeOps inputs outputs).take k)
    (∀ id, visibleVer d' ver id = visibleVer d ver id) ∧ nextID d' = nextID d := by
  intro d'
  obtain ⟨D, E, hd, hD, hE, hall⟩ := merge_prefix_shape d inputs outputs h.fresh h.inputs_exist (List.take_prefix k _)
  have hd' : d' = d.filter (fun f => !(D.contains f.name)) ++ E := hd
  rw [hd']
  exact ⟨shape_visibleVer hD hE hall h, shape_nextID hD hE hall h.toMergeBase⟩

/-- the set of visible ids is the same at every crash point of a merge -/
theorem merge_crash_same_ids (ver : Nat → Nat → Nat) (d : List IndexFile) (inputs : List Nat)
    (outputs : List (Nat × List Nat)) (h : MergeOK ver d inputs outputs) (k : Nat) (id : Nat) :
    (visibleIn (applyOps d ((mergeOps inputs outputs).take k)) id).isSome = (visibleIn d id).isSome := by
  have := (merge_crash_safe ver d inputs outputs h k).1 id
  simp only [visibleVer] at this
  have h2 := congrArg Option.isSome this
  simpa using h2

/-! F18: without `no_newer_outsider` the statement is false.  Files 0,1,2; file 2 holds a newer
    version of stream 1 than file 1; merging files 0 and 1 (not a suffix of the stack) into file 3
    satisfies every other hypothesis, but after the restart stream 1 is served by file 3 in the
    OLD version of file 1: the newer version of file 2 is shadowed. -/

def f18Disk : List IndexFile := [⟨0, true, [0, 1]⟩, ⟨1, true, [1, 2]⟩, ⟨2, true, [1]⟩]
/-- version = name of the file the data came from; the merged file 3 carries file 0's data for
    stream 0 and file 1's data for streams 1 and 2 -/
def f18Ver : Nat → Nat → Nat := fun file id => if file = 3 then (if id = 0 then 0 else 1) else file

theorem merge_not_suffix_counterexample :
    MergeBase f18Ver f18Disk [0, 1] [(3, [0, 1, 2])] ∧
    ¬ DisjointAbove f18Disk [0, 1] ∧ ¬ NoNewerOutsider f18Disk [0, 1] ∧
    visibleVer f18Disk f18Ver 1 = some 2 ∧
    (∀ k ∈ [2, 3, 4],
      visibleVer (applyOps f18Disk ((mergeOps [0, 1] [(3, [0, 1, 2])]).take k)) f18Ver 1 = some 1) := by
  refine ⟨MergeBase.of_bounded (by decide) (by decide) (by decide) (by decide) (by decide) (by decide),
    ?_, ?_, by decide, by decide⟩
  · unfold DisjointAbove InputId; decide
  · unfold NoNewerOutsider InputId; decide

theorem merge_without_condition_false :
    ¬ (∀ (ver : Nat → Nat → Nat) (d : List IndexFile) (inputs : List Nat)
        (outputs : List (Nat × List Nat)), MergeBase ver d inputs outputs → ∀ k id,
        visibleVer (applyOps d ((mergeOps inputs outputs).take k)) ver id = visibleVer d ver id) := by
  intro h
  have h1 := h f18Ver f18Disk [0, 1] [(3, [0, 1, 2])] merge_not_suffix_counterexample.1 2 1
  exact absurd h1 (by decide)

/-- distinct, because a directory cannot hold two files of one name and `cutFile` addresses a file by its
    name; without distinctness `crash_cut_prefix` fails (`crash_cut_dup_names_counterexample`) -/
def JobFresh (d : List IndexFile) : Job → Prop
  | .imp name _ => Newer d name
  | .merge _ outs => (∀ o ∈ outs, Newer d o.1) ∧ (outs.map (·.1)).Nodup

/-- an import is the merge of no inputs into one output -/
private theorem JobFresh.as_merge {d : List IndexFile} {j : Job} (h : JobFresh d j) :
    ∃ ins outs, j.ops = mergeOps ins outs ∧ (outs.map (·.1)).Nodup ∧ ∀ o ∈ outs, ∀ f ∈ d, f.name ≠ o.1 := by
  cases j with
  | imp name ids =>
    exact ⟨[], [(name, ids)], rfl, by simp, fun o ho f hf => by
      cases List.mem_singleton.mp ho; exact Nat.ne_of_lt (h f hf)⟩
  | merge ins outs => exact ⟨ins, outs, rfl, h.2, fun o ho f hf => Nat.ne_of_lt (h.1 o ho f hf)⟩

/-- zeroing the header of the file under construction (the file written by the last operation, as
    long as the job has not begun to delete) at crash point `k` gives the disk of an EARLIER crash
    point `k' ≤ k` of the same job -/
theorem crash_cut_prefix (d : List IndexFile) (j : Job) (h : JobFresh d j) (k : Nat) :
    ∃ k', k' ≤ k ∧
      cutOpt (underConstruction (j.ops.take k)) (applyOps d (j.ops.take k)) = applyOps d (j.ops.take k') := by
  obtain ⟨ins, outs, e, hnd, hf⟩ := h.as_merge
  rw [e]
  exact merge_cut d ins outs hnd hf k

/-- the set of disks reachable by "prefix, optionally with the file under construction cut" is
    exactly the set of prefix disks -/
theorem crash_cut_newest_only (d : List IndexFile) (j : Job) (h : JobFresh d j) (x : List IndexFile) :
    (∃ k, x = applyOps d (j.ops.take k) ∨
          x = cutOpt (underConstruction (j.ops.take k)) (applyOps d (j.ops.take k))) ↔
    (∃ k, x = applyOps d (j.ops.take k)) := by
  constructor
  · rintro ⟨k, rfl | rfl⟩
    · exact ⟨k, rfl⟩
    · obtain ⟨k', _, hk'⟩ := crash_cut_prefix d j h k
      exact ⟨k', hk'⟩
  · rintro ⟨k, rfl⟩
    exact ⟨k, Or.inl rfl⟩

/-! `crash_cut_prefix` is about the file UNDER CONSTRUCTION (the last operation is a `create` or a
    `finish`).  For "the most recently written index file" (`lastWritten`) it is false once the merge
    has begun to remove its inputs: the newest file is then the last output, and zeroing its header
    while an input is already gone loses a stream.  A crash emulation must therefore not cut the newest
    index file of a copy taken in the release phase of a merge. -/

def cutDisk : List IndexFile := [⟨0, true, [0]⟩, ⟨1, true, [1]⟩]
def cutOps : List IdxOp := mergeOps [0, 1] [(2, [0, 1])]

theorem crash_cut_delete_phase_counterexample :
    MergeOK (fun _ _ => 0) cutDisk [0, 1] [(2, [0, 1])] ∧
    lastWritten (cutOps.take 3) = some 2 ∧ underConstruction (cutOps.take 3) = none ∧
    visibleIn cutDisk 0 = some 0 ∧
    visibleIn (cutOpt (lastWritten (cutOps.take 3)) (applyOps cutDisk (cutOps.take 3))) 0 = none ∧
    (∀ k ∈ [0, 1, 2, 3, 4],
      cutOpt (lastWritten (cutOps.take 3)) (applyOps cutDisk (cutOps.take 3)) ≠ applyOps cutDisk (cutOps.take k)) := by
  refine ⟨⟨MergeBase.of_bounded (by decide) (by decide) (by decide) (by decide) (by decide)
    fun _ _ _ _ _ _ => rfl, ?_⟩, by decide, by decide, by decide, by decide, by decide⟩
  unfold NoNewerOutsider InputId; decide

/-- cutting "the" file named 5 cuts both -/
theorem crash_cut_dup_names_counterexample :
    let ops := mergeOps [] [(5, [0]), (5, [1])]
    ∀ k ∈ [0, 1, 2, 3, 4], cutOpt (underConstruction (ops.take 4)) (applyOps [] (ops.take 4)) ≠
      applyOps [] (ops.take k) := by
  decide

/-- an import job that writes several files is the concatenation of one-file imports, so its crash
    points are covered by `restart_ids_stable` with the files as consecutive `imp` jobs -/
theorem multi_file_import_is_concatenation (d : List IndexFile) (o : Nat × List Nat)
    (os : List (Nat × List Nat)) :
    writeOps (o :: os) = importOps o.1 o.2 ++ writeOps os ∧
    applyOps d (writeOps (o :: os)) = runJobs d ((o :: os).map fun o => Job.imp o.1 o.2) := by
  refine ⟨rfl, ?_⟩
  generalize o :: os = l
  induction l generalizing d with
  | nil => rfl
  | cons p ps ih => exact ih (applyOps d (importOps p.1 p.2))

/-- a merge over a SUFFIX of the stack satisfies the stack-position condition, and its inputs are
    complete files of the disk -/
theorem suffix_inputs_ok (d : List IndexFile) (hu : UniqueNames d) (i : Nat) :
    let inputs := ((stack d).drop i).map (·.name)
    (∀ n ∈ inputs, ∃ f ∈ d, f.name = n) ∧ (∀ f ∈ d, f.name ∈ inputs → f.complete = true) ∧
    NoNewerOutsider d inputs := by
  intro inputs
  have hmem : ∀ f ∈ d, f.name ∈ inputs → f ∈ (stack d).drop i := by
    intro f hf hn
    obtain ⟨f', hf', hn'⟩ := List.mem_map.mp hn
    have hf'd := ((mem_stack d f').mp (List.mem_of_mem_drop hf')).1
    have : f' = f := eq_of_name_eq d hu f' f hf'd hf hn'
    exact this ▸ hf'
  refine ⟨?_, ?_, ?_⟩
  · intro n hn
    obtain ⟨f, hf, rfl⟩ := List.mem_map.mp hn
    exact ⟨f, ((mem_stack d f).mp (List.mem_of_mem_drop hf)).1, rfl⟩
  · intro f hf hn
    exact ((mem_stack d f).mp (List.mem_of_mem_drop (hmem f hf hn))).2
  · intro g hg hgc hgn id _ hin
    obtain ⟨f, hf, hfn, hfid⟩ := hin
    refine ⟨f, hf, hfn, hfid, ?_⟩
    have hfd := hmem f hf hfn
    have hgs : g ∈ stack d := (mem_stack d g).mpr ⟨hg, hgc⟩
    rw [← List.take_append_drop i (stack d)] at hgs
    rcases List.mem_append.mp hgs with hgt | hgd
    · have hs := strict_stack d hu
      rw [← List.take_append_drop i (stack d)] at hs
      exact (List.pairwise_append.mp hs).2.2 g hgt f hfd
    · exact absurd (List.mem_map.mpr ⟨g, hgd, rfl⟩) hgn

theorem mergeOK_of_suffix (ver : Nat → Nat → Nat) (d : List IndexFile) (hu : UniqueNames d) (i : Nat)
    (outputs : List (Nat × List Nat))
    (hfresh : ∀ o ∈ outputs, Newer d o.1)
    (hcover : ∀ id, (∃ o ∈ outputs, id ∈ o.2) ↔ InputId d (((stack d).drop i).map (·.name)) id)
    (hver : ∀ o ∈ outputs, ∀ id ∈ o.2, ∀ n,
      newestInput d (((stack d).drop i).map (·.name)) id = some n → ver o.1 id = ver n id) :
    MergeOK ver d (((stack d).drop i).map (·.name)) outputs := by
  obtain ⟨h1, h2, h3⟩ := suffix_inputs_ok d hu i
  exact ⟨⟨hfresh, h1, h2, hcover, hver⟩, h3⟩

/-- `visibleIn` (maximum name) is how the service resolves an id: the last file of the stack holding it;
    the stack holds exactly the complete files, in name order -/
theorem visibleIn_is_stack_lookup (d : List IndexFile) (id : Nat) :
    visibleInStack d id = visibleIn d id ∧
    (∀ g, g ∈ stack d ↔ g ∈ d ∧ g.complete = true) ∧
    (stack d).Pairwise (fun a b => a.name ≤ b.name) :=
  ⟨visibleInStack_eq d id, mem_stack d, sorted_stack d⟩

theorem recoverView_spec (d : List IndexFile) :
    (∀ id n, (id, n) ∈ recoverView d ↔ visibleIn d id = some n) ∧
    (recoverView d).Pairwise (fun a b => a.1 < b.1) :=
  ⟨mem_recoverView d, sorted_recoverView d⟩

theorem nextID_spec (d : List IndexFile) :
    (∀ f ∈ d, f.complete = true → ∀ i ∈ f.ids, i < nextID d) ∧
    (∀ b, (∀ f ∈ d, f.complete = true → ∀ i ∈ f.ids, i < b) → nextID d ≤ b) :=
  ⟨fun f hf hc i hi => lt_nextID d f hf hc i hi, fun b h => (nextID_le d b).mpr h⟩

def JobOK (ver : Nat → Nat → Nat) (d : List IndexFile) : Job → Prop
  | .imp name _ => Newer d name
  | .merge ins outs => MergeOK ver d ins outs

def HistOK (ver : Nat → Nat → Nat) : List IndexFile → List Job → Prop
  | _, [] => True
  | d, j :: js => JobOK ver d j ∧ HistOK ver (applyOps d j.ops) js

theorem runJobs_append (d : List IndexFile) (a b : List Job) :
    runJobs d (a ++ b) = runJobs (runJobs d a) b := by
  simp [runJobs, List.foldl_append]

theorem histOK_append (ver : Nat → Nat → Nat) (d : List IndexFile) (a b : List Job) :
    HistOK ver d (a ++ b) ↔ HistOK ver d a ∧ HistOK ver (runJobs d a) b := by
  induction a generalizing d with
  | nil => simp [HistOK, runJobs]
  | cons j js ih =>
    simp only [List.cons_append, HistOK, ih, and_assoc]
    rfl

/-- one job, crashed at any point (or completed): nothing visible is lost, `nextID` does not
    decrease, and before the last operation every id is served in the same version -/
theorem job_prefix_safe (ver : Nat → Nat → Nat) (d : List IndexFile) (j : Job) (h : JobOK ver d j)
    (k : Nat) :
    let d' := applyOps d (j.ops.take k)
    nextID d ≤ nextID d' ∧
    (∀ id, (visibleIn d id).isSome = true → (visibleIn d' id).isSome = true) ∧
    (k < j.ops.length → ∀ id, visibleVer d' ver id = visibleVer d ver id) := by
  cases j with
  | imp name ids =>
    obtain ⟨h1, _, h3, h4, _⟩ := import_crash_safe ver d name ids h k
    exact ⟨h4, h3, fun hk id => (h1 hk id).2⟩
  | merge ins outs =>
    obtain ⟨h1, h2⟩ := merge_crash_safe ver d ins outs h k
    refine ⟨Nat.le_of_eq h2.symm, fun id hid => ?_, fun _ => h1⟩
    rw [← hid]
    exact merge_crash_same_ids ver d ins outs h k id

/-- completed jobs never lose a visible id and never lower `nextID` -/
theorem history_monotone (ver : Nat → Nat → Nat) (d : List IndexFile) (js : List Job)
    (h : HistOK ver d js) :
    nextID d ≤ nextID (runJobs d js) ∧
    (∀ id, (visibleIn d id).isSome = true → (visibleIn (runJobs d js) id).isSome = true) := by
  induction js generalizing d with
  | nil => exact ⟨Nat.le_refl _, fun _ h => h⟩
  | cons j js ih =>
    obtain ⟨hj, hjs⟩ := h
    have h1 := job_prefix_safe ver d j hj j.ops.length
    rw [List.take_length] at h1
    obtain ⟨h2, h3⟩ := ih (applyOps d j.ops) hjs
    exact ⟨Nat.le_trans h1.1 h2, fun id hid => h3 id (h1.2.1 id hid)⟩

/-- a history of import and merge jobs, the last one crashed at an arbitrary point `k`:
    * if the crash is inside the last job, the restart serves EVERY id in exactly the version it had
      after the last completed job (otherwise the last job is completed);
    * `nextID` is at least the next id of the last completed job — and of every earlier moment of the
      history, and above every id that any completed state of the history held: no id is handed out
      twice after a restart;
    * every id that was visible at any earlier moment of the history is still visible. -/
theorem restart_ids_stable (ver : Nat → Nat → Nat) (d0 : List IndexFile) (js : List Job) (j : Job)
    (h : HistOK ver d0 (js ++ [j])) (k : Nat) :
    let dc := runJobs d0 js                      -- the disk after the last completed job
    let d' := applyOps dc (j.ops.take k)         -- the disk the restart finds
    (k < j.ops.length → ∀ id, visibleVer d' ver id = visibleVer dc ver id) ∧
    (j.ops.length ≤ k → d' = runJobs d0 (js ++ [j])) ∧
    nextID dc ≤ nextID d' ∧
    (∀ i, let past := runJobs d0 (js.take i)
      nextID past ≤ nextID d' ∧
      (∀ id, (visibleIn past id).isSome = true → (visibleIn d' id).isSome = true) ∧
      (∀ f ∈ past, f.complete = true → ∀ id ∈ f.ids, id < nextID d')) := by
  intro dc d'
  obtain ⟨hjs, hj⟩ := (histOK_append ver d0 js [j]).mp h
  have hj' : JobOK ver dc j := hj.1
  obtain ⟨h1, h2, h3⟩ := job_prefix_safe ver dc j hj' k
  refine ⟨h3, ?_, h1, ?_⟩
  · intro hk
    show applyOps dc (j.ops.take k) = _
    rw [List.take_of_length_le hk, runJobs_append]
    rfl
  · intro i past
    have hsplit : HistOK ver d0 (js.take i ++ js.drop i) := by rw [List.take_append_drop]; exact hjs
    obtain ⟨_, hdrop⟩ := (histOK_append ver d0 _ _).mp hsplit
    obtain ⟨m1, m2⟩ := history_monotone ver past (js.drop i) hdrop
    have hdc : runJobs past (js.drop i) = dc := by
      show runJobs (runJobs d0 (js.take i)) (js.drop i) = runJobs d0 js
      rw [← runJobs_append, List.take_append_drop]
    rw [hdc] at m1 m2
    have hn : nextID past ≤ nextID d' := Nat.le_trans m1 h1
    exact ⟨hn, fun id hid => h2 id (m2 id hid),
      fun f hf hc id hid => Nat.lt_of_lt_of_le (lt_nextID past f hf hc id hid) hn⟩

/-- unique names are an invariant of every crash point of every history whose jobs write fresh,
    distinct names -/
theorem uniqueNames_prefix (d : List IndexFile) (j : Job) (hu : UniqueNames d) (h : JobFresh d j)
    (k : Nat) : UniqueNames (applyOps d (j.ops.take k)) := by
  obtain ⟨ins, outs, e, hnd, hf⟩ := h.as_merge
  rw [e]
  exact uniqueNames_merge_prefix d ins outs hu hnd hf (List.take_prefix k _)

/-! non-vacuity: a disk with three files, a merge of the last two (a suffix of the stack), every prefix -/

def exDisk : List IndexFile := [⟨0, true, [0, 1]⟩, ⟨1, true, [1, 2]⟩, ⟨2, true, [2, 3]⟩]
def exOps : List IdxOp := mergeOps [1, 2] [(3, [1, 2, 3])]
/-- version = the file the data came from; file 3 carries file 1's stream 1 and file 2's streams 2, 3 -/
def exVer : Nat → Nat → Nat := fun file id => if file = 3 then (if id = 1 then 1 else 2) else file

example : recoverView exDisk = [(0, 0), (1, 1), (2, 2), (3, 2)] := by decide
example : nextID exDisk = 4 := by decide
example : (stack exDisk).map (·.name) = [0, 1, 2] := by decide
example : exOps.length = 4 := by decide
example : ((stack exDisk).drop 1).map (·.name) = [1, 2] := by decide
example : ∀ k ∈ [0, 1, 2, 3, 4, 5], ∀ id ∈ [0, 1, 2, 3, 4],
    visibleVer (applyOps exDisk (exOps.take k)) exVer id = visibleVer exDisk exVer id := by decide
example : ∀ k ∈ [0, 1, 2, 3, 4, 5], nextID (applyOps exDisk (exOps.take k)) = 4 := by decide
-- the serving file changes at the second operation (header of the merged file written)
example : recoverView (applyOps exDisk (exOps.take 1)) = [(0, 0), (1, 1), (2, 2), (3, 2)] := by decide
example : recoverView (applyOps exDisk (exOps.take 2)) = [(0, 0), (1, 3), (2, 3), (3, 3)] := by decide
example : recoverView (applyOps exDisk (exOps.take 3)) = [(0, 0), (1, 3), (2, 3), (3, 3)] := by decide
example : applyOps exDisk exOps = [⟨0, true, [0, 1]⟩, ⟨3, true, [1, 2, 3]⟩] := by decide
example : cutOpt (underConstruction (exOps.take 2)) (applyOps exDisk (exOps.take 2)) =
    applyOps exDisk (exOps.take 1) := by decide
example : ∀ k ∈ [0, 1], recoverView (applyOps exDisk ((importOps 3 [3, 4]).take k)) = recoverView exDisk := by
  decide
example : recoverView (applyOps exDisk (importOps 3 [3, 4])) = [(0, 0), (1, 1), (2, 2), (3, 3), (4, 3)] := by
  decide
example : nextID (applyOps exDisk (importOps 3 [3, 4])) = 5 := by decide

/-- the hypotheses of `merge_crash_safe` are satisfiable -/
example : MergeOK exVer exDisk [1, 2] [(3, [1, 2, 3])] := by
  have hu : UniqueNames exDisk := by unfold UniqueNames; decide
  have hs : ((stack exDisk).drop 1).map (·.name) = [1, 2] := by decide
  have := mergeOK_of_suffix exVer exDisk hu 1 [(3, [1, 2, 3])]
  rw [hs] at this
  have mb : MergeBase exVer exDisk [1, 2] [(3, [1, 2, 3])] :=
    MergeBase.of_bounded (by decide) (by decide) (by decide) (by decide) (by decide) (by decide)
  exact this mb.fresh mb.cover mb.version

end Pk.Props.C12Idx
