/-
  C13 — Index files live exactly as long as they are needed.

  Model: Pk.Model.Manager (the service loop as a transition system; every event = one closure run
  by the loop).  `used` is the lock-count table (`usedIndexes`), `files` the set of index files that
  are open and on disk, `idx` the service list, `views` the files held by open views, `jImport`,
  `jTag`, `jMerge`, `jConv` the files held by running background jobs.

  Nothing here is bounded: the theorems hold for every state satisfying the invariant, every event
  with every payload that satisfies `EvOK` (files reported as created are new and distinct — they
  are named by `tools.MakeFilename`, which never repeats a name), hence for every history.
-/
import Pk.Model.Manager
import Pk.Proofs.MgrLocks
import Pk.Proofs.MgrLocksStep

namespace Pk.Props.C13
open Pk.Mgr Pk.Proofs.MgrLocks

/-- payload side condition: files created by an import or a merge are new (not known to the
    service) and pairwise distinct -/
def FreshFiles (s : St) (fs : List (Nat × List Nat)) : Prop :=
  (fs.map (·.1)).Nodup ∧ ∀ o ∈ fs.map (·.1), nget s.used o = none ∧ nget s.files o = none

def EvOK (s : St) : Ev → Prop
  | .importDone _ _ created _ _ _ => FreshFiles s created
  | .mergeDone merged => FreshFiles s merged
  | _ => True

/-- `CInv` carries a list of pending releases; here it is empty -/
theorem countInv_iff (s : St) : CountInv s ↔ CInv [] s := countInv_iff_cinv s

theorem count_init (convs : List String) :
    CountInv { convs := convs, toconv := convs.map (fun c => (c, [])), cached := convs.map (fun c => (c, [])) } := by
  refine ⟨fun f => ?_, fun f => ?_, fun f => ?_, ?_, ?_, ?_, ?_, ?_⟩ <;>
    simp [holders, viewHeld, jobHeld]

/-- every transition of the service loop preserves "lock count = number of holders" -/
theorem count_step (s : St) (e : Ev) (st : Started) (h : CountInv s) (hok : EvOK s e) :
    CountInv (step s e st).1 := by
  -- `hok` is not needed: the lock counts do not depend on the created files being fresh
  have _ := hok
  exact (countInv_iff _).2 (CInv_step s e st ((countInv_iff s).1 h))

/-- run a history: events with the tagging choices the implementation made -/
def run (s : St) : List (Ev × Started) → St
  | [] => s
  | (e, st) :: rest => run (step s e st).1 rest

def HistOK (s : St) : List (Ev × Started) → Prop
  | [] => True
  | (e, st) :: rest => EvOK s e ∧ HistOK (step s e st).1 rest

/-- `usedIndexes f = holders f` in every reachable state, for every history and every order of job
    completions -/
theorem count_reachable (s : St) (h : List (Ev × Started)) (hs : CountInv s) (hh : HistOK s h) :
    CountInv (run s h) := by
  induction h generalizing s with
  | nil => exact hs
  | cons a rest ih =>
    obtain ⟨e, st⟩ := a
    exact ih _ (count_step s e st hs hh.1) hh.2

/-- a file is open (and on disk) exactly while somebody holds it -/
private theorem open_iff_held (s : St) (h : CountInv s) (f : Nat) :
    (nget s.files f).isSome = true ↔ 0 < holders s f := by
  have h2 := h.2.1 f
  rw [h.2.2.1 f, ← h.1 f]
  cases hu : nget s.used f with
  | none => simp
  | some n =>
    rw [hu] at h2
    simp at h2 ⊢
    omega

/-- a file that anybody holds is open and on disk -/
theorem open_while_held (s : St) (h : CountInv s) (f : Nat) (hf : 0 < holders s f) :
    (nget s.files f).isSome = true :=
  (open_iff_held s h f).2 hf

/-- a file nobody holds has been closed and deleted -/
theorem deleted_when_free (s : St) (h : CountInv s) (f : Nat) (hf : holders s f = 0) :
    nget s.files f = none :=
  Option.not_isSome_iff_eq_none.1 fun ho => absurd ((open_iff_held s h f).1 ho) (by omega)

/-- at quiescence with no views the open files are exactly the served files -/
theorem quiescent_dir_exact (s : St) (h : CountInv s) (hv : s.views = []) (hj : jobHeld s = []) (f : Nat) :
    (nget s.files f).isSome = true ↔ f ∈ s.idx := by
  rw [open_iff_held s h f, ← List.count_pos_iff]
  simp [holders, viewHeld, hv, hj]

example : CountInv ({ idx := [0, 1], used := [(0, 2), (1, 1)], files := [(0, [0]), (1, [1, 2])],
                      views := [(0, [0])] } : St) := by
  refine ⟨?_, ?_, ?_, ?_⟩
  · intro f
    rcases f with _ | _ | f <;> simp [holders, viewHeld, jobHeld, nget_cons]
  · intro f
    rcases f with _ | _ | f <;> simp [nget_cons]
  · intro f
    rcases f with _ | _ | f <;> simp [nget_cons]
  · refine ⟨?_, ?_, ?_, ?_, ?_⟩ <;> simp

end Pk.Props.C13
