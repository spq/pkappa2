/-
  Predicates on states and events of the service-loop model that several property files state their theorems
  with, and that the proof modules below those files speak of as well.  They rest on Pk.Model.Manager alone, so
  they stand here, under the names of the property files they belong to, below everything that uses them.
-/
import Pk.Model.Manager

namespace Pk.Props.C06
open Pk.Mgr

def Edits (e : Ev) (n : String) : Prop :=
  match e with
  | .tagDone m _ => m = n
  | .addTag m _ _ _ => m = n
  | .updQuery m _ _ => m = n
  | .updName m new => m = n ∨ new = n
  | .markAdd m _ => m = n
  | .markDel m _ => m = n
  | .delTag m => m = n
  | _ => False

end Pk.Props.C06

namespace Pk.Props.C09
open Pk.Mgr

/-- converters are attached to reference-free tags only (`attachConverterToTag` refuses tags with
    references, `UpdateTag` refuses to give references to a tag with converters) -/
def ConvPlain (s : St) : Prop :=
  ∀ n t, sget s.tags n = some t → t.convs ≠ [] → t.mainT = [] ∧ t.subT = []

/-- no reference cycle: the sweep of `createsTagCycle` resolves every tag -/
def Acyclic (s : St) : Prop := (cycleLoop s.tags.length s.tags []).length = s.tags.length

end Pk.Props.C09

namespace Pk.Props.C10
open Pk.Mgr

def content (s : St) (f : Nat) : List Nat := (nget s.files f).getD []

def Covered (s : St) : Prop := ∀ id, id < s.next → ∃ f ∈ s.idx, id ∈ content s f

/-- only one import job runs at a time, and `next` is not changed by anything else: the job's
    captured `nextStreamID` is the current one (needed by `nextLeAll_step`, `allLeNext_step` and
    `uncBounded_step` of Pk/Props/MgrReach.lean) -/
def ImportJobInv (s : St) : Prop := ∀ jn held, s.jImport = some (jn, held) → jn = s.next

end Pk.Props.C10

namespace Pk.Props.C13
open Pk.Mgr

/-- files held by running background jobs (with multiplicity) -/
def jobHeld (s : St) : List Nat :=
  ((s.jImport.map (·.2)).getD []) ++ ((s.jTag.map (·.2.2)).getD []) ++
  ((s.jMerge.map (·.2)).getD []) ++ ((s.jConv.map (·.2)).getD [])

/-- files held by open views (with multiplicity) -/
def viewHeld (s : St) : List Nat := s.views.flatMap (·.2)

/-- number of holders of file `f`: the service list, the open views, the running jobs -/
def holders (s : St) (f : Nat) : Nat :=
  s.idx.count f + (viewHeld s).count f + (jobHeld s).count f

/-- Well-formedness of the view table and of the job slots.  Without it `count_step` is false
    for states that satisfy the first three conjuncts of `CountInv` but are not reachable:
     * view keys must be unique: for `views := [(0,[7]),(0,[8])], used := [(7,1),(8,1)],
       files := [(7,[]),(8,[])]` the event `viewRelease 0` removes both entries (`ndel`) but releases
       only `[7]` (`nget` finds the first), leaving `used 8 = 1` with `holders 8 = 0`;
     * a job slot is occupied only while its flag is set (for the import job: while the queue is
       non-empty): for `jImport := some (0,[7]), queue := [], used := [(7,1)], files := [(7,[])]` the
       event `importPcaps ["a"]` runs `startImport`, which overwrites `jImport`; the holder `[7]` is
       lost (`used 7 = 1`, `holders 7 = 0`).  Likewise `tag = false ∧ jTag = some (_, _, [7])` and any
       event that runs `startTaggingJobIfNeeded` (e.g. `convertDone`), and the same for merge/convert. -/
def JobsWF (s : St) : Prop :=
  (s.views.map (·.1)).Nodup ∧
  (s.queue = [] → s.jImport = none) ∧
  (s.tag = false → s.jTag = none) ∧
  (s.merge = false → s.jMerge = none) ∧
  (s.convert = false → s.jConv = none)

/-- the lock count of every file equals its number of holders; no entry with count 0 is kept;
    a file is open (and on disk) exactly while its count is positive -/
def CountInv (s : St) : Prop :=
  (∀ f, (nget s.used f).getD 0 = holders s f) ∧
  (∀ f, nget s.used f ≠ some 0) ∧
  (∀ f, (nget s.files f).isSome = (nget s.used f).isSome) ∧
  JobsWF s

end Pk.Props.C13

namespace Pk.Props.C16Reach
open Pk.Mgr

abbrev Ver := Nat → Nat

/-- the event changes the data of the existing stream `id`: it is the completion of an import job in flight
    that wrote at least one file and reports `id` as updated (more packets) or reset (re-assembled).
    The model invalidates nothing at any other completion, so both clauses are needed:
    `changed_needs_created_counterexample`. -/
def Changed (s : St) (e : Ev) (id : Nat) : Prop :=
  match e with
  | .importDone _ _ created upd rst _ => s.jImport.isSome = true ∧ created ≠ [] ∧ (id ∈ upd ∨ id ∈ rst)
  | _ => False

/-- `Changed` without the clause "the import wrote a file" -/
def ChangedAll (s : St) (e : Ev) (id : Nat) : Prop :=
  match e with
  | .importDone _ _ _ upd rst _ => s.jImport.isSome = true ∧ (id ∈ upd ∨ id ∈ rst)
  | _ => False

/-- the contract on how the versions move at event `e` taken in state `s`.  Ids ≥ `next` (in particular the ids
    an import adds) carry no obligation: they get their first version when they come into existence. -/
def VerStep (s : St) (e : Ev) (ver ver' : Ver) : Prop :=
  ∀ id, id < s.next → (Changed s e id → ver id < ver' id) ∧ (¬ Changed s e id → ver' id = ver id)

def initSt (convs : List String) : St :=
  { convs := convs, toconv := convs.map (fun c => (c, [])), cached := convs.map (fun c => (c, [])) }

end Pk.Props.C16Reach
