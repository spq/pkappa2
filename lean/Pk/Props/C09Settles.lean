/-
  C09 — background work always settles: the termination half.

  `Pk/Props/C09.lean` proves that nothing is stuck (work pending ⇒ the job that will deliver it is in
  flight) in every reachable state.  Here: when no further API calls arrive, every run of job completions —
  in whatever order the four kinds of jobs complete, with whatever admissible payloads (created files, search
  results, merge outputs, converted streams) — is finite (`settles`), and the state in which no job is in flight
  has no work left (`idle_is_quiescent`).  The measure that every completion decreases is
  `Pk.Proofs.MgrTermination.mu`, described at the top of Pk/Proofs/MgrTermination.lean.

  Besides `Reach` and `PayloadOK`, a step of `CStep` assumes:
   * `MergeOK`, a contract on a merge completion.  `settles` is false without it (`settles_counterexample`):
     `Reach` says nothing about the record counter `nrec`, and with a wrong `nrec` the eligibility scan of
     `startMergeJobIfNeeded` picks the last file of the list; a one-file merge that returns one file then
     restarts itself forever.  On the real system every merge satisfies it: `nrec` is the exact number of
     records in the listed files, so the scan only picks an offset that has a non-empty file after it.
     That is not proved: it needs `nrec = Σ fileCount` as an invariant, which is not part of `Reach`.  The
     harness checks the contract on every merge it sees started.
   * `ConvPlain`, a state invariant (`convPlain_init`, `convPlain_step`).  The measure needs it to order "a
     tagging completion queues streams for a converter" against "a converter completion re-runs the
     uncertainty sweep".  No counterexample to `settles` without it is known.
-/
import Pk.Props.MgrReach
import Pk.Props.MgrSpec
import Pk.Proofs.MgrTermination
import Pk.Proofs.MgrTerminationStep
import Pk.Proofs.MgrTerminationCycle
import Pk.Proofs.MgrTerminationAcyclic
import Pk.Proofs.MgrTerminationCex

namespace Pk.Props.C09
open Pk.Mgr Pk.Props.MgrReach

def isCompletion : Ev → Bool
  | .importDone .. => true
  | .tagDone .. => true
  | .mergeDone .. => true
  | .convertDone => true
  | _ => false

def Enabled (s : St) : Ev → Prop
  | .importDone .. => s.jImport.isSome = true
  | .tagDone name _ => ∃ snap held, s.jTag = some (name, snap, held)
  | .mergeDone _ => s.jMerge.isSome = true
  | .convertDone => s.jConv.isSome = true
  | _ => False

theorem convPlain_init (convs : List String) :
    ConvPlain { convs := convs, toconv := convs.map (fun c => (c, [])), cached := convs.map (fun c => (c, [])) } := by
  intro n t h; cases h

open Pk.Proofs.MgrTags in
theorem convPlain_step (s : St) (e : Ev) (st : Started) (h : Reach s) (hc : ConvPlain s) :
    ConvPlain (step s e st).1 := by
  have hev : TagEvOK (fun _ => Pk.Proofs.MgrTermination.OK3) (fun _ _ => True) s e := by
    cases e with
    | addTag name color defn f =>
      intro _ hne
      exact absurd rfl hne
    | updQuery name defn f =>
      intro t ok _ (hne : t.convs ≠ [])
      have hp := ok.plain
      simp only [Bool.and_eq_false_imp, Bool.not_eq_true', List.isEmpty_eq_false_iff, Bool.or_eq_false_iff,
        Bool.not_eq_false', List.isEmpty_iff] at hp
      exact ⟨(hp hne).1.2, (hp hne).2⟩
    | updConv name convs =>
      intro t c _ hcond _
      simp only [Bool.or_eq_false_iff, Bool.not_eq_false', List.isEmpty_iff] at hcond
      exact ⟨hcond.1.2, hcond.2⟩
    | updName name new => exact fun _ _ h => h
    | markAdd name ids => intro t _ ht; obtain ⟨m, u, df, e⟩ := mark_tag_eq t s ids []; rw [e]; exact ht
    | markDel name ids => intro t _ ht; obtain ⟨m, u, df, e⟩ := mark_tag_eq t s [] ids; rw [e]; exact ht
    | tagDone name result =>
      intro snap held ot hj hot hd _ hpo _ hne
      have hf := h.factsOK.1 name snap held ot hj hot hd
      exact hf.1 ▸ hf.2 ▸ hpo hne
    | _ => trivial
  have h1 := tj_step Pk.Proofs.MgrTermination.ok3_closed (fun _ _ _ => trivial) s e st hev
    ⟨fun nt hnt => hc nt.1 nt.2 (mem_sget_of_sorted _ h.tagsWF _ _ hnt), fun _ _ _ _ => trivial⟩
  exact fun n t ht => h1.1 (n, t) (sget_mem _ _ _ ht)

/-- a merge that hands back output files ran on at least two input files -/
def MergeOK (s : St) : Ev → Prop
  | .mergeDone merged => ∀ off held, s.jMerge = some (off, held) → merged ≠ [] → 2 ≤ held.length
  | _ => True

/-- one completion delivered in a reachable state -/
def CStep (s' s : St) : Prop :=
  Reach s ∧ ConvPlain s ∧
  ∃ (e : Ev) (st : Started), isCompletion e = true ∧ Enabled s e ∧ PayloadOK s e ∧
    MergeOK s e ∧
    s' = (step s e st).1

open Pk.Proofs.MgrTermination in
/-- every completion strictly decreases the measure `mu` (Pk/Proofs/MgrTermination.lean) -/
theorem cstep_decreases {s' s : St} (h : CStep s' s) : LexLt (mu s') (mu s) := by
  obtain ⟨hr, hcp, e, st, hc, hen, hok, hm2, rfl⟩ := h
  have hr' := reach_step s e st hr hok
  obtain ⟨j1, j2, j3, j4⟩ := hr.jobsWF
  cases e with
  | importDone p u c a b d =>
    obtain ⟨⟨jn, held⟩, hj⟩ := Option.isSome_iff_exists.mp hen
    rw [step_importDone_run hj]
    exact importDone_lt s jn held p u c a b d st (hok.2.1 hen)
  | tagDone name result =>
    obtain ⟨snap, held, hj⟩ := hen
    rw [step_tagDone_run hj] at hr' ⊢
    exact tagDone_lt s st name result snap held hj (j1.mpr (by simp [hj])) hr.tagsWF hr'.tagsWF
      (fun ot h1 h2 => hr.factsOK.1 name snap held ot hj h1 h2) hcp hr'.jobUnc.2.2.2.2.2
  | mergeDone merged =>
    obtain ⟨⟨off, held⟩, hj⟩ := Option.isSome_iff_exists.mp hen
    rw [step_mergeDone_run hj]
    exact mergeDone_lt s off held merged (j2.mpr (by simp [hj])) (hm2 off held hj) (hok.1.2 off held hj).1
  | convertDone =>
    obtain ⟨⟨sets, held⟩, hj⟩ := Option.isSome_iff_exists.mp hen
    rw [step_convertDone_run hj] at hr' ⊢
    exact convertDone_lt s st sets held hj (j3.mpr (by simp [hj])) hr.tagsWF hr'.tagsWF hr.uncBounded
      hr'.jobUnc.2.2.2.2.2
  | _ => simp [isCompletion] at hc

/-- C09: every run of job completions is finite -/
theorem settles : WellFounded CStep :=
  Subrelation.wf (fun h => cstep_decreases h)
    (InvImage.wf Pk.Proofs.MgrTermination.mu Pk.Proofs.MgrTermination.lexLt_wf)

/-- `CStep` without the conjuncts `ConvPlain` and `MergeOK` -/
def CStep0 (s' s : St) : Prop :=
  Reach s ∧ ∃ (e : Ev) (st : Started), isCompletion e = true ∧ Enabled s e ∧ PayloadOK s e ∧ s' = (step s e st).1

open Pk.Proofs.MgrTermination in
/-- `settles` fails for `CStep0`: the states `cexSt 2` and `cexSt 3` (Pk/Proofs/MgrTerminationCex.lean) satisfy
    `Reach` (and, having no tags, `ConvPlain`, so it is `MergeOK` that is missing), and a one-file merge completion
    leads from each to the other -/
theorem settles_counterexample : ¬ WellFounded CStep0 := by
  intro wf
  have hA : CStep0 (cexSt 3) (cexSt 2) :=
    ⟨cex_reach 2 (Or.inl rfl), .mergeDone [(3, [1])], {}, rfl, rfl, cex_payload 2 3 (Or.inl ⟨rfl, rfl⟩),
      cex_stepA.symm⟩
  have hB : CStep0 (cexSt 2) (cexSt 3) :=
    ⟨cex_reach 3 (Or.inr rfl), .mergeDone [(2, [1])], {}, rfl, rfl, cex_payload 3 2 (Or.inr ⟨rfl, rfl⟩),
      cex_stepB.symm⟩
  have key : ∀ x, Acc CStep0 x → x ≠ cexSt 2 ∧ x ≠ cexSt 3 := by
    intro x hx
    induction hx with
    | intro x _ ih =>
      constructor
      · rintro rfl; exact (ih _ hA).2 rfl
      · rintro rfl; exact (ih _ hB).1 rfl
  exact (key _ (wf.apply (cexSt 2))).1 rfl

def Idle (s : St) : Prop := s.jImport = none ∧ s.jTag = none ∧ s.jMerge = none ∧ s.jConv = none

/-- C09: where a run of completions ends nothing is left to do: no capture queued, every tag decided for every
    stream, no stream waiting for a converter.  `Acyclic` cannot be dropped: `Reach` allows a cycle of pending tags,
    none of them eligible, so that `noStuck` asks for no job. -/
theorem idle_is_quiescent (s : St) (h : Reach s) (hi : Idle s) (ha : Acyclic s) :
    s.queue = [] ∧ (∀ nt ∈ s.tags, nt.2.unc = []) ∧ (∀ c ∈ s.convs, pendingConv s c = []) := by
  obtain ⟨i1, i2, i3, i4⟩ := hi
  obtain ⟨j1, j2, j3, j4⟩ := h.jobsWF
  obtain ⟨n1, n2⟩ := h.noStuck
  have htag : s.tag ≠ true := fun ht => by have := j1.mp ht; rw [i2] at this; cases this
  have hconv : s.convert ≠ true := fun ht => by have := j3.mp ht; rw [i4] at this; cases this
  refine ⟨?_, ?_, ?_⟩
  · apply Classical.byContradiction
    intro hq
    have := j4.mp hq
    rw [i1] at this; cases this
  · apply Pk.Proofs.MgrTermination.topo_all_decided s.tags h.tagsWF
      (Pk.Proofs.MgrTermination.topo_of_full s.tags s.tags.length ha)
    intro nt hnt
    cases he : Pk.Proofs.MgrSettle.eligT s.tags nt.2 with
    | false => rfl
    | true => exact absurd (n1 ⟨nt, hnt, he⟩) htag
  · intro c hc
    apply Classical.byContradiction
    intro hp
    exact hconv (n2 c hc hp)

/-- the tag graph of the service-loop model stays acyclic (API calls reject edits that would close a cycle) -/
theorem acyclic_step (s : St) (e : Ev) (st : Started) (h : Reach s) (hok : PayloadOK s e) (ha : Acyclic s) :
    Acyclic (step s e st).1 := by
  open Pk.Proofs.MgrTermination in
  have _ := hok
  exact full_of_topo _ (C06.tagsWF_step s e st h.tagsWF) _ (Nat.le_refl _)
    (topo_step s e st h.tagsWF h.factsOK.1 h.refByWF h.refsExist (topo_of_full s.tags s.tags.length ha))

/-- `ConvPlain` and acyclicity hold along every history with admissible payloads -/
theorem convPlain_acyclic_run (s : St) (h : List (Ev × Started)) (hs : Reach s) (hc : ConvPlain s)
    (ha : Acyclic s) (hh : HistOK s h) : ConvPlain (C13.run s h) ∧ Acyclic (C13.run s h) := by
  induction h generalizing s with
  | nil => exact ⟨hc, ha⟩
  | cons a rest ih =>
    obtain ⟨e, st⟩ := a
    exact ih _ (reach_step s e st hs hh.1) (convPlain_step s e st hs hc) (acyclic_step s e st hs hh.1 ha) hh.2

end Pk.Props.C09
