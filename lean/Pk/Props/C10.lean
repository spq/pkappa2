/-
  C10 — A view is a complete and stable snapshot of everything imported.

  Model: Pk.Model.Manager.  A view captures the service list at the moment it is fetched
  (`viewOpen`), holds a lock on each of those files, and enumerates streams newest file first,
  skipping a stream id that a newer file of its list contains (View.AllStreams).

  Proved here, for every state / history / payload satisfying the stated side conditions:
    * `enumeration_exact`  — the newest-first enumeration with shadowing lists every stream id
                             stored in any file of the list exactly once;
    * `cover_step`         — every stream id below `next` is stored in some served file: every event
                             keeps it so (imports append files containing the ids they add;
                             a merge replaces a run of files by files holding the same ids);
    * `view_held_stable`   — the file list a view captured never changes while the view is open,
                             and (with C13) none of these files is closed meanwhile.
  History level with ghost versions: Pk/Props/C10Reach.lean (`fresh_view_newest_run`: every id is served in its
  CURRENT version in every reached state; `held_view_stable_run`: a held view keeps list, open files, serving
  file and version for every id; `view_complete_at_open_run`), under the payload contracts `ImportStoresChanged`
  and `MergeKeepsVersions` (= C07's `merge_view_eq'` at the level of versions).
  Not expressible in this model (no payload bytes): the bytes themselves — carried by C07
  (merge keeps the version of the newest file) and by the harness oracle; stability of the *tag*
  answers of a view relies on copy-on-write of tag structs, which an immutable model cannot violate
  (DESIGN §5 C10) — it is checked observably by the scenario harness.
-/
import Pk.Model.Manager
import Pk.Props.MgrSpec
import Pk.Props.C13
import Pk.Proofs.MgrViewsRun

namespace Pk.Props.C10
open Pk.Mgr Pk.Proofs.MgrViews

/-- `View.AllStreams`: walk the captured list from the newest file to the oldest; a stream of file
    `i` is reported unless one of the files after `i` contains its id -/
def enumerate (files : List (List Nat)) : List Nat :=
  match files with
  | [] => []
  | ids :: newer => enumerate newer ++ ids.filter (fun id => !(newer.any (fun n => n.contains id)))

/-- every id stored in some file is enumerated, nothing else is, and nothing twice -/
theorem enumeration_exact (files : List (List Nat)) (hnd : ∀ ids ∈ files, ids.Nodup) :
    (enumerate files).Nodup ∧ ∀ id, id ∈ enumerate files ↔ ∃ ids ∈ files, id ∈ ids := by
  induction files with
  | nil => simp [enumerate]
  | cons ids newer ih =>
    obtain ⟨ihn, ihm⟩ := ih (fun x hx => hnd x (List.mem_cons_of_mem _ hx))
    have hids : ids.Nodup := hnd ids List.mem_cons_self
    unfold enumerate
    constructor
    · rw [List.nodup_append]
      refine ⟨ihn, hids.filter _, ?_⟩
      intro a ha b hb hab
      subst hab
      obtain ⟨x, hx, hax⟩ := (ihm a).mp ha
      simp only [List.mem_filter, Bool.not_eq_eq_eq_not, Bool.not_true, List.any_eq_false,
        List.contains_iff_mem] at hb
      exact hb.2 x hx hax
    · intro id
      simp only [List.mem_append, List.mem_filter, ihm, List.mem_cons, Bool.not_eq_eq_eq_not,
        Bool.not_true, List.any_eq_false, List.contains_iff_mem]
      constructor
      · rintro (⟨x, hx, hix⟩ | ⟨hi, _⟩)
        · exact ⟨x, Or.inr hx, hix⟩
        · exact ⟨ids, Or.inl rfl, hi⟩
      · rintro ⟨x, hx | hx, hix⟩
        · subst hx
          by_cases h : ∃ y ∈ newer, id ∈ y
          · exact Or.inl h
          · exact Or.inr ⟨hix, fun y hy hiy => h ⟨y, hy, hiy⟩⟩
        · exact Or.inl ⟨x, hx, hix⟩

/-- payload contract of the builder (C05/C08) and of `index.Merge` (C07) -/
def EvOK (s : St) : Ev → Prop
  | .importDone _ usednew created _ _ _ =>
      C13.FreshFiles s created ∧
      (∀ jn held, s.jImport = some (jn, held) →
        jn = s.next ∧ (usednew ≠ 0 → created ≠ []) ∧
        ∀ id, jn ≤ id → id < jn + usednew → ∃ c ∈ created, id ∈ c.2)
  | .mergeDone merged =>
      C13.FreshFiles s merged ∧
      (∀ off held, s.jMerge = some (off, held) →
        held = (s.idx.drop off).take held.length ∧
        (merged ≠ [] → ∀ id, (∃ f ∈ held, id ∈ content s f) → ∃ m ∈ merged, id ∈ m.2))
  | _ => True

theorem importJobInv_step (s : St) (e : Ev) (st : Started) (h : ImportJobInv s) :
    ImportJobInv (step s e st).1 := by
  obtain ⟨b, mid, held, hb, hf, he, _⟩ := step_vwalk s e st
  rw [he]
  refine jinv_release held (jinv_frame hf ?_)
  cases hb with
  | same | vrel => exact h
  | imp => exact jinv_importBase _ _ _ _ _ _ _ _
  | mrg => exact jinv_mergeBase _ _ _ h

theorem cover_step (s : St) (e : Ev) (st : Started) (hc : Covered s) (hl : C13.CountInv s)
    (hok : EvOK s e) : Covered (step s e st).1 := by
  obtain ⟨b, mid, held, hb, hf, he, hh⟩ := step_vwalk s e st
  rw [he]
  refine cov_serves (serves_walk hf (hh hl)) ?_
  cases hb with
  | same | vrel => exact hc
  | imp hj =>
    obtain ⟨hjn, _, hnew⟩ := hok.2 _ _ hj
    exact Pk.Proofs.MgrViewsRun.cov_importBase s _ _ _ _ _ _ _ hc (holds_jImport hl hj) hok.1.1 hok.1.2 hjn hnew
  | mrg hj =>
    obtain ⟨hheld, hids⟩ := hok.2 _ _ hj
    exact Pk.Proofs.MgrViewsRun.cov_mergeBase s _ _ _ hc (holds_jMerge hl hj []).1 hok.1.1 hok.1.2 hheld hids

/-- the list of files a view captured is not changed by any later event except its own release -/
theorem view_held_stable (s : St) (e : Ev) (st : Started) (k : Nat) (fs : List Nat)
    (hv : nget s.views k = some fs) (hne : e ≠ .viewRelease k) :
    nget (step s e st).1.views k = some fs := by
  obtain ⟨b, mid, held, hb, hf, he, _⟩ := step_vwalk s e st
  rw [he, Pk.Proofs.MgrLocks.release_views]
  refine hf.views k fs ?_
  cases hb with
  | same => exact hv
  | imp => rw [views_importBase]; exact hv
  | mrg => rw [views_mergeBase]; exact hv
  | @vrel k' => rw [nget_ndel, if_neg fun h => hne (by rw [h])]; exact hv

/-- … and every file of an open view stays open (on disk) — by C13 -/
theorem view_files_open (s : St) (h : C13.CountInv s) (k : Nat) (fs : List Nat)
    (hv : nget s.views k = some fs) (f : Nat) (hf : f ∈ fs) : (nget s.files f).isSome = true :=
  Pk.Proofs.MgrViews.view_files_open h hv hf

example : enumerate [[0, 1], [1, 2], [0, 3]] = [0, 3, 1, 2] := by decide

end Pk.Props.C10
