/-
  C18 — Regex length and suffix analysis is exact and safe.

  "For every regular expression, the computed minimum and maximum match length contain the length
   of every string the expression matches and are attained when finite, and every matched string
   ends with the computed constant suffix."

  Two levels.  AST level: `lenRange r` erases empty-width assertions, as the code does; it still bounds
  every word of `Lang r` in every context, but "attained" holds only for assertion-free regexes
  (`finding_F7`).  Program level: the walks of regexAnalysis.go transliterated on `syntax.Prog`; they are
  sound for EVERY program, not only for compiler-produced ones.

  NOT proved (`CodeLevel`): that the walks return exactly `lenRange` of the AST the program was compiled
  from, which is what would carry "attained" over to the program level — the compiler (third party) is
  not modelled; the check compares the two on every generated case.  Termination of the walks is not
  proved either: the models are fuelled and the driver reports `abort` when the fuel runs out.
-/
import Pk.Model.Regex
import Pk.Model.RegexProg
import Pk.Proofs.Regex
import Pk.Proofs.RegexProg
import Pk.Proofs.RegexBfs
import Pk.Proofs.RegexMax

namespace Pk.Props.C18
open Pk.Regex Pk.RegexProg

/-- Every word matched by `r`, in any context, has a length inside `lenRange r`.
    All regexes: assertions, empty classes, ill-formed counts included. -/
theorem lenRange_sound (r : Regex) (pre w post : List Byte) (h : Lang r pre w post) :
    (lenRange r).1 ≤ w.length ∧ ∀ hi, (lenRange r).2 = some hi → w.length ≤ hi :=
  ⟨(lenRange_sound_aux h).1, fun hi e => (e ▸ (lenRange_sound_aux h).2 : LeHi w.length (some hi))⟩

/-- the property's "attained when finite", for one regex -/
def Attained (r : Regex) : Prop :=
  (∃ pre w post, Lang r pre w post ∧ w.length = (lenRange r).1) ∧
  (∀ hi, (lenRange r).2 = some hi → ∃ pre w post, Lang r pre w post ∧ w.length = hi)

/-- FULL STATEMENT (false for the code as it is, see `finding_F7`): `∀ r, wellFormed r → Attained r`.
    Proved part: assertion-free regexes (every class has a member, counts have min ≤ max).
    The witnesses are even context independent. -/
theorem lenRange_attained_partial (r : Regex) (ha : assertFree r = true) (hw : wellFormed r = true) :
    (∃ w, w.length = (lenRange r).1 ∧ ∀ pre post, Lang r pre w post) ∧
    (∀ hi, (lenRange r).2 = some hi → ∃ w, w.length = hi ∧ ∀ pre post, Lang r pre w post) :=
  ⟨(attained r ha hw).1, fun hi e => (e ▸ (attained r ha hw).2 : AttHi r (some hi))⟩

/-- `lenRange_attained_partial` in the form of `Attained` (the name DESIGN §5 uses) -/
theorem lenRange_attained (r : Regex) (ha : assertFree r = true) (hw : wellFormed r = true) :
    Attained r := by
  obtain ⟨⟨w, hl, hm⟩, hhi⟩ := lenRange_attained_partial r ha hw
  refine ⟨⟨[], w, [], hm _ _, hl⟩, ?_⟩
  intro hi e
  obtain ⟨v, hl, hm⟩ := hhi hi e
  exact ⟨[], v, [], hm _ _, hl⟩

/-- `none` means unbounded: arbitrarily long words are matched. -/
theorem lenRange_unbounded (r : Regex) (ha : assertFree r = true) (hw : wellFormed r = true)
    (hn : (lenRange r).2 = none) (N : Nat) :
    ∃ w, N ≤ w.length ∧ ∀ pre post, Lang r pre w post := by
  obtain ⟨_, hl, w, rfl, hm⟩ := (hn ▸ (attained r ha hw).2 : AttHi r none) N
  exact ⟨w, hl, hm⟩

/-- a\bb|ccc -/
def reF7 : Regex :=
  .alt (.cat (.atom [(97, 97)] false) (.cat (.assert .wordBoundary) (.atom [(98, 98)] false)))
       (.cat (.atom [(99, 99)] false) (.cat (.atom [(99, 99)] false) (.atom [(99, 99)] false)))

/-- F7 (known finding): the reported minimum 2 of `a\bb|ccc` is not attained — `\b` between two
    word bytes never holds, the shortest matched string is `ccc`. -/
theorem finding_F7 : wellFormed reF7 = true ∧ (lenRange reF7).1 = 2 ∧ ¬ Attained reF7 := by
  refine ⟨by decide +kernel, by decide, ?_⟩
  intro h
  obtain ⟨⟨pre, w, post, hm, hl⟩, _⟩ := h
  have hl2 : w.length = 2 := hl
  cases hm with
  | altL _ _ _ _ _ h1 =>
    cases h1 with
    | cat _ _ _ u v _ hu hv =>
      cases hu with
      | atom _ _ b _ _ hb =>
        cases hv with
        | cat _ _ _ u2 v2 _ hu2 hv2 =>
          cases hu2 with
          | assert _ _ _ hh =>
            cases hv2 with
            | atom _ _ b2 _ _ hb2 =>
              have e1 : b = 97 := by
                simp [atomMatch, inRanges] at hb; exact Nat.le_antisymm hb.2 hb.1
              have e2 : b2 = 98 := by
                simp [atomMatch, inRanges] at hb2; exact Nat.le_antisymm hb2.2 hb2.1
              subst e1; subst e2
              simp [Assertion.holds, isWordOpt, isWord] at hh
  | altR _ _ _ _ _ h1 =>
    have := (lenRange_sound_aux h1).1
    simp [lenRange] at this
    omega

/-- The saturating add of `AcceptedLength`: for operands that fit a Go `uint` the intermediate sum
    does not overflow (so the `Nat` expression is the `uint64` expression) and the result is
    `a + b` cut off at `MaxUint`. -/
theorem saturating_add_correct (a b : Nat) (ha : a ≤ MAXU) (hb : b ≤ MAXU) :
    (a >>> 1) + (b >>> 1) + (a &&& b &&& 1) < 2 ^ 64 ∧
    satAdd a b = Nat.min (a + b) MAXU := by
  refine ⟨?_, satAdd_eq a b⟩
  rw [half_sum]; unfold MAXU at ha hb; omega

/-- `ConstantSuffix`: whatever the walk returns is a suffix of every word the program accepts, in
    every context.  No assumption on the shape of the program except `wf` (any-byte instructions do
    not carry a single-rune list), which holds for everything `syntax.Compile` produces. -/
theorem suffixWalk_sound (p : Prog) (hwf : p.wf = true) (s : List Byte) (hs : suffixWalk p = some s)
    (pre w post : List Byte) (hacc : Accepts p p.start pre w post) : s <:+ w := by
  have := suffixEval_sound p hwf _ _ _ _ _ hs pre w post hacc [] List.nil_suffix
  simpa using this

/-- `AcceptedLength`, MinLength: no accepted word is shorter than the result of the
    breadth-first search — for EVERY program. -/
theorem minWalk_sound (p : Prog) (m : Nat) (hm : minWalk p = some m)
    (pre w post : List Byte) (hacc : Accepts p p.start pre w post) : m ≤ w.length := by
  unfold minWalk at hm
  have hc : Closed p (Array.replicate p.inst.size false) [p.start] [] := by
    intro pc i hv
    unfold Vis at hv
    rw [Array.getElem?_replicate] at hv
    split at hv <;> simp at hv
  have := (minBfs_good p _ _ _ _ _ m hm hc p.start pre w post hacc).1 (by simp)
  omega

/-- `AcceptedLength`, MaxLength: the memoised walk returns `MaxUint` ("unbounded") or an upper bound for
    the length of every accepted word — for EVERY program. -/
theorem maxWalk_sound (p : Prog) (m : Nat) (hm : maxWalk p = some m)
    (pre w post : List Byte) (hacc : Accepts p p.start pre w post) : m = MAXU ∨ w.length ≤ m := by
  obtain ⟨⟨res, c'⟩, h, rfl⟩ := Option.map_eq_some_iff.1 hm
  have hc : CacheOK p (Array.replicate p.inst.size none) := by
    intro e v hv
    rw [Array.getElem?_replicate] at hv
    split at hv <;> simp at hv
  obtain ⟨_, hle, hub⟩ := maxGo_sound p _ _ _ _ _ _ _ _ h hc (Nat.zero_le _) fun _ hv => hv
  rcases hub pre w post hacc with h' | h'
  · exact Or.inl (Nat.le_antisymm hle h')
  · exact Or.inr (by simpa using h')

/-- C18, first half, at program level: whatever program the compiler produces,
    every word it accepts (in any context) has MinLength ≤ length ≤ MaxLength (or MaxLength is
    "unbounded"). -/
theorem lenWalk_sound (p : Prog) (mn mx : Nat) (h : lenWalk p = some (mn, mx))
    (pre w post : List Byte) (hacc : Accepts p p.start pre w post) :
    mn ≤ w.length ∧ (mx = MAXU ∨ w.length ≤ mx) := by
  unfold lenWalk at h
  split at h
  · rename_i h1 h2
    cases h
    exact ⟨minWalk_sound p _ h1 pre w post hacc, maxWalk_sound p _ h2 pre w post hacc⟩
  · cases h

/-- compiled program of `x?a+`:  0 fail · 1 rune1 x→3 · 2* alt→1,3 · 3 rune1 a→4 · 4 alt→3,5 · 5 match -/
def progF23 : Prog :=
  { start := 2,
    inst := #[⟨.fail, 0, 0, []⟩, ⟨.rune1, 3, 0, [120]⟩, ⟨.alt, 1, 3, []⟩, ⟨.rune1, 4, 0, [97]⟩,
              ⟨.alt, 3, 5, []⟩, ⟨.match_, 0, 0, []⟩] }

theorem progF23_accepts_a : Accepts progF23 progF23.start [] [97] [] := by
  refine Accepts.altArg 2 ⟨.alt, 1, 3, []⟩ _ _ _ rfl rfl ?_
  refine Accepts.rune 3 ⟨.rune1, 4, 0, [97]⟩ 97 _ _ _ rfl rfl (by decide) ?_
  refine Accepts.altArg 4 ⟨.alt, 3, 5, []⟩ _ _ _ rfl rfl ?_
  exact Accepts.match_ 5 ⟨.match_, 0, 0, []⟩ _ _ rfl rfl

/-- finding F36 of DESIGN §10.3 (fixed in the source; the theorem name carries another number): the walk
    before the repair (`oldWalk`) shared one memo between minimum and maximum.  On the compiled program of
    `x?a+` it answers MinLength 2, although the program accepts "a"; the repaired walk answers 1.  (This is
    also the `memo_unsound_on_graph` witness of DESIGN §5, on a compiler-produced program.) -/
theorem finding_F23 :
    oldWalk progF23 = some (2, MAXU) ∧
    ¬ (∀ w, Accepts progF23 progF23.start [] w [] → ∀ mn mx, oldWalk progF23 = some (mn, mx) → mn ≤ w.length) ∧
    lenWalk progF23 = some (1, MAXU) := by
  have h1 : oldWalk progF23 = some (2, MAXU) := by decide
  refine ⟨h1, ?_, by decide⟩
  intro h
  have := h [97] progF23_accepts_a 2 MAXU h1
  simp at this

/-- What is NOT proved: the program walks agree with `lenRange` of the AST a program was compiled
    from (`C18_code_level` of DESIGN §5).  The compiler is third party and not modelled; `./check C18`
    compares the two on every generated case (fields amin/amax of the line protocol). -/
def CodeLevel (p : Prog) (r : Regex) : Prop :=
  lenWalk p = some ((lenRange r).1, match (lenRange r).2 with | some h => h | none => MAXU)

/-- the hypotheses of `suffixWalk_sound` are satisfiable with a non-empty suffix: `x?ab` -/
def progSuffix : Prog :=
  { start := 2,
    inst := #[⟨.fail, 0, 0, []⟩, ⟨.rune1, 3, 0, [120]⟩, ⟨.alt, 1, 3, []⟩, ⟨.rune1, 4, 0, [97]⟩,
              ⟨.rune1, 5, 0, [98]⟩, ⟨.match_, 0, 0, []⟩] }

example : progSuffix.wf = true ∧ suffixWalk progSuffix = some [97, 98] := by decide
example : progF23.wf = true ∧ suffixWalk progF23 = some [] := by decide
example : minWalk progF23 = some 1 ∧ maxWalk progF23 = some MAXU := by decide
example : Accepts progSuffix progSuffix.start [] [97, 98] [] := by
  refine Accepts.altArg 2 ⟨.alt, 1, 3, []⟩ _ _ _ rfl rfl ?_
  refine Accepts.rune 3 ⟨.rune1, 4, 0, [97]⟩ 97 _ _ _ rfl rfl (by decide) ?_
  refine Accepts.rune 4 ⟨.rune1, 5, 0, [98]⟩ 98 _ _ _ rfl rfl (by decide) ?_
  exact Accepts.match_ 5 ⟨.match_, 0, 0, []⟩ _ _ rfl rfl
/-- `Lang` with an assertion that holds: `a\b` matches "a" before a space, not before "b" -/
example : Lang (.cat (.atom [(97, 97)] false) (.assert .wordBoundary)) [] [97] [32] :=
  Matches.cat _ _ [] [97] [] [32] (Matches.atom _ _ 97 _ _ (by decide)) (Matches.assert _ _ _ (by decide))
example : assertFree (.rep (.alt (.atom [(97, 97)] false) .eps) 2 (some 5)) = true ∧
    wellFormed (.rep (.alt (.atom [(97, 97)] false) .eps) 2 (some 5)) = true ∧
    lenRange (.rep (.alt (.atom [(97, 97)] false) .eps) 2 (some 5)) = (0, some 5) := by decide
example : lenRange (.rep (.atom [(97, 97)] false) 1 none) = (1, none) := by decide
example : satAdd MAXU 1 = MAXU ∧ satAdd 3 4 = 7 ∧ satAdd (2 ^ 63) (2 ^ 63) = MAXU := by decide

end Pk.Props.C18
