/-
  C04 — Payload filters agree with plain regular-expression matching.

  The regular expression engine is third-party: the theorems quantify over it.
    * a context-free expression (no empty-width assertion) is ANY leftmost-first matcher `matcherOf cands`
      whose anchored candidates `cands u` (lengths, in priority order) depend only on the bytes they
      consume (`Local`); its facts are hypotheses (`Sound`; establishing them is property C18);
    * an expression with assertions is ANY matcher at all, with the facts the code derives for it since
      fix F7 (`Facts.noShortcuts`).
-/
import Pk.Model.DataSearch
import Pk.Proofs.DataSearch
import Pk.Proofs.DataSearchConv

namespace Pk.Props.C04
open Pk.DataSearch Pk.Proofs.DataSearch

/-- the shortcuts of `find` (minimum length, literal prefix skip, last-suffix cut, fixed-length sliding
    window) do not change the match when the facts are sound and the expression is context-free: same
    absolute start and end as the plain scan of the rest of the buffer (both miss together), and the
    offset is left between the old offset and the match, so no earlier match is lost. -/
theorem find_eq_plain (cands : Bytes → List Nat) (f : Facts) (hl : Local cands) (hs : Sound cands f)
    (hctx : f.ctx = false) (buf : Bytes) (off : Nat) (hoff : off ≤ buf.length) :
    sameAbs (find (matcherOf cands) f buf off) (plainFind (matcherOf cands) buf off) = true ∧
    off ≤ (find (matcherOf cands) f buf off).off := by
  have _ := hctx  -- not needed: `sameAbs` ignores the offset of a miss
  obtain ⟨h1, h2⟩ := find_Rel hl hs buf off hoff
  exact ⟨(sameAbs_plainFind ..).trans h2, h1⟩

/-- expressions with empty-width assertions (fix F7): `find` is the plain scan, for every matcher, and it
    leaves the offset alone -/
theorem find_eq_plain_assertions (m : Matcher) (buf : Bytes) (off : Nat) :
    (find m Facts.noShortcuts buf off).res = (plainFind m buf off).res ∧
    (find m Facts.noShortcuts buf off).off = off := by
  unfold find plainFind Facts.noShortcuts
  simp
  cases m (List.drop off buf) <;> simp

/-- what the regex engine answers for `abc\b` on the slices it is shown: "abc" alone matches, "abcd" does not -/
def abcB : Matcher := fun b => if b = [97, 98, 99] then some (0, 3) else none

/-- `find_eq_plain` needs a context-free matcher (`matcherOf` of `Local` candidates), sound facts are not
    enough (finding F7, fixed by bdb0e7f): with the facts the code before the fix derived for `abc\b`
    (prefix abc, suffix abc, length 3..3) the shortcut scan reports a match in "abcd"; with
    `Facts.noShortcuts`, which such expressions get since the fix, it does not. -/
theorem finding_F7_needs_context_free :
    (find abcB ⟨[97, 98, 99], [97, 98, 99], 3, 3, false⟩ [97, 98, 99, 100] 0).res = some (0, 3) ∧
    (plainFind abcB [97, 98, 99, 100] 0).res = none ∧
    (find abcB Facts.noShortcuts [97, 98, 99, 100] 0).res = none := by
  decide

/-- a THEN chain advances identically under the shortcut scan and under the plain scan, on every data
    source, when on each of its elements the two scans agree (`Agree`) and an empty match at the front is
    reported without moving the offset (`EmptyStays`: the engine skips the chunk-boundary rule when the
    match end RELATIVE TO THE SKIPPED BUFFER is 0).  By `agree_of_sound`/`emptyStays_sound` and
    `agree_of_noShortcuts`/`emptyStays_noShortcuts` both kinds of elements satisfy this. -/
theorem chain_eq_plainChain (s : Source) (els : List Elem) (h : ∀ e ∈ els, Agree e ∧ EmptyStays e) :
    progress s els = plainProgress s els :=
  progressWith_congr s els h (0, 0)

/-- `EmptyStays` cannot be dropped: a matcher that reports the empty match in front of the first byte 2,
    together with the (absolutely agreeing) prefix fact [2], advances a two-element chain further than the
    plain scan does -/
theorem chain_needs_emptyStays :
    ¬ (∀ (s : Source) (els : List Elem), (∀ e ∈ els, Agree e) → ∀ (offs : Nat × Nat),
        offs.1 ≤ s.client.length → offs.2 ≤ s.server.length →
        (∀ p ∈ s.sizes, p.1 ≤ s.client.length ∧ p.2 ≤ s.server.length) →
        progressWith find s els offs = progressWith (fun m _ b o => plainFind m b o) s els offs) := by
  intro h
  have := h cexSrc cexEls cexEls_agree (0, 0) (by decide) (by decide) (by decide)
  rw [cex_progress.1, cex_progress.2] at this
  exact absurd this (by decide)

theorem agree_of_sound (cands : Bytes → List Nat) (f : Facts) (d : Nat) (hl : Local cands) (hs : Sound cands f)
    (hctx : f.ctx = false) : Agree ⟨d, matcherOf cands, f⟩ :=
  fun buf off hoff => (find_eq_plain cands f hl hs hctx buf off hoff).1

theorem agree_of_noShortcuts (m : Matcher) (d : Nat) : Agree ⟨d, m, Facts.noShortcuts⟩ := by
  intro buf off _
  have h := find_eq_plain_assertions m buf off
  rw [sameAbs_of_off (fun _ r' _ hr' => by rw [h.2, plainFind_off m buf off r' hr']), h.1]
  exact decide_eq_true rfl

theorem emptyStays_sound (cands : Bytes → List Nat) (f : Facts) (d : Nat) (hl : Local cands) (hs : Sound cands f) :
    EmptyStays ⟨d, matcherOf cands, f⟩ := by
  intro buf off s hoff hr
  simp only at hr ⊢
  obtain ⟨h1, h2⟩ := find_Rel hl hs buf off hoff
  cases hm : matcherOf cands (buf.drop off) with
  | none => simp [sameAbs, hm, hr] at h2
  | some a =>
    -- the match is empty, so is the candidate behind it, hence the prefix and the suffix
    obtain ⟨a1, a2⟩ := a
    simp only [sameAbs, hm, hr, Bool.and_eq_true, beq_iff_eq] at h2
    obtain ⟨_, _, n, hn, he⟩ := (matcherOf_spec cands _).2 _ _ hm
    have hmem := List.mem_of_mem_head? hn
    have hn0 : n = 0 := by omega
    subst hn0
    have hp := (cand_pre cands f hs _ _ hmem).2
    have hsf := (cand_suf cands f hl hs _ _ _ hmem).1
    exact (find_found hr).2 (by simpa using hp) (by simpa using hsf)

theorem emptyStays_noShortcuts (m : Matcher) (d : Nat) : EmptyStays ⟨d, m, Facts.noShortcuts⟩ :=
  fun buf off _ _ _ => (find_eq_plain_assertions m buf off).2

/-- the whole data filter of a query part is the plain-scan filter -/
theorem filter_eq_plainFilter (conds : List Cond) (srcs : List Source)
    (h : ∀ c ∈ conds, ∀ e ∈ c.els, Agree e ∧ EmptyStays e) :
    filter conds srcs = plainFilter conds srcs :=
  filterWith_congr conds srcs fun c hc s _ => chain_eq_plainChain s c.els (h c hc)

/-- the selection of a stream is that of the plain scan, when every element is either context-free with
    sound facts or an arbitrary matcher without shortcuts -/
theorem selected_eq_plainSelected (parts : List (List Cond)) (srcs : List Source)
    (h : ∀ p ∈ parts, ∀ c ∈ p, ∀ e ∈ c.els,
      (∃ cands, Local cands ∧ Sound cands e.facts ∧ e.facts.ctx = false ∧ e.m = matcherOf cands) ∨
      e.facts = Facts.noShortcuts) :
    selected parts srcs = plainSelected parts srcs := by
  refine selected_congr parts srcs fun p hp c hc e he => ?_
  obtain ⟨d, m, f⟩ := e
  rcases h p hp c hc _ he with ⟨cands, hl, hs, hc', rfl⟩ | rfl
  · exact ⟨agree_of_sound cands f d hl hs hc', emptyStays_sound cands f d hl hs⟩
  · exact ⟨agree_of_noShortcuts m d, emptyStays_noShortcuts m d⟩

/-- the offset update implements the chunk rule of the property statement: after a match of direction `d`
    ending at absolute offset `o`, the other direction continues exactly with the data exchanged after the
    burst that holds the last matched byte ("each later element only sees data that follows the previous
    match in conversation order"); `d`'s own offset is the end of the match -/
theorem advance_matches_conversation_order (cs : Pk.Proofs.Extra.Conv) (hwf : Pk.Proofs.Extra.WF cs) (d : Nat)
    (hd : d = 0 ∨ d = 1) (offs : Nat × Nat) (e : Nat) (he : e ≠ 0)
    (hle : sel d offs + e ≤ (Pk.Proofs.Extra.dirBuf cs d).length) :
    let offs' := advance (Pk.Proofs.Extra.sizesOf cs) d offs e
    sel d offs' = sel d offs + e ∧
    (Pk.Proofs.Extra.dirBuf cs (1 - d)).drop (sel (1 - d) offs') =
      Pk.Proofs.Extra.dirBuf (cs.drop (Pk.Proofs.Extra.chunksThrough cs d (sel d offs + e))) (1 - d) := by
  open Pk.Proofs.Extra in
  intro offs'
  obtain ⟨v, hv1, hv3⟩ := boundary_sizesOf cs hwf d hd (sel d offs + e) (by omega) hle
  have hoffs' : offs' = upd (1 - d) (upd d offs (sel d offs + e)) v := by
    show advance (sizesOf cs) d offs e = _
    unfold advance
    rw [if_neg he]
    simp only [sizesOf_length, Nat.add_sub_cancel, hv1]
  rw [hoffs']
  obtain ⟨o0, o1⟩ := offs
  rcases hd with rfl | rfl
  · simpa [sel, upd] using hv3
  · simpa [sel, upd] using hv3

theorem advance_zero (bl : ChunkSizes) (d : Nat) (offs : Nat × Nat) : advance bl d offs 0 = offs := by
  simp [advance]

/-- ∃ / ∀ over the data sources: a non-negated condition holds iff SOME evaluated source completes the
    chain; a negated condition (`a > b > !c`) holds iff there is a source and on EVERY source exactly the
    last element is missing -/
theorem sources_any_all (c : Cond) (ns : List Nat) :
    condDecision c ns =
      if c.inverted then (!ns.isEmpty && ns.all (fun n => c.els.length - n == 1))
      else ns.any (fun n => c.els.length - n == 0) := by
  rw [condDecision_eq]
  cases hi : c.inverted
  · have hf : failsOn c = fun n => !(c.els.length - n == 0) := by
      funext n; simp only [failsOn, hi]; cases h : c.els.length - n <;> simp
    simp only [hf, Bool.not_not, Bool.not_false, Bool.or_true, Bool.and_true, ← List.not_any_eq_all_not,
      Bool.false_eq_true, if_false]
  · have hf : failsOn c = fun n => !(c.els.length - n == 1) := by
      funext n; simp only [failsOn, hi]; rcases h : c.els.length - n with _ | _ | k <;> simp
    simp only [hf, Bool.not_not, Bool.not_true, Bool.or_false, if_true]
    cases ns with
    | nil => rfl
    | cons a t =>
      simp only [List.all_cons, List.isEmpty_cons, Bool.not_false, Bool.true_and]
      cases c.els.length - a == 1 <;> simp

/-- zero evaluated sources: exactly the negated single-element conditions hold (a negated chain
    `a then -b` needs its leading elements to match somewhere; fix F44) -/
theorem sources_none (prog : Source → List Elem → Nat) (conds : List Cond) :
    filterWith prog conds [] = conds.all (fun c => c.inverted && decide (c.els.length ≤ 1)) := by
  simp [filterWith]

/-- negating a single data filter flips the decision, for every number of data sources (zero included) -/
theorem negation_flips (prog : Source → List Elem → Nat) (e : Elem) (srcs : List Source)
    (h : ∀ s, prog s [e] ≤ 1) :
    filterWith prog [⟨[e], true⟩] srcs = !filterWith prog [⟨[e], false⟩] srcs := by
  unfold filterWith
  cases srcs with
  | nil => rfl
  | cons a t =>
    have key : ∀ s, (1 - prog s [e] == 1) = !(1 - prog s [e] == 0) := fun s =>
      match prog s [e], h s with
      | 0, _ => rfl
      | 1, _ => rfl
    simp only [List.isEmpty_cons, Bool.false_eq_true, if_false, List.all_cons, List.all_nil, Bool.and_true]
    rw [sources_any_all, sources_any_all]
    simp only [if_true, if_false, Bool.false_eq_true, List.map_cons, List.isEmpty_cons, Bool.not_false,
      Bool.true_and, List.length_singleton, List.all_cons, List.any_cons, List.all_map, List.any_map, Bool.not_or,
      List.not_any_eq_all_not, Function.comp_def, key]

/-- F42 (known): the negation of a THEN chain is NOT "no source completes the chain" once there are two
    data sources.  `-(a then b)` is normalised to `-a  or  (a then -b)`; on two sources where the chain
    stops at different elements (0 and 1 matched) both alternatives are rejected although no source
    completes the chain. -/
theorem finding_F42 (a b : Elem) :
    let ns1 := [0, 1]   -- progress of [a] on the two sources
    let ns2 := [0, 1]   -- progress of [a, b] on the two sources
    (condDecision ⟨[a], true⟩ ns1 || condDecision ⟨[a, b], true⟩ ns2) = false ∧
    (!condDecision ⟨[a, b], false⟩ ns2) = true := by
  simp [condDecision, failsOn]

/-- the expression that matches the empty string everywhere -/
def candsEmpty : Bytes → List Nat := fun _ => [0]
example : Local candsEmpty := ⟨by intro u n h; simp [candsEmpty] at h; omega, by intro u c; simp [candsEmpty]⟩
example : Sound candsEmpty ⟨[], [], 0, 0, false⟩ :=
  ⟨by intro u n h; simp, by intro u n h; simp [candsEmpty] at h; omega,
   by intro u n h; simp [hasPrefix], by intro u n h; simp [hasSuffix, hasPrefix]⟩

/-- the one-byte class `[ab]` -/
def candsClass : Bytes → List Nat
  | x :: _ => if x = 97 ∨ x = 98 then [1] else []
  | [] => []
example : Local candsClass := by
  constructor
  · intro u n h
    cases u with
    | nil => simp [candsClass] at h
    | cons x r => simp only [candsClass] at h; split at h <;> simp at h; simp; omega
  · intro u c
    cases u with
    | nil => simp [candsClass]
    | cons x r =>
      cases c with
      | zero => simp only [List.take_zero, candsClass]; split <;> simp
      | succ c => simp only [List.take_succ_cons, candsClass]; split <;> simp
example : Sound candsClass ⟨[], [], 1, 1, false⟩ := by
  refine ⟨?_, ?_, ?_, ?_⟩ <;> intro u n h <;> cases u with
    | nil => simp [candsClass] at h
    | cons x r => simp only [candsClass] at h; split at h <;> simp at h <;> simp [h, hasPrefix, hasSuffix]
example : matcherOf candsClass [99, 100, 98, 97] = some (2, 3) := by decide
example : matcherOf candsClass [99, 100] = none := by decide
/-- literal `ab` with prefix = suffix = ab: same match, found behind the skipped prefix -/
def candsAb : Bytes → List Nat := fun u => if hasPrefix u [97, 98] then [2] else []
example : find (matcherOf candsAb) ⟨[97, 98], [97, 98], 2, 2, false⟩ [99, 97, 98, 97, 98, 100] 0 = ⟨some (0, 2), 1⟩ := by decide
example : plainFind (matcherOf candsAb) [99, 97, 98, 97, 98, 100] 0 = ⟨some (1, 3), 0⟩ := by decide
/-- `.b` (length 2, suffix b, no prefix) goes through the fixed-length sliding window -/
def candsDotB : Bytes → List Nat
  | _ :: 98 :: _ => [2]
  | _ => []
example : find (matcherOf candsDotB) ⟨[], [98], 2, 2, false⟩ [98, 99, 97, 98, 100] 0 = ⟨some (0, 2), 2⟩ := by decide
example : plainFind (matcherOf candsDotB) [98, 99, 97, 98, 100] 0 = ⟨some (2, 4), 0⟩ := by decide
/-- chunk-boundary rule: client "ab" | server "x" | client "c": a match ending inside the first client burst
    moves the server offset to 0 (the server burst comes later), one ending in the last burst moves it to 1 -/
example : advance [(0, 0), (2, 0), (2, 1), (3, 1)] 0 (0, 0) 2 = (2, 0) := by decide
example : advance [(0, 0), (2, 0), (2, 1), (3, 1)] 0 (0, 0) 3 = (3, 1) := by decide
example : advance [(0, 0), (2, 0), (2, 1), (3, 1)] 1 (0, 0) 1 = (2, 1) := by decide


end Pk.Props.C04
