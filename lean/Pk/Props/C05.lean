/-
  C05 — indexed payload equals what the endpoints exchanged on the wire.

  About Pk/Model/Import.lean.  What is the repository's own logic is proved for all inputs: the order
  in which packets of several captures reach the reassemblers (`feedOrder_*`), the UDP flow table
  (`udp_flow_table_*`), the attribution of delivered bytes to packets and directions
  (`attribution_total`) and the selection of the streams that are written (`touched_selection`).
  TCP reassembly proper is gopacket's: `ReasmRecovers` states what is needed from it and `C05_partial`
  is the composition under that assumption.  For gopacket itself it is trusted, checked only by
  running the reference reassembler `reasm` of the model against the real one on generated traffic;
  `finding_F32` is a defect of the real reassembler that the reference reproduces.
  For the reference it is proved: Pk/Props/C05Reasm.lean has the runs of one direction (ANY order,
  duplication and overlapping re-segmentation of slices of the byte string: exactly the bytes are
  delivered, once, in order, attributed to a packet that carried them) and one conversation
  (`reasm_single_conversation_partial`); Pk/Props/C05More.lean, inside one inactivity window, has
  teardown, any number of interleaved TCP/UDP conversations (`reasm_flow_local`) and the instance
  `reasmRecovers_wellformed` with a concrete `WireTruth`.  Across the timeout flow locality and
  prefix stability are false of the reference (`flow_local_false_across_timeout`,
  `prefix_stable_false` — the mechanism of finding F34).
-/
import Pk.Model.Import
import Pk.Proofs.Import
import Pk.Proofs.ImportReasm

namespace Pk.Props.C05
open Pk.Import Pk.Proofs.Import

/-- packets of the older captures that a FromPcap call replays -/
def replayed (olds : List OldPcap) : List Pkt := olds.flatMap (·.pkts)

/-- every packet (replayed or new) is handed to the reassemblers exactly once, for every cut of the
    traffic into capture files and every choice of captures to replay -/
theorem feedOrder_each_once (olds : List OldPcap) (new : List Pkt) :
    (feedOrder olds new).Perm (new ++ replayed olds) := by
  unfold feedOrder replayed
  have h := feedLoop_perm olds [] (sortPkts new)
  have s := sortPkts_perm new
  simp only [List.nil_append] at h
  exact h.trans (List.Perm.append_right _ s)

/-- the two-pointer merge with lazy loading of older captures feeds packets in
    (timestamp, file, index) order, provided the older captures are visited in the order of their
    first timestamps and none of their packets is older than that timestamp.  The builder
    establishes both: the first is `neededSorted`; the second because `infoOf` computes `tmin` as
    the least timestamp of the capture (not stated as a theorem). -/
theorem feedOrder_sorted (olds : List OldPcap) (new : List Pkt)
    (hs : olds.Pairwise (fun a b => a.tmin ≤ b.tmin))
    (hmin : ∀ pc ∈ olds, ∀ y ∈ pc.pkts, pc.tmin ≤ y.ts) :
    (feedOrder olds new).Pairwise (fun a b => pktLe a b = true) :=
  feedLoop_sorted olds [] (sortPkts new) List.Pairwise.nil (sortPkts_sorted new) hs hmin

/-- `comparePackets` never orders two packets both ways, and leaves only packets with the same
    (timestamp, file, index) unordered: the sorted sequence is unique up to such packets -/
theorem comparePackets_strict_total (a b : Pkt) :
    (pktLt a b = true → pktLt b a = false) ∧
    (pktLt a b = false → pktLt b a = false → a.ts = b.ts ∧ a.file = b.file ∧ a.idx = b.idx) :=
  ⟨pktLt_asymm, pktLt_trichotomy⟩

/-- the order in which the builder visits the older captures -/
theorem neededSorted (l : List PcapInfo) : (sortByTmin l).Pairwise (fun a b => a.tmin ≤ b.tmin) := by
  have hmem : ∀ {x z : PcapInfo} {w : List PcapInfo}, z ∈ insertByTmin x w → z = x ∨ z ∈ w := by
    intro x z w h
    fun_induction insertByTmin x w with
    | case1 => exact Or.inl (List.mem_singleton.mp h)
    | case2 y ys _ => exact List.mem_cons.mp h
    | case3 y ys _ ih =>
      rcases List.mem_cons.mp h with h | h
      · exact Or.inr (h ▸ List.mem_cons_self ..)
      · exact (ih h).imp_right (List.mem_cons_of_mem _)
  have hins : ∀ (x : PcapInfo) (ys : List PcapInfo), ys.Pairwise (fun a b => a.tmin ≤ b.tmin) →
      (insertByTmin x ys).Pairwise (fun a b => a.tmin ≤ b.tmin) := by
    intro x ys h
    fun_induction insertByTmin x ys with
    | case1 => exact List.pairwise_singleton ..
    | case2 y ys hlt =>
      refine List.pairwise_cons.mpr ⟨fun z hz => ?_, h⟩
      rcases List.mem_cons.mp hz with rfl | hz
      · exact Nat.le_of_lt hlt
      · exact Nat.le_trans (Nat.le_of_lt hlt) ((List.pairwise_cons.mp h).1 z hz)
    | case3 y ys hge ih =>
      have hp := List.pairwise_cons.mp h
      refine List.pairwise_cons.mpr ⟨fun z hz => ?_, ih hp.2⟩
      rcases hmem hz with rfl | hz
      · exact Nat.not_lt.mp hge
      · exact hp.1 z hz
  unfold sortByTmin
  induction l with
  | nil => exact List.Pairwise.nil
  | cons x xs ih => exact hins x _ ih

/-- a datagram that no open flow accepts opens a new flow — `udpLookup` returns `none` only then -/
theorem udp_flow_table_none (streams : Array Stream) (p : Pkt) (conns : List UdpConn) (i : Nat) :
    udpLookup streams p conns i = none → ∀ c ∈ conns, udpMatch (streams[c.stream]!) p = none :=
  (udpLookup_eq_none streams p conns i).mp

/-- otherwise the datagram is attributed to the first open flow (creation order) with the same
    endpoints, in the orientation in which it matches -/
theorem udp_flow_table_some (streams : Array Stream) (p : Pkt) (conns : List UdpConn) (i j : Nat) (d : Bool) :
    udpLookup streams p conns i = some (j, d) →
    ∃ c, conns[j - i]? = some c ∧ i ≤ j ∧ udpMatch (streams[c.stream]!) p = some d ∧
      ∀ k, k < j - i → ∀ c', conns[k]? = some c' → udpMatch (streams[c'.stream]!) p = none := by
  induction conns generalizing i with
  | nil => exact fun h => nomatch h
  | cons c cs ih =>
    intro h
    rw [udpLookup] at h
    cases hm : udpMatch (streams[c.stream]!) p with
    | some d' =>
      rw [hm] at h
      cases h
      exact ⟨c, by rw [Nat.sub_self]; rfl, Nat.le_refl _, hm, fun k hk => absurd hk (by rw [Nat.sub_self]; exact Nat.not_lt_zero k)⟩
    | none =>
      rw [hm] at h
      obtain ⟨c2, h1, h2, h3, h4⟩ := ih (i + 1) h
      -- the flow found in the tail sits one position further in the whole list
      have e : j - i = (j - (i + 1)) + 1 := (Nat.succ_pred_eq_of_pos (Nat.sub_pos_of_lt h2)).symm
      rw [e]
      refine ⟨c2, h1, Nat.le_of_succ_le h2, h3, fun k hk c' hc' => ?_⟩
      cases k with
      | zero => cases hc'; exact hm
      | succ k => exact h4 k (Nat.lt_of_succ_lt_succ hk) c' hc'

/-- orientation: a datagram from the flow's client endpoint to its server endpoint is
    client→server, the reverse is server→client (flows whose two endpoints are equal never match) -/
theorem udp_flow_table_orientation (s : Stream) (p : Pkt)
    (hne : ¬ (s.caddr = s.saddr ∧ s.cport = s.sport)) :
    (s.caddr = p.src ∧ s.cport = p.sport ∧ s.saddr = p.dst ∧ s.sport = p.dport → udpMatch s p = some false) ∧
    (s.caddr = p.dst ∧ s.cport = p.dport ∧ s.saddr = p.src ∧ s.sport = p.sport → udpMatch s p = some true) :=
  ⟨fun ⟨h1, h2, h3, h4⟩ => udpMatch_fwd hne ⟨h1, h3, h2, h4⟩, fun ⟨h1, h2, h3, h4⟩ => udpMatch_bwd hne ⟨h1, h3, h2, h4⟩⟩

/-- bytes delivered for the packet that was just recorded are attributed to that packet (index =
    number of packets before it), hence to its direction -/
theorem attribution_total (s : Stream) (r : PRef) (d : Bool) (b : Bytes) (h : s.npkts = s.pktsRev.length) :
    ((s.addPkt r d).addData r b).dataRev = (s.npkts, b) :: s.dataRev ∧
    ((s.addPkt r d).addData r b).dirOf s.npkts = d := by
  simp [Stream.addPkt, Stream.addData, findPktIdx, Stream.dirOf]

/-- a stream is written iff one of its packets comes from a new capture -/
theorem touched_selection (newFiles : List String) (existing : List Index) (ps : List (PRef × Bool)) :
    ∀ (id : Option Nat) (touched : Bool),
      (classifyWalk newFiles existing ps id touched).2.2 =
        (touched || ps.any (fun p => newFiles.contains p.1.file)) := by
  intro id touched
  fun_induction classifyWalk newFiles existing ps id touched with
  | case1 id touched => exact (Bool.or_false _).symm
  | case2 r d rest id touched hnew hsome => simp only [List.any_cons, hnew, Bool.true_or, Bool.or_true]
  | case3 r d rest id touched hnew hsome ih => simp only [ih, List.any_cons, hnew, Bool.true_or, Bool.or_true]
  | case4 r d rest id touched hnew hsome ih => simp only [ih, List.any_cons, hnew, Bool.false_or]
  | case5 => exact (Bool.true_or _).symm
  | case6 r d rest id touched hnew hsome id' ht ih => simp only [ih, List.any_cons, hnew, Bool.false_or]

/-- the reassembler is a function from the fed packet sequence to `streamFactory.Streams` -/
abbrev Reassembler := List Pkt → Array Stream

/-- What C05 needs from a reassembler: for every set of well-formed conversations, every
    segmentation, bounded reordering / duplication and interleaving, reassembling the wire sequence
    yields one stream per conversation with exactly the exchanged bytes per direction and the same
    order of direction changes.  `Truth` abstracts "stream set matches conversation set";
    `C05More.reasmRecovers_wellformed` is the instance for the reference `reasm`. -/
def ReasmRecovers (R : Reassembler) (WellFormedWire : List Pkt → Prop) (Truth : List Pkt → Array Stream → Prop) : Prop :=
  ∀ wire, WellFormedWire wire → Truth wire (R wire)

/-- the streams a one-shot import (fresh builder, no snapshot, no older captures) hands to the
    index writer, with the reassembler as a parameter -/
def oneShotStreams (R : Reassembler) (captures : List (List Pkt)) : Array Stream :=
  R (feedOrder [] (captures.foldr (· ++ ·) []))

/-- a one-shot import hands the reassemblers the wire sequence itself: however the (time-ordered) wire
    is cut into capture files and in whatever order the files are named in the call -/
theorem feedOrder_eq_wire (wire : List Pkt) (captures : List (List Pkt))
    (hcut : (captures.foldr (· ++ ·) []).Perm wire) (hwire : wire.Pairwise (fun a b => pktLt a b = true)) :
    feedOrder [] (captures.foldr (· ++ ·) []) = wire := by
  have hp := feedOrder_each_once [] (captures.foldr (· ++ ·) [])
  rw [replayed, List.flatMap_nil, List.append_nil] at hp
  exact sorted_perm_unique _ _ (hp.trans hcut)
    (feedOrder_sorted [] _ List.Pairwise.nil (fun _ h => nomatch h)) hwire

/-- C05 under the assumption `ReasmRecovers R`: however the (time-ordered) wire sequence is cut
    into capture files and in whatever order the files are named in the call, the reassembler is
    handed a sorted permutation of the wire, i.e. — when packets are totally ordered by
    (timestamp, file, index) as in `hwire` — the wire sequence itself; so the streams are the
    conversations.  Missing for the property: `ReasmRecovers` for gopacket (only compared with the
    reference on generated traffic), incremental imports (C08). -/
theorem C05_partial (R : Reassembler) (WF : List Pkt → Prop) (Truth : List Pkt → Array Stream → Prop)
    (hR : ReasmRecovers R WF Truth) (wire : List Pkt) (captures : List (List Pkt))
    (hcut : (captures.foldr (· ++ ·) []).Perm wire)
    (hwire : wire.Pairwise (fun a b => pktLt a b = true)) (hwf : WF wire) :
    Truth wire (oneShotStreams R captures) := by
  unfold oneShotStreams
  rw [feedOrder_eq_wire wire captures hcut hwire]
  exact hR wire hwf

/-- in-order TCP segment on an open half without pending pages: exactly its payload is delivered,
    attributed to the packet, and the expected sequence number advances by its length.
    (A single step of the reference; whole runs with the out-of-order queue are in
    Pk/Props/C05Reasm.lean.) -/
theorem reasm_inorder_step_partial (st : Stream) (h : Half) (p : Pkt) (nx : Nat)
    (hopen : h.closed = false) (hnext : h.nextSeq = some nx) (hq : h.queue = []) (hseq : p.seq = nx)
    (hflags : p.syn = false ∧ p.fin = false ∧ p.rst = false) (hpl : p.payload ≠ []) :
    (assembleHalf st h p).1 = st.addData p.ref p.payload ∧
    (assembleHalf st h p).2.nextSeq = some (seqAdd nx p.payload.length) := by
  rw [Proofs.ImportReasm.assembleHalf_inorder st h p nx hopen hnext hq hseq ⟨hflags.1, hflags.2.1, hflags.2.2, hpl⟩]
  exact ⟨rfl, rfl⟩

/-- a datagram of an open UDP flow: recorded as a packet of that flow in the matched direction and,
    if it carries payload, as one data chunk attributed to it -/
theorem reasm_udp_step_partial (s : Stream) (p : Pkt) (d : Bool) (h : s.npkts = s.pktsRev.length) :
    ((s.addPkt p.ref d).addData p.ref p.payload).dataRev = (s.npkts, p.payload) :: s.dataRev :=
  (attribution_total s p.ref d p.payload h).1

def f32Pkt (i : Nat) (c2s syn ack : Bool) (seq : Nat) (pl : Bytes) : Pkt :=
  { ts := 1000000 + i, file := "a", idx := i, udp := false,
    src := if c2s then "c" else "s", dst := if c2s then "s" else "c",
    sport := if c2s then 40000 else 80, dport := if c2s then 80 else 40000,
    syn := syn, ack := ack, seq := seq, payload := pl }

/-- handshake, the two bytes 0x41 0x42 at sequence number 0xFFFFFFFF (they straddle the 2^32 wrap),
    and a retransmission of that segment -/
def f32Wire : List Pkt :=
  [f32Pkt 0 true true false 0xFFFFFFFE [], f32Pkt 1 false true true 1000 [], f32Pkt 2 true false true 0xFFFFFFFF [],
   f32Pkt 3 true false true 0xFFFFFFFF [0x41, 0x42], f32Pkt 4 true false true 0xFFFFFFFF [0x41, 0x42]]

/-- F32 (gopacket `Sequence.Difference` corrects the wrap with 2^32 - 1): the client sent 0x41 0x42
    once; the reassembled client→server payload is 0x41 0x42 0x42.  So `ReasmRecovers` is false for
    the reference (and for gopacket, which behaves the same on this wire) unless well-formed wires exclude
    retransmissions across the sequence wrap. -/
theorem finding_F32 :
    ((reasm f32Wire)[0]!.data.map (·.2)).flatten ≠ [0x41, 0x42] := by
  decide +kernel

-- the hypotheses of `feedOrder_sorted` are satisfiable
example : ∃ (olds : List OldPcap) (new : List Pkt), olds ≠ [] ∧ new ≠ [] ∧ olds.Pairwise (fun (a b : OldPcap) => a.tmin ≤ b.tmin) ∧
    (∀ pc ∈ olds, ∀ y ∈ pc.pkts, pc.tmin ≤ y.ts) :=
  ⟨[{ tmin := 1, pkts := [{ ts := 1, file := "a", idx := 0, udp := true, src := "x", dst := "y", sport := 1, dport := 2 }] }],
   [{ ts := 2, file := "b", idx := 0, udp := true, src := "x", dst := "y", sport := 1, dport := 2 }],
   List.cons_ne_nil _ _, List.cons_ne_nil _ _, List.pairwise_singleton _ _,
   List.forall_mem_singleton.mpr (List.forall_mem_singleton.mpr (Nat.le_refl 1))⟩

end Pk.Props.C05
