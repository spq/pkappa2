/-
  C01 — the full statements of Pk/Props/C01.lean (`RoundtripPackets`, `RoundtripPayload`,
  `LookupByFirstPacketExact` are `def … : Prop` there).

  Two of the three are false as stated, the third is false for inputs no machine can hold; each is proved here
  in a primed version with one more input well-formedness hypothesis and the same conclusion:

  * `roundtrip_packets' : RoundtripPackets'` and `lookup_by_first_packet_exact' : LookupByFirstPacketExact'`
    add `NamesWF ss` (no capture file name contains a NUL byte): the file-name section is NUL separated, the reader
    cuts a name at its first NUL. `roundtrip_packets_counterexample : ¬ RoundtripPackets` and
    `lookup_by_first_packet_counterexample : ¬ LookupByFirstPacketExact` (one stream, one packet, file name "\0").
  * `roundtrip_payload' : RoundtripPayload'` adds `(s.data.map (·.bytes.length)).sum < 2 ^ 64` per stream: the
    segmentation varint is decoded into a uint64. (A counterexample needs a 2^64-byte chunk; not stated.)

  Helper lemmas: Pk/Proofs/IndexFormatFull*.lean.
-/
import Pk.Props.C01
import Pk.Proofs.IndexFormatFullOrder
import Pk.Proofs.IndexFormatFullPackets
import Pk.Proofs.IndexFormatFullPieces
import Pk.Proofs.IndexFormatFullRuns
import Pk.Proofs.IndexFormatFullWriter
import Pk.Proofs.IndexFormatHosts
import Pk.Proofs.IndexFormatHostsRoundtrip
import Pk.Proofs.IndexFormatLookup
import Pk.Proofs.IndexFormatMeta
import Pk.Proofs.IndexFormatRoundtrip

namespace Pk.Index
open Pk Pk.Bytes

/-- a file name without NUL byte (the name section is NUL separated) -/
def NoNul (fn : Bytes) : Prop := ∀ b ∈ fn, b ≠ 0

end Pk.Index

namespace Pk.Props.C01
open Pk Pk.Bytes Pk.Index

/-- no source reference of the stream set names a capture file with a NUL byte in its name -/
def NamesWF (ss : List StreamIn) : Prop := ∀ s ∈ ss, ∀ p ∈ s.packets, ∀ ref ∈ p.refs, NoNul ref.file

/-- everything the theorems need about stream `i` of a reopened file (import table aside) -/
theorem stream_facts0 (ss : List StreamIn) (w : Writer) (r : Reader)
    (hw : ({} : Writer).addAll ss = some w) (hr : newReader w.finalize = .ok r)
    (hwf : ∀ s ∈ ss, s.TimeWF) (i : Nat) (s : StreamIn) (hs : ss[i]? = some s) :
    ∃ rec_, r.f.streams[i]? = some rec_ ∧ r.f.packets = w.packets ∧ r.f.data = w.blobs.flatten ∧
      w.imports.Nodup ∧ PktAt w.imports w.packets s rec_ ∧ RecOf r.f.ref s rec_ ∧ BlobAt w.blobs.flatten s rec_ := by
  obtain ⟨hst, hpk, hdata, href, _⟩ := reopen w r hr
  have hp := addAll_place ss w hw
  have hm := addAll_meta ss w hwf hw
  obtain ⟨r1, hr1, hpa, _, hblob⟩ := hp.2.2.get i s hs
  obtain ⟨r2, hr2, hrec⟩ := hm.2.get i s hs
  rw [hr1] at hr2
  cases hr2
  exact ⟨r1, by rw [hst]; exact hr1, hpk, hdata, hp.1, hpa, by rw [href]; exact hrec, hblob⟩

/-- … and with the import table, for file names without NUL -/
theorem stream_facts (ss : List StreamIn) (w : Writer) (r : Reader)
    (hw : ({} : Writer).addAll ss = some w) (hr : newReader w.finalize = .ok r)
    (hwf : ∀ s ∈ ss, s.TimeWF) (hn : NamesWF ss) (i : Nat) (s : StreamIn) (hs : ss[i]? = some s) :
    ∃ rec_, r.f.streams[i]? = some rec_ ∧ r.f.packets = w.packets ∧ r.f.data = w.blobs.flatten ∧ r.imports = w.imports ∧
      w.imports.Nodup ∧ PktAt w.imports w.packets s rec_ ∧ RecOf r.f.ref s rec_ ∧ BlobAt w.blobs.flatten s rec_ := by
  have hnames : ∀ k ∈ w.imports, NoNul k.1 :=
    addAll_import_files NoNul ss w hn hw
  have himp := (reopen w r hr).2.2.2.2.1 (fun k hk h0 => hnames k hk 0 h0 rfl)
  obtain ⟨rec_, h1, h2, h3, h4, h5, h6, h7⟩ := stream_facts0 ss w r hw hr hwf i s hs
  exact ⟨rec_, h1, h2, h3, himp, h4, h5, h6, h7⟩

theorem expectedPackets_eq (s : StreamIn) (p0 : PacketIn) (hp0 : s.packets.head? = some p0) :
    expectedPackets s = (trips s.data 0 s.packets).map (outOf p0.ts) := by
  unfold expectedPackets
  rw [hp0]
  exact expected_eq_trips p0.ts s.data s.packets 0

/-- `NamesWF ss` is needed: the file-name section is NUL separated and the reader cuts every name at the first NUL
    (reader.go 184–191), so a capture file name containing a NUL byte does not survive. Real capture file names
    (path components) never contain NUL. Without it the statement is false: `roundtrip_packets_counterexample`. -/
def RoundtripPackets' : Prop :=
  ∀ (ss : List StreamIn) (w : Writer) (r : Reader), ({} : Writer).addAll ss = some w → newReader w.finalize = .ok r →
    (∀ s ∈ ss, PacketsWF s) → NamesWF ss → ∀ (i : Nat) (s : StreamIn), ss[i]? = some s →
      ∃ rec_, r.f.streams[i]? = some rec_ ∧ r.packets rec_ = .ok (expectedPackets s)

theorem packets_of_stream (ss : List StreamIn) (w : Writer) (r : Reader)
    (hw : ({} : Writer).addAll ss = some w) (hr : newReader w.finalize = .ok r)
    (hwf : ∀ s ∈ ss, PacketsWF s) (hn : NamesWF ss) (i : Nat) (s : StreamIn) (hs : ss[i]? = some s) :
    ∃ rec_, r.f.streams[i]? = some rec_ ∧ r.packets rec_ = .ok (expectedPackets s) ∧
      w.imports.Nodup ∧ r.f.packets = w.packets ∧ r.imports = w.imports ∧ PktAt w.imports w.packets s rec_ := by
  obtain ⟨rec_, hrec, hpk, _, himp, hnd, hpa, hro, _⟩ :=
    stream_facts ss w r hw hr (fun s hs => (hwf s hs).1) hn i s hs
  refine ⟨rec_, hrec, ?_, hnd, hpk, himp, hpa⟩
  obtain ⟨_, hch, hrefs, hpw⟩ := hwf s (List.mem_of_getElem? hs)
  obtain ⟨p0, _, hp0, _, hfirst, _⟩ := hro.times
  obtain ⟨hkeys, hne, rest, hdrop⟩ := hpa
  unfold Reader.packets
  rw [hfirst, himp, hpk, hdrop, expectedPackets_eq s p0 hp0]
  apply packets_walk_stream w.imports s rest p0 hp0 hkeys hne hrefs
  · intro i p q hp hq
    have := hch i p q hp hq
    rw [hp0] at this
    exact this
  · rw [← expectedPackets_eq s p0 hp0]; exact hpw

theorem roundtrip_packets' : RoundtripPackets' := by
  intro ss w r hw hr hwf hn i s hs
  obtain ⟨rec_, h1, h2, _⟩ := packets_of_stream ss w r hw hr hwf hn i s hs
  exact ⟨rec_, h1, h2⟩

/-- (file name, packet index) of the first source reference of a stream -/
def firstKey (s : StreamIn) : Option (Bytes × Nat) := (expectedPackets s).head?.map fun p => (p.file, p.index)

/-- `NamesWF ss` is needed (see `RoundtripPackets'`): the reader compares the name cut at the first NUL.
    Without it the statement is false: `lookup_by_first_packet_counterexample`. -/
def LookupByFirstPacketExact' : Prop :=
  ∀ (ss : List StreamIn) (w : Writer) (r : Reader), ({} : Writer).addAll ss = some w → newReader w.finalize = .ok r →
    (∀ s ∈ ss, PacketsWF s) → NamesWF ss →
    ((ss.map fun s => (expectedPackets s).head?.map fun p => (p.file, p.index)).Pairwise (· ≠ ·)) →
    ∀ (file : Bytes) (index : Nat), index < 2 ^ 64 →
      (r.streamBySource file index).map (·.2.id) =
        (ss.find? fun s => (expectedPackets s).head?.map (fun p => (p.file, p.index)) == some (file, index)).map (·.id)

theorem lookup_by_first_packet_exact' : LookupByFirstPacketExact' := by
  intro ss w r hw hr hwf hn hdist file index _
  have hnames : ∀ k ∈ w.imports, NoNul k.1 :=
    addAll_import_files NoNul ss w hn hw
  have himp := (reopen w r hr).2.2.2.2.1 (fun k hk h0 => hnames k hk 0 h0 rfl)
  have hlen : w.streams.length = ss.length := by
    have := congrArg List.length (addAll_ids ss w hw); simpa using this
  -- per stream: its record carries its id, its first key is what the reader resolves, and the key is in range
  have hper : ∀ (j : Nat) (hj : j < ss.length), (w.streams.getD j default).id = ss[j].id ∧
      firstKey ss[j] = some (r.firstSource (w.streams.getD j default)) ∧
      (srcKey w.imports w.packets (w.streams.getD j default)).off + (srcKey w.imports w.packets (w.streams.getD j default)).idx < 2 ^ 64 := by
    intro j hj
    obtain ⟨rec_, hrec, hpk, _, _, _, hpa, hro, _⟩ :=
      stream_facts ss w r hw hr (fun s hs => (hwf s hs).1) hn j ss[j] (by simp)
    obtain ⟨_, _, hrefs, _⟩ := hwf ss[j] (List.getElem_mem hj)
    obtain ⟨hid, _, _, _, _, p0, pl, hp0, _⟩ := hro
    have hne : ss[j].packets ≠ [] := by intro h; rw [h] at hp0; simp at hp0
    obtain ⟨t0, T, hT, hcanon, hvalid⟩ := srcKey_stream w.imports w.packets ss[j] rec_ hpa hne
      (fun p hp => ⟨(hrefs p hp).1, (hrefs p hp).2.2⟩)
    have hgetD : w.streams.getD j default = rec_ := by
      rw [List.getD_eq_getElem?_getD, ← (reopen w r hr).1, hrec]; rfl
    rw [hgetD, firstSource_eq, himp, hpk, hcanon]
    exact ⟨hid, by simp [firstKey, expectedPackets_eq ss[j] p0 hp0, hT, outOf], hvalid⟩
  have hvalid : ∀ x ∈ w.streams, (srcKey w.imports w.packets x).off + (srcKey w.imports w.packets x).idx < 2 ^ 64 := by
    intro x hx
    obtain ⟨j, hj, rfl⟩ := List.mem_iff_getElem.mp hx
    have := (hper j (hlen ▸ hj)).2.2
    rwa [List.getD_eq_getElem?_getD, List.getElem?_eq_getElem hj] at this
  show _ = (ss.find? fun s => firstKey s == some (file, index)).map (·.id)
  rcases streamBySource_written w r hr himp hvalid file index with ⟨j, hj, hkey, hsb⟩ | ⟨hsb, hnone⟩
  · rw [hlen] at hj
    obtain ⟨hid, hk, _⟩ := hper j hj
    rw [hsb, Lib.find?_unique firstKey ss j ss[j] _ hdist (List.getElem?_eq_getElem hj) (hkey ▸ hk)]
    exact congrArg some hid
  · rw [hsb, List.find?_eq_none.mpr]
    · rfl
    · intro s hs
      obtain ⟨j, hj, rfl⟩ := List.mem_iff_getElem.mp hs
      have := hnone j (hlen ▸ hj)
      rw [(hper j hj).2.1]
      simpa only [beq_iff_eq, Option.some.injEq] using this

theorem mergedRuns_eq (l : List (Nat × Nat)) : mergedRuns l = mRuns l := by
  induction l with
  | nil => rfl
  | cons x rest ih =>
    obtain ⟨d, n⟩ := x
    simp only [mergedRuns, mRuns, ih]
    by_cases hn : n = 0
    · simp [hn]
    · simp only [hn, if_false]
      cases mRuns rest with
      | nil => rfl
      | cons y rs => rfl

/-- `(s.data.map (·.bytes.length)).sum < 2 ^ 64` for every stream is needed: the reader accumulates the segmentation
    varint in a uint64 (reader.go 538–548, `decVarintAux`), so a run of 2^64 bytes or more is not read back. No real
    stream reaches that size (and Go slices cannot); a concrete counterexample would need 2^64 bytes and is not
    stated. (`NamesWF` is NOT needed here: `Stream.Data` never looks at the import table.) -/
def RoundtripPayload' : Prop :=
  ∀ (ss : List StreamIn) (w : Writer) (r : Reader), ({} : Writer).addAll ss = some w → newReader w.finalize = .ok r →
    (∀ s ∈ ss, PacketsWF s ∧ (s.data.map (·.pos)).Pairwise (· < ·)) →
    (∀ s ∈ ss, (s.data.map (·.bytes.length)).sum < 2 ^ 64) →
    ∀ (i : Nat) (s : StreamIn), ss[i]? = some s →
      ∃ rec_ cds ds, r.f.streams[i]? = some rec_ ∧ chunkDirs s.packets s.data = some cds ∧ r.data rec_ = .ok ds ∧
        ((ds.filter (·.dir == 0)).map (·.content)).flatten = dirBytes 0 cds ∧
        ((ds.filter (·.dir == 1)).map (·.content)).flatten = dirBytes 1 cds ∧
        mergedRuns (ds.map fun d => (d.dir, d.content.length)) = mergedRuns (cds.map fun c => (c.1, c.2.length))

theorem roundtrip_payload' : RoundtripPayload' := by
  intro ss w r hw hr hwf hsz i s hs
  obtain ⟨rec_, hrec, hpk, hdata, _, hpa, hro, hblob⟩ :=
    stream_facts0 ss w r hw hr (fun s hs => (hwf s hs).1.1) i s hs
  have hmem := List.mem_of_getElem? hs
  obtain ⟨⟨_, _, hrefs, _⟩, hpos⟩ := hwf s hmem
  obtain ⟨cds, hcd, _, hb2⟩ := hblob
  obtain ⟨_, _, _, _, ⟨cds', hcd', hcb, hsb⟩, _⟩ := hro
  rw [hcd] at hcd'
  cases hcd'
  obtain ⟨ds, hds, f0, f1, fm⟩ := data_of_stream r w.imports s rec_ cds (by rw [hpk]; exact hpa) hcd (by rw [hdata]; exact hb2) hcb hsb
    (fun p hp => ⟨(hrefs p hp).1, (hrefs p hp).2.1⟩) hpos (hsz s hmem)
  refine ⟨rec_, cds, ds, hrec, hcd, hds, f0, f1, ?_⟩
  rw [mergedRuns_eq, mergedRuns_eq, mRuns_eq_rle, mRuns_eq_rle]
  exact congrArg rle fm

/-! ### the unprimed statements fail on a capture file name with a NUL byte -/

/-- a stream whose only packet comes from a capture file named "\0" -/
def cx : StreamIn :=
  { id := 1, client := [10,0,0,2], server := [10,0,0,3], cport := 1, sport := 2, flags := 0,
    packets := [{ ts := 0, dir := 0, refs := [{ file := [0], index := 0 }] }], data := [] }

def cxRec : StreamRec :=
  { id := 1, first := 0, last := 0, dataStart := 0, cb := 0, sb := 0, pstart := 0, flags := 1, hg := 0,
    ch := 0, sh := 1, cp := 1, sp := 2 }

def cxW : Writer :=
  { hostGroups := [{ hosts := [10, 0, 0, 2, 10, 0, 0, 3], hostSize := 4 }],
    imports := [([0], 0)],
    packets := [{ rel := 0, imp := 0, idx := 0, size := 0, skip := 255, flags := 0 }],
    streams := [{ id := 1, first := 0, last := 0, dataStart := 0, cb := 0, sb := 0, pstart := 0, flags := 1, hg := 0,
                  ch := 0, sh := 1, cp := 1, sp := 2 }],
    blobs := [[]], dataLen := 0, ref := 0 }

theorem cx_added : ({} : Writer).addAll [cx] = some cxW := by decide

theorem cx_wf : PacketsWF cx := by
  refine ⟨⟨_, _, rfl, rfl, by decide, by decide, by decide⟩, ?_, ?_, by decide⟩
  · intro i p q hp hq
    cases i <;> simp [cx] at hp hq
  · intro p hp
    simp [cx] at hp
    subst hp
    simp

theorem cx_reopen : ∃ r, newReader cxW.finalize = .ok r :=
  reopen_succeeds [cx] cxW cx_added (by simp) (by intro s hs; simp at hs; subst hs; simp [StreamIn.AddrWF, HostAddr, cx])
    (by decide) (by decide)

theorem roundtrip_packets_counterexample : ¬ RoundtripPackets := by
  intro h
  obtain ⟨r, hr⟩ := cx_reopen
  obtain ⟨rec_, hrec, hp⟩ := h [cx] cxW r cx_added hr (by intro s hs; simp at hs; subst hs; exact cx_wf) 0 cx rfl
  obtain ⟨hf, _, _, _, himp⟩ := newReader_ok _ r hr
  rw [hf] at hrec
  have hrec' : rec_ = cxRec := by
    have : cxW.finalize.streams[0]? = some cxRec := rfl
    rw [this] at hrec; injection hrec with h; exact h.symm
  subst hrec'
  unfold Reader.packets Reader.firstPacket at hp
  rw [himp, hf] at hp
  have e1 : readImports cxW.finalize.importNames cxW.finalize.imports = [([], 0)] := by decide
  have e2 : cxW.finalize.packets = [{ rel := 0, imp := 0, idx := 0, size := 0, skip := 255, flags := 0 }] := rfl
  rw [e1, e2] at hp
  simp [packetsWalk, expectedPackets, cx, cxRec, PacketIn.pmds] at hp

theorem lookup_by_first_packet_counterexample : ¬ LookupByFirstPacketExact := by
  intro h
  obtain ⟨r, hr⟩ := cx_reopen
  have h1 := h [cx] cxW r cx_added hr (by intro s hs; simp at hs; subst hs; exact cx_wf) (by simp) [0] 0 (by decide)
  obtain ⟨_, _, _, _, himp⟩ := newReader_ok _ r hr
  have e1 : readImports cxW.finalize.importNames cxW.finalize.imports = [([], 0)] := by decide
  rw [e1] at himp
  have hfs : ∀ x, (r.firstSource x).1 = [] := by
    intro x
    unfold Reader.firstSource
    rw [himp]
    simp only [List.getD_eq_getElem?_getD]
    cases (r.f.packets[x.pstart]?.getD default).imp with
    | zero => rfl
    | succ n => rfl
  have hrhs : (([cx] : List StreamIn).find? fun s => (expectedPackets s).head?.map (fun p => (p.file, p.index)) == some ([0], 0)).map (·.id)
      = some 1 := by decide
  obtain ⟨k, _, hsb⟩ := streamBySource_eq r [0] 0
  rw [hrhs, hsb] at h1
  split at h1
  · simp at h1
  · rename_i hne
    have := hfs (r.f.streams.getD (r.f.lkSrc.getD k 0) default)
    rw [Classical.not_not.mp (not_or.mp hne).2] at this
    simp at this

end Pk.Props.C01
