/-
  C03 — query normalisation never changes what a query means.

  Property theorems only (helper lemmas: Pk/Proofs/Query/*.lean).  Model: Pk/Model/Query/*
  (transliteration of internal/query/conditions.go with the `fix:` commits F2, F3, F4, F50, F51,
  F52 applied); semantics: Pk/Model/Query/Sem.lean — `evalCond/evalConj/evalSet/evalParsed` give the
  documented meaning of the normalised conditions on an environment of streams, `evalExpr` the
  Boolean meaning of the surface expression (value lists, ranges, host masks, client/server
  shorthands), written without reference to conjuncts or inversion.

  Quantifiers: every theorem is for ALL condition lists / sets / expressions of the stated shape
  and ALL stream environments `ρ` (`Env.WF ρ`: first packet ≤ last packet, one address family per
  stream — what the engine can produce; `Env.IdOK ρ`: stream ids fit uint64, needed by the
  simple-ID fast path, see `simpleID_needs_idOK`).

  What is proved at full strength
    * per-kind simplification (`clean_*_sound`), for tags, numbers, times, payload chains
      unconditionally; for flags and hosts under the shape invariant `Cond.OK` that the parser
      establishes and every operation preserves (`clean_ok`, `invert_ok`);
    * negation of single conditions (`invert_cond_sound`, flags for every 16-bit mask),
      `chain_negation`;
    * the set-level algebra `or_sound`, `and_sound`, `invert_set_sound`, `Clean_sound`
      (absorption is subsumption, `simpleID_sound`);
    * `normalise_sound_partial`, `impossible_only_if_unsat_partial` for the fragment
        Frag e ∧ TermsOf Term.FragV e :  every nesting of NOT / AND / OR / groups over filters of
        every kind (tag, service, mark, generated, protocol, [cs]host with masks, id/[cs]port/
        [cs]bytes, [fl]?time, [cs]?data[.converter]) with value lists, (open) ranges, arithmetic,
        sub-query prefixes (`@a:id:5`) and variables (`cport:@a:sport@+1:`, `host:@a:chost@/24`,
        `protocol:@a:protocol@`, `ltime:"@ftime@+5m:"`); THEN only with one operand; no
        sort/limit/group terms; payload filters without `@name@` variables inside the regex.
    * `normalise_sound_then_partial`: the same for expressions that contain THEN with several
      operands anywhere (negated sequences, sequences in conjunctions, nested THEN): everything
      around THEN nodes is Boolean, the final `Clean` preserves meaning; the meaning of a THEN node
      itself is *defined* as the sequencing combination (`GSet.seq`, unfolded by `then_sound`) of
      its operands' normal forms (`evalExprT`).
  Not covered by a theorem (tie + oracle only): an independent surface semantics of THEN (the
  oracle of the harness uses textbook-DNF alternatives with search semantics for payload
  matches), sort/limit/group terms, `@name@` variables inside payload regexes.
-/
import Pk.Proofs.Query.Laws
import Pk.Proofs.Query.Then

namespace Pk.Props.C03
open Pk.Query

/-! ### per-kind simplification: an equivalent conjunct, or `impossible` only when unsatisfiable
(`optAll ev none = false`) -/

theorem clean_tag_sound (lcs : List TagC) (ρ : Env) :
    optAll (fun c => evalTag c ρ) (cleanTag lcs) = lcs.all (fun c => evalTag c ρ) :=
  cleanTag_sound lcs ρ

/-- flags: forbidden-value bitmaps and relevant-bit inference, for conditions on the protocol bits
    (`forbidden_ignores_irrelevant_bits` of DESIGN §5 is `CleanFlag.forbidden_union`, used in the proof) -/
theorem clean_flag_sound (fcs : List FlagC) (ρ : Env) (h : ∀ f ∈ fcs, f.OK) :
    optAll (fun c => evalFlag c ρ) (cleanFlag fcs) = fcs.all (fun c => evalFlag c ρ) :=
  cleanFlag_sound_ok fcs ρ h

theorem clean_host_sound (hcs : List HostC) (ρ : Env) (h : ∀ x ∈ hcs, x.OK) :
    optAll (fun c => evalHost c ρ) (cleanHost hcs) = hcs.all (fun c => evalHost c ρ) :=
  cleanHost_sound_ok hcs ρ h

/-- numbers: summand merge, common factor, duplicate and sign rules (variables are ≥ 0) -/
theorem clean_number_sound (ncs : List NumC) (ρ : Env) :
    optAll (fun c => evalNum c ρ) (cleanNumber ncs) = ncs.all (fun c => evalNum c ρ) :=
  cleanNumber_sound ncs ρ

theorem common_factor_divides (s0 : NumSummand) (more : List NumSummand) :
    ∀ s ∈ s0 :: more, (cfLoop (iabs s0.factor) more : Int) ∣ s.factor :=
  Pk.Query.common_factor_divides s0 more

/-- times: first packet ≤ last packet is what makes the single-summand rule sound -/
theorem clean_time_sound (tcs : List TimeC) (ρ : Env) (hρ : Env.WF ρ) :
    optAll (fun c => evalTime c ρ) (cleanTime tcs) = tcs.all (fun c => evalTime c ρ) :=
  cleanTime_sound tcs ρ hρ

/-- payload chains: prefix elimination (with the F3 and F50 repairs) -/
theorem clean_data_sound (dcs : List DataC) (ρ : Env) :
    optAll (fun c => evalData c ρ) (cleanData dcs) = dcs.all (fun c => evalData c ρ) :=
  cleanData_sound' dcs ρ

/-- `Conditions.clean` -/
theorem clean_conj_sound (c : Conj) (ρ : Env) (ok : Conj.OK c) (hρ : Env.WF ρ) :
    evalConj (Conj.clean c) ρ = evalConj c ρ :=
  conj_clean_sound c ρ ok hρ

theorem clean_ok (c : Conj) (ok : Conj.OK c) : Conj.OK (Conj.clean c) := conj_clean_ok c ok

/-- ¬(all steps succeed) ↔ some proper prefix succeeds and its next step fails -/
theorem chain_negation (ρ : Env) (inv : Bool) (els : List DataEl) (h : els ≠ []) (p : Nat) :
    (List.range els.length).any (fun i =>
      chain ρ (if i + 1 = els.length then !inv else true) (els.take (i + 1)) p) = !chain ρ inv els p :=
  Pk.Query.chain_negation ρ inv els h p

/-- every kind; flag inversion by sub-mask enumeration for every 16-bit mask -/
theorem invert_cond_sound (c : Cond) (ρ : Env) (hflag : ∀ f, c = .flag f → f.mask < 65536)
    (hdata : ∀ d, c = .data d → d.els ≠ []) : evalSet (Cond.invert c) ρ = !evalCond c ρ :=
  Pk.Query.invert_cond_sound c ρ hflag hdata

theorem invert_ok (c : Cond) (h : c.OK) : CSet.OK (Cond.invert c) := invert_cond_ok c h

theorem or_sound (a b : GSet) (ρ : Env) :
    evalSet (GSet.Or a b).items ρ = (evalSet a.items ρ || evalSet b.items ρ) :=
  Pk.Query.or_sound a b ρ

theorem and_sound (a b : GSet) (ha : a.items ≠ []) (hb : b.items ≠ []) (oka : CSet.OK a.items)
    (okb : CSet.OK b.items) (ρ : Env) (hρ : Env.WF ρ) :
    evalSet (GSet.And a b).items ρ = (evalSet a.items ρ && evalSet b.items ρ) :=
  Pk.Query.and_sound laws a b ha hb oka okb hρ

/-- the empty conjunct (true) inverts to the impossible condition (fix F4) -/
theorem invert_conj_sound (c : Conj) (ok : Conj.OK c) (ρ : Env) :
    evalSet (Conj.invert c).items ρ = !evalConj c ρ :=
  conj_invert_sound laws c ok ρ

theorem invert_set_sound (cs : CSet) (hne : cs ≠ []) (ok : CSet.OK cs) (ρ : Env) (hρ : Env.WF ρ) :
    evalSet (CSet.invert cs).items ρ = !evalSet cs ρ :=
  Pk.Query.invert_set_sound laws cs hne ok hρ

theorem simpleID_sound (cs : CSet) (ok : CSet.OK cs) (ρ : Env) (hρ : Env.WF ρ) (hid : Env.IdOK ρ)
    (r : CSet) (h : CSet.cleanSimpleID cs = some r) : evalSet r ρ = evalSet cs ρ :=
  Pk.Query.simpleID_sound laws cs ok hρ hid r h

/-- the model's stream ids are unbounded naturals; beyond uint64 the fast path differs -/
theorem simpleID_needs_idOK : ∃ (cs : CSet) (ρ : Env), CSet.OK cs ∧ Env.WF ρ ∧
    evalSet (CSet.Clean cs) ρ = false ∧ evalSet cs ρ = true := by
  -- `id ≥ 2^64-1` is rewritten by the simple-ID fast path to `id = 2^64-1`: they differ on the stream with id `2^64`
  refine ⟨[[.num { sum := [{ sq := "", factor := 1, ty := 0 }], n := -(2 ^ 64 - 1) }]],
    fun _ => { wfEnv "" with id := 2 ^ 64 }, ?_, ?_, by decide, by decide⟩
  · intro c hc x hx
    simp only [List.mem_cons, List.not_mem_nil, or_false] at hc
    subst hc
    simp only [List.mem_cons, List.not_mem_nil, or_false] at hx
    subst hx
    trivial
  · intro sq; simp [wfEnv]

/-- `ConditionsSet.Clean`: absorption is subsumption -/
theorem Clean_sound (cs : CSet) (ok : CSet.OK cs) (ρ : Env) (hρ : Env.WF ρ) (hid : Env.IdOK ρ) :
    evalSet (CSet.Clean cs) ρ = evalSet cs ρ :=
  Pk.Query.Clean_sound laws cs ok hρ hid

/-- translation of a single filter of any kind, with variables and sub-queries: lists, ranges,
    host masks, port/bytes/host/time shorthands, the own-variable subtraction loops -/
theorem term_sound (ref : Int) (t : Term) (g : GSet) (ρ : Env) (hf : t.FragV) (hρ : Env.WF ρ)
    (h : trTerm ref t = .ok g) :
    ∃ cs, g = some cs ∧ cs ≠ [] ∧ CSet.OK cs ∧ evalSet cs ρ = evalTerm ref t ρ :=
  have _ := hρ
  trTerm_soundV ref t g ρ hf h

/-- FULL statement (not proved for every expression):
      ∀ ref e p, parse ref e = .ok p → ∀ ρ, Env.WF ρ → Env.IdOK ρ → evalParsed p ρ = evalSurface ref ρ e
    where `evalSurface` also gives THEN its sequencing meaning.
    Proved part: the fragment `Frag e ∧ TermsOf Term.FragV e` (sub-query variables included). -/
theorem normalise_sound_partial (ref : Int) (e : Expr) (hf : Frag e) (hp : TermsOf Term.FragV e)
    (p : Parsed) (h : parse ref e = .ok p) (ρ : Env) (hρ : Env.WF ρ) (hid : Env.IdOK ρ) :
    evalParsed p ρ = evalExpr ref ρ e :=
  normalise_sound_of_laws laws ref Term.FragV (termLawV ref) e hf hp p h ρ hρ hid

/-- `Parse` reports "matches nothing" only for unsatisfiable queries (same fragment) -/
theorem impossible_only_if_unsat_partial (ref : Int) (e : Expr) (hf : Frag e)
    (hp : TermsOf Term.FragV e) (h : parse ref e = .ok .nothing) (ρ : Env) (hρ : Env.WF ρ)
    (hid : Env.IdOK ρ) : evalExpr ref ρ e = false :=
  impossible_only_if_unsat_of_laws laws ref Term.FragV (termLawV ref) e hf hp h ρ hρ hid

/-- `Conditions.then`: non-payload conditions are conjoined; every payload chain of the left
    conjunct is continued by every payload chain of the right one (a negated left chain stays and is
    continued from before its negated element) -/
theorem then_sound (a b : Conj) (ρ : Env) : evalConj (Conj.seq a b) ρ =
    (evalConj (a.filter (fun c => (Cond.data? c).isNone)) ρ &&
     evalConj (b.filter (fun c => (Cond.data? c).isNone)) ρ &&
     (if a.filterMap Cond.data? = [] ∨ b.filterMap Cond.data? = [] then
        (a.filterMap Cond.data?).all (evalData · ρ) && (b.filterMap Cond.data?).all (evalData · ρ)
      else (a.filterMap Cond.data?).all (fun adc =>
        (!adc.inv || evalData adc ρ) &&
        (b.filterMap Cond.data?).all (fun bdc => evalData
          { els := adc.els.take (if adc.inv then adc.els.length - 1 else adc.els.length) ++ bdc.els,
            inv := bdc.inv } ρ)))) :=
  Pk.Query.then_sound a b ρ

/-- expressions with THEN nodes of any arity (`FragT`), terms with variables: the normal form means
    `evalExprT` — Boolean around THEN nodes, a THEN node denotes the sequencing combination of its
    operands' normal forms.  (FULL statement would use a surface semantics of THEN that does not
    mention normal forms; see the header.) -/
theorem normalise_sound_then_partial (ref : Int) (e : Expr) (hf : FragT e)
    (hp : TermsOf Term.FragV e) (p : Parsed) (h : parse ref e = .ok p) (ρ : Env) (hρ : Env.WF ρ)
    (hid : Env.IdOK ρ) : evalParsed p ρ = evalExprT ref ρ e :=
  normalise_sound_then ref e hf hp p h ρ hρ hid

theorem impossible_only_if_unsat_then_partial (ref : Int) (e : Expr) (hf : FragT e)
    (hp : TermsOf Term.FragV e) (h : parse ref e = .ok .nothing) (ρ : Env) (hρ : Env.WF ρ)
    (hid : Env.IdOK ρ) : evalExprT ref ρ e = false :=
  impossible_only_if_unsat_then ref e hf hp h ρ hρ hid

/-- on the fragment of `normalise_sound_partial` both meanings coincide -/
theorem evalExprT_conservative (ref : Int) (ρ : Env) (e : Expr) (hf : Frag e) :
    evalExprT ref ρ e = evalExpr ref ρ e := evalExprT_eq_evalExpr ref ρ e hf

/-- for THEN-free expressions `evalExpr` is the plain Boolean combination of the filters -/
theorem then_free_boolean (ref : Int) (ρ : Env) :
    (∀ e, evalExpr ref ρ (.not e) = !evalExpr ref ρ e) ∧
    (∀ e, evalExpr ref ρ (.grp e) = evalExpr ref ρ e) ∧
    (∀ e es, evalExpr ref ρ (.and (e :: es)) = (evalExpr ref ρ e && evalExpr ref ρ (.and es))) ∧
    (∀ e es, evalExpr ref ρ (.or (e :: es)) = (evalExpr ref ρ e || evalExpr ref ρ (.or es))) ∧
    (∀ t, evalExpr ref ρ (.term t) = evalTerm ref t ρ) := by
  refine ⟨fun _ => ?_, fun _ => ?_, fun _ _ => ?_, fun _ _ => ?_, fun _ => ?_⟩ <;>
    simp [evalExpr, evalExpr.evalExprAll, evalExpr.evalExprAny]

example : Env.WF wfEnv ∧ Env.IdOK wfEnv := wfEnv_idOK

/-- `-(id:1,5:9) or (cport:80 host:10.0.0.0/8)` is in the fragment, parses to a concrete
    5-conjunct normal form, and `normalise_sound_partial` applies to it -/
example : Frag Example.e0 ∧ TermsOf Term.Frag Example.e0 ∧ parse 0 Example.e0 = .ok Example.p0 :=
  ⟨Example.e0_frag, Example.e0_terms, Example.e0_parse⟩

example (ρ : Env) (hρ : Env.WF ρ) (hid : Env.IdOK ρ) :
    evalParsed Example.p0 ρ = evalExpr 0 ρ Example.e0 := Example.e0_sound ρ hρ hid

/-- a filter with a sub-query variable, `cport:@a:sport@+1:`, is in the fragment and translates -/
example : ExampleV.portVar.FragV := ExampleV.portVar_fragV

/-- `-(cdata:x then cdata:y) (cdata:x then cdata:y then sdata:z)` (the shape of finding F3) parses to
    "matches nothing", and it is unsatisfiable; the satisfiable variant
    `-(cdata:x then cdata:y) (cdata:x then sdata:z)` keeps both chains -/
example : parse 0 ExampleT.e2 = .ok .nothing := ExampleT.e2_parse
example : parse 0 ExampleT.e3 = .ok ExampleT.p3 := ExampleT.e3_parse
example (ρ : Env) (hρ : Env.WF ρ) (hid : Env.IdOK ρ) :
    evalParsed ExampleT.p3 ρ = evalExprT 0 ρ ExampleT.e3 := ExampleT.e3_sound ρ hρ hid

end Pk.Props.C03
