/-
  C08 — import result does not depend on how and when captures arrive.

  About Pk/Model/Import.lean.  What holds for every arrival order is `C08_partial`: a written stream
  reuses an ID found by a first-packet lookup or gets an ID above all stored ones.  That the *fed
  sequence* does not depend on the arrival order is `C05.feedOrder_sorted` / `feedOrder_each_once`.
  For arbitrary arrival order the property itself is false of the code: `finding_F31`, `finding_F19`,
  `finding_F34` are evaluated on the model, and the same histories are in corpus/C08 and replayed on
  the real builder.  The statements for chronological arrival, `NoDoubleIdChrono` /
  `BatchingIrrelevantChrono` (definitions of this namespace, in Pk/Props/ImportSpec.lean), are both FALSE
  as they stand: Pk/Props/C08Chrono.lean proves their negations and what holds instead.  Likewise
  `ReasmLaws` (same file): both of its fields fail for the reference reassembler
  (`C05More.flow_local_false_across_timeout`, `C05More.prefix_stable_false`).
-/
import Pk.Props.ImportSpec
import Pk.Proofs.Import

namespace Pk.Props.C08
open Pk.Import Pk.Proofs.Import

theorem chooseSnapshot_aux (t : Nat) (snaps : List Snapshot) : ∀ (best : Snapshot), best.ts ≤ t →
    let r := snaps.foldl (fun best ss => if best.ts > ss.ts then best else if t < ss.ts then best else ss) best
    r.ts ≤ t ∧ best.ts ≤ r.ts ∧ (∀ s ∈ snaps, s.ts ≤ t → s.ts ≤ r.ts) ∧ (r = best ∨ r ∈ snaps) := by
  induction snaps with
  | nil => exact fun best h => ⟨h, Nat.le_refl _, fun _ hs => (nomatch hs), Or.inl rfl⟩
  | cons s ss ih =>
    intro best h
    rw [List.foldl_cons]
    -- a round takes `s` exactly if it lies between the best so far and `t`
    by_cases hc : best.ts ≤ s.ts ∧ s.ts ≤ t
    · rw [if_neg (Nat.not_lt.mpr hc.1), if_neg (Nat.not_lt.mpr hc.2)]
      obtain ⟨b1, b2, b3, b4⟩ := ih s hc.2
      exact ⟨b1, Nat.le_trans hc.1 b2, List.forall_mem_cons.mpr ⟨fun _ => b2, b3⟩,
        Or.inr (List.mem_cons.mpr b4)⟩
    · have e : (if best.ts > s.ts then best else if t < s.ts then best else s) = best := by
        by_cases h1 : best.ts > s.ts
        · exact if_pos h1
        · rw [if_neg h1, if_pos (Nat.not_le.mp fun h2 => hc ⟨Nat.not_lt.mp h1, h2⟩)]
      rw [e]
      obtain ⟨b1, b2, b3, b4⟩ := ih best h
      exact ⟨b1, b2, List.forall_mem_cons.mpr ⟨fun hs => Nat.le_trans (Nat.le_of_not_le fun h1 => hc ⟨h1, hs⟩) b2, b3⟩,
        b4.imp_right (List.mem_cons_of_mem _)⟩

/-- the chosen snapshot is never younger than the oldest new packet (so everything it has
    forgotten is older than every packet that will be fed) -/
theorem snapshot_choice_valid (snaps : List Snapshot) (oldestTs : Nat) :
    (chooseSnapshot snaps oldestTs).ts ≤ oldestTs :=
  (chooseSnapshot_aux oldestTs snaps {} (Nat.zero_le _)).1

/-- it is the latest such snapshot, and one of the stored ones (or `{}`, "no snapshot") -/
theorem snapshot_choice_latest (snaps : List Snapshot) (oldestTs : Nat) :
    (∀ s ∈ snaps, s.ts ≤ oldestTs → s.ts ≤ (chooseSnapshot snaps oldestTs).ts) ∧
    (chooseSnapshot snaps oldestTs = {} ∨ chooseSnapshot snaps oldestTs ∈ snaps) :=
  ⟨(chooseSnapshot_aux oldestTs snaps {} (Nat.zero_le _)).2.2.1, (chooseSnapshot_aux oldestTs snaps {} (Nat.zero_le _)).2.2.2⟩

/-- replay under a snapshot never feeds a packet older than the snapshot unless the snapshot
    references it -/
theorem replay_respects_snapshot (best : Snapshot) (info : PcapInfo) (pkts : List Pkt)
    (h : best.ts > info.tmin) :
    ∀ p ∈ replayPkts best info pkts, ¬ (best.ts > p.ts) ∨ p ∈ (best.refsOf info.name).filterMap (fun i => pkts[i]?) := by
  intro p hp
  simp only [replayPkts, h, if_true] at hp
  split at hp
  · rcases List.mem_append.mp hp with hp | hp
    · exact Or.inr hp
    · have := (List.mem_filter.mp hp).2
      left; simpa using this
  · exact Or.inr hp

theorem maxID_ge (i : Index) : ∀ e ∈ i.streams, e.1 ≤ i.maxID :=
  le_maxID i

theorem nextStreamID_aux (l : List Index) : ∀ (n0 : Nat),
    n0 ≤ l.foldl (fun n i => if n ≤ i.maxID then i.maxID + 1 else n) n0 ∧
    ∀ i ∈ l, i.maxID < l.foldl (fun n i => if n ≤ i.maxID then i.maxID + 1 else n) n0 := by
  rw [nextStreamID_step]
  exact fun n0 => (foldl_max_iff (P := (· ≤ _)) (fun _ _ => Nat.max_le) l n0).mp (Nat.le_refl _)

theorem next_id_above_stored (existing : List Index) :
    ∀ i ∈ existing, ∀ e ∈ i.streams, e.1 < nextStreamID existing := by
  intro i hi e he
  exact Nat.lt_of_le_of_lt (maxID_ge i e he) ((nextStreamID_aux existing 0).2 i hi)

theorem assignStep_next (nf : List String) (ex : List Index) (a : Assigned) (s : Stream) :
    a.next ≤ (assignStep nf ex a s).next := by
  rw [(assignStep_spec nf ex a s).1]
  split
  · exact Nat.le_succ _
  · exact Nat.le_refl _

/-- the next ID never decreases: neither inside one import nor from one import to the next -/
theorem next_id_monotone (nf : List String) (ex : List Index) (ss : List Stream) (next : Nat) :
    next ≤ (assignIDs nf ex ss next).next ∧
    (∀ (created : Index), nextStreamID ex ≤ nextStreamID (ex ++ [created])) := by
  constructor
  · exact List.foldlRecOn (motive := fun a => next ≤ a.next) ss _ (b := { next := next }) (Nat.le_refl _)
      fun a h s _ => Nat.le_trans h (assignStep_next nf ex a s)
  · intro created
    rw [nextStreamID_append]
    split
    · exact Nat.le_succ_of_le ‹_›
    · exact Nat.le_refl _

theorem classifyWalk_some (nf : List String) (ex : List Index) (ps : List (PRef × Bool)) :
    ∀ (id : Nat) (t : Bool), (classifyWalk nf ex ps (some id) t).1 = some id := by
  induction ps with
  | nil => exact fun id t => rfl
  | cons p ps ih =>
    intro id t
    obtain ⟨r, d⟩ := p
    by_cases hn : r.file ∈ nf
    · rw [classifyWalk_new ex d ps _ t hn]; rfl
    · rw [classifyWalk_old_some ex d ps id t hn]; exact ih id t

/-- a stream whose first packet was already indexed (it is the first packet of a stream in an
    existing index file) keeps that stream's ID, whatever follows -/
theorem ids_stable (nf : List String) (ex : List Index) (r : PRef) (d : Bool) (rest : List (PRef × Bool))
    (id : Nat) (hold : r.file ∉ nf) (hl : lookupFirst ex r.file r.idx = some id) :
    (classifyWalk nf ex ((r, d) :: rest) none false).1 = some id := by
  rw [classifyWalk_old_none ex d rest false hold, if_neg Bool.false_ne_true, hl]
  exact classifyWalk_some nf ex rest id false

theorem classifyWalk_provenance (nf : List String) (ex : List Index) (ps : List (PRef × Bool)) :
    ∀ (id : Option Nat) (t : Bool),
      (classifyWalk nf ex ps id t).1 = id ∨
      ∃ p ∈ ps, (classifyWalk nf ex ps id t).1 = lookupFirst ex p.1.file p.1.idx := by
  induction ps with
  | nil => exact fun id t => Or.inl rfl
  | cons p ps ih =>
    intro id t
    obtain ⟨r, d⟩ := p
    cases id with
    | some i => exact Or.inl (classifyWalk_some nf ex _ i t)
    | none =>
      have here : ∀ {x}, x = lookupFirst ex r.file r.idx → ∃ p ∈ (r, d) :: ps, x = lookupFirst ex p.1.file p.1.idx :=
        fun h => ⟨(r, d), List.mem_cons_self .., h⟩
      have later : ∀ t', (classifyWalk nf ex ps none t').1 = none ∨
          ∃ p ∈ (r, d) :: ps, (classifyWalk nf ex ps none t').1 = lookupFirst ex p.1.file p.1.idx := fun t' =>
        (ih none t').imp_right fun ⟨p, hp, h⟩ => ⟨p, List.mem_cons_of_mem _ hp, h⟩
      by_cases hn : r.file ∈ nf
      · rw [classifyWalk_new ex d ps none t hn]
        exact later true
      · rw [classifyWalk_old_none ex d ps t hn]
        cases t with
        | true => exact Or.inr (here rfl)
        | false =>
          rw [if_neg Bool.false_ne_true]
          cases hl : lookupFirst ex r.file r.idx with
          | none => exact later false
          | some i => exact Or.inr (here (by rw [classifyWalk_some, hl]))

/-- IDs handed out by one import: either found by a first-packet lookup in the existing index
    files, or at least the `next` the import started with -/
theorem fresh_ids_above (nf : List String) (ex : List Index) (ss : List Stream) (next : Nat) :
    ∀ e ∈ (assignIDs nf ex ss next).index,
      (∃ f i, lookupFirst ex f i = some e.1) ∨ next ≤ e.1 := by
  -- invariant of the loop: the next ID has not fallen below `next`, and the claim holds of what is written
  refine (List.foldlRecOn (motive := fun a => next ≤ a.next ∧
      ∀ e ∈ a.index, (∃ f i, lookupFirst ex f i = some e.1) ∨ next ≤ e.1) ss _ (b := { next := next })
    ⟨Nat.le_refl _, fun _ he => absurd he List.not_mem_nil⟩ fun a ⟨hn, h⟩ s _ =>
      ⟨Nat.le_trans hn (assignStep_next nf ex a s), fun e he => ?_⟩).2
  rw [(assignStep_spec nf ex a s).2] at he
  rcases List.mem_append.mp he with h' | h'
  · exact h e h'
  · split at h'
    · rw [List.mem_singleton.mp h']
      cases hid : (classifyWalk nf ex s.pkts none false).1 with
      | none => exact Or.inr hn
      | some id =>
        rcases classifyWalk_provenance nf ex s.pkts none false with p | ⟨p, _, hp⟩
        · rw [hid] at p; cases p
        · exact Or.inl ⟨p.1.file, p.1.idx, by rw [← hp, hid]; rfl⟩
    · cases h'

/-- C08, the part that holds for every arrival order: a stream written by an import either reuses
    the ID under which an existing index file stores the stream that starts with one of its
    packets, or receives an ID above every stored ID — an import never gives a stream an ID that
    belongs to an unrelated stored stream, and IDs are never handed out twice.
    Missing for the property: that the reused ID is the ID of the *same connection* and that no
    second ID stays visible.  This is false in general (`finding_F31`) and holds for strictly
    chronological arrival (`C08Chrono.no_double_id_chrono_strict`, `C08Chrono.ids_stable_chrono`). -/
theorem C08_partial (nf : List String) (ex : List Index) (ss : List Stream) :
    ∀ e ∈ (assignIDs nf ex ss (nextStreamID ex)).index,
      (∃ f i, lookupFirst ex f i = some e.1) ∨ (∀ i ∈ ex, ∀ x ∈ i.streams, x.1 < e.1) := by
  intro e he
  rcases fresh_ids_above nf ex ss (nextStreamID ex) e he with h | h
  · exact Or.inl h
  · right
    intro i hi x hx
    exact Nat.lt_of_lt_of_le (next_id_above_stored ex i hi x hx) h

def udpPkt (file : String) (idx ts : Nat) (b : UInt8) : Pkt :=
  { ts := ts, file := file, idx := idx, udp := true, src := "c", dst := "s", sport := 1111, dport := 53, payload := [b] }

/-- F31: a.pcap (t = 1 s) and c.pcap (t = 400 s) are imported, then b.pcap (t = 200 s) arrives.
    The flow had been indexed as two streams (idle > 5 min); b bridges the gap: stream 0 becomes
    a,b,c while stream 1 = c stays visible — packet c#0 is visible under two IDs. -/
theorem finding_F31 :
    let a := udpPkt "a" 0 1000000 0x41
    let b := udpPkt "b" 0 200000000 0x42
    let c := udpPkt "c" 0 400000000 0x43
    let stack := importStep ["b"] [a, b, c] (importStep ["c"] [a, c] (importStep ["a"] [a] []))
    ¬ NoDoubleIdAt stack 0 1 := by
  decide

/-- F19: a.pcap and b.pcap are both in the capture directory when the builder starts (both are
    "known"); importing b replays a as an old capture (the feed is a,b), importing a afterwards
    replays b: the flow ends up visible under the IDs 0 and 1. -/
theorem finding_F19 :
    let a := udpPkt "a" 0 1000000 0x41
    let b := udpPkt "b" 0 2000000 0x42
    let stack := importStep ["a"] [a, b] (importStep ["b"] [a, b] [])
    ¬ NoDoubleIdAt stack 0 1 := by
  decide

def tcpPkt (file : String) (idx ts : Nat) (c2s syn ack : Bool) (seq : Nat) (pl : Bytes) : Pkt :=
  { ts := ts, file := file, idx := idx, udp := false,
    src := if c2s then "c" else "s", dst := if c2s then "s" else "c",
    sport := if c2s then 40000 else 80, dport := if c2s then 80 else 40000,
    syn := syn, ack := ack, seq := seq, payload := pl }

/-- F34: byte 0x42 (seq 102) waits behind a hole (seq 101 missing) when a.pcap is imported; a packet
    in b.pcap, more than 5 min later, makes the reassembler give up the hole and deliver 0x42 to the
    old stream — which has no packet in b.pcap and therefore is not rewritten.  One-shot import:
    stream 0 carries 0x42; incremental import: stream 0 carries nothing. -/
theorem finding_F34 :
    let w := [tcpPkt "a" 0 1000000 true true false 100 [], tcpPkt "a" 1 1000010 false true true 1000 [],
              tcpPkt "a" 2 1000020 true false true 101 [], tcpPkt "a" 3 1000030 true false true 102 [0x42]]
    let late := tcpPkt "b" 0 400000000 true false true 101 [0x41]
    let incr := importStep ["b"] (w ++ [late]) (importStep ["a"] w [])
    let one := importStep ["a", "b"] (w ++ [late]) []
    (visibleStream incr 0).map (·.data) ≠ (visibleStream one 0).map (·.data) := by
  decide

example : ∃ snaps t, snaps ≠ [] ∧ (chooseSnapshot snaps t).ts ≠ 0 :=
  ⟨[{ ts := 5, chunkCount := 1 }], 7, by simp, by decide⟩

/-- `NoDoubleIdAt` is not vacuous: it holds for two different flows -/
example : NoDoubleIdAt (importStep ["a"] [udpPkt "a" 0 1000000 0x41,
    { udpPkt "a" 1 1000001 0x42 with sport := 2222 }] []) 0 1 := by decide

end Pk.Props.C08
