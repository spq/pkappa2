/-
  C15 — the full statements of Pk/Props/C15.lean, proved.
  (`varbytes_roundtrip`, `record_roundtrip`, `cache_refines_map`, `reopen_refines`,
  `truncated_prefix_serves_complete` are `def … : Prop` there.)

  Proof structure (Pk/Proofs/CacheFile*.lean): the bytes of every reachable state are the file header
  followed by a list of records (`layout rs`); `Inv st rs` says so, that the offset table is the table
  of the live records of `rs` (dead records carry the invalid id in their header), that live ids are
  distinct, that every body is skipped exactly by `skipStream`, and that `freeStart` is a record
  boundary.  `store` (with or without compaction), `invalidate`, `reset`, `reopen` keep `Inv` and act
  on the served bodies (`view rs`) like the map operations; a file cut anywhere opens as the records
  that lie completely before the cut.
-/
import Pk.Props.C15
import Pk.Proofs.CacheFileOpen
namespace Pk.Props.C15
open Pk.CacheFile Pk.Proofs.CacheFile

theorem varbytes_roundtrip_holds : varbytes_roundtrip := fun data rest h => varbytes_rt data rest h

theorem record_roundtrip_holds : record_roundtrip := fun cs t0 hok ht =>
  record_roundtrip_cts cs t0 (fun c hc => ⟨(hok c hc).1, (hok c hc).2.1⟩) ht

/-- what `OpOk` says about a stored chunk list -/
def StoreOk (cs : List Chunk) (t0 : Int) : Prop :=
  TimesOk (dropEmpty cs) t0 ∧
    ∀ c ∈ cs, c.content.length < 2 ^ 64 ∧ c.ctype.length < 2 ^ 64 ∧ (∀ b ∈ c.content, b < 256) ∧ ∀ b ∈ c.ctype, b < 256

/-- the record list serves exactly the bodies of the map -/
def Rel (rs : List Rec) (m : Nat → Option (List Chunk × Int)) : Prop :=
  ∀ id, match m id with
    | none => view rs id = none
    | some (cs, t0) => view rs id = some (encodeRecord cs t0) ∧ StoreOk cs t0

theorem step_inv (st : St) (rs : List Rec) (m : Nat → Option (List Chunk × Int)) (hi : Inv st rs) (hr : Rel rs m)
    (op : Op) (hop : OpOk op) :
    ∃ st' rs', step st op = some st' ∧ Inv st' rs' ∧ Rel rs' (specStep m op) := by
  cases op with
  | store x t0 cs =>
    obtain ⟨hx, ht, hcs⟩ := hop
    obtain ⟨st', rs', e, i, v⟩ := setData_inv st rs hi x t0 cs hx (fun c hc => ⟨(hcs c hc).1, (hcs c hc).2.1⟩)
    refine ⟨st', rs', e, i, fun id => ?_⟩
    simp only [specStep]
    rw [v id]
    by_cases hid : id = x
    · simp only [if_pos hid]
      exact ⟨trivial, ht, hcs⟩
    · simp only [if_neg hid]
      exact hr id
  | invalidate ids =>
    obtain ⟨rs', i, v⟩ := invalidate_inv ids st rs hi
    refine ⟨_, rs', rfl, i, fun id => ?_⟩
    simp only [specStep]
    rw [v id]
    by_cases hid : id ∈ ids
    · simp only [if_pos hid]
    · simp only [if_neg hid]
      exact hr id
  | reset => exact ⟨reset, [], rfl, reset_inv, fun id => rfl⟩
  | reopen =>
    obtain ⟨st', rs', e, i, v⟩ := reopen_inv st rs hi
    refine ⟨st', rs', e, i, fun id => ?_⟩
    rw [v id]
    exact hr id
  | reopenTruncated keep => exact absurd hop id

theorem run_inv : ∀ (ops : List Op) (st : St) (rs : List Rec) (m : Nat → Option (List Chunk × Int)),
    Inv st rs → Rel rs m → (∀ op ∈ ops, OpOk op) →
    ∃ st' rs', run st ops = some st' ∧ Inv st' rs' ∧ Rel rs' (specRun m ops) := by
  intro ops
  induction ops with
  | nil => intro st rs m hi hr _; exact ⟨st, rs, rfl, hi, hr⟩
  | cons op ops ih =>
    intro st rs m hi hr hok
    obtain ⟨st1, rs1, e1, i1, r1⟩ := step_inv st rs m hi hr op (hok op (by simp))
    obtain ⟨st2, rs2, e2, i2, r2⟩ := ih st1 rs1 _ i1 r1 (fun o ho => hok o (by simp [ho]))
    refine ⟨st2, rs2, ?_, i2, r2⟩
    simp only [run, e1, e2]

theorem reachable_inv (ops : List Op) (hok : ∀ op ∈ ops, OpOk op) :
    ∃ st rs, run reset ops = some st ∧ Inv st rs ∧ Rel rs (specRun (fun _ => none) ops) :=
  run_inv ops reset [] _ reset_inv (fun _ => rfl) hok

theorem cache_refines_map_holds : cache_refines_map := by
  intro ops hok
  obtain ⟨st, rs, e, i, r⟩ := reachable_inv ops hok
  refine ⟨st, e, i.size, ?_⟩
  intro id
  have hr := r id
  cases hm : specRun (fun _ => none) ops id with
  | none =>
    rw [hm] at hr
    obtain ⟨c1, c2, c3⟩ := i.contains_eq id hr
    exact ⟨c3 0, c2, c1⟩
  | some p =>
    obtain ⟨cs, t0⟩ := p
    rw [hm] at hr
    obtain ⟨hv, ht, hcs⟩ := hr
    show data st id t0 = _
    rw [i.data_eq id t0, hv]
    simp only [encodeRecord]
    rw [record_roundtrip_cts (dropEmpty cs) t0 ?_ ht]
    · rfl
    · intro c hc
      obtain ⟨hmem, hne⟩ := mem_dropEmpty.mp hc
      exact ⟨⟨hne, (hcs c hmem).1⟩, (hcs c hmem).2.1⟩

theorem reopen_refines_holds : reopen_refines := by
  intro ops hok st hrun
  obtain ⟨_, rs, e, i, _⟩ := reachable_inv ops hok
  cases hrun.symm.trans e
  exact reopen_data i

theorem truncated_prefix_serves_complete_holds : truncated_prefix_serves_complete := by
  intro ops hok st hrun
  obtain ⟨_, rs, e, i, _⟩ := reachable_inv ops hok
  cases hrun.symm.trans e
  exact truncated_data i

end Pk.Props.C15
