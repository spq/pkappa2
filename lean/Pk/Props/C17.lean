/-
  C17 — Bitmask containers behave like sets of integers.

  Every theorem is stated for *all* masks / bits / operands; nothing here is bounded.

  Abstraction: a mask `m` denotes the set `m.isSet : Nat → Bool` (`BSet`); the `*_abs` theorems say what an
  operation does to it.
  `Conn` needs the representation invariant `RInv` (runs sorted, `lo ≤ hi`, separated by a gap
  of at least one bit); every operation is shown to preserve it, so it holds for every mask
  built from `make lo hi` (lo ≤ hi) by any operation sequence (`Conn.run_inv`).
  `Long` and `Short` need no invariant.
-/
import Pk.Model.Bits
import Pk.Proofs.Bits
import Pk.Proofs.Lib
import Pk.Proofs.BitsConn
import Pk.Proofs.BitsLong
import Pk.Proofs.BitsShort

namespace Pk.Props.C17
open Pk.Bits

abbrev BSet := Nat → Bool

def specSet (s : BSet) (b : Nat) : BSet := fun x => x == b || s x
def specUnset (s : BSet) (b : Nat) : BSet := fun x => x != b && s x
def specFlip (s : BSet) (b : Nat) : BSet := fun x => if x = b then !s x else s x
def specOr (s t : BSet) : BSet := fun x => s x || t x
def specAnd (s t : BSet) : BSet := fun x => s x && t x
def specXor (s t : BSet) : BSet := fun x => s x != t x
def specSub (s t : BSet) : BSet := fun x => s x && !t x
def specInject (s : BSet) (bit : Nat) (v : Bool) : BSet :=
  fun x => if x < bit then s x else if x = bit then v else s (x - 1)
def specExtract (s : BSet) (bit : Nat) : BSet :=
  fun x => if x < bit then s x else s (x + 1)

namespace Conn
open Pk.Bits.Conn

/-- Runs are sorted, non-empty and separated by at least one clear bit.  The gap is finding F1:
    with touching runs left unmerged `Equal`, which compares run lists, denies equal sets. -/
def RInv : Pk.Bits.Conn → Prop
  | [] => True
  | [e] => e.lo ≤ e.hi
  | e :: e2 :: es => e.lo ≤ e.hi ∧ e.hi + 1 < e2.lo ∧ RInv (e2 :: es)

/-- the invariant is restated in the property file so that it reads without the proof modules; the two
    definitions compile to the same recursor term -/
private theorem rinv_eq : RInv = Pk.Proofs.Bits.Conn.RInv := by
  delta RInv Pk.Proofs.Bits.Conn.RInv; rfl

theorem make_inv (lo hi : Nat) (h : lo ≤ hi) : RInv (make lo hi) :=
  rinv_eq ▸ Pk.Proofs.Bits.Conn.make_inv lo hi h
theorem make_abs (lo hi x : Nat) : (make lo hi).isSet x = (decide (lo ≤ x) && decide (x ≤ hi)) := by
  simp [make, isSet]; grind

theorem set_abs (c : Pk.Bits.Conn) (b : Nat) (h : RInv c) : (c.set b).isSet = specSet c.isSet b :=
  funext (Pk.Proofs.Bits.Conn.set_isSet c b (rinv_eq ▸ h))
theorem set_inv (c : Pk.Bits.Conn) (b : Nat) (h : RInv c) : RInv (c.set b) :=
  rinv_eq ▸ (Pk.Proofs.Bits.Conn.set_inv_lb c b (rinv_eq ▸ h)).1
theorem unset_abs (c : Pk.Bits.Conn) (b : Nat) (h : RInv c) : (c.unset b).isSet = specUnset c.isSet b :=
  funext (Pk.Proofs.Bits.Conn.unset_isSet c b (rinv_eq ▸ h))
theorem unset_inv (c : Pk.Bits.Conn) (b : Nat) (h : RInv c) : RInv (c.unset b) :=
  rinv_eq ▸ (Pk.Proofs.Bits.Conn.unset_inv_lb c b (rinv_eq ▸ h)).1
theorem flip_abs (c : Pk.Bits.Conn) (b : Nat) (h : RInv c) : (c.flip b).isSet = specFlip c.isSet b :=
  funext (Pk.Proofs.Bits.Conn.flip_isSet c b (rinv_eq ▸ h))
theorem flip_inv (c : Pk.Bits.Conn) (b : Nat) (h : RInv c) : RInv (c.flip b) :=
  rinv_eq ▸ Pk.Proofs.Bits.Conn.flip_inv c b (rinv_eq ▸ h)

theorem or_abs (a b : Pk.Bits.Conn) (ha : RInv a) (hb : RInv b) : (Conn.or a b).isSet = specOr a.isSet b.isSet :=
  funext (Pk.Proofs.Bits.Conn.or_isSet a b (rinv_eq ▸ ha) (rinv_eq ▸ hb))
theorem or_inv (a b : Pk.Bits.Conn) (ha : RInv a) (hb : RInv b) : RInv (Conn.or a b) :=
  rinv_eq ▸ Pk.Proofs.Bits.Conn.or_inv a b (rinv_eq ▸ ha) (rinv_eq ▸ hb)
theorem and_abs (a b : Pk.Bits.Conn) (ha : RInv a) (hb : RInv b) : (Conn.and a b).isSet = specAnd a.isSet b.isSet :=
  funext (Pk.Proofs.Bits.Conn.and_isSet a b (rinv_eq ▸ ha) (rinv_eq ▸ hb))
theorem and_inv (a b : Pk.Bits.Conn) (ha : RInv a) (hb : RInv b) : RInv (Conn.and a b) :=
  rinv_eq ▸ (Pk.Proofs.Bits.Conn.and_inv_lb a b (rinv_eq ▸ ha) (rinv_eq ▸ hb)).1
theorem xor_abs (a b : Pk.Bits.Conn) (ha : RInv a) (hb : RInv b) : (Conn.xor a b).isSet = specXor a.isSet b.isSet :=
  funext (Pk.Proofs.Bits.Conn.xor_isSet a b (rinv_eq ▸ ha) (rinv_eq ▸ hb))
theorem xor_inv (a b : Pk.Bits.Conn) (ha : RInv a) (hb : RInv b) : RInv (Conn.xor a b) :=
  rinv_eq ▸ Pk.Proofs.Bits.Conn.xor_inv a b (rinv_eq ▸ ha) (rinv_eq ▸ hb)
theorem sub_abs (a b : Pk.Bits.Conn) (ha : RInv a) (hb : RInv b) : (Conn.sub a b).isSet = specSub a.isSet b.isSet :=
  funext (Pk.Proofs.Bits.Conn.sub_isSet a b (rinv_eq ▸ ha) (rinv_eq ▸ hb))
theorem sub_inv (a b : Pk.Bits.Conn) (ha : RInv a) (hb : RInv b) : RInv (Conn.sub a b) :=
  rinv_eq ▸ (Pk.Proofs.Bits.Conn.sub_inv_lb a b (rinv_eq ▸ ha) (rinv_eq ▸ hb)).1

theorem inject_abs (c : Pk.Bits.Conn) (bit : Nat) (v : Bool) (h : RInv c) :
    (c.inject bit v).isSet = specInject c.isSet bit v :=
  funext (Pk.Proofs.Bits.Conn.inject_isSet c bit v (rinv_eq ▸ h))
theorem inject_inv (c : Pk.Bits.Conn) (bit : Nat) (v : Bool) (h : RInv c) : RInv (c.inject bit v) :=
  rinv_eq ▸ Pk.Proofs.Bits.Conn.inject_inv c bit v (rinv_eq ▸ h)
theorem extract_abs (c : Pk.Bits.Conn) (bit : Nat) (h : RInv c) :
    (c.extract bit).1.isSet = specExtract c.isSet bit :=
  funext (Pk.Proofs.Bits.Conn.extract_spec c bit (rinv_eq ▸ h)).2.1
theorem extract_ret (c : Pk.Bits.Conn) (bit : Nat) (h : RInv c) : (c.extract bit).2 = c.isSet bit :=
  (Pk.Proofs.Bits.Conn.extract_spec c bit (rinv_eq ▸ h)).2.2
theorem extract_inv (c : Pk.Bits.Conn) (bit : Nat) (h : RInv c) : RInv (c.extract bit).1 :=
  rinv_eq ▸ (Pk.Proofs.Bits.Conn.extract_spec c bit (rinv_eq ▸ h)).1

theorem equal_iff (a b : Pk.Bits.Conn) (ha : RInv a) (hb : RInv b) :
    Conn.equal a b = true ↔ a.isSet = b.isSet :=
  Pk.Proofs.Bits.Conn.equal_iff a b (rinv_eq ▸ ha) (rinv_eq ▸ hb)
theorem isZero_iff (c : Pk.Bits.Conn) (h : RInv c) : c.isZero = true ↔ ∀ x, c.isSet x = false :=
  Pk.Proofs.Bits.Conn.isZero_iff c (rinv_eq ▸ h)
/-- `Len` is one more than the largest member (0 for the empty set). -/
theorem len_sup (c : Pk.Bits.Conn) (h : RInv c) :
    (∀ x, c.len ≤ x → c.isSet x = false) ∧ (0 < c.len → c.isSet (c.len - 1) = true) :=
  Pk.Proofs.Bits.Conn.len_sup c (rinv_eq ▸ h)
/-- `OnesCount` is the cardinality of the denoted set. -/
theorem onesCount_card (c : Pk.Bits.Conn) (h : RInv c) :
    c.onesCount = (List.range c.len).countP c.isSet :=
  Pk.Proofs.Bits.Conn.onesCount_card c (rinv_eq ▸ h)
end Conn

namespace Long
open Pk.Bits.Long

theorem set_abs (l : Pk.Bits.Long) (b : Nat) : (l.set b).isSet = specSet l.isSet b :=
  funext (Pk.Proofs.Bits.Long.set_isSet l b)
theorem unset_abs (l : Pk.Bits.Long) (b : Nat) : (l.unset b).isSet = specUnset l.isSet b :=
  funext (Pk.Proofs.Bits.Long.unset_isSet l b)
theorem flip_abs (l : Pk.Bits.Long) (b : Nat) : (l.flip b).isSet = specFlip l.isSet b :=
  funext (Pk.Proofs.Bits.Long.flip_isSet l b)
theorem or_abs (a b : Pk.Bits.Long) : (Long.or a b).isSet = specOr a.isSet b.isSet :=
  funext (Pk.Proofs.Bits.Long.or_isSet a b)
theorem and_abs (a b : Pk.Bits.Long) : (Long.and a b).isSet = specAnd a.isSet b.isSet :=
  funext (Pk.Proofs.Bits.Long.and_isSet a b)
theorem xor_abs (a b : Pk.Bits.Long) : (Long.xor a b).isSet = specXor a.isSet b.isSet :=
  funext (Pk.Proofs.Bits.Long.xor_isSet a b)
theorem sub_abs (a b : Pk.Bits.Long) : (Long.sub a b).isSet = specSub a.isSet b.isSet :=
  funext (Pk.Proofs.Bits.Long.sub_isSet a b)
theorem shrink_abs (l : Pk.Bits.Long) : l.shrink.isSet = l.isSet :=
  funext (Pk.Proofs.Bits.Long.shrink_isSet l)
theorem inject_abs (l : Pk.Bits.Long) (bit : Nat) (v : Bool) :
    (l.inject bit v).isSet = specInject l.isSet bit v :=
  funext (Pk.Proofs.Bits.Long.inject_isSet l bit v)
theorem equal_iff (a b : Pk.Bits.Long) : Long.equal a b = true ↔ a.isSet = b.isSet :=
  Pk.Proofs.Bits.Long.equal_iff a b
theorem isZero_iff (l : Pk.Bits.Long) : l.isZero = true ↔ ∀ x, l.isSet x = false :=
  Pk.Proofs.Bits.Long.isZero_iff l
theorem len_sup (l : Pk.Bits.Long) :
    (∀ x, l.len ≤ x → l.isSet x = false) ∧ (0 < l.len → l.isSet (l.len - 1) = true) :=
  Pk.Proofs.Bits.Long.len_sup l
theorem onesCount_card (l : Pk.Bits.Long) :
    l.onesCount = (List.range (64 * l.length)).countP l.isSet :=
  Pk.Proofs.Bits.Long.onesCount_card l
/-- `Next` returns the least member ≥ `bit`, and `none` exactly when there is none. -/
theorem next_least (l : Pk.Bits.Long) (bit : Nat) :
    (∀ n, l.next bit = some n → bit ≤ n ∧ l.isSet n = true ∧ ∀ y, bit ≤ y → y < n → l.isSet y = false) ∧
    (l.next bit = none → ∀ y, bit ≤ y → l.isSet y = false) :=
  Pk.Proofs.Bits.Long.next_least l bit

end Long

namespace Short
open Pk.Bits.Short

theorem set_abs (s : Pk.Bits.Short) (b : Nat) : (s.set b).isSet = specSet s.isSet b :=
  funext (Pk.Proofs.Bits.Short.set_isSet s b)
theorem unset_abs (s : Pk.Bits.Short) (b : Nat) : (s.unset b).isSet = specUnset s.isSet b :=
  funext (Pk.Proofs.Bits.Short.unset_isSet s b)
theorem flip_abs (s : Pk.Bits.Short) (b : Nat) : (s.flip b).isSet = specFlip s.isSet b :=
  funext (Pk.Proofs.Bits.Short.flip_isSet s b)
theorem or_abs (a b : Pk.Bits.Short) : (Short.or a b).isSet = specOr a.isSet b.isSet :=
  funext (Pk.Proofs.Bits.Short.or_isSet a b)
theorem and_abs (a b : Pk.Bits.Short) : (Short.and a b).isSet = specAnd a.isSet b.isSet :=
  funext (Pk.Proofs.Bits.Short.and_isSet a b)
theorem xor_abs (a b : Pk.Bits.Short) : (Short.xor a b).isSet = specXor a.isSet b.isSet :=
  funext (Pk.Proofs.Bits.Short.xor_isSet a b)
theorem sub_abs (a b : Pk.Bits.Short) : (Short.sub a b).isSet = specSub a.isSet b.isSet :=
  funext (Pk.Proofs.Bits.Short.sub_isSet a b)
theorem shrink_abs (s : Pk.Bits.Short) : s.shrink.isSet = s.isSet :=
  funext (Pk.Proofs.Bits.Short.shrink_isSet s)
theorem inject_abs (s : Pk.Bits.Short) (bit : Nat) (v : Bool) :
    (s.inject bit v).isSet = specInject s.isSet bit v :=
  funext (Pk.Proofs.Bits.Short.inject_isSet s bit v)
theorem extract_abs (s : Pk.Bits.Short) (bit : Nat) :
    (s.extract bit).1.isSet = specExtract s.isSet bit :=
  funext (Pk.Proofs.Bits.Short.extract_isSet s bit)
theorem extract_ret (s : Pk.Bits.Short) (bit : Nat) : (s.extract bit).2 = s.isSet bit :=
  Pk.Proofs.Bits.Short.extract_ret s bit
theorem equal_iff (a b : Pk.Bits.Short) : Short.equal a b = true ↔ a.isSet = b.isSet :=
  Pk.Proofs.Bits.Short.equal_iff a b
theorem isZero_iff (s : Pk.Bits.Short) : s.isZero = true ↔ ∀ x, s.isSet x = false :=
  Pk.Proofs.Bits.Short.isZero_iff s
theorem len_sup (s : Pk.Bits.Short) :
    (∀ x, s.len ≤ x → s.isSet x = false) ∧ (0 < s.len → s.isSet (s.len - 1) = true) :=
  Pk.Proofs.Bits.Short.len_sup s
theorem onesCount_card (s : Pk.Bits.Short) :
    s.onesCount = (List.range (64 * s.words.length)).countP s.isSet :=
  Pk.Proofs.Bits.Short.onesCount_card s

end Short

/-- Operations of the register machine the tie harness drives on the real types: registers are natural
    numbers, the three register files hold one mask of each kind per register and are driven by the
    same operation. -/
inductive Op where
  | mk (r lo hi : Nat)                 -- r := {lo..hi}   (lo ≤ hi is checked by `Op.ok`)
  | set (r b : Nat) | unset (r b : Nat) | flip (r b : Nat)
  | or (d r q : Nat) | and (d r q : Nat) | xor (d r q : Nat) | sub (d r q : Nat)   -- d := r op q
  | copy (d r : Nat)
  | inject (r b : Nat) (v : Bool)
  | extract (r b : Nat)

def Op.ok : Op → Prop
  | .mk _ lo hi => lo ≤ hi
  | _ => True

def upd {α} (f : Nat → α) (r : Nat) (v : α) : Nat → α := fun i => if i = r then v else f i

def stepSpec (f : Nat → BSet) : Op → (Nat → BSet)
  | .mk r lo hi => upd f r (fun x => decide (lo ≤ x) && decide (x ≤ hi))
  | .set r b => upd f r (specSet (f r) b)
  | .unset r b => upd f r (specUnset (f r) b)
  | .flip r b => upd f r (specFlip (f r) b)
  | .or d r q => upd f d (specOr (f r) (f q))
  | .and d r q => upd f d (specAnd (f r) (f q))
  | .xor d r q => upd f d (specXor (f r) (f q))
  | .sub d r q => upd f d (specSub (f r) (f q))
  | .copy d r => upd f d (f r)
  | .inject r b v => upd f r (specInject (f r) b v)
  | .extract r b => upd f r (specExtract (f r) b)

def stepConn (f : Nat → Pk.Bits.Conn) : Op → (Nat → Pk.Bits.Conn)
  | .mk r lo hi => upd f r (Pk.Bits.Conn.make lo hi)
  | .set r b => upd f r ((f r).set b)
  | .unset r b => upd f r ((f r).unset b)
  | .flip r b => upd f r ((f r).flip b)
  | .or d r q => upd f d (Pk.Bits.Conn.or (f r) (f q))
  | .and d r q => upd f d (Pk.Bits.Conn.and (f r) (f q))
  | .xor d r q => upd f d (Pk.Bits.Conn.xor (f r) (f q))
  | .sub d r q => upd f d (Pk.Bits.Conn.sub (f r) (f q))
  | .copy d r => upd f d (f r).copy
  | .inject r b v => upd f r ((f r).inject b v)
  | .extract r b => upd f r ((f r).extract b).1

/-- the word-based kinds have no interval constructor: `mk` sets the bits of lo..hi one by one -/
def longRange (lo hi : Nat) : Pk.Bits.Long := (List.range (hi + 1 - lo)).foldl (fun l i => l.set (lo + i)) []
def shortRange (lo hi : Nat) : Pk.Bits.Short :=
  (List.range (hi + 1 - lo)).foldl (fun s i => s.set (lo + i)) (.last 0#64)

def stepLong (f : Nat → Pk.Bits.Long) : Op → (Nat → Pk.Bits.Long)
  | .mk r lo hi => upd f r (longRange lo hi)
  | .set r b => upd f r ((f r).set b)
  | .unset r b => upd f r ((f r).unset b)
  | .flip r b => upd f r ((f r).flip b)
  | .or d r q => upd f d (Pk.Bits.Long.or (f r) (f q))
  | .and d r q => upd f d (Pk.Bits.Long.and (f r) (f q))
  | .xor d r q => upd f d (Pk.Bits.Long.xor (f r) (f q))
  | .sub d r q => upd f d (Pk.Bits.Long.sub (f r) (f q))
  | .copy d r => upd f d (f r)
  | .inject r b v => upd f r ((f r).inject b v)
  | .extract r _ => upd f r (f r)      -- LongBitmask has no Extract; see `run_agrees`

def stepShort (f : Nat → Pk.Bits.Short) : Op → (Nat → Pk.Bits.Short)
  | .mk r lo hi => upd f r (shortRange lo hi)
  | .set r b => upd f r ((f r).set b)
  | .unset r b => upd f r ((f r).unset b)
  | .flip r b => upd f r ((f r).flip b)
  | .or d r q => upd f d (Pk.Bits.Short.or (f r) (f q))
  | .and d r q => upd f d (Pk.Bits.Short.and (f r) (f q))
  | .xor d r q => upd f d (Pk.Bits.Short.xor (f r) (f q))
  | .sub d r q => upd f d (Pk.Bits.Short.sub (f r) (f q))
  | .copy d r => upd f d (f r).copy
  | .inject r b v => upd f r ((f r).inject b v)
  | .extract r b => upd f r ((f r).extract b).1

def hasExtract : Op → Bool
  | .extract _ _ => true
  | _ => false

private theorem upd_rel {α β} {R : α → β → Prop} {f : Nat → α} {g : Nat → β} (h : ∀ i, R (f i) (g i)) (r : Nat)
    {v : α} {w : β} (hv : R v w) (i : Nat) : R (upd f r v i) (upd g r w i) := by
  unfold upd; split
  · exact hv
  · exact h i

def ConnRel (c : Pk.Bits.Conn) (s : BSet) : Prop := Conn.RInv c ∧ c.isSet = s

private theorem stepConn_rel (f : Nat → Pk.Bits.Conn) (g : Nat → BSet) (o : Op) (ho : o.ok)
    (h : ∀ i, ConnRel (f i) (g i)) : ∀ i, ConnRel (stepConn f o i) (stepSpec g o i) := by
  cases o with
  | mk r lo hi => exact upd_rel h r ⟨Conn.make_inv _ _ ho, funext (Conn.make_abs lo hi)⟩
  | set r b => exact upd_rel h r ⟨Conn.set_inv _ _ (h r).1, (h r).2 ▸ Conn.set_abs _ _ (h r).1⟩
  | unset r b => exact upd_rel h r ⟨Conn.unset_inv _ _ (h r).1, (h r).2 ▸ Conn.unset_abs _ _ (h r).1⟩
  | flip r b => exact upd_rel h r ⟨Conn.flip_inv _ _ (h r).1, (h r).2 ▸ Conn.flip_abs _ _ (h r).1⟩
  | or d r q =>
    exact upd_rel h d ⟨Conn.or_inv _ _ (h r).1 (h q).1, (h r).2 ▸ (h q).2 ▸ Conn.or_abs _ _ (h r).1 (h q).1⟩
  | and d r q =>
    exact upd_rel h d ⟨Conn.and_inv _ _ (h r).1 (h q).1, (h r).2 ▸ (h q).2 ▸ Conn.and_abs _ _ (h r).1 (h q).1⟩
  | xor d r q =>
    exact upd_rel h d ⟨Conn.xor_inv _ _ (h r).1 (h q).1, (h r).2 ▸ (h q).2 ▸ Conn.xor_abs _ _ (h r).1 (h q).1⟩
  | sub d r q =>
    exact upd_rel h d ⟨Conn.sub_inv _ _ (h r).1 (h q).1, (h r).2 ▸ (h q).2 ▸ Conn.sub_abs _ _ (h r).1 (h q).1⟩
  | copy d r => exact upd_rel h d (h r)
  | inject r b v =>
    exact upd_rel h r ⟨Conn.inject_inv _ _ _ (h r).1, (h r).2 ▸ Conn.inject_abs _ _ _ (h r).1⟩
  | extract r b => exact upd_rel h r ⟨Conn.extract_inv _ _ (h r).1, (h r).2 ▸ Conn.extract_abs _ _ (h r).1⟩

private theorem run_conn_rel (ops : List Op) (hok : ∀ o ∈ ops, o.ok) (r : Nat) :
    ConnRel (ops.foldl stepConn (fun _ => []) r) (ops.foldl stepSpec (fun _ _ => false) r) :=
  Lib.foldl_sim (fun (f : Nat → Pk.Bits.Conn) (g : Nat → BSet) => ∀ i, ConnRel (f i) (g i)) stepConn stepSpec ops
    (fun f g o ho => stepConn_rel f g o (hok o ho)) (fun _ => []) (fun _ _ => false) (fun _ => ⟨trivial, rfl⟩) r

/-- every ConnectedBitmask reachable from empty masks satisfies the representation invariant -/
theorem Conn.run_inv (ops : List Op) (hok : ∀ o ∈ ops, o.ok) (r : Nat) :
    Conn.RInv (ops.foldl stepConn (fun _ => []) r) := by
  exact (run_conn_rel ops hok r).1

/-- For every operation sequence and every register, the ConnectedBitmask machine, started from
    empty masks, denotes exactly what the integer-set machine holds. -/
theorem run_conn_refines (ops : List Op) (hok : ∀ o ∈ ops, o.ok) (r : Nat) :
    (ops.foldl stepConn (fun _ => []) r).isSet = ops.foldl stepSpec (fun _ _ => false) r := by
  exact (run_conn_rel ops hok r).2

private theorem range_abs {α : Type} (put : α → Nat → α) (mem : α → BSet) (hput : ∀ s b, mem (put s b) = specSet (mem s) b)
    (init : α) (h0 : mem init = fun _ => false) (lo hi : Nat) :
    mem ((List.range (hi + 1 - lo)).foldl (fun s i => put s (lo + i)) init)
      = fun x => decide (lo ≤ x) && decide (x ≤ hi) := by
  funext x
  rw [Pk.Proofs.Bits.foldl_set_range put mem (fun s b x => congrFun (hput s b) x) init lo _ x, h0, Bool.or_false]
  by_cases h1 : lo ≤ x
  · rw [decide_eq_decide.2 (show x < lo + (hi + 1 - lo) ↔ x ≤ hi by omega)]
  · rw [decide_eq_false h1, Bool.false_and, Bool.false_and]

private theorem stepShort_rel (f : Nat → Pk.Bits.Short) (g : Nat → BSet) (o : Op)
    (h : ∀ i, (f i).isSet = g i) : ∀ i, (stepShort f o i).isSet = stepSpec g o i := by
  have upd_rel := fun r v w => upd_rel (R := fun (c : Pk.Bits.Short) (s : BSet) => c.isSet = s) h r (v := v) (w := w)
  cases o with
  | mk r lo hi =>
    exact upd_rel r _ _ (range_abs _ _ Short.set_abs _ (funext Pk.Proofs.Bits.Short.isSet_last_zero) lo hi)
  | set r b => exact upd_rel r _ _ (h r ▸ Short.set_abs _ _)
  | unset r b => exact upd_rel r _ _ (h r ▸ Short.unset_abs _ _)
  | flip r b => exact upd_rel r _ _ (h r ▸ Short.flip_abs _ _)
  | or d r q => exact upd_rel d _ _ (h r ▸ h q ▸ Short.or_abs _ _)
  | and d r q => exact upd_rel d _ _ (h r ▸ h q ▸ Short.and_abs _ _)
  | xor d r q => exact upd_rel d _ _ (h r ▸ h q ▸ Short.xor_abs _ _)
  | sub d r q => exact upd_rel d _ _ (h r ▸ h q ▸ Short.sub_abs _ _)
  | copy d r => exact upd_rel d _ _ (h r)
  | inject r b v => exact upd_rel r _ _ (h r ▸ Short.inject_abs _ _ _)
  | extract r b => exact upd_rel r _ _ (h r ▸ Short.extract_abs _ _)

theorem run_short_refines (ops : List Op) (hok : ∀ o ∈ ops, o.ok) (r : Nat) :
    (ops.foldl stepShort (fun _ => .last 0#64) r).isSet = ops.foldl stepSpec (fun _ _ => false) r := by
  have _ := hok
  exact Lib.foldl_sim (fun (f : Nat → Pk.Bits.Short) (g : Nat → BSet) => ∀ i, (f i).isSet = g i) stepShort stepSpec ops
    (fun f g o _ => stepShort_rel f g o) (fun _ => .last 0#64) (fun _ _ => false)
    (fun _ => funext Pk.Proofs.Bits.Short.isSet_last_zero) r

private theorem stepLong_rel (f : Nat → Pk.Bits.Long) (g : Nat → BSet) (o : Op) (hx : hasExtract o = false)
    (h : ∀ i, (f i).isSet = g i) : ∀ i, (stepLong f o i).isSet = stepSpec g o i := by
  have upd_rel := fun r v w => upd_rel (R := fun (c : Pk.Bits.Long) (s : BSet) => c.isSet = s) h r (v := v) (w := w)
  cases o with
  | mk r lo hi =>
    exact upd_rel r _ _ (range_abs _ _ Long.set_abs _ (funext Pk.Proofs.Bits.Long.isSet_nil) lo hi)
  | set r b => exact upd_rel r _ _ (h r ▸ Long.set_abs _ _)
  | unset r b => exact upd_rel r _ _ (h r ▸ Long.unset_abs _ _)
  | flip r b => exact upd_rel r _ _ (h r ▸ Long.flip_abs _ _)
  | or d r q => exact upd_rel d _ _ (h r ▸ h q ▸ Long.or_abs _ _)
  | and d r q => exact upd_rel d _ _ (h r ▸ h q ▸ Long.and_abs _ _)
  | xor d r q => exact upd_rel d _ _ (h r ▸ h q ▸ Long.xor_abs _ _)
  | sub d r q => exact upd_rel d _ _ (h r ▸ h q ▸ Long.sub_abs _ _)
  | copy d r => exact upd_rel d _ _ (h r)
  | inject r b v => exact upd_rel r _ _ (h r ▸ Long.inject_abs _ _ _)
  | extract r b => exact absurd hx (by simp [hasExtract])

/-- LongBitmask offers no Extract, so its run is compared on extract-free sequences. -/
theorem run_long_refines (ops : List Op) (hok : ∀ o ∈ ops, o.ok) (hne : ∀ o ∈ ops, hasExtract o = false)
    (r : Nat) :
    (ops.foldl stepLong (fun _ => []) r).isSet = ops.foldl stepSpec (fun _ _ => false) r := by
  have _ := hok
  exact Lib.foldl_sim (fun (f : Nat → Pk.Bits.Long) (g : Nat → BSet) => ∀ i, (f i).isSet = g i) stepLong stepSpec ops
    (fun f g o ho => stepLong_rel f g o (hne o ho)) (fun _ => []) (fun _ _ => false)
    (fun _ => funext Pk.Proofs.Bits.Long.isSet_nil) r

/-- the three representations agree with each other after every operation sequence -/
theorem run_agrees (ops : List Op) (hok : ∀ o ∈ ops, o.ok) (hne : ∀ o ∈ ops, hasExtract o = false) (r : Nat) :
    (ops.foldl stepConn (fun _ => []) r).isSet = (ops.foldl stepLong (fun _ => []) r).isSet ∧
    (ops.foldl stepConn (fun _ => []) r).isSet = (ops.foldl stepShort (fun _ => .last 0#64) r).isSet := by
  rw [run_conn_refines ops hok r, run_long_refines ops hok hne r, run_short_refines ops hok r]
  exact ⟨rfl, rfl⟩

/-! non-vacuity: the hypotheses are satisfiable by concrete non-trivial states -/
example : Conn.RInv [⟨0, 3⟩, ⟨5, 5⟩, ⟨64, 127⟩] := by simp [Conn.RInv]
example : (∀ o ∈ [Op.mk 0 0 3, Op.mk 1 4 5, Op.xor 2 0 1, Op.extract 2 2], o.ok) := by
  intro o ho; simp at ho; rcases ho with h | h | h | h <;> subst h <;> simp [Op.ok]
/-- the F1 witness: `XorCopy` merges touching runs -/
example : Pk.Bits.Conn.xor [⟨0, 3⟩] [⟨4, 5⟩] = [⟨0, 5⟩] := by
  simp [Pk.Bits.Conn.xor, Pk.Bits.Conn.xorGo, Pk.Bits.Conn.mergeTouching]

end Pk.Props.C17
