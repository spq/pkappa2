/-
  C11 — Tag management calls are total, atomic and keep the tag graph well-formed.

  Model: Pk/Model/TagGraph.lean, a transliteration of AddTag / DelTag / UpdateTag (query, color, name,
  converters, mark add, mark del), inheritTagUncertainty and the dereferences of startTaggingJobIfNeeded in
  internal/index/manager/manager.go, with `panic` (nil dereference of `mgr.tags[x]`) and `diverged` (a
  dependency walk that can not finish) as explicit outcomes.  The results of query.Parse on a definition are an
  arbitrary input (`Facts`) of every call: all theorems hold for every parser, and for all states, names,
  definitions, id lists and call sequences (no bound).

  What a call does is read off `step_cases` (Pk/Proofs/TagGraphStep.lean): a call is refused, or it hits a crash /
  hang site — only on a table that is not well-formed —, or it is accepted and leaves a well-formed table.
  The `Referenced` flag and the delete / rename guard are the `mirror` clause of `GraphWF` read at one tag.
  What mark add / mark del change, and the start-up validation of a saved table: Pk/Props/C11More.lean.
-/
import Pk.Model.TagGraph
import Pk.Proofs.TagGraphStep

namespace Pk.Props.C11
open Pk.TagGraph Pk.Proofs.TagGraph

/-- closed ∧ acyclic (a rank function exists) ∧ `referencedBy` = inverse of `referencedTags` -/
abbrev GraphWF (st : State) : Prop := Pk.Proofs.TagGraph.GraphWF st.tags

/-- a call that does not answer `ok` (error, and also the modelled crash/hang sites) leaves every tag unchanged -/
theorem api_atomic (st : State) (op : Op) : (step st op).1 ≠ .ok → (step st op).2 = st :=
  match step st op, step_cases st op with
  | _, .err => fun _ => rfl
  | _, .crash _ _ => fun _ => rfl
  | _, .ok _ => fun h => absurd rfl h

theorem api_atomic_err (st : State) (op : Op) (h : (step st op).1 = .err) : (step st op).2 = st :=
  api_atomic st op (by rw [h]; intro h2; cases h2)

def Good (st : State) (r : Outcome × State) : Prop :=
  GraphWF r.2 ∧ (r.1 = .ok ∨ r.1 = .err)

theorem step_good (st : State) (op : Op) (wf : GraphWF st) : Good st (step st op) :=
  match step st op, step_cases st op with
  | _, .err => ⟨wf, Or.inr rfl⟩
  | _, .crash _ h => absurd wf h
  | _, .ok h => ⟨accepted_wf wf h, Or.inl rfl⟩

theorem addTag_good (st : State) (n c d : String) (p : Facts) (wf : GraphWF st) :
    Good st (addTag st n c d p) :=
  step_good st (.add n c d p) wf

theorem delTag_good (st : State) (n : Name) (wf : GraphWF st) : Good st (delTag st n) :=
  step_good st (.del n) wf

theorem updColor_good (st : State) (n c : String) (wf : GraphWF st) : Good st (updColor st n c) :=
  step_good st (.color n c) wf

theorem updConverters_good (st : State) (n : Name) (cs : List Name) (wf : GraphWF st) :
    Good st (updConverters st n cs) :=
  step_good st (.converters n cs) wf

theorem updName_good (st : State) (n n' : String) (wf : GraphWF st) : Good st (updName st n n') :=
  step_good st (.rename n n') wf

theorem updMark_good (st : State) (n : Name) (add : Bool) (ids : List Nat) (wf : GraphWF st) :
    Good st (updMark st n add ids) := by
  cases add
  · exact step_good st (.markDel n ids) wf
  · exact step_good st (.markAdd n ids) wf

theorem updQuery_good (st : State) (n d : String) (p : Facts) (wf : GraphWF st) :
    Good st (updQuery st n d p) :=
  step_good st (.query n d p) wf

theorem graph_init (next : Nat) (convs : List Name) :
    GraphWF { tags := [], nextStreamID := next, convs := convs } := graphWF_empty

/-- every call (of any kind, with any arguments, accepted or rejected) preserves the invariant -/
theorem graph_step (st : State) (op : Op) (wf : GraphWF st) : GraphWF (step st op).2 :=
  (step_good st op wf).1

theorem graph_run (ops : List Op) : ∀ st, GraphWF st → GraphWF (run st ops) :=
  Lib.foldl_inv GraphWF _ graph_step ops

/-- hence every state reachable by any call sequence from a fresh manager is well-formed -/
theorem graph_reachable (next : Nat) (convs : List Name) (ops : List Op) :
    GraphWF (run { tags := [], nextStreamID := next, convs := convs } ops) :=
  graph_run ops _ (graph_init next convs)

/-- from a well-formed state no call crashes (nil dereference) or hangs (walk that never finishes) -/
theorem api_total (st : State) (op : Op) (wf : GraphWF st) :
    (step st op).1 = .ok ∨ (step st op).1 = .err :=
  (step_good st op wf).2

/-- `inheritTagUncertainty` (fuel |tags|+1 rounds) completes iff no reference dangles and a rank function exists -/
theorem fixpoint_terminates_iff_acyclic (m : TagMap) :
    (resolveOrder m).isSome ↔
      ((∀ n t, tget m n = some t → ∀ r ∈ t.refs, (tget m r).isSome) ∧
       (∃ rank : Name → Nat, ∀ n t, tget m n = some t → ∀ r ∈ t.refs, rank r < rank n)) :=
  resolveOrder_isSome_iff m

/-- `ListTags().Referenced` mirrors the definitions: it is set iff some existing tag references the tag -/
theorem referenced_flag_mirror (st : State) (wf : GraphWF st) (name : Name) (t : Tag)
    (ht : tget st.tags name = some t) :
    (makeTagInfo name t).referenced = true ↔ ∃ x u, tget st.tags x = some u ∧ name ∈ u.refs := by
  simp only [makeTagInfo, Bool.not_eq_true', List.isEmpty_eq_false_iff_exists_mem, wf.mirror name t ht]

/-- a tag that another tag references can be neither deleted nor renamed: the call is an error and nothing changes -/
theorem delete_rename_guard (st : State) (wf : GraphWF st) (name x : Name) (u : Tag)
    (hu : tget st.tags x = some u) (href : name ∈ u.refs) :
    (step st (.del name) = (.err, st)) ∧ (∀ new, new ≠ "" → step st (.rename name new) = (.err, st)) := by
  obtain ⟨t, ht⟩ := Option.isSome_iff_exists.mp (wf.closed x u hu name href)
  have hne : (!t.referencedBy.isEmpty) = true := (referenced_flag_mirror st wf name t ht).mpr ⟨x, u, hu, href⟩
  constructor
  · show delTag st name = _
    simp only [delTag, ht, hne, if_true]
  · intro new hnew
    show updName st name new = _
    rw [updName_eq, if_neg (by simpa using hnew), ht]
    simp only [hne, if_true, ite_self]

private def pA : Facts := { mainFeat := 4 }
private def s2 : State :=
  { tags := [("tag/a", { definition := "cport:80", mainFeat := 4, referencedBy := ["tag/b"] }),
             ("tag/b", { definition := "tag:a", mainTags := ["tag/a"], mainFeat := 64 })], nextStreamID := 4 }

/-- a state with a reference: deleting the referenced tag is refused, deleting the referrer is accepted -/
example : (step s2 (.del "tag/a")).1 = .err := by decide
example : (step s2 (.del "tag/b")).1 = .ok := by decide
/-- the modelled crash and hang sites are real outcomes on ill-formed tables (finding F13) -/
example : (step { tags := [("tag/a", { mainTags := ["tag/zz"] })] } (.del "tag/a")).1
    = .panic "DelTag.referencedTags" := by decide
private def cyc : TagMap := [("tag/a", { mainTags := ["tag/b"] }), ("tag/b", { mainTags := ["tag/a"] })]
example : inherit { tags := cyc } = none := by decide
example : inherit s2 ≠ none := by decide

end Pk.Props.C11
