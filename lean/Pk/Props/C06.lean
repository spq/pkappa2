/-
  C06 — Tag answers are never silently stale.

  Model: Pk.Model.Manager.  A tag `t` *decides* stream `id` when `id < next` and `id ∉ t.unc`; then
  `id ∈ t.mat` is its answer.  `T : String → Nat → Bool` is the ground truth ("evaluating the tag's
  current definition on the stream's current data"); it is abstract: the theorems only use how it
  may change from one state to the next (the frame hypotheses), which is exactly what the
  dependency classes of `query.Features()` promise.

  The argument, for every history and every order of job completions:
   * `unc_grows_mat_fixed` — an event that does not edit or publish tag `n` never changes `n`'s
     answers and never removes pending streams: decided answers can only become pending.
   * `inv_step_stable`     — hence, if every stream whose truth changes (or that is new) is pending
     afterwards, "decided ⇒ correct" is preserved.
   * `invalidate_covers`, `inherit_grows`, `inherit_closed` — what an import, a converter run or an edit
     makes pending: per dependency class of the definition, and transitively through tag references.
   * `tagjob_publish_sound` — publishing the result of a tagging job that was computed from the
     snapshot taken at job start is correct for every stream that is decided afterwards, provided
     every stream whose truth changed during the job is pending afterwards (which the during-job
     masks re-establish through `invalidate_covers`; mark updates and edits of referenced tags are
     recorded there: fix 5d1b844 of finding F15).
  These step theorems are CLOSED over whole histories in Pk/Props/C06Reach.lean (`decided_correct_run`:
  for every history from the initial state "decided ⇒ correct" holds in every state reached), with the
  structural invariants from Pk/Props/MgrReach.lean.  What remains assumed there, as explicit contracts:
  the search result handed to a completion is the truth at job start for the streams it was asked about
  (`ResultOK`; that is C02–C04), how the truth may move per dependency class and along references
  (`TruthStep`; exercised per definition by the scenario harness' own evaluator), and three payload facts
  (`ImportAddsNew`, `EvFeatOK`, `JobTextOK`) — each with a machine-checked counterexample.

  `inheritTagUncertainty` / `invalidateTags` do not only add pending ids, they also REPLACE a pending
  set by `{0..all-1}`.  "Pending never shrinks" therefore needs that pending ids are existing stream
  ids (`UncBounded`, resp. the per-tag / per-argument bounds `hb`, `hadd`, `hrst`, `hupd`) and
  `inv_step_stable` needs `nextStreamID ≤ |allStreams|` (`hna`); the counterexample to the unguarded
  statement stands at each such hypothesis.
-/
import Pk.Model.Manager
import Pk.Props.MgrSpec
import Pk.Proofs.MgrTagsInherit
import Pk.Proofs.MgrTagsFrame
import Pk.Proofs.MgrTagsStep

namespace Pk.Props.C06
open Pk.Mgr
open Pk.Proofs

/-- "decided ⇒ correct" for all tags -/
def Inv (s : St) (T : String → Nat → Bool) : Prop :=
  ∀ n t, sget s.tags n = some t → ∀ id, id < s.next → id ∉ t.unc → (id ∈ t.mat ↔ T n id = true)

/-- tag names are unique keys of the table (kept by `sins`) -/
def TagsWF (s : St) : Prop := (s.tags.map (·.1)).Pairwise (· < ·)

/-- pending sets only mention stream ids below `allStreams`: without this bound the replacement of a
    pending set by `{0..all-1}` can drop a pending id ≥ `all` -/
def UncBounded (s : St) : Prop := ∀ n t, sget s.tags n = some t → ∀ id, id ∈ t.unc → id < s.all

theorem tagsWF_step (s : St) (e : Ev) (st : Started) (h : TagsWF s) : TagsWF (step s e st).1 :=
  (MgrTags.step_frame s e st).1 h

/-- an event that does not edit or publish `n` keeps `n`'s definition and answers; pending
    streams stay pending -/
theorem unc_grows_mat_fixed (s : St) (e : Ev) (st : Started) (n : String) (t : Tag)
    (hw : TagsWF s) (ht : sget s.tags n = some t) (hne : ¬ Edits e n)
    -- the tag's pending ids are stream ids that exist after the event.  Without it the
    -- statement is false: tags a (unc=[5]) and b (subT=[a], unc=[7]), all=0, jConv=some([],[]),
    -- event convertDone: `inherit` replaces b.unc by rangeSet 0 = [], so 7 ceases to be pending.
    (hb : ∀ id, id ∈ t.unc → id < (step s e st).1.all) :
    ∃ t', sget (step s e st).1.tags n = some t' ∧ t'.mat = t.mat ∧ t'.defn = t.defn ∧
          ∀ id, id ∈ t.unc → id ∈ t'.unc := by
  have _ := hw
  obtain ⟨t', h', hr⟩ := ((MgrTags.step_frame s e st).2.1 n hne).1 t ht
  exact ⟨t', h', hr.1, hr.2.1, fun id hid => hr.2.2 id hid (hb id hid)⟩

/-- preservation of "decided ⇒ correct" by every event that only invalidates: the frame
    hypothesis says that every stream that is new or whose truth changed is pending afterwards -/
theorem inv_step_stable (s : St) (e : Ev) (st : Started) (T T' : String → Nat → Bool)
    (hw : TagsWF s) (hinv : Inv s T)
    (hstable : ∀ n, ¬ Edits e n)
    -- stream ids in use are existing streams (`nextStreamID ≤ |allStreams|`).  Without it
    -- the statement is false: next=10, all=0, tags a (unc=[5]) and b (subT=[a], unc=[7], mat=[7]),
    -- T b 7 = false, T' = T, jConv=some([],[]), event convertDone: `inherit` sets b.unc := rangeSet 0,
    -- so 7 < next becomes decided with the wrong answer although nothing changed.
    (hna : s.next ≤ s.all)
    (hframe : ∀ n t', sget (step s e st).1.tags n = some t' → ∀ id, id < (step s e st).1.next →
                (s.next ≤ id ∨ T' n id ≠ T n id) → id ∈ t'.unc) :
    Inv (step s e st).1 T' := by
  have _ := hw
  exact fun n => MgrTags.inv_at_step s e st T T' n (hinv n) (hstable n) hna (hframe n)

/-- what `invalidateTags` makes pending, by dependency class of the definition (before the
    propagation through references) -/
theorem invalidate_covers (s : St) (upd rst add : IdSet) (n : String) (t : Tag)
    (hw : TagsWF s) (ht : sget s.tags n = some t)
    -- all ids involved are existing stream ids.  Without these the statement is false:
    -- one tag d with sfeat=1, unc=[3], all=2: `invalidateTags s [] [] [9]` sets d.unc := [0,1],
    -- losing the pending id 3 (needs hb) and not containing the added id 9 (needs hadd); the same
    -- replacement by `rangeSet all` happens in `inherit` for a tag with a pending sub-query
    -- reference, which is why `rst` and `upd` need the bound as well.
    (hb : ∀ id, id ∈ t.unc → id < s.all) (hadd : ∀ id, id ∈ add → id < s.all)
    (hrst : ∀ id, id ∈ rst → id < s.all) (hupd : ∀ id, id ∈ upd → id < s.all) :
    ∃ t', sget (invalidateTags s upd rst add).tags n = some t' ∧ t'.mat = t.mat ∧
      (∀ id, id ∈ t.unc → id ∈ t'.unc) ∧
      (∀ id, id ∈ add → id ∈ t'.unc) ∧
      (t.sfeat ≠ 0 → ∀ id, id < s.all → id ∈ t'.unc) ∧
      (t.mfeat &&& (255 - fID) ≠ 0 → ∀ id, id ∈ rst → id ∈ t'.unc) ∧
      (t.mfeat &&& (fData ||| fTimeAbs ||| fTimeRel) ≠ 0 → ∀ id, id ∈ upd → id ∈ t'.unc) := by
  have _ := hw
  rw [MgrTags.invalidateTags_eq]
  have hk := MgrTags.inherit_keep
    { s with tags := s.tags.map fun p => (p.1, MgrTags.invF s.all upd rst add p.2) } n
  obtain ⟨t', h', hr⟩ := hk.1 (MgrTags.invF s.all upd rst add t)
    (by simp only [Pk.Mgr.sget_map (fun _ t => MgrTags.invF s.all upd rst add t), ht, Option.map_some])
  have h0 := MgrTags.trel_invF s.all upd rst add t
  refine ⟨t', h', hr.1.trans h0.1, ?_, ?_, ?_, ?_, ?_⟩
  · exact fun id h => hr.2.2 id (h0.2.2 id h (hb id h)) (hb id h)
  · exact fun id h => hr.2.2 id (MgrTags.invF_add t id h (hadd id h)) (hadd id h)
  · exact fun hs id h => hr.2.2 id (MgrTags.invF_sub t hs id h) h
  · exact fun hm id h => hr.2.2 id (MgrTags.invF_rst t hm id h (hrst id h)) (hrst id h)
  · exact fun hm id h => hr.2.2 id (MgrTags.invF_upd t hm id h (hupd id h)) (hupd id h)

/-- propagation never removes a pending stream and never touches answers -/
theorem inherit_grows (s : St) (n : String) (t : Tag) (hw : TagsWF s) (ht : sget s.tags n = some t)
    -- the tag's pending ids are existing stream ids.  Without it the statement is false:
    -- tags a (unc=[5]) and b (subT=[a], unc=[7]), all=0: `inherit` sets b.unc := rangeSet 0 = [].
    (hb : ∀ id, id ∈ t.unc → id < s.all) :
    ∃ t', sget (inherit s).tags n = some t' ∧ t'.mat = t.mat ∧ t'.defn = t.defn ∧
          ∀ id, id ∈ t.unc → id ∈ t'.unc := by
  have _ := hw
  obtain ⟨t', h', hr⟩ := (MgrTags.inherit_keep s n).1 t ht
  exact ⟨t', h', hr.1, hr.2.1, fun id h => hr.2.2 id h (hb id h)⟩

/-- after propagation a tag is pending wherever a tag it references through its main query is,
    and everywhere if a tag it references through a sub-query has pending streams -/
theorem inherit_closed (s : St) (hw : TagsWF s)
    -- pending ids are existing stream ids.  Without it the statement is false: tags a
    -- (unc=[5]), c (unc=[1]), b (mainT=[a], subT=[c]), all=0: `inherit` sets b.unc := rangeSet 0 = []
    -- while the main-query reference a still has 5 pending; `diverged` stays false.
    (hb : UncBounded s)
    (hok : (inherit s).diverged = false)
    (n : String) (t' : Tag) (ht : sget (inherit s).tags n = some t') :
    (∀ r ∈ t'.mainT, ∀ id, id ∈ tagUnc (inherit s).tags r → id ∈ t'.unc) ∧
    ((∃ r ∈ t'.subT, tagUnc (inherit s).tags r ≠ []) → ∀ id, id < s.all → id ∈ t'.unc) := by
  rw [MgrTags.inherit_diverged] at hok
  simp only [Bool.or_eq_false_iff, Bool.not_eq_false'] at hok
  exact MgrTags.inherit_closed s hw hb hok.2 n t' ht

/-- publishing a tagging-job result: correct for every stream that is decided afterwards -/
theorem tagjob_publish_sound (s : St) (st : Started) (name : String) (snap ot : Tag) (held result : List Nat)
    (T0 T : Nat → Bool)
    (hw : TagsWF s)
    (hj : s.jTag = some (name, snap, held)) (ht : sget s.tags name = some ot) (hd : ot.defn = snap.defn)
    (hg : ot.gen = snap.gen)  -- the tag is still the incarnation the job was started for
    -- what the snapshot had decided was correct when the job started
    (hsnap : ∀ id, id < s.next → id ∉ snap.unc → (id ∈ snap.mat ↔ T0 id = true))
    -- the search answered exactly for the streams it was asked about
    (hres : ∀ id, id ∈ result ↔ (id ∈ snap.unc ∧ T0 id = true))
    -- every stream whose truth changed while the job ran is pending after the completion
    (hcov : ∀ t', sget (step s (.tagDone name result) st).1.tags name = some t' →
              ∀ id, id < s.next → T id ≠ T0 id → id ∈ t'.unc) :
    ∀ t', sget (step s (.tagDone name result) st).1.tags name = some t' →
      ∀ id, id < s.next → id ∉ t'.unc → (id ∈ t'.mat ↔ T id = true) := by
  have _ := hw
  intro t' h' id hid hnu
  have hT : T id = T0 id := by
    rcases Decidable.em (T id = T0 id) with h | h
    · exact h
    · exact absurd (hcov t' h' id hid h) hnu
  rw [MgrTags.step_tagDone_mat s st name snap ot held result hj ht hd hg t' h', hT]
  simp only [Pk.Mgr.mem_union, Pk.Mgr.mem_diff, Pk.Mgr.mem_ofList, hres]
  by_cases hu : id ∈ snap.unc
  · simp [hu]
  · simp [hu, hsnap id hid hu]

/-- a mark update changes exactly the given streams -/
theorem mark_update_exact (s : St) (name : String) (t : Tag) (addIds delIds : List Nat)
    (hw : TagsWF s) (ht : sget s.tags name = some t) :
    ∃ t', sget (markUpdate s name addIds delIds).1.tags name = some t' ∧
      ∀ id, id ∈ t'.mat ↔ ((id ∈ t.mat ∨ id ∈ addIds) ∧ id ∉ delIds) := by
  have _ := hw
  exact MgrTags.markUpdate_mat s name t addIds delIds ht

theorem mem_union (a b : IdSet) (x : Nat) : x ∈ union a b ↔ x ∈ a ∨ x ∈ b := Pk.Mgr.mem_union a b x
theorem mem_diff (a b : IdSet) (x : Nat) : x ∈ diff a b ↔ x ∈ a ∧ x ∉ b := Pk.Mgr.mem_diff a b x
theorem mem_inter (a b : IdSet) (x : Nat) : x ∈ inter a b ↔ x ∈ a ∧ x ∈ b := Pk.Mgr.mem_inter a b x
theorem mem_rangeSet (n x : Nat) : x ∈ rangeSet n ↔ x < n := Pk.Mgr.mem_rangeSet n x

end Pk.Props.C06
