/-
  C19 — file endpoints stay inside the capture directory and never overwrite.

  The handlers are step machines over a disk model, parameterised by facts (`Facts`) regenerated from
  cmd/pkappa2/main.go into Pk/Gen/Routes.lean on every run of the check.  Nothing is bounded: paths,
  request parameters, disks, bodies, the number of requests and the schedules are arbitrary.
  Modelled, not verified: path/filepath, chi routing, http.ServeFile and the OS (see Model/Path.lean);
  the correspondence check exercises them against the model.

  Trap: `base n = n` does NOT imply that `n` has no '/', since "/" is a fixed point of filepath.Base
  (`base_fixed_point_iff`).  It is the route patterns that exclude "/", "." and ".."
  (`pattern_excludes_dots`).
-/
import Pk.Model.Path
import Pk.Model.Upload
import Pk.Proofs.Path
import Pk.Proofs.Upload
import Pk.Proofs.UploadExcl
import Pk.Gen.Routes

namespace Pk.Props.C19
open Pk.Path Pk.Upload

/-- what the extractor (harness/cmd/c19extract) reads from cmd/pkappa2/main.go; texts of messages are
    masked ("…") and statements that only log are left out -/
def Expected.routes : Routes :=
  { uploads := [
    { method := "Post", pattern := "/upload/{filename:.+[.]pcap(ng)?}", paramVar := "filename", paramKey := "filename", guardFirst := true,
      joinArgs := ["*baseDir, *pcapDir", "*baseDir, *pcapDir, filename"],
      events := [
        "filename := chi.URLParam(r, \"filename\")",
        "if filename != filepath.Base(filename) {",
        "http.Error(w, \"…\", http.StatusBadRequest)",
        "return",
        "}",
        "tools.AssertFolderRWXPermissions(\"pcap_dir\", filepath.Join(*baseDir, *pcapDir))",
        "fullFilename := filepath.Join(*baseDir, *pcapDir, filename)",
        "dst, err := os.OpenFile(fullFilename, os.O_CREATE|os.O_EXCL|os.O_WRONLY, 0666)",
        "if err != nil {",
        "http.Error(w, fmt.Sprintf(\"…\", err), http.StatusInternalServerError)",
        "return",
        "}",
        "if _, err := io.Copy(dst, r.Body); err != nil {",
        "http.Error(w, fmt.Sprintf(\"…\", err), http.StatusInternalServerError)",
        "if err := dst.Close(); err != nil {",
        "}",
        "if err := os.Remove(fullFilename); err != nil {",
        "}",
        "return",
        "}",
        "if err := dst.Close(); err != nil {",
        "http.Error(w, fmt.Sprintf(\"…\", err), http.StatusInternalServerError)",
        "if err := os.Remove(fullFilename); err != nil {",
        "}",
        "return",
        "}",
        "mgr.ImportPcaps([]string{filename})",
        "http.Error(w, \"…\", http.StatusOK)"] }],
    downloads := [
    { method := "Get", pattern := "/api/download/pcap/{file:[^/\\\\]+[.]pcap}", paramVar := "filename", paramKey := "file", guardFirst := true,
      joinArgs := ["*baseDir, *pcapDir, filename"],
      events := [
        "filename := chi.URLParam(r, \"file\")",
        "if filename != filepath.Base(filename) {",
        "http.Error(w, \"…\", http.StatusBadRequest)",
        "return",
        "}",
        "fullFilename := filepath.Join(*baseDir, *pcapDir, filename)",
        "http.ServeFile(w, r, fullFilename)"] }],
    openFlags := ["os.O_CREATE", "os.O_EXCL", "os.O_WRONLY"],
    openPerm := "0666",
    mainPath := [
      "chi.URLParam",
      "filepath.Base",
      "tools.AssertFolderRWXPermissions",
      "filepath.Join",
      "filepath.Join",
      "os.OpenFile(fullFilename)",
      "io.Copy",
      "dst.Close",
      "mgr.ImportPcaps([]string{filename})",
      "http.Error(http.StatusOK)"],
    openFailPath := ["http.Error(http.StatusInternalServerError)", "return"],
    copyFailPath := [
      "http.Error(http.StatusInternalServerError)",
      "dst.Close",
      "os.Remove(fullFilename)",
      "return"],
    closeFailPath := [
      "http.Error(http.StatusInternalServerError)",
      "os.Remove(fullFilename)",
      "return"],
    facts := { upGuard := true, upCreate := true, upExcl := true, upTrunc := false,
               upRemoveOnCopyFail := true, upImports := 1, downGuard := true } }

/-- the tie to the source: the handlers as regenerated are the handlers the theorems are about -/
theorem gen_routes_as_expected : Pk.Gen.Routes.routes = Expected.routes := rfl

theorem expected_facts : Expected.routes.facts = Facts.expected := by decide

/-- the facts the model is run with in the correspondence check are the expected ones -/
theorem gen_facts_expected : Pk.Gen.Routes.routes.facts = Facts.expected := by
  rw [gen_routes_as_expected]; exact expected_facts

/-- a fixed point of `filepath.Base` is "/" or a single component: ".", ".." or a plain name -/
theorem base_fixed_point_is_component (n : P) (h : base n = n) :
    n = ['/'] ∨ (n ≠ [] ∧ '/' ∉ n ∧ (n = ['.'] ∨ n = ['.', '.'] ∨ plain n)) := by
  rcases base_fixed n h with h | ⟨h1, h2⟩
  · exact Or.inl h
  · refine Or.inr ⟨h1, h2, ?_⟩
    by_cases h3 : n = ['.']
    · exact Or.inl h3
    · by_cases h4 : n = ['.', '.']
      · exact Or.inr (Or.inl h4)
      · exact Or.inr (Or.inr ⟨h1, h2, h3, h4⟩)

theorem base_fixed_point_iff (n : P) : base n = n ↔ n = ['/'] ∨ (n ≠ [] ∧ '/' ∉ n) := by
  constructor
  · exact base_fixed n
  · rintro (h | ⟨h1, h2⟩)
    · subst h; decide
    · exact base_of_noslash n h1 h2

/-- a name matching `.+[.]pcap(ng)?` or `[^/\\]+[.]pcap` is none of "", ".", "..", "/" -/
theorem pattern_excludes_dots (n : P) (h : matchUploadRegex n = true ∨ matchDownloadRegex n = true) :
    n ≠ [] ∧ n ≠ ['.'] ∧ n ≠ ['.', '.'] ∧ n ≠ ['/'] := by
  have hl : 6 ≤ n.length := by
    rcases h with h | h
    · exact matchUploadRegex_len n h
    · exact matchDownloadRegex_len n h
  refine ⟨?_, ?_, ?_, ?_⟩ <;> (intro e; subst e; simp at hl)

/-- what passes the route pattern and the `filename != filepath.Base(filename)` guard is a plain name -/
theorem guarded_name_is_plain (n : P) (hm : matchUploadRegex n = true ∨ matchDownloadRegex n = true)
    (hg : base n = n) : plain n := by
  obtain ⟨h1, h2, h3, h4⟩ := pattern_excludes_dots n hm
  rcases base_fixed n hg with h | ⟨_, h⟩
  · exact absurd h h4
  · exact ⟨h1, h, h2, h3⟩

/-- chi's segment matching alone already yields plain names (on unix the guard is a second line of defence) -/
theorem routed_name_is_plain (rp n : P) (h : uploadParam rp = some n ∨ downloadParam rp = some n) : plain n := by
  rcases h with h | h
  · unfold uploadParam at h
    split at h
    · split at h
      · rename_i hc
        injection h with h; subst h
        exact plain_of_len _ hc.1 (matchUploadRegex_len _ hc.2)
      · cases h
    · cases h
  · unfold downloadParam at h
    split at h
    · split at h
      · rename_i hc
        injection h with h; subst h
        exact plain_of_len _ hc.1 (matchDownloadRegex_len _ hc.2)
      · cases h
    · cases h

theorem join_child_general (dirs : List P) (n : P) (h : plain n) : join (dirs ++ [n]) = child (join dirs) n :=
  join_append_plain dirs n h

/-- the form of both handlers: `filepath.Join(*baseDir, *pcapDir, filename)` is the direct child
    `filename` of the capture directory `filepath.Join(*baseDir, *pcapDir)` (what main passes to manager.New) -/
theorem join_child (b p n : P) (h : plain n) : join [b, p, n] = child (join [b, p]) n :=
  join_append_plain [b, p] n h

/-- a direct child never is the directory itself or above it: its last element is the name -/
theorem child_base (d n : P) (h : plain n) : base (child d n) = n :=
  base_child d n h.1 h.2.1

/-- **Upload stays inside.**  Any number of upload requests, started with whatever parameter strings
    the router extracted (only the route pattern is assumed), interleaved in any order, with any copy
    failures, on any disk: a path that is not a direct child `captureDir/n` (plain `n`) of the capture
    directory is never created, modified or removed.  Needs only the guard fact. -/
theorem upload_stays_inside (c : Cfg) (hg : c.facts.upGuard = true) (w : World) (reqs : List Req)
    (hstart : ∀ r ∈ reqs, r.pc = .start) (hpat : ∀ r ∈ reqs, matchUploadRegex r.param = true)
    (sched : List Nat) (k : P) (hk : ∀ n, plain n → k ≠ child c.captureDir n) :
    (Sys.run c ⟨w, reqs⟩ sched).world.disk.lookup k = w.disk.lookup k := by
  refine Sys.run_spares c ⟨w, reqs⟩ sched k fun r hr => ?_
  by_cases hb : r.param = base r.param
  · have hpl := guarded_name_is_plain r.param (Or.inl (hpat r hr)) hb.symm
    refine Or.inl ?_
    rw [show c.full r.param = child c.captureDir r.param from join_child _ _ _ hpl]
    exact hk _ hpl
  · exact Or.inr (Or.inr ⟨hg, hstart r hr, hb⟩)

/-- **Download reads only a child.**  The only path the download handler hands to `http.ServeFile`
    is a direct child `captureDir/n` with `n` plain, for every parameter string matching the route
    pattern and every `r.URL.Path`; the handler has no access to the disk other than that read. -/
theorem download_reads_only_child (c : Cfg) (hg : c.facts.downGuard = true) (d : Disk) (urlPath param path : P)
    (res : DownResult) (hpat : matchDownloadRegex param = true)
    (h : download c d urlPath param = (some path, res)) :
    plain param ∧ path = child c.captureDir param := by
  obtain ⟨rfl, hb⟩ := download_path h
  have hpl := guarded_name_is_plain param (Or.inr hpat) (hb hg)
  exact ⟨hpl, join_child _ _ _ hpl⟩

/-- **Sequential upload.**  One upload request run to completion (expected facts), any disk, any
    parameter, with or without a copy failure:
    * it always terminates with a response;
    * a name that is already stored (file or directory) is answered with a failure;
    * success ⇒ the name was absent, now holds exactly the request body, and `ImportPcaps` was called
      exactly once, with that name;
    * failure ⇒ nothing was queued and **no** path of the disk differs from before (a failed copy removes
      precisely the file it created). -/
theorem upload_sequential (c : Cfg) (hf : c.facts = Facts.expected) (w : World) (r : Req) (hs : r.pc = .start) :
    (runReq c w r).2.pc = .done ∧
    (∀ e, w.disk.lookup (c.full r.param) = some e → (runReq c w r).2.code ≠ 200) ∧
    ((runReq c w r).2.code = 200 →
        w.disk.lookup (c.full r.param) = none ∧
        (runReq c w r).1.disk.lookup (c.full r.param) = some (.file ⟨r.body, none, r.id⟩) ∧
        (runReq c w r).1.queue = w.queue ++ [r.param]) ∧
    ((runReq c w r).2.code ≠ 200 →
        (runReq c w r).1.queue = w.queue ∧ ∀ k, (runReq c w r).1.disk.lookup k = w.disk.lookup k) := by
  -- a rejected request: one step, the rest are no-ops
  have rej : ∀ code, step c w r = (w, finish r code) → runReq c w r = (w, finish r code) := by
    intro code h
    simp [runReq, h, step_done w (r := finish r code) rfl]
  rcases step_start w hf hs with ⟨code, hcode, he, _⟩ | ⟨hl, he⟩
  · rw [rej code he]
    simp [finish, hcode]
  · let full := c.full r.param
    let w1 : World := { w with disk := w.disk.insert full (.file ⟨r.body, some 0, r.id⟩) }
    have h1 : step c w r = (w1, { r with pc := .opened }) := he
    have h2 := step_opened w1 (r := { r with pc := .opened }) rfl (lookup_insert_self w.disk full _)
    cases hfa : r.failAt with
    | none =>
      let w2 : World := { w1 with disk := w1.disk.insert full (.file ⟨r.body, none, r.id⟩) }
      have h2 : step c w1 { r with pc := .opened } = (w2, { r with pc := .copied }) := by
        rw [h2]; simp [hfa, w2, full]
      have h3 := step_copied (c := c) w2 (r := { r with pc := .copied }) rfl
      have h4 := step_closed w2 hf (r := { r with pc := .closed }) rfl
      have h5 := step_done (c := c) { w2 with queue := w2.queue ++ [r.param] }
        (r := { r with pc := .done, code := 200 }) rfl
      have : runReq c w r = ({ w2 with queue := w2.queue ++ [r.param] }, { r with pc := .done, code := 200 }) := by
        simp only [runReq, h1, h2, h3, h4, h5]
      rw [this]
      simp [w2, w1, full, lookup_insert_self, hl]
    | some k =>
      let w2 : World := { w1 with disk := w1.disk.insert full (.file ⟨r.body, some k, r.id⟩) }
      have h2 : step c w1 { r with pc := .opened } = (w2, { r with pc := .copyFailed }) := by
        rw [h2]; simp [hfa, w2, full]
      have h3 := step_copyFailed (c := c) w2 (r := { r with pc := .copyFailed }) rfl
      have h4 := step_cfClosed w2 hf (r := { r with pc := .cfClosed }) rfl (lookup_insert_self w1.disk full _)
      have h5 := step_done (c := c) { w2 with disk := w2.disk.erase full }
        (r := { r with pc := .done, code := 500 }) rfl
      have : runReq c w r = ({ w2 with disk := w2.disk.erase full }, { r with pc := .done, code := 500 }) := by
        simp only [runReq, h1, h2, h3, h4, h5, full]
      rw [this]
      refine ⟨rfl, by simp, by simp, fun _ => ⟨rfl, ?_⟩⟩
      intro k'
      simp only [w2, w1]
      by_cases hk : k' = full
      · rw [hk, lookup_erase_self]; exact hl.symm
      · rw [lookup_erase_ne _ _ _ hk, lookup_insert_ne _ _ _ _ hk, lookup_insert_ne _ _ _ _ hk]

/-- outcome of two concurrent uploads of one name, for **every** interleaving of their atomic
    steps and **every** pattern of copy failures: never two successes; a success means the stored
    file is exactly that request's body; if both fail the path holds what it held before (a failed
    copy removed only the file that request had created); `ImportPcaps` was called once per
    success; no other path changed. -/
theorem upload_at_most_one (c : Cfg) (hf : c.facts = Facts.expected) (w0 : World) (n : P)
    (id1 id2 b1 b2 : Nat) (f1 f2 : Option Nat) (hid : id1 ≠ id2) (sched : List Nat) :
    ∃ w a b, Sys.run c ⟨w0, [⟨id1, n, b1, f1, .start, 0⟩, ⟨id2, n, b2, f2, .start, 0⟩]⟩ sched = ⟨w, [a, b]⟩ ∧
      ¬ (a.code = 200 ∧ a.pc = .done ∧ b.code = 200 ∧ b.pc = .done) ∧
      (a.pc = .done → a.code = 200 → w.disk.lookup (c.full n) = some (.file ⟨b1, none, id1⟩)) ∧
      (b.pc = .done → b.code = 200 → w.disk.lookup (c.full n) = some (.file ⟨b2, none, id2⟩)) ∧
      (a.pc = .done → b.pc = .done → a.code ≠ 200 → b.code ≠ 200 →
          w.disk.lookup (c.full n) = w0.disk.lookup (c.full n) ∧ w.queue = w0.queue) ∧
      w.queue = w0.queue ++ List.replicate (succ a + succ b) n ∧
      (∀ k, k ≠ c.full n → w.disk.lookup k = w0.disk.lookup k) := by
  obtain ⟨w, a, b, hrun, inv, fa, fb, _⟩ := run_two_start hf w0 n id1 id2 b1 b2 f1 f2 hid sched
  refine ⟨w, a, b, hrun, ?_, ?_, ?_, ?_, inv.queue, inv.frame⟩
  · intro ⟨h1, h2, h3, h4⟩
    exact inv.excl ⟨by simp [holds, h1, h2], by simp [holds, h3, h4]⟩
  · intro h1 h2
    exact fa (by simp [complete, h1, h2])
  · intro h1 h2
    exact fb (by simp [complete, h1, h2])
  · intro h1 h2 h3 h4
    refine ⟨inv.absent (by simp [holds, h1, h3]) (by simp [holds, h2, h4]), ?_⟩
    simpa [succ, h3, h4] using inv.queue

/-- **Upload exclusive.**  Two concurrent uploads of one name, every interleaving, no copy failure:
    * the name is already stored  ⇒ both fail, the stored entry is untouched, nothing is queued;
    * the name is fresh and acceptable to the guard and the OS ⇒ exactly one succeeds (the other gets
      500), the stored bytes are the winner's body, and `ImportPcaps` was called exactly once, for it. -/
theorem upload_exclusive (c : Cfg) (hf : c.facts = Facts.expected) (w0 : World) (n : P)
    (id1 id2 b1 b2 : Nat) (hid : id1 ≠ id2) (sched : List Nat)
    (hdone : (Sys.run c ⟨w0, [⟨id1, n, b1, none, .start, 0⟩, ⟨id2, n, b2, none, .start, 0⟩]⟩ sched).allDone = true) :
    ∃ w a b, Sys.run c ⟨w0, [⟨id1, n, b1, none, .start, 0⟩, ⟨id2, n, b2, none, .start, 0⟩]⟩ sched = ⟨w, [a, b]⟩ ∧
      (∀ k, k ≠ c.full n → w.disk.lookup k = w0.disk.lookup k) ∧
      (∀ e, w0.disk.lookup (c.full n) = some e →
          a.code ≠ 200 ∧ b.code ≠ 200 ∧ w.disk.lookup (c.full n) = some e ∧ w.queue = w0.queue) ∧
      (w0.disk.lookup (c.full n) = none → n = base n → sysRejects (c.full n) = false →
          ((a.code = 200 ∧ b.code = 500 ∧ w.disk.lookup (c.full n) = some (.file ⟨b1, none, id1⟩)) ∨
           (a.code = 500 ∧ b.code = 200 ∧ w.disk.lookup (c.full n) = some (.file ⟨b2, none, id2⟩))) ∧
          w.queue = w0.queue ++ [n]) := by
  obtain ⟨w, a, b, hrun, inv, fa, fb, live⟩ := run_two_start hf w0 n id1 id2 b1 b2 none none hid sched
  rw [hrun] at hdone
  have hda : a.pc = .done := by simp [Sys.allDone] at hdone; exact hdone.1
  have hdb : b.pc = .done := by simp [Sys.allDone] at hdone; exact hdone.2
  refine ⟨w, a, b, hrun, inv.frame, ?_, ?_⟩
  · intro e he
    obtain ⟨ha, hb, hl, hq⟩ := inv.stored he
    exact ⟨by simpa [holds, hda] using ha, by simpa [holds, hdb] using hb, hl, hq⟩
  · intro hfresh hguard hsys
    have lv := live rfl rfl hguard hsys hfresh
    by_cases ha : a.code = 200
    · have nb : b.code ≠ 200 := fun hb => inv.excl ⟨by simp [holds, hda, ha], by simp [holds, hdb, hb]⟩
      refine ⟨Or.inl ⟨ha, (lv.lb hdb nb).1, fa (by simp [complete, hda, ha])⟩, ?_⟩
      simpa [succ, hda, ha, nb] using inv.queue
    · obtain ⟨ha500, hb⟩ := lv.la hda ha
      have hb200 : b.code = 200 := by simpa [holds, hdb] using hb
      refine ⟨Or.inr ⟨ha500, hb200, fb (by simp [complete, hdb, hb200])⟩, ?_⟩
      simpa [succ, hdb, ha, hb200] using inv.queue

/-- non-vacuity of `upload_exclusive`: a run in which the second request wins -/
example :
    let c : Cfg := ⟨Facts.expected, "/data".toList, "pcaps".toList⟩
    let s := Sys.run c ⟨⟨[], []⟩, [⟨1, "a.pcap".toList, 7, none, .start, 0⟩, ⟨2, "a.pcap".toList, 8, none, .start, 0⟩]⟩
      [1, 0, 1, 1, 0, 1]
    s.allDone = true ∧ s.reqs.map (·.code) = [500, 200] ∧
      s.world.disk.lookup "/data/pcaps/a.pcap".toList = some (.file ⟨8, none, 2⟩) ∧
      s.world.queue = ["a.pcap".toList] := by decide +kernel

/-- the flag fact matters: without O_EXCL (O_CREATE|O_TRUNC|O_WRONLY) an upload of a stored name
    overwrites it -/
theorem without_excl_overwrites :
    let c : Cfg := ⟨{ Facts.expected with upExcl := false, upTrunc := true }, "/data".toList, "pcaps".toList⟩
    let w0 : World := ⟨[("/data/pcaps/a.pcap".toList, .file ⟨1, none, 0⟩)], []⟩
    let r := runReq c w0 ⟨5, "a.pcap".toList, 9, none, .start, 0⟩
    r.2.code = 200 ∧ r.1.disk.lookup "/data/pcaps/a.pcap".toList = some (.file ⟨9, none, 0⟩) := by decide +kernel

/-- "/", "." and ".." pass the guard, and ".." would leave the capture directory -/
example : base ['/'] = ['/'] ∧ base ['.'] = ['.'] ∧ base ['.', '.'] = ['.', '.'] ∧
    join ["/data".toList, "pcaps".toList, ['.', '.']] = "/data".toList := by decide +kernel

example : plain "..%2f..%2fetc%2fx.pcap".toList ∧
    join ["/data".toList, "pcaps".toList, "..%2f..%2fx.pcap".toList] = "/data/pcaps/..%2f..%2fx.pcap".toList := by decide +kernel

example : uploadParam "/upload/../x.pcap".toList = none ∧ uploadParam "/upload/..pcap".toList = some "..pcap".toList ∧
    downloadParam "/api/download/pcap/a\\b.pcap".toList = none := by decide +kernel

end Pk.Props.C19
