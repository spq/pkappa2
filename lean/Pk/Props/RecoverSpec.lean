/-
  The vocabulary of the merge statements of C12Idx, over Pk/Model/RecoverIdx.lean: what is assumed about a
  merge job.  Definitions only; Props/C12Idx.lean states theorems over them and the proof modules import them.
-/
import Pk.Model.RecoverIdx

namespace Pk.Props.C12Idx
open Pk.Recover

def Newer (d : List IndexFile) (name : Nat) : Prop := ∀ f ∈ d, f.name < name

def InputId (d : List IndexFile) (inputs : List Nat) (id : Nat) : Prop :=
  ∃ f ∈ d, f.name ∈ inputs ∧ id ∈ f.ids

/-- what is assumed (not derived from a model of `index.Merge`) about a merge of the files named `inputs`
    into `outputs`; the stack-position condition is added in `MergeOK` -/
structure MergeBase (ver : Nat → Nat → Nat) (d : List IndexFile) (inputs : List Nat)
    (outputs : List (Nat × List Nat)) : Prop where
  fresh : ∀ o ∈ outputs, Newer d o.1
  inputs_exist : ∀ n ∈ inputs, ∃ f ∈ d, f.name = n
  /-- the inputs come from the stack of the running manager -/
  inputs_complete : ∀ f ∈ d, f.name ∈ inputs → f.complete = true
  /-- that an id occurs in exactly ONE output is true of `index.Merge` but not needed -/
  cover : ∀ id, (∃ o ∈ outputs, id ∈ o.2) ↔ InputId d inputs id
  version : ∀ o ∈ outputs, ∀ id ∈ o.2, ∀ n, newestInput d inputs id = some n → ver o.1 id = ver n id

/-- the stack-position condition whose violation is finding F18, in its weakest form; implied by
    `DisjointAbove` (`noNewerOutsider_of_disjoint`) and by the inputs being a suffix of the stack
    (`suffix_inputs_ok`) -/
def NoNewerOutsider (d : List IndexFile) (inputs : List Nat) : Prop :=
  ∀ g ∈ d, g.complete = true → g.name ∉ inputs → ∀ id ∈ g.ids,
    InputId d inputs id → ∃ f ∈ d, f.name ∈ inputs ∧ id ∈ f.ids ∧ g.name < f.name

structure MergeOK (ver : Nat → Nat → Nat) (d : List IndexFile) (inputs : List Nat)
    (outputs : List (Nat × List Nat)) : Prop extends MergeBase ver d inputs outputs where
  no_newer_outsider : NoNewerOutsider d inputs

end Pk.Props.C12Idx
