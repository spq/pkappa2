/-
  C05, reassembly part: the REFERENCE TCP reassembler of Pk/Model/Import.lean (`assembleHalf`:
  gopacket's AssembleWithContext on one half-connection with its out-of-order page queue) recovers
  the byte string of a direction from whole runs of its segments — for all byte strings, all
  segmentations and all admissible disturbances, without bounds.  (`Pk/Props/C05.lean` has single
  steps only.)  Runs of one direction: in order, with retransmissions, and any slices in any order
  and multiplicity.  `reasm_single_conversation_partial`: handshake and data phase of one
  conversation through the whole `reasm` (`tcpPacket`, `tcpFlush`, FSM, connection lookup); the
  FIN/RST teardown and several conversations are in Pk/Props/C05More.lean.
  `retransmit_unprimed_false`: why the hypothesis is `SeqLinear` and not just "no wrap".

  Vocabulary (defined in Pk/Props/ImportSpec.lean; `RetransRun` and `reach` in Pk/Proofs/ImportReasmRun.lean):
    feed dir (st, h) p      `Stream.Accept` records packet `p` of direction `dir`, then `assembleHalf`
    InOrder s ps            consecutive non-empty segments without flags: the first at sequence number
                            `s`, each next one at the end of the previous one (modulo 2^32)
    SegPkt isn B p          `p` has no SYN/FIN/RST and carries bytes `pOff .. pEnd-1` of `B`, possibly
                            none, at sequence number `isn + pOff`: an original segment, a
                            retransmission, any re-segmentation of `B`, a pure ACK
    DataPkt isn B p         a `SegPkt` with payload
    RetransRun isn B c ps   every packet of `ps` is a `SegPkt` that starts at or before the offset
                            reached by the earlier ones; `reach isn c ps` is the offset reached
    Covers isn B ps         every byte of `B` is carried by some packet of `ps`
    SeqLinear isn n         `isn + n < 2^32`, and `isn .. isn + n` does not stretch from the first into
                            the last quarter of the sequence space
    ChunksOk isn B n0 ps c chunks   the delivered chunks cut `B[0..c)` into consecutive pieces, each
                            attributed to a packet that carried the first byte of the piece;
                            `Chunks2`: the same for both directions of a conversation
    Stream.after st0 dir ps chunks  `st0` with the packets `ps` recorded and `chunks` delivered
    dirBytes st d           the bytes of `Data` whose packet has direction `d`
-/
import Pk.Props.C05
import Pk.Proofs.ImportReasmRun
import Pk.Proofs.ImportReasmTeardown
namespace Pk.Props.C05Reasm
open Pk.Import Pk.Proofs.ImportReasm

/-- the run `ps` of direction `dir` from stream `st0` / half `h0` recovered `B`:
    * nothing but `Packets`/`PacketDirections`/`Data` of the stream changed: the packets of the run
      were recorded in arrival order, the chunks were appended to `Data`;
    * the chunks cut `B` into consecutive non-empty pieces and each piece is attributed to a packet
      of the run that carried its first byte (`ChunksOk`);
    * the half-connection is as before except that it expects `isn + |B|` (in particular: still
      open, queue empty). -/
structure Recovered (isn : Nat) (B : Bytes) (dir : Bool) (st0 : Stream) (h0 : Half) (ps : List Pkt)
    (r : Stream × Half) : Prop where
  ex : ∃ chunks, r.1 = Stream.after st0 dir ps chunks ∧ ChunksOk isn B st0.npkts ps B.length chunks ∧
        r.2 = { h0 with nextSeq := some (isn + B.length) }

/-- the delivered bytes are exactly `B`, once, after what the stream held before -/
theorem Recovered.bytes {isn B dir st0 h0 ps r} (h : Recovered isn B dir st0 h0 ps r) :
    (r.1.data.map (·.2)).flatten = (st0.data.map (·.2)).flatten ++ B := by
  obtain ⟨chunks, h1, h2, _⟩ := h
  rw [h1]
  simp only [Stream.data, Stream.after, List.reverse_append, List.map_append, List.flatten_append]
  rw [h2.bytes.1, List.take_length]

/-- the packets of the run are the new packets of the stream, in arrival order, with direction `dir` -/
theorem Recovered.pkts {isn B dir st0 h0 ps r} (h : Recovered isn B dir st0 h0 ps r) :
    r.1.pkts = st0.pkts ++ ps.map (fun p => (p.ref, dir)) ∧ r.1.npkts = st0.npkts + ps.length := by
  obtain ⟨chunks, h1, _, _⟩ := h
  rw [h1]
  simp [Stream.pkts, Stream.after]

theorem Recovered.half {isn B dir st0 h0 ps r} (h : Recovered isn B dir st0 h0 ps r)
    (hopen : h0.closed = false) (hq : h0.queue = []) :
    r.2.queue = [] ∧ r.2.closed = false ∧ r.2.nextSeq = some (isn + B.length) := by
  obtain ⟨chunks, _, _, h3⟩ := h
  rw [h3]; exact ⟨hq, hopen, rfl⟩

theorem chunksFrom_bytes (n : Nat) (ps : List Pkt) : ((chunksFrom n ps).map (·.2)).flatten = payloadOf ps := by
  induction ps generalizing n with
  | nil => rfl
  | cons p rest ih => simp [chunksFrom, payloadOf, ih]

theorem chunksFrom_getElem (n : Nat) (ps : List Pkt) (i : Nat) :
    (chunksFrom n ps)[i]? = ps[i]?.map (fun p => (n + i, p.payload)) := by
  induction ps generalizing n i with
  | nil => rfl
  | cons p rest ih =>
    cases i with
    | zero => rfl
    | succ i => rw [chunksFrom, List.getElem?_cons_succ, List.getElem?_cons_succ, ih, Nat.add_assoc, Nat.add_comm 1]

/-- undisturbed run, sequence numbers modulo 2^32 (the wrap is harmless for in-order delivery): one
    direction of an established connection (open half that expects `isn`, empty queue); for every
    sequence `ps` of non-empty data segments with consecutive sequence numbers starting at `isn` —
    i.e. for every byte string `B = payloadOf ps` and every split of it — feeding `ps` delivers one
    chunk per segment, chunk `i` = payload of `ps[i]` attributed to packet number `npkts + i`, which
    is `ps[i]`; the queue stays empty and `seqAdd isn |B|` is expected next. -/
theorem reasm_inorder_run_wrap (isn : Nat) (ps : List Pkt) (dir : Bool) (st0 : Stream) (h0 : Half)
    (hopen : h0.closed = false) (hnext : h0.nextSeq = some isn) (hq : h0.queue = [])
    (hisn : isn < 4294967296) (hio : InOrder isn ps) :
    let r := feedAll dir (st0, h0) ps
    (r.1.data.map (·.2)).flatten = (st0.data.map (·.2)).flatten ++ payloadOf ps ∧
    r.1.data = st0.data ++ chunksFrom st0.npkts ps ∧
    r.1.pkts = st0.pkts ++ ps.map (fun p => (p.ref, dir)) ∧
    r.1.npkts = st0.npkts + ps.length ∧
    r.2 = { h0 with nextSeq := some (seqAdd isn (payloadOf ps).length) } ∧
    r.2.queue = [] ∧ r.2.closed = false := by
  intro r
  have e : r = _ := feedAll_inorder dir ps st0 h0 isn hopen hnext hq hisn hio
  rw [e]
  refine ⟨?_, ?_, ?_, rfl, rfl, hq, hopen⟩
  · simp [Stream.data, Stream.recordAll, chunksFrom_bytes]
  · simp [Stream.data, Stream.recordAll]
  · simp [Stream.pkts, Stream.recordAll]

/-- the same without wrap (`isn + |B| < 2^32`), `ps` any split of `B`: exactly `B` is delivered,
    chunk by chunk as sent, the queue is empty and `nextSeq = isn + |B|`. -/
theorem reasm_inorder_run (isn : Nat) (B : Bytes) (ps : List Pkt) (dir : Bool) (st0 : Stream) (h0 : Half)
    (hopen : h0.closed = false) (hnext : h0.nextSeq = some isn) (hq : h0.queue = [])
    (hnowrap : isn + B.length < 4294967296) (hsplit : payloadOf ps = B) (hio : InOrder isn ps) :
    let r := feedAll dir (st0, h0) ps
    (r.1.data.map (·.2)).flatten = (st0.data.map (·.2)).flatten ++ B ∧
    r.1.data = st0.data ++ chunksFrom st0.npkts ps ∧
    r.1.pkts = st0.pkts ++ ps.map (fun p => (p.ref, dir)) ∧
    r.1.npkts = st0.npkts + ps.length ∧
    r.2.queue = [] ∧ r.2.nextSeq = some (isn + B.length) ∧ r.2.closed = false := by
  intro r
  obtain ⟨h1, h2, h3, h4, h5, h6, h7⟩ :=
    reasm_inorder_run_wrap isn ps dir st0 h0 hopen hnext hq (Nat.lt_of_le_of_lt (Nat.le_add_right ..) hnowrap) hio
  subst hsplit
  refine ⟨h1, h2, h3, h4, h6, ?_, h7⟩
  show r.2.nextSeq = _
  rw [h5]
  show some (seqAdd isn (payloadOf ps).length) = _
  unfold seqAdd
  rw [Nat.mod_eq_of_lt hnowrap]

/-- attribution in an undisturbed run: the `i`-th new chunk is the payload of `ps[i]` and carries
    the index of the `i`-th new packet, which is `ps[i]` in direction `dir` -/
theorem reasm_inorder_attribution (isn : Nat) (ps : List Pkt) (dir : Bool) (st0 : Stream) (h0 : Half)
    (hopen : h0.closed = false) (hnext : h0.nextSeq = some isn) (hq : h0.queue = [])
    (hisn : isn < 4294967296) (hio : InOrder isn ps) (hst : st0.npkts = st0.pktsRev.length)
    (i : Nat) (hi : i < ps.length) :
    let r := feedAll dir (st0, h0) ps
    r.1.data[st0.data.length + i]? = some (st0.npkts + i, ps[i].payload) ∧
    r.1.pkts[st0.npkts + i]? = some (ps[i].ref, dir) ∧
    r.1.dirOf (st0.npkts + i) = dir := by
  intro r
  obtain ⟨_, h2, h3, h4, _⟩ := reasm_inorder_run_wrap isn ps dir st0 h0 hopen hnext hq hisn hio
  have hlen : st0.pkts.length = st0.npkts := by rw [Stream.pkts, List.length_reverse, hst]
  have hp : r.1.pkts[st0.npkts + i]? = some (ps[i].ref, dir) := by
    rw [h3, ← hlen, List.getElem?_append_right (Nat.le_add_right ..), Nat.add_sub_cancel_left, List.getElem?_map,
      List.getElem?_eq_getElem hi]
    rfl
  have hn : r.1.npkts = r.1.pktsRev.length := by
    have := congrArg List.length h3
    rw [Stream.pkts, List.length_reverse, List.length_append, List.length_map, hlen] at this
    exact h4.trans this.symm
  refine ⟨?_, hp, Stream.dirOf_eq hn hp⟩
  rw [h2, List.getElem?_append_right (Nat.le_add_right ..), Nat.add_sub_cancel_left, chunksFrom_getElem,
    List.getElem?_eq_getElem hi]
  rfl

/-- invariant of every run of segments of `B` (arbitrary slices of `B` at their sequence numbers:
    originals, duplicates, overlapping re-segmentations, packets without payload, in any order),
    whether or not the holes get filled: the half stays open and expects `isn + c`, where `B[0..c)`
    is exactly what has been delivered (chunks attributed as in `ChunksOk`); the queue holds slices
    of `B` strictly beyond `c`, ascending and disjoint (`QueueOk`); and no byte that arrived is lost
    — it is delivered or waits in the queue.
    `SeqLinear isn |B|` and not only `isn + |B| < 2^32`: gopacket's `Sequence.Difference` treats a
    number in the last quarter of the sequence space and one in the first quarter as lying across
    the wrap, so a stream of more than 2^31 bytes that starts in the first quarter is mis-ordered
    even without a wrap (`retransmit_unprimed_false`). -/
theorem reasm_slices_invariant (isn : Nat) (B : Bytes) (ps : List Pkt) (dir : Bool) (st0 : Stream) (h0 : Half)
    (hopen : h0.closed = false) (hnext : h0.nextSeq = some isn) (hq : h0.queue = [])
    (hlin : SeqLinear isn B.length) (hps : ∀ p ∈ ps, SegPkt isn B p) :
    let r := feedAll dir (st0, h0) ps
    ∃ c chunks, r.2.closed = false ∧ r.2.nextSeq = some (isn + c) ∧ c ≤ B.length ∧
      QueueOk isn B c r.2.queue ∧
      r.1 = Stream.after st0 dir ps chunks ∧ ChunksOk isn B st0.npkts ps c chunks ∧
      (r.1.data.map (·.2)).flatten = (st0.data.map (·.2)).flatten ++ B.take c ∧
      ∀ x, (∃ p ∈ ps, pOff isn p ≤ x ∧ x < pEnd isn p) → x < c ∨ Covered isn r.2.queue x := by
  intro r
  obtain ⟨c, chunks, ⟨i1, i2, i3, i4⟩, hst, hch, hcov⟩ := runInv_all hlin dir st0 h0 hopen hnext hq ps hps
  refine ⟨c, chunks, i1, i2, i3, i4, hst, hch, ?_, hcov⟩
  show ((feedAll dir (st0, h0) ps).1.data.map (·.2)).flatten = _
  rw [hst]
  simp only [Stream.data, Stream.after, List.reverse_append, List.map_append, List.flatten_append]
  rw [hch.bytes.1]

/-- if the packets of the run are segments of `B` and together cover `B` (no segment is lost for
    good: every hole is eventually filled) then, whatever the order, the duplication and the
    overlaps, exactly `B` is delivered, in order, and the queue is empty at the end.  (The model has
    no queue limit, so no bound on the displacement is needed.) -/
theorem reasm_slices_run (isn : Nat) (B : Bytes) (ps : List Pkt) (dir : Bool) (st0 : Stream) (h0 : Half)
    (hopen : h0.closed = false) (hnext : h0.nextSeq = some isn) (hq : h0.queue = [])
    (hlin : SeqLinear isn B.length)
    (hps : ∀ p ∈ ps, SegPkt isn B p) (hcov : Covers isn B ps) :
    Recovered isn B dir st0 h0 ps (feedAll dir (st0, h0) ps) :=
  ⟨runInv_covers hlin dir st0 h0 hopen hnext hq ps hps hcov⟩

/-- reordering and retransmission mixed: `orig` is a split of `B` into consecutive non-empty
    segments from `isn`; `ps` consists of packets of `orig`, every one at least once, in any order
    and multiplicity -/
theorem reasm_reorder_retransmit_run (isn : Nat) (B : Bytes) (orig ps : List Pkt) (dir : Bool) (st0 : Stream) (h0 : Half)
    (hopen : h0.closed = false) (hnext : h0.nextSeq = some isn) (hq : h0.queue = [])
    (hlin : SeqLinear isn B.length)
    (hsplit : payloadOf orig = B) (hio : InOrder isn orig)
    (hsub : ∀ p ∈ ps, p ∈ orig) (hall : ∀ p ∈ orig, p ∈ ps) :
    Recovered isn B dir st0 h0 ps (feedAll dir (st0, h0) ps) := by
  subst hsplit
  obtain ⟨hrun, hreach⟩ := inorder_retransRun hlin hio
  obtain ⟨_, hseg, hcov⟩ := retransRun_covers orig 0 hrun
  refine reasm_slices_run isn _ ps dir st0 h0 hopen hnext hq hlin (fun p hm => (hseg p (hsub p hm)).1) fun x hx => ?_
  obtain ⟨p, hm, hp⟩ := hcov x (Nat.zero_le _) (hreach ▸ hx)
  exact ⟨p, hall p hm, hp⟩

/-- the segments of a split of `B` arrive in ANY permuted order (segments ahead of a hole wait in
    the out-of-order queue; none is dropped): exactly `B` is delivered in order, the queue is empty
    at the end -/
theorem reasm_reorder_run (isn : Nat) (B : Bytes) (orig ps : List Pkt) (dir : Bool) (st0 : Stream) (h0 : Half)
    (hopen : h0.closed = false) (hnext : h0.nextSeq = some isn) (hq : h0.queue = [])
    (hlin : SeqLinear isn B.length)
    (hsplit : payloadOf orig = B) (hio : InOrder isn orig) (hperm : ps.Perm orig) :
    Recovered isn B dir st0 h0 ps (feedAll dir (st0, h0) ps) :=
  reasm_reorder_retransmit_run isn B orig ps dir st0 h0 hopen hnext hq hlin hsplit hio
    (fun _ hm => hperm.mem_iff.mp hm) (fun _ hm => hperm.mem_iff.mpr hm)

/-- in-order data with retransmissions interleaved anywhere — exact retransmissions of earlier
    segments and any re-segmentation that starts in bytes already sent (ending before, at or beyond
    them), i.e. `RetransRun isn B 0 ps`.  Exactly the bytes of `B` up to the offset reached are
    delivered, once, in order; nothing is left in the queue. -/
theorem reasm_retransmit_prefix (isn : Nat) (B : Bytes) (ps : List Pkt) (dir : Bool) (st0 : Stream) (h0 : Half)
    (hopen : h0.closed = false) (hnext : h0.nextSeq = some isn) (hq : h0.queue = [])
    (hlin : SeqLinear isn B.length)
    (hrun : RetransRun isn B 0 ps) :
    Recovered isn (B.take (reach isn 0 ps)) dir st0 h0 ps (feedAll dir (st0, h0) ps) := by
  obtain ⟨_, h2, h3⟩ := retransRun_covers ps 0 hrun
  refine reasm_slices_run isn _ ps dir st0 h0 hopen hnext hq (hlin.mono (List.length_take_le' ..))
    (fun p hm => (h2 p hm).1.restrict (h2 p hm).2) fun x hx => ?_
  rw [List.length_take] at hx
  exact h3 x (Nat.zero_le _) (Nat.lt_of_lt_of_le hx (Nat.min_le_left ..))

/-- such a run that reaches the end of `B` delivers exactly `B`, once -/
theorem reasm_retransmit_run (isn : Nat) (B : Bytes) (ps : List Pkt) (dir : Bool) (st0 : Stream) (h0 : Half)
    (hopen : h0.closed = false) (hnext : h0.nextSeq = some isn) (hq : h0.queue = [])
    (hlin : SeqLinear isn B.length)
    (hrun : RetransRun isn B 0 ps) (hend : reach isn 0 ps = B.length) :
    Recovered isn B dir st0 h0 ps (feedAll dir (st0, h0) ps) := by
  have := reasm_retransmit_prefix isn B ps dir st0 h0 hopen hnext hq hlin hrun
  rwa [hend, List.take_length] at this

/-- an undisturbed run is a `RetransRun` that reaches the end of its payload (and so is every run
    obtained from it by inserting, anywhere, segments of `B` that start at or before the offset
    reached so far: `RetransRun` is defined by exactly that condition) -/
theorem inorder_is_retransRun (isn : Nat) (ps : List Pkt) (hlin : SeqLinear isn (payloadOf ps).length)
    (hio : InOrder isn ps) : RetransRun isn (payloadOf ps) 0 ps ∧ reach isn 0 ps = (payloadOf ps).length :=
  inorder_retransRun hlin hio

/-- the first data byte of a direction has the sequence number of its SYN (`p0`, `p1`) plus one -/
def convParams (e : Endpoints) (p0 p1 : Pkt) (Bc Bs : Bytes) (t0 : Nat) : ConvParams :=
  ⟨e, seqAdd p0.seq 1, seqAdd p1.seq 1, Bc, Bs, t0⟩

/-- `wire = p0 :: p1 :: body` holds ONE well-formed TCP conversation between the endpoints `e`
    in which the client sends `Bc` and the server `Bs`:
    * `p0` is the SYN (client → server), `p1` the SYN/ACK (server → client), both without payload;
    * every packet of `body` is a segment without SYN/FIN/RST of its direction's byte string, at its
      sequence number (first byte = ISN + 1): the ACK of the handshake and all pure ACKs (empty
      payload), original data segments, retransmissions, overlapping re-segmentations — in ANY order
      and interleaving of the two directions;
    * nothing is lost for good: the segments of each direction cover its byte string;
    * client and server endpoint differ; all packets lie within one inactivity timeout (5 min)
      after `t0`, so that no flush interferes; the sequence numbers of each direction are
      `SeqLinear` (see `reasm_slices_invariant`). -/
structure SingleConv (e : Endpoints) (p0 p1 : Pkt) (Bc Bs : Bytes) (t0 : Nat) (body : List Pkt) : Prop where
  distinct : e.Distinct
  syn : IsSyn e p0
  synack : IsSynAck e p1
  t_syn : t0 ≤ p0.ts ∧ p0.ts ≤ t0 + timeout
  t_synack : t0 ≤ p1.ts ∧ p1.ts ≤ t0 + timeout
  linc : SeqLinear (seqAdd p0.seq 1) Bc.length
  lins : SeqLinear (seqAdd p1.seq 1) Bs.length
  segs : ∀ p ∈ body, BodyPkt (convParams e p0 p1 Bc Bs t0) p
  covc : ∀ x, x < Bc.length → ∃ p ∈ body, isC2S e p ∧ pOff (seqAdd p0.seq 1) p ≤ x ∧ x < pEnd (seqAdd p0.seq 1) p
  covs : ∀ x, x < Bs.length → ∃ p ∈ body, isS2C e p ∧ pOff (seqAdd p1.seq 1) p ≤ x ∧ x < pEnd (seqAdd p1.seq 1) p

/-- what the reassembler must produce for such a wire: ONE stream; client/server/ports from the
    SYN; every packet of the wire recorded in wire order with its direction; the chunks of `Data`
    whose packet travels client → server concatenate to exactly `Bc`, those of the other direction
    to exactly `Bs`; the chunks appear in the order in which they were delivered on the wire
    (packet numbers increase), each attributed to a packet of its own direction that carried its
    first byte (`Chunks2`) — so the order of direction changes is that of the wire -/
def SingleConvTruth (e : Endpoints) (p0 p1 : Pkt) (Bc Bs : Bytes) (t0 : Nat) (body : List Pkt)
    (streams : Array Stream) : Prop :=
  ∃ st, streams = #[st] ∧
    st.caddr = e.cip ∧ st.saddr = e.sip ∧ st.cport = e.cport ∧ st.sport = e.sport ∧ st.udp = false ∧
    st.pkts = (p0.ref, false) :: (p1.ref, true) :: body.map (fun p => (p.ref, pdir e p)) ∧
    st.npkts = 2 + body.length ∧
    dirBytes st false = Bc ∧ dirBytes st true = Bs ∧
    ∃ chunks, st.data = chunks.reverse ∧
      Chunks2 (convParams e p0 p1 Bc Bs t0) 2 body Bc.length Bs.length chunks

/-- `reasm` recovers a single conversation whose handshake is followed by data in both directions
    under arbitrary reordering, duplication, overlap and interleaving.
    Partial: the conversation is still open at the end of the wire.  The FIN/RST teardown
    (`closeHalfConnection`, `Complete`) and several conversations on one wire are in
    Pk/Props/C05More.lean (`reasm_teardown`, `reasm_wire`); SYN/SYN-ACK that carry data or are
    retransmitted and wires longer than the inactivity timeout (`skipFlush`, time-outs) are proved
    nowhere. -/
theorem reasm_single_conversation_partial (e : Endpoints) (p0 p1 : Pkt) (Bc Bs : Bytes) (t0 : Nat) (body : List Pkt)
    (h : SingleConv e p0 p1 Bc Bs t0 body) :
    SingleConvTruth e p0 p1 Bc Bs t0 body (reasm (p0 :: p1 :: body)) := by
  obtain ⟨hd, hsyn, hsa, ⟨ts1, _⟩, ⟨_, ta2⟩, hlc, hls, hbody, hcc, hcs⟩ := h
  -- the conversation ends in the data phase, where a direction all of whose bytes were carried is delivered in full
  obtain ⟨f, k, c, cc, cs, chunks, ⟨⟨u, hr⟩, _, _, _, _, hch⟩, _, _, _, _, hcov⟩ :=
    tear_state (convParams e p0 p1 Bc Bs t0) hd p0 p1 hsyn hsa ts1
      (Nat.not_lt.mpr (Nat.le_trans ta2 (Nat.add_le_add_right ts1 _))) rfl rfl hlc hls (tRun_segs _ body [] hbody)
  have hccB : cc = Bc.length := hcov false fun x hx => (hcc x hx).imp fun q hq => ⟨hq.1, Or.inl ⟨rfl, hq.2.1⟩, hq.2.2⟩
  have hcsB : cs = Bs.length := hcov true fun x hx => (hcs x hx).imp fun q hq => ⟨hq.1, Or.inr ⟨rfl, hq.2.1⟩, hq.2.2⟩
  subst hccB hcsB
  obtain ⟨t1, t2, t3, t4, t5⟩ := convStream_truth (convParams e p0 p1 Bc Bs t0) hd p0 p1 f k body hch
  have t4 : _ = Bc.take Bc.length := t4
  have t5 : _ = Bs.take Bs.length := t5
  rw [List.take_length] at t4 t5
  unfold reasm
  rw [hr]
  exact ⟨_, rfl, rfl, rfl, rfl, rfl, rfl, t1, t2, t4, t5, chunks, t3, hch⟩

/-- the same as an instance of `ReasmRecovers` (Pk/Props/C05.lean) for single-conversation wires -/
theorem reasmRecovers_single_conversation_partial :
    Pk.Props.C05.ReasmRecovers reasm
      (fun wire => ∃ e p0 p1 Bc Bs t0 body, wire = p0 :: p1 :: body ∧ SingleConv e p0 p1 Bc Bs t0 body)
      (fun wire streams => ∀ e p0 p1 Bc Bs t0 body, wire = p0 :: p1 :: body → SingleConv e p0 p1 Bc Bs t0 body →
        SingleConvTruth e p0 p1 Bc Bs t0 body streams) := by
  intro wire _ e p0 p1 Bc Bs t0 body hw hc
  subst hw
  exact reasm_single_conversation_partial e p0 p1 Bc Bs t0 body hc

def exPkt (k seq : Nat) (pl : Bytes) : Pkt :=
  { ts := 1000000 + k, file := "a", idx := k, udp := false, src := "c", dst := "s", sport := 40000, dport := 80,
    ack := true, seq := seq, payload := pl }

theorem slice_replicate (n a b : Nat) (h : b ≤ n) : slice (List.replicate n (0 : UInt8)) a b = List.replicate (b - a) 0 := by
  unfold slice
  rw [List.drop_replicate, List.take_replicate, Nat.min_eq_left (Nat.sub_le_sub_right h a)]

/-- the run behind `retransmit_unprimed_false`, for every length that ends in the last quarter of
    the sequence space (3221225472 = `uint32Max - uint32Max / 4`) without reaching its end -/
theorem bigRun (n : Nat) (h1 : 3221225472 ≤ n) (h2 : n + 1 < 4294967295) (dir : Bool) (st0 : Stream) (h0 : Half)
    (hopen : h0.closed = false) (hnext : h0.nextSeq = some 0) (hq : h0.queue = []) :
    let B : Bytes := List.replicate (n + 1) 0
    let ps := [exPkt 0 0 [0], exPkt 1 1 (List.replicate n 0), exPkt 2 0 [0]]
    RetransRun 0 B 0 ps ∧ reach 0 0 ps = B.length ∧ (feedAll dir (st0, h0) ps).2.queue ≠ [] := by
  intro B ps
  have hn : List.replicate n (0 : UInt8) ≠ [] := fun h =>
    absurd ((List.replicate_eq_nil_iff _).mp h) (Nat.ne_of_gt (Nat.lt_of_lt_of_le (by decide) h1))
  -- a run of `m` zero bytes at offset `s` is a segment of `B`
  have seg : ∀ k s m, s + m ≤ n + 1 → SegPkt 0 B (exPkt k s (List.replicate m 0)) := by
    intro k s m h
    refine ⟨⟨rfl, rfl, rfl⟩, Nat.zero_le _, ?_, ?_⟩
    · show s + (List.replicate m (0 : UInt8)).length ≤ (List.replicate (n + 1) (0 : UInt8)).length
      rw [List.length_replicate, List.length_replicate]; exact h
    · show List.replicate m 0 = slice (List.replicate (n + 1) 0) s (s + (List.replicate m (0 : UInt8)).length)
      rw [List.length_replicate, slice_replicate _ _ _ h, Nat.add_sub_cancel_left]
  refine ⟨⟨seg 0 0 1 (Nat.le_add_left 1 n), Nat.le_refl 0, seg 1 1 n (Nat.le_of_eq (Nat.add_comm 1 n)), Nat.le_refl 1,
    seg 2 0 1 (Nat.le_add_left 1 n), Nat.zero_le _, trivial⟩, ?_, ?_⟩
  · simp only [ps, reach, pEnd, exPkt, B, List.length_replicate, List.length_cons, List.length_nil, Nat.sub_zero, Nat.zero_add,
      Nat.zero_max]
    rw [Nat.max_eq_right (Nat.le_add_right 1 n), Nat.max_eq_left (Nat.le_add_right 1 n), Nat.add_comm]
  · have hio : InOrder 0 [exPkt 0 0 [0], exPkt 1 1 (List.replicate n 0)] :=
      ⟨rfl, ⟨rfl, rfl, rfl, List.cons_ne_nil _ _⟩, rfl, ⟨rfl, rfl, rfl, hn⟩, trivial⟩
    have hrun := feedAll_inorder dir [exPkt 0 0 [0], exPkt 1 1 (List.replicate n 0)] st0 h0 0 hopen hnext hq (by decide) hio
    have hlen : (payloadOf [exPkt 0 0 [0], exPkt 1 1 (List.replicate n 0)]).length = n + 1 := by
      rw [payloadOf_cons, payloadOf_cons, List.length_append, List.length_append]
      exact (congrArg (1 + ·) (List.length_replicate ..)).trans (Nat.add_comm 1 n)
    have hsa : seqAdd 0 (n + 1) = n + 1 := by
      unfold seqAdd; rw [Nat.zero_add, Nat.mod_eq_of_lt (Nat.lt_trans h2 (by decide))]
    -- the first quarter of the sequence space seen from the last: the difference is taken across the wrap
    have hd : seqDiff (n + 1) 0 > 0 := by
      unfold seqDiff
      rw [if_pos ⟨Nat.lt_succ_of_le h1, by decide⟩]
      exact Int.sub_pos.mpr (Int.ofNat_lt.mpr (by rw [Nat.zero_add]; exact h2))
    have hps : ps = [exPkt 0 0 [0], exPkt 1 1 (List.replicate n 0)] ++ [exPkt 2 0 [0]] := rfl
    rw [hps, feedAll_snoc, hrun, hlen, hsa]
    -- so the retransmitted first segment counts as ahead of the expected number and is queued
    unfold feed
    rw [assembleHalf_eq, if_neg (hopen ▸ Bool.false_ne_true)]
    simp [hq, exPkt, hd, checkOverlap, overlapWalk]

/-- `reasm_retransmit_run` is false with "no wrap" (`isn + |B| < 2^32`) in place of `SeqLinear`:
    `isn = 0`, `B` = 3 300 000 001 zero bytes sent as `[0]`, then the rest; when the first segment
    is retransmitted at the end, `Sequence.Difference 3300000001 0` applies the wrap correction,
    the old segment counts as "ahead" and is queued: the queue is not empty at the end (and those
    bytes would be delivered again after a flush). -/
theorem retransmit_unprimed_false :
    ¬ (∀ (isn : Nat) (B : Bytes) (ps : List Pkt) (dir : Bool) (st0 : Stream) (h0 : Half),
        h0.closed = false → h0.nextSeq = some isn → h0.queue = [] → isn + B.length < 4294967296 →
        RetransRun isn B 0 ps → reach isn 0 ps = B.length →
        (feedAll dir (st0, h0) ps).2.queue = []) := by
  intro H
  obtain ⟨r1, r2, r3⟩ := bigRun 3300000000 (by decide) (by decide) false
    { caddr := "c", saddr := "s", cport := 40000, sport := 80, udp := false } { nextSeq := some 0 } rfl rfl rfl
  exact r3 (H 0 _ _ false _ _ rfl rfl rfl (by rw [List.length_replicate]; decide) r1 r2)

/-! non-vacuity: the hypotheses hold of concrete runs, evaluated on the model -/

def exSt : Stream := { caddr := "c", saddr := "s", cport := 40000, sport := 80, udp := false }
def exB : Bytes := [1, 2, 3, 4, 5, 6]

example :
    let ps := [exPkt 0 4294967294 [1, 2], exPkt 1 0 [3, 4, 5], exPkt 2 3 [6]]
    InOrder 4294967294 ps ∧ payloadOf ps = exB ∧
    (feedAll false (exSt, { nextSeq := some 4294967294 }) ps).1.data = [(0, [1, 2]), (1, [3, 4, 5]), (2, [6])] ∧
    (feedAll false (exSt, { nextSeq := some 4294967294 }) ps).2.nextSeq = some 4 := by decide +kernel

example :
    let ps := [exPkt 0 1000 [1, 2], exPkt 1 1000 [1, 2], exPkt 2 1002 [3, 4, 5], exPkt 3 1001 [2, 3, 4, 5, 6],
               exPkt 4 1002 [3, 4, 5]]
    SeqLinear 1000 exB.length ∧ RetransRun 1000 exB 0 ps ∧ reach 1000 0 ps = exB.length ∧
    (feedAll false (exSt, { nextSeq := some 1000 }) ps).1.data = [(0, [1, 2]), (2, [3, 4, 5]), (3, [6])] ∧
    (feedAll false (exSt, { nextSeq := some 1000 }) ps).2.queue = [] := by decide +kernel

example :
    let orig := [exPkt 0 1000 [1, 2], exPkt 1 1002 [3, 4, 5], exPkt 2 1005 [6]]
    let ps := [exPkt 2 1005 [6], exPkt 1 1002 [3, 4, 5], exPkt 0 1000 [1, 2]]
    InOrder 1000 orig ∧ payloadOf orig = exB ∧ ps.Perm orig ∧
    (feedAll false (exSt, { nextSeq := some 1000 }) (ps.take 2)).2.queue.length = 2 ∧
    (feedAll false (exSt, { nextSeq := some 1000 }) ps).1.data = [(2, [1, 2, 3, 4, 5, 6])] ∧
    (feedAll false (exSt, { nextSeq := some 1000 }) ps).2.queue = [] := by decide +kernel

example :
    let ps := [exPkt 0 1003 [4, 5], exPkt 1 1001 [2, 3, 4], exPkt 2 1004 [5, 6], exPkt 3 1000 [1, 2]]
    (∀ p ∈ ps, DataPkt 1000 exB p) ∧ (∀ x, x < exB.length → ∃ p ∈ ps, pOff 1000 p ≤ x ∧ x < pEnd 1000 p) ∧
    (feedAll false (exSt, { nextSeq := some 1000 }) ps).1.data = [(3, [1, 2, 3, 4, 5, 6])] ∧
    (feedAll false (exSt, { nextSeq := some 1000 }) ps).2.queue = [] := by decide +kernel

def exE : Endpoints := ⟨"c", "s", 40000, 80⟩
def exBody : List Pkt :=
  [Pk.Props.C05.f32Pkt 2 true false true 1000 [], Pk.Props.C05.f32Pkt 3 true false true 1002 [3, 4], Pk.Props.C05.f32Pkt 4 false false true 5000 [9, 8],
   Pk.Props.C05.f32Pkt 5 true false true 1000 [1, 2], Pk.Props.C05.f32Pkt 6 false false true 5002 [], Pk.Props.C05.f32Pkt 7 false false true 5001 [8, 7],
   Pk.Props.C05.f32Pkt 8 true false true 1000 [1, 2]]

/-- handshake, data in both directions with a reordered, an overlapping and a retransmitted segment
    and pure ACKs: the hypotheses of `reasm_single_conversation_partial` hold -/
example :
    SingleConv exE (Pk.Props.C05.f32Pkt 0 true true false 999 []) (Pk.Props.C05.f32Pkt 1 false true true 4999 []) [1, 2, 3, 4] [9, 8, 7]
      1000000 exBody :=
  ⟨by decide +kernel, by decide +kernel, by decide +kernel, by decide +kernel, by decide +kernel, by decide +kernel,
   by decide +kernel, by decide +kernel, by decide +kernel, by decide +kernel⟩

example :
    (reasm (Pk.Props.C05.f32Pkt 0 true true false 999 [] :: Pk.Props.C05.f32Pkt 1 false true true 4999 [] :: exBody))[0]!.data =
      [(4, [9, 8]), (5, [1, 2, 3, 4]), (7, [7])] := by decide +kernel

end Pk.Props.C05Reasm
