/-
  C16 — Converter output always belongs to the stream's current data.

  Model: Pk.Model.Manager.  `cached c` is the set of streams with cached output of converter `c`,
  `toconv c` the streams queued for it.  In the model a converter job performs its conversions
  when it starts (the real job finishes them before it reaches its completion gate and nothing
  else runs in between under the gated schedule), from the index files it holds at that moment.

  Proved for every state / event / payload:
   * `import_drops_changed`  — when an import changes the data of a stream (updated or reset), its
     cached output is dropped for every converter; it can only be cached again by a converter job
     started after the new data was published (it reads the new version).  (Finding F16: the service
     invalidated updated streams only, not reset ones; repaired, 2dd2b29.)
   * `accounted_step`        — every stream matching a tag with an attached converter is cached or
     queued, in every reachable state; with C09 (`NoStuck`: a non-empty queue means a job is
     running) this gives `eventually_converted` at quiescence.
   * `detach_stops`          — after a converter is detached from a tag, streams matched only by that
     tag are no longer queued for it.
  History level: Pk/Props/C16Reach.lean (`cached_current_run` with ghost versions, `output_current_when_idle`,
  `detach_stops_all_runs` — the literal "detaching stops further runs", finding F57).
  Not expressible in this model: a conversion that is still running inside the job goroutine while an import
  completes (its result is stored after the invalidation) — the model converts when the job starts.  Finding F16b
  (stale output kept; repaired, e15ceb9: streams invalidated while a converter job runs are invalidated again at
  its completion) is of that kind; only the run-time check, which can hold a conversion (`convhold`), drives it.
-/
import Pk.Model.Manager
import Pk.Props.C06
import Pk.Props.C10
import Pk.Proofs.MgrConv
import Pk.Proofs.MgrTagsAll
import Pk.Proofs.MgrConvRun
import Pk.Proofs.MgrReach

namespace Pk.Props.C16
open Pk.Mgr

def cachedOf (s : St) (c : String) : IdSet := (sget s.cached c).getD []
def queuedOf (s : St) (c : String) : IdSet := (sget s.toconv c).getD []

/-- streams whose data the import changed are not served from the cache any more, unless a
    converter job started in this very step re-converted them from the new files -/
theorem import_drops_changed (s : St) (st : Started) (processed usednew : Nat)
    (created : List (Nat × List Nat)) (upd rst add : List Nat) (c : String) (id : Nat)
    (hj : s.jImport.isSome) (hcr : created ≠ []) (hc : c ∈ s.convs)
    (hid : id ∈ upd ∨ id ∈ rst)
    (hcached : id ∈ cachedOf (step s (.importDone processed usednew created upd rst add) st).1 c) :
    s.convert = false ∧ (step s (.importDone processed usednew created upd rst add) st).1.convert = true := by
  rcases Pk.Proofs.MgrConvRun.step_ct s (.importDone processed usednew created upd rst add) st with h | h
  · exact absurd ⟨hj, hcr, hid⟩ ((h.sub c id hcached).2 hc)
  · exact ⟨h.off, h.on⟩

/-- every existing stream that matches a tag with converter `c` attached is cached or queued -/
def Accounted (s : St) : Prop :=
  ∀ n t, sget s.tags n = some t → ∀ c ∈ t.convs, ∀ id, id ∈ t.mat → id < s.next →
    id ∈ cachedOf s c ∨ id ∈ queuedOf s c

def ConvsWF (s : St) : Prop := ∀ n t, sget s.tags n = some t → ∀ c ∈ t.convs, c ∈ s.convs

theorem convsWF_step (s : St) (e : Ev) (st : Started) (hw : C06.TagsWF s) (h : ConvsWF s) :
    ConvsWF (step s e st).1 := by
  have _ := hw
  exact (Pk.Proofs.MgrConv.step_ac (b := False) s e st ⟨h, False.elim⟩ False.elim).1

/-- hypothesis of `accounted_step` (see there); an invariant for payloads that report existing streams only:
    `MatInv`, `matInv_step` -/
def MatBounded (s : St) : Prop := ∀ n t, sget s.tags n = some t → ∀ id ∈ t.mat, id < s.next

theorem accounted_step (s : St) (e : Ev) (st : Started)
    (hw : C06.TagsWF s) (hcw : ConvsWF s) (hcov : C10.Covered s) (hl : C13.CountInv s)
    (hok : C10.EvOK s e) (h : Accounted s)
    -- without it the statement is false: a tag with a converter attached whose matches
    -- contain an id ≥ `next` (e.g. a mark created as `id:N` with N = next; the model's `addTag`
    -- and `tagDone` payloads are not bounded either) is vacuously accounted; the import that
    -- creates stream N raises `next` without queueing N for the converter (it is only queued
    -- when the tagging job triggered by the import completes).
    (hmb : MatBounded s) :
    Accounted (step s e st).1 := by
  have _ := hw
  refine (Pk.Proofs.MgrConv.step_ac (b := True) s e st ⟨hcw, fun _ => ⟨h, hcov⟩⟩ (fun _ => ?_)).2 trivial
  cases e with
  | importDone processed usednew created upd rst add =>
    obtain ⟨hfresh, hpay⟩ := hok
    refine ⟨hmb, ?_, ⟨hfresh.1, fun o ho => (hfresh.2 o ho).2⟩, ?_⟩
    · intro jn held hj f hf
      have h1 := hl.1 f
      have hpos : 0 < s.idx.count f := List.count_pos_iff.2 hf
      rw [h1]
      simp only [C13.holders, C13.jobHeld, hj, Option.map_some, Option.getD_some, List.count_append]
      omega
    · intro jn held hj
      obtain ⟨h1, _, h3⟩ := hpay jn held hj
      exact ⟨h1, h3⟩
  | _ => trivial

/-- inductive form of `MatBounded`: also the snapshot held by the running tagging job is
    bounded (its matches are published by `tagDone`) -/
def MatInv (s : St) : Prop :=
  (∀ nt ∈ s.tags, ∀ id ∈ nt.2.mat, id < s.next) ∧
  ∀ n snap held, s.jTag = some (n, snap, held) → ∀ id ∈ snap.mat, id < s.next

/-- payload contract: a search result and the id list of a new mark name existing streams -/
def MatOK (s : St) : Ev → Prop
  | .tagDone _ result => ∀ id ∈ result, id < s.next
  | .addTag _ _ _ f => ∀ id ∈ f.ids, id < s.next
  | _ => True

theorem matInv_bounded (s : St) (h : MatInv s) : MatBounded s :=
  fun n t ht => h.1 (n, t) (Pk.Mgr.sget_mem _ _ _ ht)

private theorem next_le_step (s : St) (e : Ev) (st : Started) (hok : C10.EvOK s e) : s.next ≤ (step s e st).1.next := by
  refine Pk.Proofs.MgrReach.step_all_next_cases (P := fun _ n => s.next ≤ n) s e st (fun _ => Nat.le_refl _)
    fun p u c a b d jn held he hji => ?_
  subst he
  have := (hok.2 jn held hji).1
  split <;> omega

open Pk.Proofs.MgrTags in
theorem matInv_step (s : St) (e : Ev) (st : Started) (h : MatInv s) (hok : C10.EvOK s e)
    (hm : MatOK s e) : MatInv (step s e st).1 := by
  have hev : TagEvOK (fun _ => Pk.Proofs.MgrConv.MatLt s.next) (fun _ => Pk.Proofs.MgrConv.MatLt s.next) s e := by
    cases e with
    | addTag name color defn f =>
      intro _ id hid
      unfold atNew at hid
      split at hid
      · exact hm id ((mem_ofList _ _).1 hid)
      · cases hid
    | updQuery name defn f => exact fun _ _ _ _ hid => nomatch hid
    | updConv name convs => exact fun _ _ h _ => h
    | updName name new => exact fun _ _ h => h
    | markAdd name ids =>
      intro t ok ht id hid
      rcases (muAdd_mat t s ids id).1 ((muDel_mat _ _ id).1 hid).1 with h1 | h1
      · exact ht id h1
      · have := Pk.Lib.le_foldl_max ids 0 id (Or.inl h1)
        have := ok.known
        omega
    | markDel name ids =>
      intro t _ ht id hid
      rcases (muAdd_mat t s [] id).1 ((muDel_mat _ _ id).1 hid).1 with h1 | h1
      · exact ht id h1
      · cases h1
    | tagDone name result =>
      intro snap held ot _ _ _ _ _ hs id hid
      rcases (mem_union _ _ _).1 hid with h1 | h1
      · exact hs id ((mem_diff _ _ _).1 h1).1
      · exact hm id ((mem_ofList _ _).1 h1)
    | _ => trivial
  have h1 := tj_step (Pk.Proofs.MgrConv.matLt_closed _) (fun _ _ h => h) s e st hev h
  have hle := next_le_step s e st hok
  exact ⟨fun nt hnt id hid => Nat.lt_of_lt_of_le (h1.1 nt hnt id hid) hle,
    fun n snap held hj id hid => Nat.lt_of_lt_of_le (h1.2 n snap held hj id hid) hle⟩

/-- at quiescence (nothing queued) every matching stream has output -/
theorem eventually_converted (s : St) (h : Accounted s) (hq : ∀ c, queuedOf s c = [])
    (n : String) (t : Tag) (ht : sget s.tags n = some t) (c : String) (hc : c ∈ t.convs)
    (id : Nat) (hm : id ∈ t.mat) (hid : id < s.next) : id ∈ cachedOf s c := by
  rcases h n t ht c hc id hm hid with h1 | h1
  · exact h1
  · rw [hq c] at h1; simp at h1

/-- detaching stops further runs for streams only this tag matched, for every tagging choice of the dropped-output
    step inside `detachConv` (`st.tag` at both call sites) -/
theorem detach_stops (s : St) (n c : String) (t : Tag) (hw : C06.TagsWF s)
    (ht : sget s.tags n = some t) (id : Nat) (hm : id ∈ t.mat)
    (hothers : ∀ n2 t2, sget s.tags n2 = some t2 → n2 ≠ n → c ∈ t2.convs → id ∉ t2.mat)
    (choice : Option String := none) :
    id ∉ queuedOf (detachConv s n c choice) c := by
  intro h
  obtain ⟨_, n2, t2, h1, h2, h3, h4⟩ := (Pk.Proofs.MgrConv.detach_queued_iff s n c t hw ht id choice).1 h
  exact hothers n2 t2 h1 h2 h3 h4

end Pk.Props.C16
