/-
  C07 — merging index files is invisible.

  Property theorems over the model of `Writer.AddIndex` / `index.Merge` (Pk/Model/Merge.lean), tied to
  internal/index/{writer,merger}.go by `./check C07` on the repaired code (F9: `popN` popped bytes;
  F39: `AddIndex` shared the reader's host table with the writer group — both fixed in the repository,
  witnesses in corpus/C07, where the files of F39 are named `f23_alias_*` after its working id).

  Proved here: the wrap-around lemma of the reference-second re-basing (BitVec 64 and for the model's
  uint64 arithmetic), the host-table invariant across `AddIndex`, the skip-if-present rule, and
  newest-wins for ids, ports, protocol, byte counts and absolute first/last times.
  The full statement `MergeViewEq` below (host *addresses*, source packets and payload bytes of a copied
  stream are unchanged too) is decided in Pk/Props/C07Full.lean: FALSE for arbitrary `Reader` values
  (`merge_view_eq_counterexample`), PROVED as `merge_view_eq'` for well-formed readers (`Reader.WF`, which
  every reader of a file written by a reachable writer satisfies: `reachable_reader_wf`, `merged_wf`) whose
  merge output stays below the format's capacities (`Reader.Fits`).
-/
import Pk.Model.Merge
import Pk.Proofs.MergeHosts
import Pk.Proofs.MergeStreams
import Pk.Proofs.IndexFormatHostsRoundtrip
import Pk.Proofs.IndexFormatFullWriter

namespace Pk.Props.C07
open Pk Pk.Bytes Pk.Index

/-- `rebase_abs_time`: moving the reference second from `old` to `new` and adding `(old - new)·10^9` to a
    relative time leaves `ref·10^9 + rel` unchanged modulo 2^64, even when `old < new` and the
    intermediate difference underflows. -/
theorem rebase_abs_time (old new rel : BitVec 64) :
    new * 1000000000#64 + (rel + (old - new) * 1000000000#64) = old * 1000000000#64 + rel := by
  bv_omega

/-- the same for the uint64 arithmetic of the model (`sub64`, `mul64`, `add64` of writer.go 840–855) -/
theorem rebase_abs_time_model (ref newRef t : Nat) :
    abs64 newRef (add64 t (mul64 (sub64 ref newRef) 1000000000)) = abs64 ref t :=
  rebase_abs_nat ref newRef t

/-- `abs64` is the absolute time itself when nothing overflows (all times of this century do not) -/
theorem abs64_exact (ref t : Nat) (h : ref * 1000000000 + t < 2 ^ 64) : abs64 ref t = ref * 1000000000 + t := by
  unfold abs64; exact Nat.mod_eq_of_lt h

/-- `AddIndex` of every input in order, whatever it answers -/
def mergeOne' : List Reader → Writer → Option Writer
  | [], w => some w
  | r :: rs, w => match w.addIndex r with
    | .ok (w', _) => mergeOne' rs w'
    | .error _ => none


/-- `hostTable_aligned` across `AddIndex` (every path: hosts added to an existing group, a group that fails
    half way and is popped back, a new group taken over from the reader, the "no new streams" undo). -/
theorem hostTable_aligned_addIndex (w w' : Writer) (r : Reader) (ok : Bool) (hr : r.HostsInv)
    (hw : GroupsInv w.hostGroups) (h : w.addIndex r = .ok (w', ok)) : GroupsInv w'.hostGroups :=
  addIndex_inv w w' r ok hr hw h

/-- a reader opened on a file the writer produced satisfies the reader-side invariant `AddIndex` relies on
    (so `hostTable_aligned_addIndex` applies to every merge input that is itself a written or merged file) -/
theorem written_reader_hostsInv (w : Writer) (r : Reader) (hw : GroupsInv w.hostGroups)
    (hb4 : (v4of w.hostGroups).length < 2 ^ 32) (hb6 : (v6of w.hostGroups).length < 2 ^ 32)
    (hr : newReader w.finalize = .ok r) : r.HostsInv := by
  have hgroups := (reopen w r hr).2.2.2.2.2 hw (by omega) (by omega)
  intro g hg
  rw [hgroups] at hg
  obtain ⟨g0, hg0, rfl⟩ := List.mem_map.mp hg
  exact toReader_inv g0 (hw g0 hg0)

/-- `hostTable_aligned` over any history of a merge writer: a sequence of `AddIndex` calls with inputs that
    satisfy the reader invariant keeps every host group whole (4/16-byte hosts, non-empty, ≤ 65 536 bytes). -/
theorem hostTable_aligned_merge (rs : List Reader) (hrs : ∀ r ∈ rs, r.HostsInv) :
    ∀ (w w' : Writer), GroupsInv w.hostGroups → mergeOne' rs w = some w' → GroupsInv w'.hostGroups := by
  induction rs with
  | nil => intro w w' hw h; simp [mergeOne'] at h; subst h; exact hw
  | cons r rs ih =>
    intro w w' hw h
    simp only [mergeOne'] at h
    split at h
    · rename_i w1 ok h1
      exact ih (fun x hx => hrs x (by simp [hx])) w1 w' (addIndex_inv w w1 r ok (hrs r (by simp)) hw h1) h
    · simp at h

/-- a group that refuses an index half way is exactly what it was before (`popN(nAdded)`) — F9 -/
theorem failed_group_restored (g g' : HostGroup) (k : Nat) (ext : Bytes) (hs : g'.hostSize = g.hostSize)
    (hx : g'.hosts = g.hosts ++ ext) (hl : ext.length = k * g.hostSize) : g'.popN k = g :=
  popN_restore g g' k ext hs hx hl

/-- `addIndex_preserves_old` (times, ports, protocol, byte counts, table positions): see the file header
    for what is missing to the full statement. -/
theorem addIndex_preserves_old_partial (w w' : Writer) (r : Reader) (ok : Bool) (h : w.addIndex r = .ok (w', ok))
    (j : Nat) (s : StreamRec) (hs : w.streams[j]? = some s) :
    ∃ s', w'.streams[j]? = some s' ∧ SameStatic s s' ∧ s'.pstart = s.pstart ∧ s'.dataStart = s.dataStart ∧
      s'.hg = s.hg ∧ s'.ch = s.ch ∧ s'.sh = s.sh ∧
      abs64 w'.ref s'.first = abs64 w.ref s.first ∧ abs64 w'.ref s'.last = abs64 w.ref s.last :=
  addIndex_preserves_old w w' r ok h j s hs

/-- `addIndex_adds_new` (times, ports, protocol, byte counts) -/
theorem addIndex_adds_new_partial (w w' : Writer) (r : Reader) (ok : Bool) (h : w.addIndex r = .ok (w', ok))
    (s : StreamRec) (hs : s ∈ r.f.streams) (hid : s.id ∉ w.streams.map (·.id)) :
    ∃ s' ∈ w'.streams, SameStatic s s' ∧
      abs64 w'.ref s'.first = abs64 r.f.ref s.first ∧ abs64 w'.ref s'.last = abs64 r.f.ref s.last :=
  addIndex_adds_new w w' r ok h s hs hid

/-- skip-if-present: ids afterwards = ids before, then the ids of the added index that were not present -/
theorem addIndex_skips_present (w w' : Writer) (r : Reader) (ok : Bool) (h : w.addIndex r = .ok (w', ok)) :
    w'.streams.map (·.id) = w.streams.map (·.id) ++
      (r.f.streams.map (·.id)).filter (fun id => !(w.streams.map (·.id)).contains id) :=
  addIndex_ids w w' r ok h

/-- `index.Merge` below the capacity limits: every input, newest first, goes into one writer -/
def mergeOne : List Reader → Writer → Option Writer
  | [], w => some w
  | r :: rs, w => match w.addIndex r with
    | .ok (w', true) => mergeOne rs w'
    | _ => none

private theorem mergeOne_cons {r : Reader} {rs : List Reader} {w w' : Writer} (h : mergeOne (r :: rs) w = some w') :
    ∃ w1, w.addIndex r = .ok (w1, true) ∧ mergeOne rs w1 = some w' := by
  simp only [mergeOne] at h
  split at h
  · exact ⟨_, ‹_›, h⟩
  · cases h

/-- `mergeOne` is what the model of merger.go does while `AddIndex` accepts -/
theorem mergeWriters_single (rs : List Reader) (w w' : Writer) (h : mergeOne rs w = some w') :
    mergeWriters rs [w] = .ok [w'] := by
  induction rs generalizing w with
  | nil => cases h; rfl
  | cons r rs ih =>
    obtain ⟨w1, h1, h⟩ := mergeOne_cons h
    simp only [mergeWriters, tryWriters, h1]
    exact ih w1 h

/-- ids of the merged file: first occurrence in newest-first order -/
def mergedIds : List Reader → List Nat → List Nat
  | [], acc => acc
  | r :: rs, acc => mergedIds rs (acc ++ (r.f.streams.map (·.id)).filter (fun id => !acc.contains id))

theorem merge_ids (rs : List Reader) (w w' : Writer) (h : mergeOne rs w = some w') :
    w'.streams.map (·.id) = mergedIds rs (w.streams.map (·.id)) := by
  induction rs generalizing w with
  | nil => cases h; rfl
  | cons r rs ih =>
    obtain ⟨w1, h1, h⟩ := mergeOne_cons h
    rw [ih w1 h, addIndex_ids w w1 r true h1]; rfl

/-- once in the writer, a stream stays through the rest of the merge (static fields, absolute times) -/
theorem merge_keeps (rs : List Reader) (w w' : Writer) (h : mergeOne rs w = some w') (s : StreamRec) (hs : s ∈ w.streams) :
    ∃ s' ∈ w'.streams, SameStatic s s' ∧
      abs64 w'.ref s'.first = abs64 w.ref s.first ∧ abs64 w'.ref s'.last = abs64 w.ref s.last := by
  induction rs generalizing w s with
  | nil => cases h; exact ⟨s, hs, Rebased.refl _ s⟩
  | cons r rs ih =>
    obtain ⟨w1, h1, h⟩ := mergeOne_cons h
    obtain ⟨s1, hs1, e1⟩ := addIndex_keeps w w1 r true h1 s hs
    obtain ⟨s2, hs2, e2⟩ := ih w1 h s1 hs1
    exact ⟨s2, hs2, e1.trans e2⟩

/-- `merge_newest_wins`: a stream of input `k` (newest first) whose id occurs in no newer input is in the
    merged file — with its ports, protocol, byte counts and absolute first/last time — and (by `merge_ids`)
    nothing else carries that id. Older versions of the id are skipped. -/
theorem merge_newest_wins (rs : List Reader) (w w' : Writer) (h : mergeOne rs w = some w')
    (k : Nat) (r : Reader) (hk : rs[k]? = some r) (s : StreamRec) (hs : s ∈ r.f.streams)
    (hnew : ∀ j r', j < k → rs[j]? = some r' → s.id ∉ r'.f.streams.map (·.id))
    (hw : s.id ∉ w.streams.map (·.id)) :
    ∃ s' ∈ w'.streams, SameStatic s s' ∧
      abs64 w'.ref s'.first = abs64 r.f.ref s.first ∧ abs64 w'.ref s'.last = abs64 r.f.ref s.last := by
  induction rs generalizing w k with
  | nil => simp at hk
  | cons r0 rs ih =>
    obtain ⟨w1, h1, h⟩ := mergeOne_cons h
    cases k with
    | zero =>
      simp at hk; subst hk
      obtain ⟨s1, hs1, e1⟩ := addIndex_adds_new w w1 r0 true h1 s hs hw
      obtain ⟨s2, hs2, e2⟩ := merge_keeps rs w1 w' h s1 hs1
      exact ⟨s2, hs2, Rebased.trans e1 e2⟩
    | succ k =>
      simp at hk
      have h0 : s.id ∉ r0.f.streams.map (·.id) := hnew 0 r0 (by omega) (by simp)
      have hw1 : s.id ∉ w1.streams.map (·.id) := by
        rw [addIndex_ids w w1 r0 true h1]
        simp only [List.mem_append, List.mem_filter, not_or, not_and]
        exact ⟨hw, fun hm => absurd hm h0⟩
      exact ih w1 h k hk (fun j r' hj hr' => hnew (j + 1) r' (by omega) (by simpa using hr')) hw1

/-! ## the full statement (decided in Pk/Props/C07Full.lean; also checked by the tie on every run) -/

/-- `merge_view_eq`: replacing any suffix of a stack of index files by its merge changes no stream view
    (absolute times, host addresses, ports, protocol, source packets, payload), for every id. -/
def MergeViewEq : Prop :=
  ∀ (pre suf merged : List Reader), merge suf = .ok merged →
    ∀ id, stackView (pre ++ merged) id = stackView (pre ++ suf) id

/-- the re-basing lemma is about genuinely wrapping arithmetic: with `old < new` the intermediate difference
    underflows (here to 2^64 − 10^9·5) and the sum still comes out right -/
example : abs64 105 (add64 7000000000 (mul64 (sub64 100 105) 1000000000)) = abs64 100 7000000000 := by decide
example : sub64 100 105 = 2 ^ 64 - 5 := by decide
example : GroupsInv ([] : List HostGroup) := fun g hg => by simp at hg
example : ({ hosts := [1,2,3,4,5,6,7,8], hostSize := 4 } : HostGroup).Inv :=
  ⟨Or.inl rfl, by decide, by decide, by decide⟩
example : mergeOne [] {} = some {} := rfl

end Pk.Props.C07
