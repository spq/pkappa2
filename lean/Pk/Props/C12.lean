/-
  C12 — State survives restart and a crash at any point (the part a model of the files can carry).

  Model: Pk.Model.Recover.  A crash point of `saveState` is a prefix of its sequence of file operations; a
  crash inside the write leaves an unparsable file, which `New` ignores.  The last clause of
  `saveState_crash_safe` re-establishes `Settled` for the new file, the precondition of the next save: by
  induction an acknowledged change is never lost over any sequence of saves.
  The stream level (imports and merges) is in Pk/Props/C12Idx.lean.  Tags re-converging and the payload
  bytes of the recovered streams are left to the crash experiments of the scenario harness (`crashcheck`: a
  second real manager on a copy of the data directory): the property is proved in part only.
-/
import Pk.Model.Recover
import Pk.Proofs.Recover

namespace Pk.Props.C12
open Pk.Recover Pk.Proofs.Recover

theorem pickState_parsable (fs : List StateFile) (best r : StateFile)
    (hb : best.parsable = true) (h : pickState fs (some best) = some r) : r.parsable = true := by
  rcases (pickState_spec _ _ _ h).1 with h' | ⟨_, h2⟩
  · cases h'
    exact hb
  · exact h2

theorem pickState_none_parsable (fs : List StateFile) (r : StateFile)
    (h : pickState fs none = some r) : r.parsable = true ∧ r ∈ fs := by
  rcases (pickState_spec _ _ _ h).1 with h' | ⟨h1, h2⟩
  · cases h'
  · exact ⟨h2, h1⟩

/-- the loaded file has the latest stamp among the parsable ones -/
theorem pickState_latest (fs : List StateFile) (r : StateFile) (h : pickState fs none = some r) :
    ∀ f ∈ fs, f.parsable = true → f.saved ≤ r.saved := by
  exact (pickState_spec _ _ _ h).2.2

/-- some parsable file exists ⇒ one is loaded (a half-written newer file is never fatal) -/
theorem pickState_some (fs : List StateFile) (f : StateFile) (hf : f ∈ fs) (hp : f.parsable = true) :
    (pickState fs none).isSome = true := by
  exact pickState_isSome_of_mem fs none f hf hp

/-- `cur` is THE parsable file with the latest stamp; unique, because on equal stamps `New` takes the later
    file in name order -/
def Settled (ss : List StateFile) (cur : StateFile) : Prop :=
  cur ∈ ss ∧ cur.parsable = true ∧ (∀ f ∈ ss, f.parsable = true → f.saved ≤ cur.saved ∧ (f.saved = cur.saved → f = cur)) ∧
  (ss.map (·.name)).Nodup

/-- crash at any point of a `saveState` (any prefix of its file operations): the restart shows the old
    or the new tags; after all operations the new tags -/
theorem saveState_crash_safe (ss : List StateFile) (cur new : StateFile)
    (hs : Settled ss cur) (hstamp : cur.saved < new.saved) (hname : ∀ f ∈ ss, f.name < new.name)
    (k : Nat) :
    let ops := saveOps new (some cur.name)
    let disk := (ops.take k).foldl applyOp ss
    (((pickState disk none).map (·.tags)) = some cur.tags ∨ ((pickState disk none).map (·.tags)) = some new.tags) ∧
    (ops.length ≤ k → ((pickState disk none).map (·.tags)) = some new.tags ∧ Settled disk { new with parsable := true }) := by
  obtain ⟨hmem, hpar, hmax, hnd⟩ := hs
  have hne : ∀ f ∈ ss, f.name ≠ new.name := fun f hf => Nat.ne_of_lt (hname f hf)
  have hlt : ∀ f ∈ ss, f.parsable = true → f.saved < new.saved := fun f hf hp =>
    Nat.lt_of_le_of_lt (hmax f hf hp).1 hstamp
  have h0 : pickState ss none = some cur := pickState_unique ss cur hmem hpar hmax
  -- the disk at each crash point: untouched, with the half-written new file, with the complete new file
  -- after a part of the old disk (all of it, or without the old file: the argument is the same)
  match k with
  | 0 => exact ⟨.inl (congrArg _ h0), fun (hk : 3 ≤ 0) => by omega⟩
  | 1 =>
    intro ops disk
    have hd : disk = ss ++ [{ new with parsable := false }] := rfl
    exact ⟨.inl (by rw [hd, pickState_snoc_unparsable _ _ rfl, h0]; rfl), fun (hk : 3 ≤ 1) => by omega⟩
  | k + 2 =>
    intro ops disk
    obtain ⟨rest, hsub, hd⟩ : ∃ rest, rest.Sublist ss ∧ disk = rest ++ [{ new with parsable := true }] :=
      disk_written ss new cur.name hne (hne cur hmem).symm k
    have hlt' : ∀ f ∈ rest, f.parsable = true → f.saved < new.saved := fun f hf => hlt f (hsub.subset hf)
    have ht : (pickState disk none).map (·.tags) = some new.tags := by
      rw [hd, pickState_snoc_newer _ { new with parsable := true } rfl hlt']; rfl
    refine ⟨.inr ht, fun _ => ⟨ht, hd ▸ ⟨by simp, rfl, snoc_newer_max _ _ hlt', ?_⟩⟩⟩
    rw [List.map_append, List.nodup_append]
    refine ⟨(hsub.map _).nodup hnd, by simp, ?_⟩
    intro a ha b hb
    obtain ⟨f, hf, rfl⟩ := List.mem_map.mp ha
    cases List.mem_singleton.mp hb
    exact hne f (hsub.subset hf)

/-- incomplete index files are ignored, every complete one is loaded, name order is kept -/
theorem partial_index_ignored (d : Disk) :
    (∀ n, n ∈ recoverIdx d ↔ ∃ f ∈ d.idx, f.complete = true ∧ f.name = n) ∧
    (recoverIdx d).length = (d.idx.filter (·.complete)).length ∧
    ((d.idx.map (·.name)).Pairwise (· < ·) → (recoverIdx d).Pairwise (· < ·)) := by
  refine ⟨?_, ?_, ?_⟩
  · intro n
    simp only [recoverIdx, List.mem_map, List.mem_filter]
    constructor
    · rintro ⟨f, ⟨hf, hc⟩, rfl⟩
      exact ⟨f, hf, hc, rfl⟩
    · rintro ⟨f, hf, hc, rfl⟩
      exact ⟨f, ⟨hf, hc⟩, rfl⟩
  · simp [recoverIdx]
  · intro h
    exact h.sublist (List.filter_sublist.map _)

-- a half-written newer state file is ignored
example : pickState [⟨0, 5, true, [⟨"tag/a", "sport:1", "red", []⟩]⟩, ⟨1, 9, false, []⟩] none =
    some ⟨0, 5, true, [⟨"tag/a", "sport:1", "red", []⟩]⟩ := by decide

end Pk.Props.C12
