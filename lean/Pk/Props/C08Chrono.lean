/-
  C08, chronological arrival — the two statements `C08.NoDoubleIdChrono` / `C08.BatchingIrrelevantChrono`
  (Pk/Props/ImportSpec.lean) decided.

  (1) As stated, both are false:
      * `batching_irrelevant_chrono_counterexample` — a mechanism of the code, that of finding F34
        (which is a chronological history): a segment waits behind a hole when a.pcap is imported; a
        packet of b.pcap, more than the inactivity timeout later, makes the reassembler give up the
        hole (`skipFlush` in `FlushCloseOlderThan`) and deliver the waiting bytes to the old stream.
        That stream has no packet in b.pcap, so the import of b.pcap does not rewrite it:
        incrementally its `Data` lacks the bytes that the one-shot import has.
        (`C05More.flow_local_false_across_timeout` is the same flush seen from the reassembler.)
      * `no_double_id_chrono_counterexample` — not a mechanism of the code but two gaps of the
        statement: it does not tie the capture names handed to an import (`b.1`) to the captures of
        its packets (`b.2`), and it does not say that a packet is identified by (file, index)
        (`no_double_id_chrono_dup_witness`).

  (2) What holds, for all packet contents (no well-formedness of the conversations —
      `C05More.WellFormedWire` is not used), under the decidable hypotheses `ChronoHist`:
        strict   every packet of an earlier batch is fed before every packet of a later batch
                 (`Before` = `comparePackets`: older, or equally old and smaller file name / index —
                 ties broken as `sortPkts` breaks them).  Stronger than `p.ts ≤ q.ts`: it makes the
                 feed of an import the previous feed followed by the new packets (`feed_chrono`), so
                 that the reassembler only ever sees its input extended (`prefix_extends`).
                 Strictly increasing timestamps suffice (`Before.of_ts_lt`).
        keys     packets are identified by (file, index)          (else: the dup witness)
        names    the names of an import are the captures of its packets, `fresh`: no capture is
                 imported twice                                    (else: the counterexample)
      With ANY timestamps (flushes, time-outs, resets included): `no_double_id_chrono_strict`,
      `ids_stable_chrono`, `visible_ids_chrono`.  With all packets in ONE inactivity window
      (`HistWindow`): `batching_irrelevant_chrono_window`, and as equal lists with equal IDs
      `batching_irrelevant_chrono_window_eq`; beyond the window it is false (F34, above).

  Not covered: ties at a batch boundary that `sortPkts` orders against the arrival order.  The
  repaired statements `NoDoubleIdChronoTies`, `BatchingIrrelevantChronoTies` are definitions, not
  proved; `no_double_id_chrono_partial`, `batching_irrelevant_chrono_partial` prove them under the one
  extra hypothesis `TiesInFeedOrder` (`chronoHist_iff_ties`); no counterexample is known.
-/
import Pk.Props.C08
import Pk.Proofs.ImportChronoHist

namespace Pk.Props.C08Chrono
open Pk.Import Pk.Props.C08 Pk.Proofs.Import Pk.Proofs.ImportReasm Pk.Proofs.ImportChrono

/-- the fold of `C08.NoDoubleIdChrono` / `C08.BatchingIrrelevantChrono` -/
def incrStack (batches : List (List String × List Pkt)) : List Index :=
  (batches.foldl (fun (acc : List Index × List Pkt) b =>
      (importStep b.1 (sortPkts (acc.2 ++ b.2)) acc.1, acc.2 ++ b.2)) ([], [])).1

/-- the one-shot import of `C08.BatchingIrrelevantChrono` -/
def oneStack (batches : List (List String × List Pkt)) : List Index :=
  importStep (batches.map (·.1)).flatten (sortPkts (batches.foldr (fun b acc => b.2 ++ acc) [])) []

theorem incrStack_eq (bs : List Batch) : incrStack bs = (runHist bs).1 := rfl

theorem sortPkts_of_sorted (l : List Pkt) (h : l.Pairwise (fun a b => pktLe a b = true)) : sortPkts l = l :=
  List.mergeSort_of_pairwise h

/-- a history of two batches whose packets arrive in feed order: the feeds are `A` and `A ++ B` -/
private theorem incrStack_two (N1 N2 : List String) (A B : List Pkt) (h : (A ++ B).Pairwise (fun a b => pktLe a b = true)) :
    incrStack [(N1, A), (N2, B)] = importStep N2 (A ++ B) (importStep N1 A []) := by
  have e1 : sortPkts ([] ++ A) = A := sortPkts_of_sorted _ (List.pairwise_append.mp h).1
  have e2 : sortPkts (([] ++ A) ++ B) = A ++ B := sortPkts_of_sorted _ h
  simp only [incrStack, List.foldl_cons, List.foldl_nil, e1, e2]

private theorem oneStack_two (N1 N2 : List String) (A B : List Pkt) (h : (A ++ B).Pairwise (fun a b => pktLe a b = true)) :
    oneStack [(N1, A), (N2, B)] = importStep (N1 ++ N2) (A ++ B) [] := by
  simp only [oneStack, List.foldr_cons, List.foldr_nil, List.map_cons, List.map_nil, List.flatten_cons, List.flatten_nil,
    List.append_nil, sortPkts_of_sorted _ h]

/-- the wire of `C08.finding_F34`: handshake, an ACK, and a byte (seq 102) behind a hole (seq 101) -/
def f34w : List Pkt :=
  [tcpPkt "a" 0 1000000 true true false 100 [], tcpPkt "a" 1 1000010 false true true 1000 [],
   tcpPkt "a" 2 1000020 true false true 101 [], tcpPkt "a" 3 1000030 true false true 102 [0x42]]
/-- a packet of the same 4-tuple 399 s later (the inactivity timeout is 300 s) -/
def f34late : Pkt := tcpPkt "b" 0 400000000 true false true 101 [0x41]

/-- COUNTEREXAMPLE (real mechanism, F34): a.pcap then b.pcap, chronological; importing b.pcap makes
    the reassembler give up the hole of the old connection and deliver byte 0x42 to stream 0, which
    is not rewritten because it has no packet in b.pcap.  One-shot: stream 0 carries 0x42. -/
theorem batching_irrelevant_chrono_counterexample : ¬ BatchingIrrelevantChrono := by
  intro H
  have h : ((visible (incrStack [(["a"], f34w), (["b"], [f34late])])).map (fun e => (e.2.pkts, e.2.data))).Perm
      ((visible (oneStack [(["a"], f34w), (["b"], [f34late])])).map (fun e => (e.2.pkts, e.2.data))) := H _ (by decide)
  rw [incrStack_two _ _ _ _ (by decide), oneStack_two _ _ _ _ (by decide)] at h
  rw [visible_of_sorted _ [0, 1] (by decide) (by decide), visible_of_sorted _ [0, 1] (by decide) (by decide)] at h
  exact absurd h (by decide)

/-- COUNTEREXAMPLE (gap of the statement, not of the code): the second import is told that "a" is
    one of its new captures although it only brings b.pcap; the continued flow then counts as new
    and gets ID 1 while ID 0 stays visible. -/
theorem no_double_id_chrono_counterexample : ¬ NoDoubleIdChrono := by
  intro H
  have h : NoDoubleIdAt (incrStack [(["a"], [udpPkt "a" 0 1000000 0x41]), (["a", "b"], [udpPkt "b" 0 2000000 0x42])]) 0 1 :=
    H _ (by decide) 0 1 (by decide)
  rw [incrStack_two _ _ _ _ (by decide)] at h
  exact absurd h (by decide)

/-- Why `ChronoHist.keys` is needed (strict order, names and freshness are as required, even the
    packet references (timestamp, file, index) are distinct): two flows start with packets that carry
    the same (file, index).  `StreamByFirstPacketSource` does not look at the timestamp, so when
    b.pcap continues the second flow, the lookup of its first packet answers the ID of the first
    flow: the second flow is written under ID 0 while its old version stays visible under ID 1. -/
theorem no_double_id_chrono_dup_witness :
    let bs : List Batch := [(["a"], [udpPkt "a" 0 1000000 0x41, { udpPkt "a" 0 1000001 0x42 with sport := 2222 }]),
                            (["b"], [{ udpPkt "b" 0 1000002 0x43 with sport := 2222 }])]
    bs.Pairwise (fun bi bj => Before bi.2 bj.2) ∧ (∀ b ∈ bs, ∀ p ∈ b.2, p.file ∈ b.1) ∧
    bs.Pairwise (fun bi bj => ∀ p ∈ bi.2, p.file ∉ bj.1) ∧ ((allPkts bs).map Pkt.ref).Nodup ∧
    ¬ ((allPkts bs).map Pkt.key).Nodup ∧ ¬ NoDoubleIdAt (incrStack bs) 0 1 := by
  intro bs
  refine ⟨by decide, by decide, by decide, by decide, by decide, ?_⟩
  rw [incrStack_two _ _ _ _ (by decide)]
  decide

theorem Before.of_ts_lt {ps qs : List Pkt} (h : ∀ p ∈ ps, ∀ q ∈ qs, p.ts < q.ts) : Before ps qs := by
  intro p hp q hq
  exact (pktLt_iff p q).mpr (Or.inl (h p hp q hq))

theorem feed_chrono (ps qs : List Pkt) (hk : ((ps ++ qs).map Pkt.key).Nodup) (hb : Before ps qs) :
    sortPkts (ps ++ qs) = sortPkts ps ++ sortPkts qs := sortPkts_append ps qs hk hb

/-- For ANY packets and ANY timestamps (flushes, time-outs and resets included) `reasm (ps ++ qs)` has the
    streams of `reasm ps` at the same positions, each with the same first
    packet, its old packets and its old data as a prefix, the additional packets being packets of
    `qs`; the additional streams hold packets of `qs` only (so they belong to conversations, or
    to continuations after a time-out, whose first packet is in `qs`) and at least one. -/
theorem prefix_extends (ps qs : List Pkt) :
    (reasm ps).size ≤ (reasm (ps ++ qs)).size ∧
    (∀ (i : Nat) (s : Stream), (reasm ps)[i]? = some s → ∃ s' np nd, (reasm (ps ++ qs))[i]? = some s' ∧
      s'.pkts = s.pkts ++ np ∧ s'.data = s.data ++ nd ∧ s'.pkts.head? = s.pkts.head? ∧ s.pkts ≠ [] ∧
      ∀ x ∈ np, ∃ q ∈ qs, q.ref = x.1) ∧
    (∀ (i : Nat) (s' : Stream), (reasm ps).size ≤ i → (reasm (ps ++ qs))[i]? = some s' →
      s'.pkts ≠ [] ∧ ∀ x ∈ s'.pkts, ∃ q ∈ qs, q.ref = x.1) := by
  have hext := reasm_append_ext ps qs
  refine ⟨hext.size_le, ?_, ?_⟩
  · intro i s hs
    obtain ⟨hi, es⟩ := array_get?_some.mp hs
    obtain ⟨np, hx, hq⟩ := hext.ext i
    rw [es] at hx
    obtain ⟨hpk, nd, hd⟩ := hx.fwd
    have hne : s.pkts ≠ [] := mt List.reverse_eq_nil_iff.mp (es ▸ (reasm_pkts ps).1 i hi)
    refine ⟨_, np.reverse, nd, array_get?_some.mpr ⟨Nat.lt_of_lt_of_le hi hext.size_le, rfl⟩, hpk, hd, ?_,
      hne, fun x hx => hq x (List.mem_reverse.mp hx)⟩
    rw [hpk, List.head?_append, List.head?_eq_some_head hne]; rfl
  · intro i s' hge hs'
    obtain ⟨hi', es⟩ := array_get?_some.mp hs'
    obtain ⟨np, ⟨hp, _⟩, hq⟩ := hext.ext i
    rw [array_get!_default _ i hge, default_pktsRev, List.append_nil, es] at hp
    unfold Stream.pkts
    refine ⟨mt List.reverse_eq_nil_iff.mp (es ▸ hext.new i hge hi'), fun x hx => ?_⟩
    rw [List.mem_reverse, hp] at hx
    exact hq x hx

/-- If moreover all packets lie in one inactivity window, a stream of
    `reasm ps` that gets no packet of `qs` is literally unchanged in `reasm (ps ++ qs)` (data, flags).
    Across the timeout this fails (`batching_irrelevant_chrono_counterexample`). -/
theorem prefix_extends_window (t0 : Nat) (ps qs : List Pkt) (hw : InWindow t0 (ps ++ qs)) (i : Nat) (s s' : Stream)
    (hs : (reasm ps)[i]? = some s) (hs' : (reasm (ps ++ qs))[i]? = some s') (hp : s'.pkts = s.pkts) : s' = s := by
  obtain ⟨hi, es⟩ := array_get?_some.mp hs
  obtain ⟨_, es'⟩ := array_get?_some.mp hs'
  have := reasm_window_frame t0 ps qs hw i hi (by rw [es, es']; exact List.reverse_inj.mp hp)
  rw [es, es'] at this
  exact this

/-- the visible IDs are `0 .. n-1` where `n` is the number of streams of the reassembler on the whole
    feed; ID `k` shows the `k`-th stream: its packets, and a prefix of its data -/
theorem visible_ids_chrono (bs : List Batch) (h : ChronoHist bs) :
    visibleIDs (incrStack bs) = List.range (reasm (sortPkts (allPkts bs))).size ∧
    ∀ k : Nat, k < (reasm (sortPkts (allPkts bs))).size → ∃ V nd, visibleStream (incrStack bs) k = some V ∧
      V.pkts = (reasm (sortPkts (allPkts bs)))[k]!.pkts ∧ (reasm (sortPkts (allPkts bs)))[k]!.data = V.data ++ nd := by
  obtain ⟨_, hI⟩ := runHist_inv h
  rw [incrStack_eq]
  refine ⟨hI.ids, fun k hk => ?_⟩
  obtain ⟨V, hv, hp, hd⟩ := hI.vis k hk
  obtain ⟨e1, nd, e2⟩ := SExt.fwd (np := []) ⟨hp.symm, hd⟩
  exact ⟨V, nd, hv, by rw [e1]; exact (List.append_nil _).symm, e2⟩

/-- C08 for strictly chronological histories with ANY timestamps (gaps beyond the inactivity
    timeout, flushes, resets included): after any number of imports no two visible IDs share a
    packet.  The conclusion is that of `C08.NoDoubleIdChrono`; the hypothesis `ChronoHist` stands
    where that has `p.ts ≤ q.ts` (header: strict, keys, names). -/
theorem no_double_id_chrono_strict (batches : List (List String × List Pkt))
    (h : ChronoHist batches) :
    let stack := (batches.foldl (fun (acc : List Index × List Pkt) b =>
        (importStep b.1 (sortPkts (acc.2 ++ b.2)) acc.1, acc.2 ++ b.2)) ([], [])).1
    ∀ i j, i ≠ j → NoDoubleIdAt stack i j := by
  intro stack i j hij
  obtain ⟨_, hI⟩ := runHist_inv h
  have hk : ((sortPkts (allPkts batches)).map Pkt.key).Nodup := sortPkts_keys h.keys
  exact hI.noDouble (reasm_keyDisj _ hk) i j hij

/-- the window hypothesis is not used -/
theorem no_double_id_chrono_window (batches : List (List String × List Pkt)) (h : ChronoHist batches)
    (t0 : Nat) (_hw : HistWindow t0 batches) :
    ∀ i j, i ≠ j → NoDoubleIdAt (incrStack batches) i j :=
  no_double_id_chrono_strict batches h

theorem allPkts_append (bs : List Batch) (b : Batch) : allPkts (bs ++ [b]) = allPkts bs ++ b.2 := by
  induction bs with
  | nil => simp [allPkts]
  | cons x bs ih => rw [List.cons_append, allPkts_cons, allPkts_cons, ih, List.append_assoc]

theorem chronoHist_snoc {bs : List Batch} {b : Batch} (h : ChronoHist (bs ++ [b])) :
    ChronoHist bs ∧ RestHyp (allPkts bs) [b] := by
  refine ⟨?_, by simpa using (RestHyp.of_chrono h).drop bs⟩
  obtain ⟨h1, h2, h3, h4⟩ := h
  rw [allPkts_append, List.map_append] at h2
  exact ⟨(List.pairwise_append.mp h1).1, (List.nodup_append.mp h2).1, fun b' hb' => h3 b' (List.mem_append_left _ hb'),
    (List.pairwise_append.mp h4).1⟩

theorem incrStack_snoc (bs : List Batch) (b : Batch) :
    incrStack (bs ++ [b]) = importStep b.1 (sortPkts ((runHist bs).2 ++ b.2)) (incrStack bs) := by
  unfold incrStack
  rw [List.foldl_append]
  rfl

/-- C08, ID stability (ANY timestamps): a stream that is visible before the import of batch `b` is
    visible after it under the same ID, with its packets and its data extended (by packets of `b`) -/
theorem ids_stable_chrono (bs : List Batch) (b : Batch) (h : ChronoHist (bs ++ [b])) (k : Nat) (V : Stream)
    (hv : visibleStream (incrStack bs) k = some V) :
    ∃ V' np nd, visibleStream (incrStack (bs ++ [b])) k = some V' ∧
      V'.pkts = V.pkts ++ np ∧ V'.data = V.data ++ nd ∧ ∀ x ∈ np, ∃ q ∈ b.2, q.ref = x.1 := by
  obtain ⟨hbs, hrest⟩ := chronoHist_snoc h
  obtain ⟨hacc, hI⟩ := runHist_inv hbs
  obtain ⟨hs, hstep⟩ := hrest.step hI
  rw [incrStack_snoc, hacc, hs, importStep_eq]
  obtain ⟨V', np, nd, h1, h2, h3, h4⟩ := hstep.stable k V hv
  refine ⟨V', np, nd, h1, h2, h3, ?_⟩
  intro x hx
  obtain ⟨q, hq, e⟩ := h4 x hx
  exact ⟨q, mem_sortPkts.mp hq, e⟩

/-- the window hypothesis is not used -/
theorem ids_stable_chrono_window (bs : List Batch) (b : Batch) (h : ChronoHist (bs ++ [b]))
    (t0 : Nat) (_hw : HistWindow t0 (bs ++ [b])) (k : Nat) (V : Stream)
    (hv : visibleStream (incrStack bs) k = some V) :
    ∃ V' np nd, visibleStream (incrStack (bs ++ [b])) k = some V' ∧
      V'.pkts = V.pkts ++ np ∧ V'.data = V.data ++ nd ∧ ∀ x ∈ np, ∃ q ∈ b.2, q.ref = x.1 :=
  ids_stable_chrono bs b h k V hv

/-- the one-shot import as a history of one batch -/
theorem oneStack_eq (bs : List Batch) :
    oneStack bs = incrStack [((bs.map (·.1)).flatten, allPkts bs)] := rfl

theorem chronoHist_one {bs : List Batch} (h : ChronoHist bs) : ChronoHist [((bs.map (·.1)).flatten, allPkts bs)] := by
  refine ⟨List.pairwise_singleton _ _, by simpa [allPkts] using h.keys, ?_, List.pairwise_singleton _ _⟩
  intro b hb p hp
  rw [List.mem_singleton] at hb; subst hb
  obtain ⟨b', hb', hp'⟩ := mem_allPkts.mp hp
  exact List.mem_flatten.mpr ⟨b'.1, List.mem_map.mpr ⟨b', hb', rfl⟩, h.names b' hb' p hp'⟩

theorem allPkts_one (N : List String) (l : List Pkt) : allPkts [(N, l)] = l := by simp [allPkts]

/-- C08, batching: if all packets lie in one inactivity window,
    the incremental imports and the one-shot import show THE SAME visible streams under THE SAME
    IDs: the streams of the reassembler on the whole feed, numbered in creation order -/
theorem batching_irrelevant_chrono_window_eq (batches : List (List String × List Pkt)) (h : ChronoHist batches)
    (t0 : Nat) (hw : HistWindow t0 batches) :
    visible (incrStack batches) = visible (oneStack batches) ∧
    visible (incrStack batches) =
      (List.range (reasm (sortPkts (allPkts batches))).size).map (fun k => (k, (reasm (sortPkts (allPkts batches)))[k]!)) := by
  have h1 := chronoHist_one h
  have hw1 : HistWindow t0 [((batches.map (·.1)).flatten, allPkts batches)] := by
    unfold HistWindow; rw [allPkts_one]; exact hw
  have a := visible_of_cur (runHist_inv h).2 (runHist_cur h t0 hw)
  have b := visible_of_cur (runHist_inv h1).2 (runHist_cur h1 t0 hw1)
  rw [allPkts_one] at b
  rw [oneStack_eq, incrStack_eq, incrStack_eq, a, b]
  exact ⟨rfl, rfl⟩

/-- The conclusion of `C08.BatchingIrrelevantChrono` (visible
    streams of the incremental imports = those of the one-shot import up to renumbering, as a
    permutation of (packets, data) pairs) under `ChronoHist` and the one-window hypothesis -/
theorem batching_irrelevant_chrono_window (batches : List (List String × List Pkt))
    (h : ChronoHist batches)
    (t0 : Nat) (hw : HistWindow t0 batches) : -- beyond one window: `batching_irrelevant_chrono_counterexample`
    let incr := (batches.foldl (fun (acc : List Index × List Pkt) b =>
        (importStep b.1 (sortPkts (acc.2 ++ b.2)) acc.1, acc.2 ++ b.2)) ([], [])).1
    let all := batches.foldr (fun b acc => b.2 ++ acc) []
    let one := importStep (batches.map (·.1)).flatten (sortPkts all) []
    ((visible incr).map (fun e => (e.2.pkts, e.2.data))).Perm ((visible one).map (fun e => (e.2.pkts, e.2.data))) := by
  intro incr all one
  have := (batching_irrelevant_chrono_window_eq batches h t0 hw).1
  have e1 : incr = incrStack batches := rfl
  have e2 : one = oneStack batches := rfl
  rw [e1, e2, this]

/-- the hypothesis of `C08.NoDoubleIdChrono` (`p.ts ≤ q.ts`: ties between batches allowed) with the
    two repairs that `no_double_id_chrono_dup_witness` / `no_double_id_chrono_counterexample` call for -/
structure ChronoHistTies (bs : List Batch) : Prop where
  chrono : bs.Pairwise (fun bi bj => ∀ p ∈ bi.2, ∀ q ∈ bj.2, p.ts ≤ q.ts)
  keys : ((allPkts bs).map Pkt.key).Nodup
  names : ∀ b ∈ bs, ∀ p ∈ b.2, p.file ∈ b.1
  fresh : bs.Pairwise (fun bi bj => ∀ p ∈ bi.2, p.file ∉ bj.1)

/-- packets of different batches with EQUAL timestamps arrive in the order in which `sortPkts` puts
    them (smaller capture name first) -/
def TiesInFeedOrder (bs : List Batch) : Prop :=
  bs.Pairwise (fun bi bj => ∀ p ∈ bi.2, ∀ q ∈ bj.2, p.ts = q.ts → pktLt p q = true)

theorem chronoHist_iff_ties (bs : List Batch) : ChronoHist bs ↔ ChronoHistTies bs ∧ TiesInFeedOrder bs := by
  have key : ∀ (ps qs : List Pkt), Before ps qs ↔
      ((∀ p ∈ ps, ∀ q ∈ qs, p.ts ≤ q.ts) ∧ (∀ p ∈ ps, ∀ q ∈ qs, p.ts = q.ts → pktLt p q = true)) := by
    intro ps qs
    constructor
    · intro h
      refine ⟨?_, fun p hp q hq _ => h p hp q hq⟩
      intro p hp q hq
      rcases (pktLt_iff p q).mp (h p hp q hq) with h1 | ⟨h1, _⟩
      · exact Nat.le_of_lt h1
      · exact Nat.le_of_eq h1
    · rintro ⟨h1, h2⟩ p hp q hq
      rcases Nat.lt_or_ge p.ts q.ts with h | h
      · exact (pktLt_iff p q).mpr (Or.inl h)
      · exact h2 p hp q hq (Nat.le_antisymm (h1 p hp q hq) h)
  have hpw : bs.Pairwise (fun bi bj => Before bi.2 bj.2) ↔
      bs.Pairwise (fun bi bj => ∀ p ∈ bi.2, ∀ q ∈ bj.2, p.ts ≤ q.ts) ∧ TiesInFeedOrder bs := by
    unfold TiesInFeedOrder
    rw [← List.pairwise_and_iff]
    exact List.Pairwise.iff fun _ _ => key _ _
  constructor
  · intro h
    obtain ⟨a, b⟩ := hpw.mp h.strict
    exact ⟨⟨a, h.keys, h.names, h.fresh⟩, b⟩
  · rintro ⟨h, ht⟩
    exact ⟨hpw.mpr ⟨h.chrono, ht⟩, h.keys, h.names, h.fresh⟩

/-- `C08.NoDoubleIdChrono` with names tied to packets, no capture imported twice, packets identified
    by (file, index).  NOT PROVED for ties against the feed order; no counterexample is known. -/
def NoDoubleIdChronoTies : Prop :=
  ∀ bs : List Batch, ChronoHistTies bs → ∀ i j, i ≠ j → NoDoubleIdAt (incrStack bs) i j

/-- `C08.BatchingIrrelevantChrono` with the same repairs and all packets in one inactivity window
    (beyond the window it is false: `batching_irrelevant_chrono_counterexample`).  NOT PROVED for
    ties against the feed order; no counterexample is known. -/
def BatchingIrrelevantChronoTies : Prop :=
  ∀ (bs : List Batch) (t0 : Nat), ChronoHistTies bs → HistWindow t0 bs →
    ((visible (incrStack bs)).map (fun e => (e.2.pkts, e.2.data))).Perm
      ((visible (oneStack bs)).map (fun e => (e.2.pkts, e.2.data)))

/-- PARTIAL: `NoDoubleIdChronoTies` for histories whose ties are in feed order.  MISSING: batches
    that share a timestamp at their boundary while the later batch has the smaller capture name —
    then `sortPkts` feeds new packets BEFORE old ones, the feed is not an extension of the
    previous feed, streams may be created in another order and start with a new packet (the import
    then classifies them as `reset`); the proof by extension (`prefix_extends`) does not apply. -/
theorem no_double_id_chrono_partial (bs : List Batch) (h : ChronoHistTies bs) (ht : TiesInFeedOrder bs) :
    ∀ i j, i ≠ j → NoDoubleIdAt (incrStack bs) i j :=
  no_double_id_chrono_strict bs ((chronoHist_iff_ties bs).mpr ⟨h, ht⟩)

/-- PARTIAL: `BatchingIrrelevantChronoTies` for histories whose ties are in feed order (missing: as
    for `no_double_id_chrono_partial`) -/
theorem batching_irrelevant_chrono_partial (bs : List Batch) (t0 : Nat) (h : ChronoHistTies bs)
    (ht : TiesInFeedOrder bs) (hw : HistWindow t0 bs) :
    ((visible (incrStack bs)).map (fun e => (e.2.pkts, e.2.data))).Perm
      ((visible (oneStack bs)).map (fun e => (e.2.pkts, e.2.data))) :=
  batching_irrelevant_chrono_window bs ((chronoHist_iff_ties bs).mpr ⟨h, ht⟩) t0 hw

/-- a.pcap: a TCP handshake, one data segment, and a UDP datagram -/
def exA : List Pkt :=
  [tcpPkt "a" 0 1000000 true true false 100 [], tcpPkt "a" 1 1000010 false true true 1000 [],
   tcpPkt "a" 2 1000020 true false true 101 [1], udpPkt "a" 3 1000030 0x41]
/-- b.pcap: the TCP conversation and the UDP flow go on, a second UDP flow starts -/
def exB : List Pkt :=
  [tcpPkt "b" 0 1000040 true false true 102 [2], udpPkt "b" 1 1000050 0x42,
   { udpPkt "b" 2 1000060 0x43 with sport := 2222 }]
def exHist : List Batch := [(["a"], exA), (["b"], exB)]

/-- the hypotheses are satisfiable (and decidable), also that of `C08.NoDoubleIdChrono` / `C08.BatchingIrrelevantChrono` -/
example : ChronoHist exHist ∧ HistWindow 1000000 exHist ∧
    exHist.Pairwise (fun bi bj => ∀ p ∈ bi.2, ∀ q ∈ bj.2, p.ts ≤ q.ts) := by decide

example : ChronoHistTies exHist ∧ TiesInFeedOrder exHist := (chronoHist_iff_ties _).mp (by decide)

/-- a tie at the batch boundary in feed order ("a" < "b") is covered -/
example : ChronoHist [(["a"], [udpPkt "a" 0 1000000 0x41]), (["b"], [udpPkt "b" 0 1000000 0x42])] := by decide

/-- … a tie against the feed order is not -/
example : ¬ ChronoHist [(["b"], [udpPkt "b" 0 1000000 0x41]), (["a"], [udpPkt "a" 0 1000000 0x42])] := by decide

theorem exHist_stack : incrStack exHist = importStep ["b"] (exA ++ exB) (importStep ["a"] exA []) :=
  incrStack_two _ _ _ _ (by decide)

/-- … and the conclusions say something: after a.pcap two streams are visible; after b.pcap three:
    IDs 0 and 1 are the old streams extended (packets and data), ID 2 is the new flow; the one-shot
    import shows the same three streams -/
example :
    ((visibleStream (importStep ["a"] exA []) 0).map (fun s => (s.npkts, s.data))) = some (3, [(2, [1])]) ∧
    ((visibleStream (importStep ["a"] exA []) 1).map (fun s => (s.npkts, s.data))) = some (1, [(0, [0x41])]) ∧
    ((visibleStream (incrStack exHist) 0).map (fun s => (s.npkts, s.data))) = some (4, [(2, [1]), (3, [2])]) ∧
    ((visibleStream (incrStack exHist) 1).map (fun s => (s.npkts, s.data))) = some (2, [(0, [0x41]), (1, [0x42])]) ∧
    ((visibleStream (incrStack exHist) 2).map (fun s => (s.npkts, s.data))) = some (1, [(0, [0x43])]) ∧
    (visibleStream (incrStack exHist) 3).isNone ∧
    NoDoubleIdAt (incrStack exHist) 0 1 ∧ NoDoubleIdAt (incrStack exHist) 0 2 ∧ NoDoubleIdAt (incrStack exHist) 1 2 ∧
    (∀ k ∈ [0, 1, 2], (visibleStream (incrStack exHist) k).map (fun s => (s.pkts, s.data)) =
      (visibleStream (importStep ["a", "b"] (exA ++ exB) []) k).map (fun s => (s.pkts, s.data))) := by
  rw [exHist_stack]
  exact ⟨by decide, by decide, by decide, by decide, by decide, by decide, by decide, by decide, by decide, by decide⟩

end Pk.Props.C08Chrono
