/-
  C15 — the converter cache behaves like a map from stream to latest output.

  Model: Pk/Model/CacheFile.lean (transliteration of internal/index/converters/cachefile.go as of the
  tree with the `fix:` commits for F10, F11, F12 and F27, which keeps its working id F23 in the names here).
  Helper lemmas: Pk/Proofs/CacheFile.lean, CacheFileCts.lean.

  What is PROVED here (all inputs, no bounds other than the stated hypotheses):
  * `varint_roundtrip`            every uint64 value
  * `sizes_roundtrip`             chunk sizes with direction-zero markers: same-direction runs, server first
  * `times_roundtrip`             splitting the data and reading the µs times back
  * `times_within_microsecond`    every time read back is less than 1 µs from the stored time, for any number
                                  of chunks (this is what the F12 fix establishes; before it the error grew
                                  with the chunk index)
  * `record_roundtrip_partial`    `data` after `setData` body, for chunk lists WITHOUT content types
  * `store_then_read`             in any state whose accounting matches the file and in which the
                                  compaction rule does not fire, a stored stream reads back as the decoding
                                  of its record (also when it replaces an older record, whose header is
                                  overwritten in place); `store_then_read_roundtrip_partial` composes both
  * `invalidate_then_read`, `reset_empty`
  * the witnesses of the four repaired findings, evaluated on the model (`fixed_F10` … `fixed_F23`)

  The full-strength statements `varbytes_roundtrip`, `record_roundtrip` (with content types),
  `cache_refines_map` (every op sequence incl. compaction and reopen), `reopen_refines`,
  `truncated_prefix_serves_complete` are stated below as `def … : Prop` and PROVED in
  Pk/Props/C15Full.lean (`…_holds`; helper lemmas Pk/Proofs/CacheFile{VarBytes,Cts,Skip,Inv,Compact,Open}.lean).
-/
import Pk.Model.CacheFile
import Pk.Proofs.CacheFileCts

namespace Pk.Props.C15
open Pk.CacheFile Pk.Proofs.CacheFile

theorem varint_roundtrip (n : Nat) (rest : List Nat) (h : n < 2 ^ 64) :
    readVarInt (writeVarInt n ++ rest) = some (n, rest) :=
  Pk.Proofs.CacheFile.varint_roundtrip n rest h

/-- the size list of any chunk list (non-empty contents) is read back as one entry per chunk, with a
    zero-size marker entry wherever a chunk does not have the expected direction, and the reader stops
    exactly at the end of the list -/
theorem sizes_roundtrip (cs : List Chunk) (want : Bool) (rest : List Nat) (fuel : Nat)
    (hok : ∀ c ∈ cs, ChunkOk c) (hf : (encodeSizes cs want).length ≤ fuel) :
    readSizes fuel (encodeSizes cs want ++ rest) false want
      = some (entries cs want ++ [(endDir cs want, 0)], rest) :=
  sizes_read rest cs want fuel hok hf

theorem times_roundtrip (cs : List Chunk) (want : Bool) (cd sd rest : List Nat) (last : Int)
    (hok : ∀ c ∈ cs, ChunkOk c) (ht : TimesOk cs last) :
    splitChunks (entries cs want) (dataOf cs false ++ cd) (dataOf cs true ++ sd)
        (encodeTimes cs last ++ rest) last
      = some (readBack cs last, rest) :=
  split_read rest cs want cd sd last hok ht

/-- direction and bytes are exact, the time is off by less than a microsecond — for every chunk,
    however many chunks precede it -/
def Close (a b : Chunk) : Prop :=
  b.dir = a.dir ∧ b.content = a.content ∧ -1000 < a.time - b.time ∧ a.time - b.time < 1000

def AllClose : List Chunk → List Chunk → Prop
  | [], [] => True
  | a :: as, b :: bs => Close a b ∧ AllClose as bs
  | _, _ => False

theorem times_within_microsecond : ∀ (cs : List Chunk) (last : Int), AllClose cs (readBack cs last) := by
  intro cs
  induction cs with
  | nil => intro last; simp [readBack, AllClose]
  | cons c cs ih =>
    intro last
    simp only [readBack, AllClose]
    refine ⟨⟨rfl, rfl, ?_, ?_⟩, ih _⟩
    · have := (time_error (c.time - last)).1; simp only; omega
    · have := (time_error (c.time - last)).2; simp only; omega

/-- FULL statement (proved: `varbytes_roundtrip_holds`): content-type bitmasks -/
def varbytes_roundtrip : Prop :=
  ∀ (data rest : List Nat), (∀ b ∈ data, b < 256) → readVarBytes (writeVarBytes data ++ rest) = some (data, rest)

/-- what a reader must get back: `readBack` with the content types kept -/
def expected (cs : List Chunk) (t0 : Int) : List Chunk :=
  List.zipWith (fun (r c : Chunk) => { r with ctype := c.ctype }) (readBack cs t0) cs

/-- FULL statement (proved: `record_roundtrip_holds`): records with content types on any subset of the chunks -/
def record_roundtrip : Prop :=
  ∀ (cs : List Chunk) (t0 : Int), (∀ c ∈ cs, ChunkOk c ∧ c.ctype.length < 2 ^ 64 ∧ ∀ b ∈ c.ctype, b < 256) →
    TimesOk cs t0 →
    decodeRecord (encodeBody cs t0) t0
      = some { chunks := expected cs t0, clientBytes := (dataOf cs false).length,
               serverBytes := (dataOf cs true).length }

/-- chunk lists without content types (same-direction runs, server first, any number of chunks, any
    contents, any times less than 146 years apart); `record_roundtrip` is the statement with content types -/
theorem record_roundtrip_partial (cs : List Chunk) (t0 : Int)
    (hok : ∀ c ∈ cs, ChunkOk c) (hct : ∀ c ∈ cs, c.ctype = []) (ht : TimesOk cs t0) :
    decodeRecord (encodeBody cs t0) t0
      = some { chunks := readBack cs t0, clientBytes := (dataOf cs false).length,
               serverBytes := (dataOf cs true).length } :=
  record_roundtrip_noct cs t0 hok hct ht

theorem reset_empty (id : Nat) (t0 : Int) : data reset id t0 = some none ∧ streamCount reset = 0 := ⟨rfl, rfl⟩

theorem store_then_read (st : St) (id : Nat) (t0 : Int) (cs : List Chunk)
    (hsz : st.fileSize = st.bytes.length)
    (hno : ¬ (st.freeSize ≥ cleanupMinFreeSize ∧ st.freeSize ≥ st.fileSize / 2))
    (hold : ∀ o, lookup st.infos id = some o → 8 ≤ o.offset ∧ o.offset ≤ st.fileSize) :
    ∃ st', setData st id t0 cs = some st' ∧
      data st' id t0 = (decodeRecord (encodeRecord cs t0) t0).map some :=
  Pk.Proofs.CacheFile.store_then_read st id t0 cs hsz hno hold

theorem store_then_read_roundtrip_partial (st : St) (id : Nat) (t0 : Int) (cs : List Chunk)
    (hsz : st.fileSize = st.bytes.length)
    (hno : ¬ (st.freeSize ≥ cleanupMinFreeSize ∧ st.freeSize ≥ st.fileSize / 2))
    (hold : ∀ o, lookup st.infos id = some o → 8 ≤ o.offset ∧ o.offset ≤ st.fileSize)
    (hok : ∀ c ∈ dropEmpty cs, c.content.length < 2 ^ 64) (hct : ∀ c ∈ cs, c.ctype = [])
    (ht : TimesOk (dropEmpty cs) t0) :
    ∃ st', setData st id t0 cs = some st' ∧
      data st' id t0 = some (some { chunks := readBack (dropEmpty cs) t0,
                                    clientBytes := (dataOf (dropEmpty cs) false).length,
                                    serverBytes := (dataOf (dropEmpty cs) true).length }) := by
  obtain ⟨st', h1, h2⟩ := store_then_read st id t0 cs hsz hno hold
  refine ⟨st', h1, ?_⟩
  rw [h2]
  unfold encodeRecord
  rw [record_roundtrip_noct (dropEmpty cs) t0 ?_ ?_ ht]
  · rfl
  · exact fun c hc => ⟨(mem_dropEmpty.mp hc).2, hok c hc⟩
  · exact fun c hc => hct c (mem_dropEmpty.mp hc).1

theorem invalidate_then_read (st : St) (id : Nat) (t0 : Int) :
    data (invalidateOne st id).1 id t0 = some none ∧ contains (invalidateOne st id).1 id = false :=
  Pk.Proofs.CacheFile.invalidate_then_read st id t0

/-- the map specification: latest store per id, removed by invalidate and reset -/
def specStep (m : Nat → Option (List Chunk × Int)) : Op → Nat → Option (List Chunk × Int)
  | .store id t0 cs => fun x => if x = id then some (cs, t0) else m x
  | .invalidate ids => fun x => if x ∈ ids then none else m x
  | .reset => fun _ => none
  | .reopen => m
  | .reopenTruncated _ => m

def specRun (m : Nat → Option (List Chunk × Int)) : List Op → Nat → Option (List Chunk × Int)
  | [] => m
  | op :: ops => specRun (specStep m op) ops

def OpOk : Op → Prop
  | .store id t0 cs => id < 2 ^ 64 - 1 ∧ TimesOk (dropEmpty cs) t0 ∧
      ∀ c ∈ cs, c.content.length < 2 ^ 64 ∧ c.ctype.length < 2 ^ 64 ∧ (∀ b ∈ c.content, b < 256) ∧ ∀ b ∈ c.ctype, b < 256
  | .reopenTruncated _ => False
  | _ => True

/-- FULL statement: for every sequence of store / invalidate / reset / reopen (compaction included, it
    happens inside store and reopen), every id reads as the latest stored chunks or as nothing -/
def cache_refines_map : Prop :=
  ∀ (ops : List Op), (∀ op ∈ ops, OpOk op) →
    ∃ st, run reset ops = some st ∧ st.fileSize = st.bytes.length ∧
      ∀ id, match specRun (fun _ => none) ops id with
        | none => data st id 0 = some none ∧ dataForSearch st id = some none ∧ contains st id = false
        | some (cs, t0) =>
          data st id t0 = some (some { chunks := expected (dropEmpty cs) t0,
                                        clientBytes := (dataOf (dropEmpty cs) false).length,
                                        serverBytes := (dataOf (dropEmpty cs) true).length })

/-- FULL statement: reopening changes no read -/
def reopen_refines : Prop :=
  ∀ (ops : List Op), (∀ op ∈ ops, OpOk op) → ∀ st, run reset ops = some st →
    ∃ st', openFile st.bytes = some st' ∧ ∀ id t0, data st' id t0 = data st id t0

/-- FULL statement: a file cut inside its last record (or anywhere) opens, and every stream whose record
    lies completely before the cut reads as before -/
def truncated_prefix_serves_complete : Prop :=
  ∀ (ops : List Op), (∀ op ∈ ops, OpOk op) → ∀ st, run reset ops = some st → ∀ keep,
    ∃ st', openFile (st.bytes.take keep) = some st' ∧
      ∀ id info, lookup st.infos id = some info → info.offset + info.size ≤ keep →
        ∀ t0, data st' id t0 = data st id t0

def c (d : Bool) (b : List Nat) (t : Int) (ct : List Nat := []) : Chunk := { dir := d, content := b, time := t, ctype := ct }

example : ChunkOk (c false [97] 0) := by simp [ChunkOk, c]
example : TimesOk [c false [97] 5800, c true [98] 11600] 0 := by simp [TimesOk, c]
example : OpOk (.store 1 0 [c false [97] 5800 [120]]) := by simp [OpOk, TimesOk, dropEmpty, c]

/-- varbytes on the 7/8-byte boundary and a record with content types, server first, same-direction run -/
example : readVarBytes (writeVarBytes [1, 2, 3, 4, 5, 6, 7, 255, 128] ++ [9]) = some ([1, 2, 3, 4, 5, 6, 7, 255, 128], [9]) := by decide
example : (decodeRecord (encodeRecord [c true [1, 2] 2500 [120], c true [3] 2500, c false [4] 7100 [121, 122]] 1000) 1000).map (·.chunks)
    = some [c true [1, 2] 2000 [120], c true [3] 2000, c false [4] 7000 [121, 122]] := by decide

def store' (st : Option St) (id : Nat) (t0 : Int) (cs : List Chunk) : Option St := st.bind fun s => setData s id t0 cs

/-- F12 (corpus/C15/f12_time_drift.ops): deltas of 5.8 µs, third chunk within 1 µs (15000 without the fix) -/
theorem fixed_F12 :
    ((store' (some reset) 1 0 [c false [97] 5800, c true [98] 11600, c false [99] 17400]).bind
      fun s => (data s 1 0)).map (fun r => r.map fun x => x.chunks.map (·.time)) = some (some [5000, 11000, 17000]) := by
  decide

/-- F10 (corpus/C15/f10_partial_tail.ops): the file cut 3 bytes before its end opens and serves stream 1 -/
theorem fixed_F10 :
    ((store' (store' (some reset) 1 0 [c false [97, 98] 1000]) 2 0 [c true [99, 100] 2000 [97]]).bind
      fun s => (openFile (s.bytes.take (s.bytes.length - 3))).bind fun s' =>
        (data s' 1 0).map fun r => (r.map (·.chunks), contains s' 2, s'.bytes.length))
      = some (some [c false [97, 98] 1000], false, 23) := by
  decide

/-- F11 (corpus/C15/f11_older_version_resurrected.ops): store, store, invalidate, reopen: nothing is served -/
theorem fixed_F11 :
    ((store' (store' (some reset) 1 0 [c false [97, 98] 1000]) 1 0 [c false [99, 100] 1000]).bind
      fun s => (openFile (invalidate s [1]).1.bytes).bind fun s' => (data s' 1 0).map fun r => (r, streamCount s'))
      = some (none, 0) := by
  decide

/-- F27, working id F23 (corpus/C15/f23_empty_chunk.ops): a chunk without content is left out and does not damage the file -/
theorem fixed_F23 :
    ((store' (store' (some reset) 1 0 [c false [97] 1000, c true [] 2000, c false [98] 3000]) 2 0 [c false [99] 1000]).bind
      fun s => (openFile s.bytes).bind fun s' =>
        (data s' 2 0).bind fun r2 => (data s' 1 0).map fun r1 => (r1.map (·.chunks), r2.map (·.chunks), streamCount s'))
      = some (some [c false [97] 1000, c false [98] 3000], some [c false [99] 1000], 2) := by
  decide

end Pk.Props.C15
