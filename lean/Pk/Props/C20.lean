/-
  C20 — No data races on shared service state (partial by design, DESIGN §5 C20 / §9).
  Model: Pk/Model/Access.lean; the table Pk/Gen/Access.lean is written by harness/cmd/c20extract on every
  run of `./check C20`.

  Assumed, not proved (the fields of `Threads`, facts about the `go` statements of the Go code; the
  race-detector runs of the check are the tie): one service-loop goroutine; `New` starts only watcher
  goroutines before it has finished initialising; at most one instance of each background job at a time
  (`serial_jobs`); whoever calls the API obtained the manager from `New`.
  Limits (why partial): the table is per field declaration — sharing of slice backing arrays, of
  pointers handed out in events and of function values stored in fields is invisible to it, and lock
  identity is per declaration, not per object; those are covered only by the race-detector stage.
-/
import Pk.Model.Access
import Pk.Proofs.Access
import Pk.Gen.Access

namespace Pk.Props.C20
open Pk.Access

namespace Expected
/-- No exceptions: F17a (builder.knownPcaps/packetCount), F17b (updatedTagsToSignal read by the ticker),
    F17c (pcap-over-ip endpoint statistics) and F17d (converter Process.cmd/exitCode) are fixed in the
    repository.  The one open finding, F17e, is a race on the state of an os.File, not on a field of a
    tracked struct: it is outside the table (the race-detector stage reports it as KNOWN-FINDING;
    `finding_F17e` is its witness). -/
def exceptions : Exceptions := []
end Expected

/-- If the ownership discipline holds for the access table up to the exception list, then in every
    execution consistent with the table (any number of events, goroutines, mutexes, posted closures)
    two conflicting accesses not ordered by happens-before (program order ∪ goroutine start ∪
    send→receive of a posted closure ∪ unlock→lock) are on an excepted (field, context, context). -/
theorem discipline_races_only_excused (tbl : Table) (exc : Exceptions) (h : History)
    (hd : disciplineHolds tbl exc = true) (hx : Exec tbl h) (ht : Threads h) :
    ∀ a b, Race h a b → excusedE exc a b :=
  Pk.Proofs.Access.races_only_excused tbl exc h hd hx ht

/-- With no exceptions: no execution consistent with the table has a race. -/
theorem discipline_implies_race_free (tbl : Table) (h : History)
    (hd : disciplineHolds tbl [] = true) (hx : Exec tbl h) (ht : Threads h) : RaceFree h := by
  intro a b hr
  obtain ⟨f, w, _, he⟩ := discipline_races_only_excused tbl [] h hd hx ht a b hr
  simp [excusedBy] at he

/-- The access table regenerated from the Go sources satisfies the discipline without exceptions; a new
    unsynchronised access changes the table and this fails.  Kernel evaluation (no native code) of the
    linear check on the field-sorted table. -/
theorem gen_access_ok : disciplineHolds Pk.Gen.Access.table Expected.exceptions = true :=
  Pk.Proofs.Access.disciplineHolds_of_sorted (by decide +kernel)

theorem gen_race_free (h : History) (hx : Exec Pk.Gen.Access.table h) (ht : Threads h) : RaceFree h :=
  discipline_implies_race_free Pk.Gen.Access.table h gen_access_ok hx ht

/-- `unsafePairs` is what the check prints when the discipline fails -/
theorem discipline_iff_no_unsafe_pair (tbl : Table) (exc : Exceptions) :
    disciplineHolds tbl exc = true ↔ unsafePairs tbl exc = [] := by
  simp [disciplineHolds, unsafePairs, List.flatMap_eq_nil_iff, List.filter_eq_nil_iff]

/-! DESIGN §5 states the discipline per field (loop-owned / one common lock / written before the
goroutines start); each class implies the pairwise `safePair` that `disciplineHolds` checks. -/

theorem loop_owned_ok {tbl : Table} {f : Nat} (ho : loopOwned tbl f = true)
    {r1 r2 : Row} (h1 : r1 ∈ tbl) (h2 : r2 ∈ tbl) (f1 : r1.field = f) (f2 : r2.field = f) :
    safePair r1 r2 = true := by
  simp only [loopOwned, rowsOf, List.all_eq_true, List.mem_filter, beq_iff_eq, Bool.or_eq_true, and_imp] at ho
  have a1 := ho r1 h1 f1
  have a2 := ho r2 h2 f2
  have := Pk.Proofs.Access.ctx_loopOwned r1.ctx r2.ctx a1 a2
  simp only [safePair, this, Bool.true_or]

theorem common_lock_ok {tbl : Table} {f l : Nat} (hg : guardedBy tbl f l = true)
    {r1 r2 : Row} (h1 : r1 ∈ tbl) (h2 : r2 ∈ tbl) (f1 : r1.field = f) (f2 : r2.field = f)
    (hc : conflict r1 r2 = true) : safePair r1 r2 = true := by
  simp only [guardedBy, rowsOf, List.all_eq_true, List.mem_filter, beq_iff_eq, and_imp, List.any_eq_true,
    Bool.and_eq_true, Bool.or_eq_true, Bool.not_eq_true'] at hg
  obtain ⟨a, ha, hal, haw⟩ := hg r1 h1 f1
  obtain ⟨b, hb, hbl, hbw⟩ := hg r2 h2 f2
  have hcl : commonLock r1.locks r2.locks = true := by
    simp only [commonLock, List.any_eq_true, Bool.and_eq_true, Bool.or_eq_true, beq_iff_eq]
    refine ⟨a, ha, b, hb, by rw [hal, hbl], ?_⟩
    simp only [conflict, Bool.and_eq_true, Bool.or_eq_true] at hc
    rcases hc.2 with w | w
    · exact .inl (haw.resolve_right (by rw [w]; decide))
    · exact .inr (hbw.resolve_right (by rw [w]; decide))
  simp only [safePair, hcl, Bool.or_true]

theorem written_before_start_ok {tbl : Table} {f : Nat} (hw : writtenBeforeStart tbl f = true)
    {r1 r2 : Row} (h1 : r1 ∈ tbl) (h2 : r2 ∈ tbl) (f1 : r1.field = f) (f2 : r2.field = f)
    (hc : conflict r1 r2 = true) : safePair r1 r2 = true := by
  simp only [writtenBeforeStart, rowsOf, List.all_eq_true, List.mem_filter, beq_iff_eq, and_imp,
    Bool.or_eq_true, Bool.not_eq_true'] at hw
  simp only [conflict, Bool.and_eq_true, Bool.or_eq_true] at hc
  -- one of the two writes, so it is in the `pre` part of `New`
  rcases hc.2 with w | w
  · exact Pk.Proofs.Access.safePair_pre (.inl ((hw r1 h1 f1).resolve_left (by rw [w]; decide)))
  · exact Pk.Proofs.Access.safePair_pre (.inr ((hw r2 h2 f2).resolve_left (by rw [w]; decide)))

/-- two events of different goroutines under one mutex, held exclusively by one of them, are ordered -/
theorem lock_order {tbl : Table} {h ha hb : History} {a b : Event} (hx : Exec tbl h)
    (sa : (a :: ha) <:+ h) (sb : (b :: hb) <:+ h) (hlt : a.t < b.t) (hne : a.g ≠ b.g)
    {l : Nat} {m1 m2 : Mode} (h1 : holds ha a.g l = some m1) (h2 : holds hb b.g l = some m2)
    (hw : m1 = .w ∨ m2 = .w)
    (ka : ∀ l' m', a.kind ≠ .acq l' m' ∧ a.kind ≠ .rel l' m') : HB h a b :=
  Pk.Proofs.Access.lock_ordered hx sa sb hlt hne h1 h2 hw ka

/-- what `New` does before its first `go` statement happens before every event of every other goroutine -/
theorem start_order_pre {tbl : Table} {h : History} (hx : Exec tbl h) (ht : Threads h) {a b : Event}
    (ha : a ∈ h) (hb : b ∈ h) (ca : a.ctx = .pre) (cb : b.ctx.main = false) : HB h a b :=
  Pk.Proofs.Access.pre_before_all ht ha hb ca cb

/-- what `New` does before it starts the service loop happens before every event of every goroutine
    except the watchers -/
theorem start_order_init {tbl : Table} {h : History} (hx : Exec tbl h) (ht : Threads h) {a b : Event}
    (ha : a ∈ h) (hb : b ∈ h) (ca : a.ctx = .init) (ka : ∀ c, a.kind ≠ .spawn c)
    (cb : b.ctx.main = false) (wb : b.ctx ≠ .watcher) : HB h a b :=
  Pk.Proofs.Access.init_before_nonwatcher hx ht ha hb ca cb wb

/-- non-vacuity: a worker write and a loop read of one field under one mutex -/
theorem hypotheses_satisfiable :
    disciplineHolds Pk.Proofs.Access.gTable [] = true ∧
    Exec Pk.Proofs.Access.gTable Pk.Proofs.Access.gHist ∧ Threads Pk.Proofs.Access.gHist :=
  ⟨by decide, Pk.Proofs.Access.gHist_exec, Pk.Proofs.Access.gHist_threads⟩

theorem guarded_execution_race_free : RaceFree Pk.Proofs.Access.gHist :=
  discipline_implies_race_free _ _ hypotheses_satisfiable.1 hypotheses_satisfiable.2.1 hypotheses_satisfiable.2.2

/-- the shape of findings F17a–F17d: a field written by a worker goroutine and read by the service loop
    without a common lock -/
theorem unsynchronised_pair_rejected : disciplineHolds Pk.Proofs.Access.wTable [] = false := by decide

/-- the discipline is not stronger than needed there: an execution of that table, satisfying every
    other hypothesis of `discipline_implies_race_free`, in which the two accesses race -/
theorem unsynchronised_pair_races :
    Exec Pk.Proofs.Access.wTable Pk.Proofs.Access.wHist ∧ Threads Pk.Proofs.Access.wHist ∧
    ¬ RaceFree Pk.Proofs.Access.wHist :=
  ⟨Pk.Proofs.Access.wHist_exec, Pk.Proofs.Access.wHist_threads,
   fun hrf => hrf _ _ Pk.Proofs.Access.wHist_race⟩

/-- The property without the discipline as a hypothesis.  `gen_race_free` is the part that holds
    (accesses to FIELDS of the tracked structs, under the `Threads` assumptions); `finding_F17e` refutes
    the rest. -/
def C20_full : Prop := ∀ (tbl : Table) (h : History), Exec tbl h → Threads h → RaceFree h

/-- Finding F17e (known, open): the reader goroutine of a pcap-over-IP endpoint uses the connection's
    os.File (Fd, inside pcap.OpenOfflineFile) after it started the goroutine that closes the file on
    cancellation; nothing orders the use before the close.  In the model: an execution satisfying `Exec`
    and `Threads` that is not race free, so the discipline (which rejects this two-row table) cannot be
    dropped from `discipline_implies_race_free`. -/
theorem finding_F17e : ¬ C20_full := by
  intro hfull
  exact hfull Pk.Proofs.Access.eTable Pk.Proofs.Access.eHist Pk.Proofs.Access.eHist_exec
    Pk.Proofs.Access.eHist_threads _ _ Pk.Proofs.Access.eHist_race

theorem finding_F17e_rejected : disciplineHolds Pk.Proofs.Access.eTable [] = false := by decide

/-- the worker row also conflicts with itself (two worker goroutines), so `wTable` needs both triples -/
example : disciplineHolds Pk.Proofs.Access.wTable [(0, .worker, .loop), (0, .worker, .worker)] = true := by decide
example : disciplineHolds Pk.Proofs.Access.wTable [(0, .worker, .loop)] = false := by decide
example : disciplineHolds Pk.Proofs.Access.wTable [(0, .worker, .api), (0, .worker, .worker)] = false := by decide

end Pk.Props.C20
