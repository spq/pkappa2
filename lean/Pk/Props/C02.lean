/-
  C02 — Search returns exactly the streams the query denotes, ordered and paged.

  Everything is stated for all stream sets, key lists, limits, pages and feeding orders; nothing is
  bounded.  The per-condition filters and the lookup intersection are one predicate per stored version
  (the `Bool` beside each `Rec`); the filter theorems at the end are about the filters in isolation.

  The spec is the relation `ValidPage`; the engine is the accumulator (`step`/`scan`, transliterated from
  search.go) fed by the file loop.  The argument has one centre, `acc_yields_validPage`: ANY feeding order
  of the matches gives a valid page, so a scan strategy is right as soon as it feeds every visible match
  once (`searchFiles_eq_scan`) or stops only where nothing behind can enter (`early_exit_sound`).
-/
import Pk.Model.Search
import Pk.Proofs.SearchOrder
import Pk.Proofs.SearchSpec
import Pk.Proofs.SearchAcc
import Pk.Proofs.SearchFilters

namespace Pk.Props.C02
open Pk.Search Pk.Proofs.Search

def Sorted (lt : Rec → Rec → Bool) (l : List Rec) : Prop := l.Pairwise (fun a b => lt b a = false)

/-- A relation, not a function: the arrangement is existentially quantified because ties in the sort
    key leave the order free. -/
def ValidPage (ms : List Rec) (keys : List SortKey) (limit skip : Nat) (res : List Nat) (more : Bool) : Prop :=
  (∃ arr : List Rec, arr.Perm ms ∧ Sorted (less keys) arr ∧ res = (pageOf limit skip arr).map (·.id)) ∧
  more = moreOf limit skip ms.length

theorem ValidPage.nodup {ms keys limit skip res more} (hnd : (ms.map (·.id)).Nodup)
    (h : ValidPage ms keys limit skip res more) : res.Nodup := by
  obtain ⟨⟨arr, hp, _, rfl⟩, _⟩ := h
  exact pageOf_ids_nodup hnd hp

theorem ValidPage.subset {ms keys limit skip res more}
    (h : ValidPage ms keys limit skip res more) : ∀ id ∈ res, ∃ m ∈ ms, m.id = id := by
  obtain ⟨⟨arr, hp, _, rfl⟩, _⟩ := h
  exact pageOf_ids_subset hp

theorem ValidPage.perm {ms ms' keys limit skip res more} (hp : ms.Perm ms')
    (h : ValidPage ms keys limit skip res more) : ValidPage ms' keys limit skip res more := by
  obtain ⟨⟨arr, ha, hs, hr⟩, hm⟩ := h
  exact ⟨⟨arr, ha.trans hp, hs, hr⟩, by rw [hm, hp.length_eq]⟩

/-- for every key list, in particular for secondary keys (the early exit rests on this) -/
theorem less_strict_weak (keys : List SortKey) :
    (∀ a, less keys a a = false) ∧
    (∀ a b c, less keys a b = true → less keys b c = true → less keys a c = true) ∧
    (∀ a b c, less keys a b = false → less keys b c = false → less keys a c = false) :=
  ⟨(less_swo keys).irrefl, (less_swo keys).trans, (less_swo keys).incomp⟩

theorem validPage_sound (ms : List Rec) (keys : List SortKey) (limit skip : Nat) (res : List Nat) (more : Bool)
    (hnd : (ms.map (·.id)).Nodup) :
    validPage ms keys limit skip res more = true → ValidPage ms keys limit skip res more :=
  validPage_sound' ms keys limit skip res more hnd

theorem validPage_complete (ms : List Rec) (keys : List SortKey) (limit skip : Nat) (res : List Nat) (more : Bool)
    (hnd : (ms.map (·.id)).Nodup) :
    ValidPage ms keys limit skip res more → validPage ms keys limit skip res more = true := by
  intro ⟨⟨arr, hp, hs, hr⟩, hm⟩
  exact validPage_complete' ms keys limit skip res more hnd arr hp hs hr hm

/-- the executable checker `validPage`, which `pkmodel c02` evaluates on every real search result,
    decides the relational spec -/
theorem validPage_iff (ms : List Rec) (keys : List SortKey) (limit skip : Nat) (res : List Nat) (more : Bool)
    (hnd : (ms.map (·.id)).Nodup) :
    validPage ms keys limit skip res more = true ↔ ValidPage ms keys limit skip res more :=
  ⟨validPage_sound ms keys limit skip res more hnd, validPage_complete ms keys limit skip res more hnd⟩

/-- after ANY sequence of calls (any stop test, with or without honouring the stop signal) the
    accumulator is sorted, holds at most `limit` entries, kept ∪ (dropped or skipped by the limit
    pre-check) = matches seen (as multisets), and kept + dropped never exceeds the matches seen -/
theorem acc_invariant (keys : List SortKey) (stopLt : Rec → Rec → Bool) (limit : Nat) (sorted : Bool)
    (evs : List (Rec × Bool)) :
    let a := scan (less keys) stopLt limit sorted {} evs
    Sorted (less keys) a.streams ∧ (limit ≠ 0 → a.streams.length ≤ limit) ∧
    (∃ rest, (a.streams ++ rest).Perm (fed evs)) ∧ a.streams.length + a.dropped ≤ (fed evs).length := by
  obtain ⟨e1, e2, rfl, i1, i2, ⟨rest, i3, _, _⟩, i4, _⟩ := scan_inv_prefix keys stopLt limit sorted evs
  refine ⟨i1, i2, ⟨rest ++ fed e2, ?_⟩, ?_⟩
  · rw [fed_append, ← List.append_assoc]
    exact List.Perm.append_right _ i3
  · rw [fed_append, List.length_append]; omega

/-- `more` is exact: after a scan without early exit the dropped counter is non-zero iff more than
    `limit` matches were fed (and nothing is dropped without a limit) -/
theorem more_flag_exact (keys : List SortKey) (stopLt : Rec → Rec → Bool) (limit : Nat) (evs : List (Rec × Bool)) :
    let a := scan (less keys) stopLt limit false {} evs
    (a.dropped != 0) = (limit != 0 && decide (limit < (fed evs).length)) :=
  (scan_inv0 keys stopLt limit evs).more

/-- CORE: feeding every match exactly once, in ANY order, interleaved with any non-matching streams,
    yields a valid page.  This is why every scan strategy is correct as long as it feeds each
    match once. (`limit = 0` means unlimited and only occurs with `skip = 0`: `View.SearchStreams` in manager.go
    passes `page * limit` as the offset.) -/
theorem acc_yields_validPage (keys : List SortKey) (stopLt : Rec → Rec → Bool) (limit skip : Nat)
    (hl : limit = 0 → skip = 0) (evs : List (Rec × Bool)) :
    let a := scan (less keys) stopLt (limit + skip) false {} evs
    ValidPage (fed evs) keys limit skip (finish a skip).1 (finish a skip).2 := by
  intro a
  have hinv : Inv keys (limit + skip) a (fed evs) := scan_inv0 keys stopLt (limit + skip) evs
  -- the kept streams are the first `limit + skip` (all, without limit) of a sorted arrangement
  obtain ⟨arr, hp, hs, he⟩ := hinv.prefix
  rw [finish_eq hinv hl, he, hinv.more]
  by_cases h0 : limit = 0
  · obtain rfl := hl h0
    subst h0
    exact ⟨⟨arr, hp, hs, rfl⟩, rfl⟩
  · have hL : limit + skip ≠ 0 := by omega
    refine ⟨⟨arr, hp, hs, ?_⟩, ?_⟩
    · simp only [pageOf, if_neg h0, if_neg hL, List.drop_take, Nat.add_sub_cancel]
    · simp only [moreOf, Nat.add_comm skip limit, bne_iff_ne.mpr h0, bne_iff_ne.mpr hL]

/-- the early exit rule with its precise side condition: if the events of the scan are ordered by the
    comparator `p` the stop test uses (the lookup section is ordered by the primary key), `p` is a strict
    weak order and the full order refines it (`less keys a b → ¬ p b a`), then honouring the stop signal
    changes nothing at all: every stream behind the stop point is rejected by the limit pre-check -/
theorem early_exit_sound (keys : List SortKey) (p : Rec → Rec → Bool) (limit : Nat) (a : Acc)
    (evs : List (Rec × Bool))
    (hp_trans : ∀ x y z, p x y = true → p z y = false → p x z = true)
    (hrefine : ∀ x y, less keys x y = true → p y x = false)
    (hsorted : (evs.map (·.1)).Pairwise (fun x y => p y x = false)) :
    scan (less keys) p limit true a evs = scan (less keys) p limit false a evs :=
  early_exit_sound' (less keys) p limit a evs hp_trans hrefine hsorted

theorem primLess_side_conditions (keys : List SortKey) :
    (∀ x y z, primLess keys x y = true → primLess keys z y = false → primLess keys x z = true) ∧
    (∀ x y, less keys x y = true → primLess keys y x = false) :=
  primLess_side keys

/-- a stored version is considered iff no newer index file contains its id -/
theorem shadowing_exact (files : List (List (Rec × Bool))) (e : Rec × Bool) :
    e ∈ visible [] files ↔
      ∃ newer f older, files = newer ++ f :: older ∧ e ∈ f ∧ ∀ g ∈ newer, ∀ x ∈ g, x.1.id ≠ e.1.id :=
  shadowing_gen files [] e

/-- iterating the files newest first with the superseding filter feeds exactly the visible matches:
    without early exit the file loop is one scan over the visible-flagged events -/
theorem searchFiles_eq_scan (lt stopLt : Rec → Rec → Bool) (limit : Nat) (files newer : List (List (Rec × Bool))) (a : Acc) :
    searchFiles lt stopLt limit false newer files a =
      scan lt stopLt limit false a (flagged newer files) ∧
    fed (flagged [] files) = matchesOf files :=
  ⟨searchFiles_eq_scan' lt stopLt limit files newer a, fed_flagged files []⟩

/-- with every file's lookup section ordered by the primary key, the sorted scans with early exit return
    what the scans without early exit return -/
theorem scan_sorted_valid (keys : List SortKey) (limit skip : Nat) (files : List (List (Rec × Bool)))
    (hsorted : ∀ f ∈ files, (f.map (·.1)).Pairwise (fun x y => primLess (effKeys keys) y x = false)) :
    search keys limit skip true files = search keys limit skip false files := by
  unfold search
  by_cases ht : limit + skip = 0
  · simp [ht]
  · have : (limit + skip != 0) = true := by simpa using ht
    simp only [this, Bool.false_and, Bool.and_self]
    rw [searchFiles_sorted _ _ _ (primLess_side _).1 (primLess_side _).2 files [] {} hsorted]

/-- the whole search returns a valid page of the visible matches, for any stack of index files, any
    scan order inside the files (file order, or lookup order when the lookup is ordered by the primary key) -/
theorem search_valid (keys : List SortKey) (limit skip : Nat) (hl : limit = 0 → skip = 0)
    (files : List (List (Rec × Bool))) (sorted : Bool)
    (hsorted : sorted = true → ∀ f ∈ files, (f.map (·.1)).Pairwise (fun x y => primLess (effKeys keys) y x = false)) :
    ValidPage (matchesOf files) (effKeys keys) limit skip (search keys limit skip sorted files).1
      (search keys limit skip sorted files).2 := by
  have h := acc_yields_validPage (effKeys keys) (primLess (effKeys keys)) limit skip hl (flagged [] files)
  obtain ⟨h1, h2⟩ := searchFiles_eq_scan (less (effKeys keys)) (primLess (effKeys keys)) (limit + skip) files [] {}
  rw [h2, ← h1] at h
  cases sorted with
  | false => exact h
  | true => rw [scan_sorted_valid keys limit skip files (hsorted rfl)]; exact h

/-- F21 (fixed by 14fcb7d): the rule of the unrepaired code — stop at the first stream that does not
    beat the last kept one under the FULL key list — loses the best stream when first keys tie:
    three streams with the same first-packet time, `sort:ftime,cport limit:1`. -/
def f21Files : List (List (Rec × Bool)) :=
  [[({ id := 1, ftime := 0, ltime := 0, cbytes := 0, sbytes := 0, cport := 1000, sport := 0, chost := [], shost := [] }, true),
    ({ id := 2, ftime := 0, ltime := 0, cbytes := 0, sbytes := 0, cport := 1001, sport := 0, chost := [], shost := [] }, true),
    ({ id := 3, ftime := 0, ltime := 0, cbytes := 0, sbytes := 0, cport := 999, sport := 0, chost := [], shost := [] }, true)]]
def f21Keys : List SortKey := [⟨.ftime, false⟩, ⟨.cport, false⟩]

theorem finding_F21 :
    validPage (matchesOf f21Files) f21Keys 1 0 (searchFullKeyExit f21Keys 1 0 true f21Files).1
      (searchFullKeyExit f21Keys 1 0 true f21Files).2 = false ∧
    validPage (matchesOf f21Files) f21Keys 1 0 (search f21Keys 1 0 true f21Files).1
      (search f21Keys 1 0 true f21Files).2 = true := by
  decide

/-- the special cases of the tag accept switch agree with the meaning of the accept mask -/
theorem filter_tag_accept_sound (accept : Nat) (h : accept < 16) (uncertain matching : Bool) :
    tagAccept accept uncertain matching = tagAcceptSpec accept uncertain matching := by
  have : ∀ a : Fin 16, ∀ u m : Bool, tagAccept a.val u m = tagAcceptSpec a.val u m := by decide +kernel
  exact this ⟨accept, h⟩ uncertain matching

/-- inlining the definition of a tag with undecided streams (`InlineTagFilters`, run by every search): a decided
    stream is judged by its recorded answer, an undecided one by the definition, whatever stale answer is recorded
    (the regime of the seeded change c02e) -/
theorem filter_tag_inlined_sound (hasU : Bool) (accept : Nat) (h : accept < 16) (uncertain recorded defTruth : Bool)
    (hu : hasU = false → uncertain = false) :
    inlinedAccept hasU accept uncertain recorded defTruth =
      tagAcceptSpec accept uncertain (if uncertain then defTruth else recorded) := by
  have : ∀ (hasU : Bool) (a : Fin 16) (u m d : Bool), (hasU = false → u = false) →
      inlinedAccept hasU a.val u m d = tagAcceptSpec a.val u (if u then d else m) := by decide +kernel
  exact this hasU ⟨accept, h⟩ uncertain recorded defTruth hu

/-- the hypotheses are satisfiable with a STALE recorded answer: mask "failing or undecided" (14), the stream is
    undecided, recorded as matching, the definition says failing — accepted -/
example : inlinedAccept true 14 true true false = true := by decide

/-- an absolute lower / upper time bound parsed at the reference time the search uses means what it
    says, for every index file reference time -/
theorem filter_time_sound (A ref fileRef first last : Int) :
    timeFilter (lowerBoundDuration A ref) 1 0 ref fileRef first last = decide (A ≤ fileRef + first) ∧
    timeFilter (upperBoundDuration A ref) (-1) 0 ref fileRef first last = decide (fileRef + first ≤ A) := by
  constructor <;> simp [timeFilter, lowerBoundDuration, upperBoundDuration] <;> constructor <;> intro h <;> omega

/-- F40 (known): a bound parsed at another reference time (an inlined tag definition parsed before the
    searching query) is shifted by the difference: bound 12:00:04 parsed 1 s earlier, stream at 12:00:04. -/
theorem finding_F40 :
    ¬ (∀ A tagRef refTime fileRef first last : Int,
        timeFilter (lowerBoundDuration A tagRef) 1 0 refTime fileRef first last = decide (A ≤ fileRef + first)) := by
  intro h
  have := h 4 (-1) 0 0 4 0
  simp [timeFilter, lowerBoundDuration] at this

theorem filter_flag_sound (flags mask value : Nat) :
    flagFilter flags mask value = true ↔ flags &&& mask ≠ value := by
  simp [flagFilter]

/-- a number condition with the single summand `f·v` -/
private theorem numberFilter_single (n f v : Int) : numberFilter n [(f, v)] = true ↔ 0 ≤ n + f * v := by
  simp only [numberFilter, List.map, List.foldl, decide_eq_true_eq, Int.zero_add]

/-- `key:lo:hi` is two number conditions `-lo + v ≥ 0` and `hi - v ≥ 0`: the filter accepts exactly lo ≤ v ≤ hi -/
theorem filter_number_sound (lo hi v : Int) :
    (numberFilter (-lo) [(1, v)] = true ↔ lo ≤ v) ∧ (numberFilter hi [(-1, v)] = true ↔ v ≤ hi) := by
  rw [numberFilter_single, numberFilter_single]
  constructor <;> omega

/-- the min/max pre-check of a time condition on a single packet time is justified: the filter is monotone
    in that time, so equal answers on the earliest and latest value of an index file hold for every stream in it -/
theorem time_precheck_monotone (duration f refTime fileRef lo hi t other : Int)
    (hlo : lo ≤ t) (hhi : t ≤ hi)
    (hsame : timeFilter duration f 0 refTime fileRef lo other = timeFilter duration f 0 refTime fileRef hi other) :
    timeFilter duration f 0 refTime fileRef t other = timeFilter duration f 0 refTime fileRef lo other :=
  Pk.Proofs.Extra.timeFilter_monotone duration f 0 refTime fileRef lo hi t other hlo hhi hsame

/-- the id-range lookup loses no match: a stream passing every `±id` number condition has its id inside
    the range the lookup enumerates -/
theorem idrange_lookup_superset (conds : List (Int × Int)) (lo hi id : Int)
    (hpass : ∀ c ∈ conds, numberFilter c.2 [(c.1, id)] = true) (hlo : lo ≤ id) (hhi : id ≤ hi) :
    (Pk.Proofs.Extra.idBounds conds (lo, hi)).1 ≤ id ∧ id ≤ (Pk.Proofs.Extra.idBounds conds (lo, hi)).2 := by
  induction conds generalizing lo hi with
  | nil => exact ⟨hlo, hhi⟩
  | cons c rest ih =>
    obtain ⟨f, n⟩ := c
    obtain ⟨hc, hrest⟩ := List.forall_mem_cons.1 hpass
    rw [numberFilter_single] at hc
    unfold Pk.Proofs.Extra.idBounds
    -- `by_cases` and not `split`: splitting the goal with the bounds under the `if` is twice as dear
    by_cases h1 : f = 1
    · rw [if_pos h1]
      exact ih _ _ hrest (by subst h1; split <;> omega) hhi
    · rw [if_neg h1]
      by_cases h2 : f = -1
      · rw [if_pos h2]
        exact ih _ _ hrest hlo (by subst h2; split <;> omega)
      · rw [if_neg h2]
        exact ih _ _ hrest hlo hhi

/-! non-vacuity: the hypotheses of the theorems above are satisfiable, the spec is neither empty nor trivial -/

def exA : Rec := { id := 1, ftime := 5, ltime := 9, cbytes := 0, sbytes := 0, cport := 1000, sport := 80, chost := [10, 0, 0, 1], shost := [10, 0, 0, 2] }
def exB : Rec := { id := 2, ftime := 5, ltime := 7, cbytes := 3, sbytes := 0, cport := 1001, sport := 80, chost := [10, 0, 0, 1], shost := [10, 0, 0, 2] }
def exC : Rec := { id := 3, ftime := 4, ltime := 4, cbytes := 1, sbytes := 2, cport := 999, sport := 80, chost := [253, 0], shost := [10, 0, 0, 2] }

/-- distinct ids (hypothesis `hnd` of `validPage_iff`) -/
example : ([exA, exB, exC].map (·.id)).Nodup := by decide
/-- ties leave freedom: with `sort:-ftime limit:1` both streams with the latest first packet are valid pages … -/
example : validPage [exA, exB, exC] [⟨.ftime, true⟩] 1 0 [1] true = true := by decide
example : validPage [exA, exB, exC] [⟨.ftime, true⟩] 1 0 [2] true = true := by decide
/-- … the third is not, nor is a wrong more flag, a duplicate, or a wrong order -/
example : validPage [exA, exB, exC] [⟨.ftime, true⟩] 1 0 [3] true = false := by decide
example : validPage [exA, exB, exC] [⟨.ftime, true⟩] 1 0 [1] false = false := by decide
example : validPage [exA, exB, exC] [⟨.ftime, true⟩] 0 0 [1, 1, 3] false = false := by decide
example : validPage [exA, exB, exC] [⟨.ftime, true⟩, ⟨.cport, false⟩] 0 0 [2, 1, 3] false = false := by decide
example : validPage [exA, exB, exC] [⟨.ftime, true⟩, ⟨.cport, false⟩] 0 0 [1, 2, 3] false = true := by decide
example : validPage [exA, exB, exC] [⟨.chost, false⟩] 2 2 [3] false = true := by decide
/-- the engine on a two-file stack with a shadowed older version of stream 1 (which would match) -/
def exFiles : List (List (Rec × Bool)) := [[(exB, true), ({ exA with cport := 1 }, false)], [(exA, true), (exC, true)]]
example : matchesOf exFiles = [exB, exC] := by decide
example : search [⟨.cport, false⟩] 1 0 false exFiles = ([3], true) := by decide
/-- the side condition of `scan_sorted_valid` holds for a lookup ordered by the primary key -/
example : ∀ f ∈ [[(exC, true), (exA, true), (exB, true)]],
    (f.map (·.1)).Pairwise (fun x y => primLess (effKeys [⟨.ftime, false⟩, ⟨.cport, true⟩]) y x = false) := by decide

end Pk.Props.C02
