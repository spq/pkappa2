/-
  C07 — the full statement of Pk/Props/C07.lean (`MergeViewEq`, a `def … : Prop` there).

  `MergeViewEq` quantifies over arbitrary `Reader` values and is false as stated
  (`merge_view_eq_counterexample`; one witness per needed hypothesis in Pk/Proofs/MergeFullCex.lean).
  Proved here: `MergeViewEq'`, the same conclusion (every stream view — absolute times, host addresses, ports,
  protocol, byte counts, source packets, payload — of every id through the whole stack is unchanged when a
  suffix of the stack is replaced by its merge) under
    * `Reader.WF` for the merge inputs (Pk/Proofs/MergeFullWF.lean): host groups well-formed, `idMin`/`idMax`
      bracket the ids, import table without duplicates and with C-string names, times of this era, uint64 payload
      sizes, skip counters inside the stream's own packet records;
    * `Reader.Fits` for the merge outputs: at most 2^32 packet records and imports, at most 65 536 host groups
      (the capacity limits of the format, not modelled in `AddIndex`).
  Non-vacuity: every reader opened on a file written by a reachable writer (`AddStream` of well-formed streams,
  `AddIndex` of well-formed files) satisfies `Reader.WF` (`reachable_reader_wf`), and so do the outputs of a merge
  (`merged_wf`); a concrete instance is `merge_view_eq'_nonvacuous` (from the files of Pk/Proofs/MergeFullWitness.lean).
-/
import Pk.Props.C07
import Pk.Proofs.MergeFull

namespace Pk.Props.C07
open Pk Pk.Bytes Pk.Index

/-- the statement is false: a reader whose `idMin`/`idMax` do not bracket its ids hides a stream from
    `StreamByID`, while `AddIndex` copies it into the merged file -/
theorem merge_view_eq_counterexample : ¬ MergeViewEq := mergeViewEq_counterexample

/-- `MergeViewEq` for well-formed inputs and outputs within the capacity limits.
    `(∀ r ∈ suf, r.WF)` is needed: the unrestricted statement is false (`merge_view_eq_counterexample`, and
    `mergeViewEq_needs_idRange/_times/_importsNoNul/_importsNodup/_skips/_hosts` in Pk/Proofs/MergeFullCex.lean:
    for each field of `Reader.WF` but `sizes` a concrete merge changes a view when only that field fails).
    `(∀ m ∈ merged, m.Fits)` is needed: `AddIndex` truncates packet/import/host-group ids to u32/u32/u16 and the
    model has no capacity check ("always true below the 2^32 capacity limits"). -/
def MergeViewEq' : Prop :=
  ∀ (pre suf merged : List Reader), (∀ r ∈ suf, r.WF) → merge suf = .ok merged → (∀ m ∈ merged, m.Fits) →
    ∀ id, stackView (pre ++ merged) id = stackView (pre ++ suf) id

theorem merge_view_eq' : MergeViewEq' := by
  intro pre suf merged hwf hm hfit id
  simpa using merge_stackView_within pre suf merged [] hwf hm hfit id

/-- the hypothesis `Reader.WF` holds for every file a reachable writer produces -/
theorem reachable_reader_wf {w : Writer} (h : Reach w) (r : Reader) (hr : newReader w.finalize = .ok r)
    (hfit : r.Fits) : r.WF :=
  reopen_wf w (reach_winv h) (reopen_fits w r hr hfit) r hr

/-- … and for the outputs of a merge, so merged files can be merged again -/
theorem merged_wf (suf merged : List Reader) (hwf : ∀ r ∈ suf, r.WF) (hm : merge suf = .ok merged)
    (hfit : ∀ m ∈ merged, m.Fits) : ∀ m ∈ merged, m.WF := by
  rcases merge_cases suf merged hm with ⟨rfl, rfl⟩ | ⟨wf, m, hfold, hnr, rfl⟩
  · intro m hm; simp at hm
  · intro m' hm'
    simp only [List.mem_singleton] at hm'
    subst hm'
    have hfitw : wf.Fits := reopen_fits wf m' hnr (hfit m' (by simp))
    obtain ⟨hw, _⟩ := fold_agree suf.reverse {} wf [] hfold WInv.empty (fun r hr => hwf r (by simpa using hr)) hfitw Agree.empty
    exact reopen_wf wf hw hfitw m' hnr

/-- the hypotheses of `MergeViewEq'` are jointly satisfiable with a successful, non-trivial merge: two files the
    writer produces, both holding stream 7 with different views; the merged file is well-formed and shows the
    newer one -/
theorem merge_view_eq'_nonvacuous : ∃ (a b : Reader) (merged : List Reader), a.WF ∧ b.WF ∧ merge [a, b] = .ok merged ∧
    (∀ m ∈ merged, m.Fits) ∧ (∀ m ∈ merged, m.WF) ∧
    (∃ v, stackView [a, b] 7 = some (some v) ∧ stackView merged 7 = some (some v)) ∧ stackView [a] 7 ≠ stackView [b] 7 := by
  refine ⟨mfx_a, mfx_b, [mfx_m], mfx_a_wf, mfx_b_wf, mfx_merge_ab, ?_, ?_, ⟨mfx_v, mfx_view_ab, mfx_view_m⟩, ?_⟩
  · exact mfx_m_fits
  · intro m hm; rw [List.mem_singleton.mp hm]; exact mfx_m_wf
  · rw [mfx_view_a, mfx_view_b]; decide +kernel

end Pk.Props.C07
