/-
  C09 — Background work always settles.

  Model: Pk.Model.Manager.  Three parts:

  (1) no stuck work (`jobsWF_step`, `nostuck_step`): in every reachable state, if captures are queued an import
      job is in flight; if some tag with pending streams has only decided references a tagging job
      is in flight; if a converter has streams to convert a converter job is in flight.  Together
      with acyclicity of the tag graph (`acyclic_step` of Pk/Props/C09Settles.lean: some pending tag is always
      eligible, `idle_is_quiescent`) this rules out
      the "work remains but nothing runs and nothing will start" states — for every history and
      every order of job completions.
  (2) progress of the internal steps (`tagDone_clears`): the completion of a tagging job during
      which nothing was invalidated leaves its tag fully decided, i.e. the number of pending tags
      strictly drops; completions re-invalidate only what arrived during the job.
  (3) termination: Pk/Props/C09Settles.lean proves `settles` — the relation "deliver the completion of a
      job in flight (admissible payload) in a reachable state" is well-founded, i.e. every run of job
      completions without further API calls is finite, for every order of completions (a 7-component
      lexicographic measure) — and `idle_is_quiescent`: where it ends, nothing is queued, every tag is
      decided and no stream waits for a converter (tag graph acyclic: `acyclic_step`).
-/
import Pk.Model.Manager
import Pk.Proofs.MgrSettle

namespace Pk.Props.C09
open Pk.Mgr

def JobsWF (s : St) : Prop :=
  (s.tag = true ↔ s.jTag.isSome) ∧ (s.merge = true ↔ s.jMerge.isSome) ∧
  (s.convert = true ↔ s.jConv.isSome) ∧ (s.queue ≠ [] ↔ s.jImport.isSome)

def pendingConv (s : St) (c : String) : IdSet := (sget s.toconv c).getD []

/-- no work is left behind without a job that will deliver it -/
def NoStuck (s : St) : Prop :=
  ((∃ nt ∈ s.tags, eligible s nt.2 = true) → s.tag = true) ∧
  (∀ c ∈ s.convs, pendingConv s c ≠ [] → s.convert = true)

/-- the event is one the implementation can produce in this state: a completion names the job that
    is in flight -/
def EvOK (s : St) : Ev → Prop
  | .tagDone name _ => ∀ jn snap held, s.jTag = some (jn, snap, held) → jn = name
  | .importDone processed _ _ _ _ _ => s.jImport.isSome → 0 < processed ∧ processed ≤ s.queue.length
  | _ => True

theorem jobsWF_init (convs : List String) :
    JobsWF { convs := convs, toconv := convs.map (fun c => (c, [])), cached := convs.map (fun c => (c, [])) } := by
  simp [JobsWF]

theorem jobsWF_step (s : St) (e : Ev) (st : Started) (h : JobsWF s) (hok : EvOK s e) :
    JobsWF (step s e st).1 := by
  have _ := hok  -- not needed: the flags follow the job records for every event
  exact Pk.Proofs.MgrSettle.jobsWF_step s e st h

theorem nostuck_init (convs : List String) :
    NoStuck { convs := convs, toconv := convs.map (fun c => (c, [])), cached := convs.map (fun c => (c, [])) } := by
  refine ⟨?_, ?_⟩
  · rintro ⟨nt, hm, _⟩
    cases hm
  · intro c _ hp
    exact absurd (Pk.Proofs.MgrSettle.sget_map_nil convs c) hp

/-- the `refBy` back-references mirror the references: a tag that references an existing tag `r`
    is recorded in `r.refBy` (one half of C11 `GraphWF.mirror`, proved there for the tag-API model).
    `nostuck_step` is false without it: `delTag`/`updName` only look at `refBy` to decide that
    nobody references the tag; if `refBy` is empty although `tag/b` references `tag/a` (which has
    pending streams), deleting or renaming `tag/a` makes `tag/b` eligible while no tagging job runs. -/
def RefByWF (s : St) : Prop :=
  ∀ nt ∈ s.tags, ∀ r ∈ nt.2.refs, ∀ tr, sget s.tags r = some tr → nt.1 ∈ tr.refBy

theorem refByWF_init (convs : List String) :
    RefByWF { convs := convs, toconv := convs.map (fun c => (c, [])), cached := convs.map (fun c => (c, [])) } := by
  intro nt hm
  cases hm

/-- every transition re-establishes "pending work ⇒ a job is running" -/
theorem nostuck_step (s : St) (e : Ev) (st : Started) (hw : JobsWF s) (h : NoStuck s) (hok : EvOK s e)
    (hrb : RefByWF s) -- counterexample without it: tags a ↦ {refs [a], unc [0], refBy []}, b ↦ {refs [a], unc [0]}, event `delTag a`
    : NoStuck (step s e st).1 := by
  have _ := hw; have _ := hok  -- not needed
  exact Pk.Proofs.MgrSettle.nostuck_step s e st h hrb

/-- a tagging job during which nothing was invalidated decides its tag completely -/
theorem tagDone_clears (s : St) (st : Started) (name : String) (snap : Tag) (held result : List Nat)
    (ot : Tag)
    (hj : s.jTag = some (name, snap, held)) (ht : sget s.tags name = some ot) (hd : ot.defn = snap.defn)
    (hg : ot.gen = snap.gen)
    (hm : s.upd = [] ∧ s.rst = [] ∧ s.add = []) :
    ∃ t, sget (step s (.tagDone name result) st).1.tags name = some t ∧ t.unc = [] :=
  Pk.Proofs.MgrSettle.tagDone_clears s st name snap held result ot hj ht hd hg hm

/-- the merge eligibility scan terminates with an offset inside the list -/
theorem mergeOffset_bound (s : St) (i : Nat) (h : mergeOffset s = some i) : i < s.idx.length :=
  Pk.Proofs.MgrSettle.mergeOffset_bound s i h

end Pk.Props.C09
