/-
  The vocabulary of the import properties (C05, C08): the definitions their statements are written in, over
  Pk/Model/Import.lean.  Definitions only; the property files state theorems over them and the proof
  modules import them.
-/
import Pk.Model.Import

namespace Pk.Props.C08
open Pk.Import

/-- Two laws one would expect of a reassembler.  No theorem assumes them: both are false of the
    reference `reasm` (`C05More.flow_local_false_across_timeout`, `C05More.prefix_stable_false`);
    `C05More.flow_local_window` and `C05More.reasm_teardown_frozen` are the parts that hold. -/
structure ReasmLaws (R : List Pkt → Array Stream) : Prop where
  /-- streams of a flow depend only on that flow's packets (and the flush times) -/
  flow_local : ∀ (ps : List Pkt) (sameFlow : Pkt → Bool) (i : Nat) (s : Stream), (R ps)[i]? = some s →
    (∀ p ∈ s.pkts, ∃ q ∈ ps, q.ref = p.1 ∧ sameFlow q = true) →
    ∃ j : Nat, ((R (ps.filter sameFlow))[j]?).map (fun (t : Stream) => (t.pkts, t.data)) = some (s.pkts, s.data)
  /-- a completed stream is not changed by later packets -/
  prefix_stable : ∀ (ps qs : List Pkt) (i : Nat) (s : Stream), (R ps)[i]? = some s → s.complete = true →
    ((R (ps ++ qs))[i]?).map (fun (t : Stream) => (t.pkts, t.data)) = some (s.pkts, s.data)

/-- import with the feeding order given (no snapshot): reassemble, assign IDs, stack the new index -/
def importStep (newFiles : List String) (fed : List Pkt) (stack : List Index) : List Index :=
  let a := assignIDs newFiles stack (reasm fed).toList (nextStreamID stack)
  if a.index.isEmpty then stack else stack ++ [{ streams := a.index }]

def sharePacket (s t : Stream) : Bool := s.pkts.any (fun p => t.pkts.any (fun q => p.1 == q.1))

def doubleIdAt (stack : List Index) (i j : Nat) : Bool :=
  match visibleStream stack i, visibleStream stack j with
  | some s, some t => sharePacket s t
  | _, _ => false

def NoDoubleIdAt (stack : List Index) (i j : Nat) : Prop := doubleIdAt stack i j = false

instance (stack : List Index) (i j : Nat) : Decidable (NoDoubleIdAt stack i j) := by
  unfold NoDoubleIdAt; infer_instance

/-- For chronological arrival — every batch is not older than everything indexed — no two visible
    IDs share a packet after any import.  FALSE as it stands
    (`C08Chrono.no_double_id_chrono_counterexample`: the names `b.1` are not tied to the packets `b.2`);
    with that repaired and ties excluded it is `C08Chrono.no_double_id_chrono_strict`. -/
def NoDoubleIdChrono : Prop :=
  ∀ (batches : List (List String × List Pkt)),
    batches.Pairwise (fun bi bj => ∀ p ∈ bi.2, ∀ q ∈ bj.2, p.ts ≤ q.ts) →
    let stack := (batches.foldl (fun (acc : List Index × List Pkt) b =>
        (importStep b.1 (sortPkts (acc.2 ++ b.2)) acc.1, acc.2 ++ b.2)) ([], [])).1
    ∀ i j, i ≠ j → NoDoubleIdAt stack i j

/-- For chronological arrival any partition into batches gives the visible streams of the one-shot
    import up to renumbering.  FALSE as it stands (`C08Chrono.batching_irrelevant_chrono_counterexample`,
    the history of `finding_F34`); inside one inactivity window it is
    `C08Chrono.batching_irrelevant_chrono_window`. -/
def BatchingIrrelevantChrono : Prop :=
  ∀ (batches : List (List String × List Pkt)),
    batches.Pairwise (fun bi bj => ∀ p ∈ bi.2, ∀ q ∈ bj.2, p.ts ≤ q.ts) →
    let incr := (batches.foldl (fun (acc : List Index × List Pkt) b =>
        (importStep b.1 (sortPkts (acc.2 ++ b.2)) acc.1, acc.2 ++ b.2)) ([], [])).1
    let all := batches.foldr (fun b acc => b.2 ++ acc) []
    let one := importStep (batches.map (·.1)).flatten (sortPkts all) []
    ((visible incr).map (fun e => (e.2.pkts, e.2.data))).Perm ((visible one).map (fun e => (e.2.pkts, e.2.data)))

end Pk.Props.C08

namespace Pk.Proofs.ImportReasm
open Pk.Import

/-- what `tcpPacket` does with an accepted packet of direction `dir`, seen from one half-connection:
    `Stream.Accept` records the packet (`addPkt`), then the assembler runs on the sender's half -/
def feed (dir : Bool) (acc : Stream × Half) (p : Pkt) : Stream × Half :=
  assembleHalf (acc.1.addPkt p.ref dir) acc.2 p

def feedAll (dir : Bool) (acc : Stream × Half) (ps : List Pkt) : Stream × Half :=
  ps.foldl (feed dir) acc

def PlainData (p : Pkt) : Prop :=
  p.syn = false ∧ p.fin = false ∧ p.rst = false ∧ p.payload ≠ []

instance (p : Pkt) : Decidable (PlainData p) := by unfold PlainData; infer_instance

def InOrder : Nat → List Pkt → Prop
  | _, [] => True
  | s, p :: rest => p.seq = s ∧ PlainData p ∧ InOrder (seqAdd s p.payload.length) rest

instance : (s : Nat) → (ps : List Pkt) → Decidable (InOrder s ps)
  | _, [] => isTrue trivial
  | s, p :: rest =>
    have := instDecidableInOrder (seqAdd s p.payload.length) rest
    by unfold InOrder; infer_instance

def payloadOf (ps : List Pkt) : Bytes := (ps.map (·.payload)).flatten

def chunksFrom : Nat → List Pkt → List (Nat × Bytes)
  | _, [] => []
  | n, p :: rest => (n, p.payload) :: chunksFrom (n + 1) rest

/-- the sequence numbers `isn .. isn + n` of one direction do not cross 2^32, and
    `Sequence.Difference` never applies its wrap correction to two of them (that needs one number in
    the last and one in the first quarter of the sequence space) -/
def SeqLinear (isn n : Nat) : Prop :=
  isn + n < 4294967296 ∧ (uint32Max / 4 ≤ isn ∨ isn + n ≤ uint32Max - uint32Max / 4)

instance (isn n : Nat) : Decidable (SeqLinear isn n) := by unfold SeqLinear; infer_instance

def slice (B : Bytes) (a b : Nat) : Bytes := (B.drop a).take (b - a)

def pOff (isn : Nat) (p : Pkt) : Nat := p.seq - isn

def pEnd (isn : Nat) (p : Pkt) : Nat := p.seq - isn + p.payload.length

/-- the first byte of `B` has sequence number `isn`; `p` may be an original segment, a
    retransmission or any re-segmentation of `B` -/
def DataPkt (isn : Nat) (B : Bytes) (p : Pkt) : Prop :=
  PlainData p ∧ isn ≤ p.seq ∧ pEnd isn p ≤ B.length ∧ p.payload = slice B (pOff isn p) (pEnd isn p)

instance (isn : Nat) (B : Bytes) (p : Pkt) : Decidable (DataPkt isn B p) := by unfold DataPkt; infer_instance

/-- `DataPkt` whose payload may be empty (a pure ACK, a keep-alive) -/
def SegPkt (isn : Nat) (B : Bytes) (p : Pkt) : Prop :=
  (p.syn = false ∧ p.fin = false ∧ p.rst = false) ∧ isn ≤ p.seq ∧ pEnd isn p ≤ B.length ∧
  p.payload = slice B (pOff isn p) (pEnd isn p)

instance (isn : Nat) (B : Bytes) (p : Pkt) : Decidable (SegPkt isn B p) := by unfold SegPkt; infer_instance

def Stream.after (st0 : Stream) (dir : Bool) (done : List Pkt) (chunks : List (Nat × Bytes)) : Stream :=
  { st0 with pktsRev := (done.map (fun p => (p.ref, dir))).reverse ++ st0.pktsRev,
             npkts := st0.npkts + done.length,
             dataRev := chunks ++ st0.dataRev }

/-- the chunks (newest first) cut bytes `0 .. c-1` of `B` into consecutive non-empty pieces; each
    piece is attributed to a packet of `done` (number `n0 + k` of the stream) that carried the first
    byte of the piece and did not reach beyond its end -/
inductive ChunksOk (isn : Nat) (B : Bytes) (n0 : Nat) (done : List Pkt) : Nat → List (Nat × Bytes) → Prop
  | nil : ChunksOk isn B n0 done 0 []
  | cons {c c' k : Nat} {p : Pkt} {chunks : List (Nat × Bytes)} :
      ChunksOk isn B n0 done c chunks → c < c' → c' ≤ B.length → done[k]? = some p →
      pOff isn p ≤ c → c < pEnd isn p → pEnd isn p ≤ c' →
      ChunksOk isn B n0 done c' ((n0 + k, slice B c c') :: chunks)

def Covers (isn : Nat) (B : Bytes) (ps : List Pkt) : Prop :=
  ∀ x, x < B.length → ∃ p ∈ ps, pOff isn p ≤ x ∧ x < pEnd isn p

structure Endpoints where
  cip : String
  sip : String
  cport : Nat
  sport : Nat
deriving Repr, DecidableEq

def isC2S (e : Endpoints) (p : Pkt) : Prop :=
  p.udp = false ∧ p.src = e.cip ∧ p.dst = e.sip ∧ p.sport = e.cport ∧ p.dport = e.sport

instance (e : Endpoints) (p : Pkt) : Decidable (isC2S e p) := by unfold isC2S; infer_instance

def isS2C (e : Endpoints) (p : Pkt) : Prop :=
  p.udp = false ∧ p.src = e.sip ∧ p.dst = e.cip ∧ p.sport = e.sport ∧ p.dport = e.cport

instance (e : Endpoints) (p : Pkt) : Decidable (isS2C e p) := by unfold isS2C; infer_instance

/-- otherwise the two directions cannot be told apart (`tcpDir_dirPkt`) -/
def Endpoints.Distinct (e : Endpoints) : Prop := ¬ (e.cip = e.sip ∧ e.cport = e.sport)

def DirPkt (e : Endpoints) (p : Pkt) (dir : Bool) : Prop :=
  (dir = false ∧ isC2S e p) ∨ (dir = true ∧ isS2C e p)

def IsSyn (e : Endpoints) (p : Pkt) : Prop :=
  isC2S e p ∧ p.syn = true ∧ p.ack = false ∧ p.fin = false ∧ p.rst = false ∧ p.payload = []

instance (e : Endpoints) (p : Pkt) : Decidable (IsSyn e p) := by unfold IsSyn; infer_instance

def IsSynAck (e : Endpoints) (p : Pkt) : Prop :=
  isS2C e p ∧ p.syn = true ∧ p.ack = true ∧ p.fin = false ∧ p.rst = false ∧ p.payload = []

instance (e : Endpoints) (p : Pkt) : Decidable (IsSynAck e p) := by unfold IsSynAck; infer_instance

def pdir (e : Endpoints) (p : Pkt) : Bool := decide (isS2C e p)

/-- `icn`, `isn`: sequence number of the first data byte of client and server; `Bc`, `Bs`: the byte
    strings they send; `t0`: a time that no packet precedes -/
structure ConvParams where
  e : Endpoints
  icn : Nat
  isn : Nat
  Bc : Bytes
  Bs : Bytes
  t0 : Nat

/-- all packets lie within one inactivity timeout from `t0`: no flush finds anything old
    (`ConnWin` in `skel_step`) -/
def BodyPkt (cp : ConvParams) (p : Pkt) : Prop :=
  ((isC2S cp.e p ∧ SegPkt cp.icn cp.Bc p) ∨ (isS2C cp.e p ∧ SegPkt cp.isn cp.Bs p)) ∧
  cp.t0 ≤ p.ts ∧ p.ts ≤ cp.t0 + timeout

instance (cp : ConvParams) (p : Pkt) : Decidable (BodyPkt cp p) := by unfold BodyPkt; infer_instance

/-- `ChunksOk` for both directions at once: the chunks cut `Bc[0..cc)` and `Bs[0..cs)`, interleaved
    in the order of delivery; each piece is attributed to a packet of its own direction; packet
    numbers increase -/
inductive Chunks2 (cp : ConvParams) (n0 : Nat) (done : List Pkt) : Nat → Nat → List (Nat × Bytes) → Prop
  | nil : Chunks2 cp n0 done 0 0 []
  | c2s {cc cs cc' k : Nat} {p : Pkt} {chunks : List (Nat × Bytes)} :
      Chunks2 cp n0 done cc cs chunks → cc < cc' → cc' ≤ cp.Bc.length → done[k]? = some p → isC2S cp.e p →
      pOff cp.icn p ≤ cc → cc < pEnd cp.icn p → pEnd cp.icn p ≤ cc' → (∀ ch ∈ chunks, ch.1 < n0 + k) →
      Chunks2 cp n0 done cc' cs ((n0 + k, slice cp.Bc cc cc') :: chunks)
  | s2c {cc cs cs' k : Nat} {p : Pkt} {chunks : List (Nat × Bytes)} :
      Chunks2 cp n0 done cc cs chunks → cs < cs' → cs' ≤ cp.Bs.length → done[k]? = some p → isS2C cp.e p →
      pOff cp.isn p ≤ cs → cs < pEnd cp.isn p → pEnd cp.isn p ≤ cs' → (∀ ch ∈ chunks, ch.1 < n0 + k) →
      Chunks2 cp n0 done cc cs' ((n0 + k, slice cp.Bs cs cs') :: chunks)

def ConvParams.isnOf (cp : ConvParams) (d : Bool) : Nat := if d then cp.isn else cp.icn

def ConvParams.BOf (cp : ConvParams) (d : Bool) : Bytes := if d then cp.Bs else cp.Bc

def cntOf (cc cs : Nat) (d : Bool) : Nat := if d then cs else cc

def ConvPkt (cp : ConvParams) (p : Pkt) (dir : Bool) : Prop :=
  DirPkt cp.e p dir ∧ cp.t0 ≤ p.ts ∧ p.ts ≤ cp.t0 + timeout

def SegOf (cp : ConvParams) (p : Pkt) (d : Bool) : Prop :=
  ConvPkt cp p d ∧ SegPkt (cp.isnOf d) (cp.BOf d) p

def Carried (cp : ConvParams) (done : List Pkt) (d : Bool) (x : Nat) : Prop :=
  ∃ q ∈ done, DirPkt cp.e q d ∧ pOff (cp.isnOf d) q ≤ x ∧ x < pEnd (cp.isnOf d) q

/-- the bytes the index writer stores for direction `d` (index/writer.go): the chunks of `Data`
    whose `PacketDirections[PacketIndex]` is `d`, concatenated -/
def dirBytes (st : Stream) (d : Bool) : Bytes :=
  ((st.data.filter (fun ch => st.dirOf ch.1 == d)).map (·.2)).flatten

/-- the FIN segment of a direction whose byte string is `B` (first byte at sequence number `isn`): it
    carries the LAST bytes `B[pOff .. |B|)`, possibly none, at their sequence number -/
def FinPkt (isn : Nat) (B : Bytes) (p : Pkt) : Prop :=
  (p.syn = false ∧ p.fin = true ∧ p.rst = false) ∧ isn ≤ p.seq ∧ pEnd isn p = B.length ∧
  p.payload = slice B (pOff isn p) (pEnd isn p)

instance (isn : Nat) (B : Bytes) (p : Pkt) : Decidable (FinPkt isn B p) := by unfold FinPkt; infer_instance

/-- RST segments with payload are left out -/
def RstPkt (isn : Nat) (B : Bytes) (p : Pkt) : Prop :=
  (p.syn = false ∧ p.fin = false ∧ p.rst = true) ∧ isn ≤ p.seq ∧ pOff isn p ≤ B.length ∧ p.payload = []

instance (isn : Nat) (B : Bytes) (p : Pkt) : Decidable (RstPkt isn B p) := by unfold RstPkt; infer_instance

/-- the FIN segment of direction `d` arriving after everything before it: every byte in front of it was
    carried by an earlier packet (a FIN that overtakes data of its own direction is left out) -/
def FinOf (cp : ConvParams) (done : List Pkt) (p : Pkt) (d : Bool) : Prop :=
  ConvPkt cp p d ∧ FinPkt (cp.isnOf d) (cp.BOf d) p ∧ ∀ x, x < pOff (cp.isnOf d) p → Carried cp done d x

def RstOf (cp : ConvParams) (p : Pkt) (d : Bool) : Prop :=
  ConvPkt cp p d ∧ RstPkt (cp.isnOf d) (cp.BOf d) p

instance (e : Endpoints) (p : Pkt) (d : Bool) : Decidable (DirPkt e p d) := by unfold DirPkt; infer_instance

instance (cp : ConvParams) (p : Pkt) (d : Bool) : Decidable (ConvPkt cp p d) := by unfold ConvPkt; infer_instance

instance (cp : ConvParams) (p : Pkt) (d : Bool) : Decidable (SegOf cp p d) := by unfold SegOf; infer_instance

instance (cp : ConvParams) (done : List Pkt) (d : Bool) (x : Nat) : Decidable (Carried cp done d x) := by
  unfold Carried; infer_instance

instance (cp : ConvParams) (done : List Pkt) (p : Pkt) (d : Bool) : Decidable (FinOf cp done p d) := by
  unfold FinOf; infer_instance

instance (cp : ConvParams) (p : Pkt) (d : Bool) : Decidable (RstOf cp p d) := by unfold RstOf; infer_instance

/-- the phases of a conversation after the handshake, as the reassembler sees them -/
inductive TPhase
  /-- data phase: both half-connections open -/
  | est
  /-- the FIN of direction `d` has been delivered: `d`'s half-connection is closed, the other one open -/
  | cw (d : Bool)
  /-- both half-connections are closed, the stream is `Complete`; `full`: by the two FINs, so that
      everything both sides sent has been delivered -/
  | both (full : Bool)
  /-- an RST was seen while a half-connection was still open: the TCP state machine rejects everything -/
  | reset
deriving DecidableEq, Repr

/-- the well-formed continuations of a conversation: `TStep cp done ph p ph'` — after the packets
    `done` of the body, in phase `ph`, packet `p` may follow and leads to phase `ph'` -/
inductive TStep (cp : ConvParams) (done : List Pkt) : TPhase → Pkt → TPhase → Prop
  /-- data phase: any segment without SYN/FIN/RST of either direction (`BodyPkt`) -/
  | seg {p : Pkt} : BodyPkt cp p → TStep cp done .est p .est
  /-- the first FIN (direction `d`), possibly with data, after everything before it has arrived -/
  | fin {p : Pkt} {d : Bool} : FinOf cp done p d → TStep cp done .est p (.cw d)
  /-- RST in the data phase -/
  | rst {p : Pkt} {d : Bool} : RstOf cp p d → TStep cp done .est p .reset
  /-- half-closed: the open direction goes on sending (segments carry ACK) -/
  | cwSeg {p : Pkt} {d : Bool} : SegOf cp p (!d) → p.ack = true → TStep cp done (.cw d) p (.cw d)
  /-- half-closed: ANY packet without RST of the direction that has sent its FIN — retransmitted
      FIN, retransmitted data, data after the FIN, ACKs of the other direction's data -/
  | cwOwn {p : Pkt} {d : Bool} : ConvPkt cp p d → p.rst = false → TStep cp done (.cw d) p (.cw d)
  /-- the second FIN (with ACK), possibly with data, after everything before it has arrived -/
  | cwFin {p : Pkt} {d : Bool} : FinOf cp done p (!d) → p.ack = true → TStep cp done (.cw d) p (.both true)
  /-- half-closed: RST of the direction that has sent its FIN -/
  | cwRstOwn {p : Pkt} {d : Bool} : ConvPkt cp p d → p.rst = true → TStep cp done (.cw d) p .reset
  /-- half-closed: RST of the open direction -/
  | cwRst {p : Pkt} {d : Bool} : RstOf cp p (!d) → TStep cp done (.cw d) p .reset
  /-- half-closed: RST of the open direction after everything before it has arrived -/
  | cwRstClose {p : Pkt} {d : Bool} : RstOf cp p (!d) → (∀ x, x < pOff (cp.isnOf (!d)) p → Carried cp done (!d) x) →
      TStep cp done (.cw d) p (.both false)
  /-- after the teardown: ANY packet of the 4-tuple (final ACKs, retransmissions, late data, even a
      new SYN re-using the ports inside the timeout window) -/
  | closed {p : Pkt} {dir full : Bool} : ConvPkt cp p dir → TStep cp done (.both full) p (.both full)
  /-- after an RST: ANY packet of the 4-tuple -/
  | afterRst {p : Pkt} {dir : Bool} : ConvPkt cp p dir → TStep cp done .reset p .reset

inductive TRun (cp : ConvParams) : List Pkt → TPhase → List Pkt → TPhase → Prop
  | nil {done : List Pkt} {ph : TPhase} : TRun cp done ph [] ph
  | cons {done : List Pkt} {ph ph' ph'' : TPhase} {p : Pkt} {rest : List Pkt} :
      TStep cp done ph p ph' → TRun cp (done ++ [p]) ph' rest ph'' → TRun cp done ph (p :: rest) ph''

/-- `d = true` is server → client -/
def halfOf (c : TcpConn) (d : Bool) : Half := if d then c.s2c else c.c2s

/-- nothing of direction `d` is lost for good: if every byte of `B_d` was carried by some packet of
    the body, all of `B_d` has been delivered -/
def CovFact (cp : ConvParams) (done : List Pkt) (cc cs : Nat) (d : Bool) : Prop :=
  (∀ x, x < (cp.BOf d).length → Carried cp done d x) → cntOf cc cs d = (cp.BOf d).length

/-- the part of `TInv` that does not mention the queues -/
def PhaseFacts (cp : ConvParams) (done : List Pkt) (f : Fsm) (k : Bool) (c : TcpConn) (cc cs : Nat) : TPhase → Prop
  | .est => f = { state := .established, dir := false } ∧ k = false ∧ c.c2s.closed = false ∧ c.s2c.closed = false ∧
      ∀ d, CovFact cp done cc cs d
  | .cw d => f = { state := .closeWait, dir := d } ∧ k = false ∧ (halfOf c d).closed = true ∧
      (halfOf c (!d)).closed = false ∧ cntOf cc cs d = (cp.BOf d).length ∧ CovFact cp done cc cs (!d)
  | .both full => k = true ∧ c.c2s.closed = true ∧ c.s2c.closed = true ∧
      (full = true → cc = cp.Bc.length ∧ cs = cp.Bs.length)
  | .reset => f.state = .reset ∧ k = (c.c2s.closed && c.s2c.closed)

def InWindow (t0 : Nat) (ps : List Pkt) : Prop := ∀ p ∈ ps, t0 ≤ p.ts ∧ p.ts ≤ t0 + timeout

def sameConv (p q : Pkt) : Prop :=
  p.udp = q.udp ∧
  ((p.src = q.src ∧ p.dst = q.dst ∧ p.sport = q.sport ∧ p.dport = q.dport) ∨
   (p.src = q.dst ∧ p.dst = q.src ∧ p.sport = q.dport ∧ p.dport = q.sport))

instance (p q : Pkt) : Decidable (sameConv p q) := by unfold sameConv; infer_instance

def FlowClosed (F : Pkt → Bool) : Prop := ∀ p q, sameConv p q → F p = F q

/-- selections of conversations are predicates on packets (`FlowClosed`); a stream is tested through a
    packet with its endpoints, client → server (the other fields are dummies) -/
def Stream.keyPkt (s : Stream) : Pkt :=
  { ts := 0, file := "", idx := 0, udp := s.udp, src := s.caddr, dst := s.saddr, sport := s.cport, dport := s.sport }

def selOf (k : Pkt) : Pkt → Bool := fun p => decide (sameConv p k)

def isUdpC2S (e : Endpoints) (p : Pkt) : Prop :=
  p.udp = true ∧ p.src = e.cip ∧ p.dst = e.sip ∧ p.sport = e.cport ∧ p.dport = e.sport

instance (e : Endpoints) (p : Pkt) : Decidable (isUdpC2S e p) := by unfold isUdpC2S; infer_instance

def isUdpS2C (e : Endpoints) (p : Pkt) : Prop :=
  p.udp = true ∧ p.src = e.sip ∧ p.dst = e.cip ∧ p.sport = e.sport ∧ p.dport = e.cport

instance (e : Endpoints) (p : Pkt) : Decidable (isUdpS2C e p) := by unfold isUdpS2C; infer_instance

/-- `true` = server → client -/
def udir (e : Endpoints) (p : Pkt) : Bool := decide (isUdpS2C e p)

/-- `Data` of a UDP stream: one chunk per datagram with payload, attributed to the number of the datagram
    (`n` is the number of the first one) -/
def udpChunks : Nat → List Pkt → List (Nat × Bytes)
  | _, [] => []
  | n, p :: rest => if p.payload.length = 0 then udpChunks (n + 1) rest else (n, p.payload) :: udpChunks (n + 1) rest

def udpStream (e : Endpoints) (ps : List Pkt) (complete : Bool) : Stream :=
  { caddr := e.cip, saddr := e.sip, cport := e.cport, sport := e.sport, udp := true,
    pktsRev := (ps.map (fun p => (p.ref, udir e p))).reverse, npkts := ps.length,
    dataRev := (udpChunks 0 ps).reverse, complete := complete }

def udpRuns : List Pkt → List (List Pkt)
  | [] => []
  | [p] => [[p]]
  | p :: q :: rest =>
    if p.ts + timeout < q.ts then [p] :: udpRuns (q :: rest)
    else match udpRuns (q :: rest) with
      | [] => [[p]]
      | r :: rs => (p :: r) :: rs

/-- the endpoints of a run as the reassembler sees them: the sender of its first datagram is the client -/
def runEndpoints (p : Pkt) : Endpoints := ⟨p.src, p.dst, p.sport, p.dport⟩

/-- runs are never empty; the first case is a dummy -/
def runStream (c : Bool) : List Pkt → Stream
  | [] => udpStream ⟨"", "", 0, 0⟩ [] c
  | q :: r => udpStream (runEndpoints q) (q :: r) c

def runStreams : List (List Pkt) → List Stream
  | [] => []
  | [r] => [runStream false r]
  | r :: r' :: rs => runStream true r :: runStreams (r' :: rs)

def udpNoGap : List Pkt → Prop
  | [] => True
  | [_] => True
  | p :: q :: r => ¬ (p.ts + timeout < q.ts) ∧ udpNoGap (q :: r)

def udpGapsBetween : List (List Pkt) → Prop
  | [] => True
  | [_] => True
  | r :: r' :: rs => (∀ a ∈ r.getLast?, ∀ b ∈ r'.head?, a.ts + timeout < b.ts) ∧ udpGapsBetween (r' :: rs)

end Pk.Proofs.ImportReasm

namespace Pk.Proofs.ImportChrono
open Pk.Import

/-- the key under which an index file finds a packet (`StreamByFirstPacketSource`): capture file
    and index in it -/
def PRef.key (r : PRef) : String × Nat := (r.file, r.idx)

def Pkt.key (p : Pkt) : String × Nat := (p.file, p.idx)

def Before (ps qs : List Pkt) : Prop := ∀ p ∈ ps, ∀ q ∈ qs, pktLt p q = true

instance (ps qs : List Pkt) : Decidable (Before ps qs) := by unfold Before; infer_instance

/-- a batch: the names of the new captures and their packets -/
abbrev Batch := List String × List Pkt

def allPkts (bs : List Batch) : List Pkt := bs.foldr (fun b acc => b.2 ++ acc) []

/-- hypotheses on a history of imports (all decidable):
    * `strict`  — chronological arrival, ties broken as `sortPkts` breaks them: every packet of an
                  earlier batch is fed before every packet of a later batch (`Before`);
    * `keys`    — a packet is identified by capture file and index in it (what
                  `StreamByFirstPacketSource` looks at);
    * `names`   — the names handed to the import are those of the captures of its packets;
    * `fresh`   — no capture is imported twice: a later import does not name the capture of an
                  earlier packet. -/
structure ChronoHist (bs : List Batch) : Prop where
  strict : bs.Pairwise (fun bi bj => Before bi.2 bj.2)
  keys : ((allPkts bs).map Pkt.key).Nodup
  names : ∀ b ∈ bs, ∀ p ∈ b.2, p.file ∈ b.1
  fresh : bs.Pairwise (fun bi bj => ∀ p ∈ bi.2, p.file ∉ bj.1)

/-- all packets of the history lie within one inactivity timeout after `t0` -/
def HistWindow (t0 : Nat) (bs : List Batch) : Prop := ∀ p ∈ allPkts bs, t0 ≤ p.ts ∧ p.ts ≤ t0 + timeout

instance (t0 : Nat) (bs : List Batch) : Decidable (HistWindow t0 bs) := by unfold HistWindow; infer_instance

end Pk.Proofs.ImportChrono
