/-
  C11, two further parts.  Model: Pk/Model/TagGraph.lean; every statement is for all states, names, id lists,
  saved tables and call sequences (no bound).

  (1) A mark add / mark del changes exactly the ids named (`mark_add_applies`, `mark_del_applies`) and the text
      it writes denotes the new match set.  `query.Parse` is not modelled, so "denotes" is relative to a meaning
      `sem` of definition texts that is constrained only where the model writes the text itself (`DefSem`,
      `OpDenotes`, `OpCondDenotes`; consistent: `defSem_satisfiable`, `mark_add_or_reading_satisfiable`).
      "The text of a mark denotes its match set on ALL streams" is false between a query update of the mark and
      the run of its tagging job (`markDefStrict_query_counterexample`), so the invariant `MarkDefInv` speaks of
      the decided (not pending) streams; `settle_markDefStrict` gives the strict reading once the jobs have run.
      UpdateTag puts the mark's own pending set back after the walk (`prevUncertain`): the ids just changed
      count as decided for the mark, and what was pending before stays pending, so a mark add that follows a
      query update loses nothing of the new definition (`mark_add_after_query_keeps_pending`).
  (2) Start-up validation of a saved tag table: `loadTags_graph`, `loadTags_rejects_only_bad` (iff),
      `loadTags_roundtrip`.  Converter attachments are left out of the model's `Saved` (the real `New`
      re-attaches the converters a state file names), so the round trip is stated without them
      (`loadTags_roundtrip_converters_counterexample`).
-/
import Pk.Model.TagGraph
import Pk.Proofs.TagGraph
import Pk.Proofs.TagGraphSets
import Pk.Proofs.TagGraphInherit
import Pk.Proofs.TagGraphMark
import Pk.Proofs.TagGraphText
import Pk.Proofs.TagGraphLoad
import Pk.Proofs.TagGraphInv
import Pk.Proofs.TagGraphCheck
import Pk.Proofs.TagGraphNames
import Pk.Props.C11

namespace Pk.Props.C11More
open Pk.TagGraph Pk.Proofs.TagGraph Pk.Proofs.TagGraphMore
open Pk.Props.C11 (GraphWF)

/-- `k` references `name` through a non-empty chain of main/sub references -/
def References (m : TagMap) (k name : Name) : Prop := k ≠ name ∧ RefersTo m name k

/-- main and sub tags and features, `known`, colour, converters and referrers agree -/
abbrev SameOther (a b : Tag) : Prop := sameOther a b

def SameButUncertain (a b : Tag) : Prop :=
  a.definition = b.definition ∧ a.mainTags = b.mainTags ∧ a.subTags = b.subTags ∧
  a.mainFeat = b.mainFeat ∧ a.subFeat = b.subFeat ∧ a.cond = b.cond ∧ a.matched = b.matched ∧
  a.known = b.known ∧ a.color = b.color ∧ a.converters = b.converters ∧ a.referencedBy = b.referencedBy

def OthersKept (name : Name) (m m' : TagMap) : Prop :=
  ∀ k, k ≠ name →
    (tget m k = none → tget m' k = none) ∧
    (∀ u, tget m k = some u → ∃ u', tget m' k = some u' ∧ SameButUncertain u' u)

theorem othersKept_of_clearU (name : Name) (m m' : TagMap)
    (h : ∀ k, k ≠ name → (tget m' k).map clearU = (tget m k).map clearU) : OthersKept name m m' := by
  intro k hk
  have := h k hk
  refine ⟨fun hn => Option.map_eq_none_iff.mp (hn ▸ this), fun u hu => ?_⟩
  rw [hu] at this
  obtain ⟨u', h', he⟩ := Option.map_eq_some_iff.mp this
  exact ⟨u', h', clearU_eq he⟩

/-- **mark add.**  For a well-formed table, a known mark and a non-empty id list within range the call
    succeeds, and afterwards
    * the mark matches exactly `old ∪ ids`,
    * its pending set is the OLD one (while `inheritTagUncertainty` runs it is old ∪ changed ids, then
      `mgr.tags[name].Uncertain = prevUncertain` puts the old set back), its other fields
      (colour, converters, references, referrers, …) are unchanged,
    * its condition is the old one united with the ids really added and its definition text is the one
      `markAddApply` writes (see `mark_add_definition`),
    * every other tag is unchanged except for its pending set,
    * every id that became a member is pending for every tag that (transitively) references the mark. -/
theorem mark_add_applies (st : State) (name : Name) (ids : List Nat) (t : Tag)
    (wf : GraphWF st) (ht : tget st.tags name = some t) (hmark : markPrefix name = true)
    (hknown : t.known = true) (hne : ids ≠ []) (hmax : maxUsed ids ≤ st.nextStreamID) :
    ∃ st' t', step st (.markAdd name ids) = (.ok, st') ∧
      st'.nextStreamID = st.nextStreamID ∧ st'.convs = st.convs ∧
      tget st'.tags name = some t' ∧
      (∀ x, x ∈ t'.matched ↔ x ∈ t.matched ∨ x ∈ ids) ∧
      t'.uncertain = t.uncertain ∧
      SameOther t' t ∧
      t'.cond = t.cond.map (fun c => unionNat c (addedOf t.matched ids)) ∧
      t'.definition = (markAddApply t ids).definition ∧
      OthersKept name st.tags st'.tags ∧
      (∀ k u', References st.tags k name → tget st'.tags k = some u' →
        ∀ x, x ∈ ids → x ∉ t.matched → x ∈ u'.uncertain) := by
  obtain ⟨st', h1, h2, h3, h4, h5, h6⟩ := updMark_spec st name true ids t wf ht hmark hknown hne hmax
  refine ⟨st', { markAddApply t ids with uncertain := t.uncertain }, h1, h2, h3, h4, ?_, rfl, markAddApply_other t ids,
    markAddApply_cond t ids, rfl, othersKept_of_clearU _ _ _ h5, ?_⟩
  · exact mem_markAddApply_matched t ids
  · intro k u' hk hu' x hx hxn
    exact h6 k u' hk.1 hk.2 hu' x ⟨hx, hxn⟩

/-- **mark del.**  As `mark_add_applies`, with `old \ ids`; the condition becomes exactly the new set. -/
theorem mark_del_applies (st : State) (name : Name) (ids : List Nat) (t : Tag)
    (wf : GraphWF st) (ht : tget st.tags name = some t) (hmark : markPrefix name = true)
    (hknown : t.known = true) (hne : ids ≠ []) (hmax : maxUsed ids ≤ st.nextStreamID) :
    ∃ st' t', step st (.markDel name ids) = (.ok, st') ∧
      st'.nextStreamID = st.nextStreamID ∧ st'.convs = st.convs ∧
      tget st'.tags name = some t' ∧
      (∀ x, x ∈ t'.matched ↔ x ∈ t.matched ∧ x ∉ ids) ∧
      t'.uncertain = t.uncertain ∧
      SameOther t' t ∧
      t'.cond = some t'.matched ∧
      t'.definition = (if t'.matched.isEmpty then "id:-1" else "id:" ++ joinIds t'.matched) ∧
      OthersKept name st.tags st'.tags ∧
      (∀ k u', References st.tags k name → tget st'.tags k = some u' →
        ∀ x, x ∈ ids → x ∈ t.matched → x ∈ u'.uncertain) := by
  obtain ⟨st', h1, h2, h3, h4, h5, h6⟩ := updMark_spec st name false ids t wf ht hmark hknown hne hmax
  refine ⟨st', { markDelApply t ids with uncertain := t.uncertain }, h1, h2, h3, h4, ?_, rfl, markDelApply_other t ids,
    rfl, rfl, othersKept_of_clearU _ _ _ h5, ?_⟩
  · exact mem_markDelApply_matched t ids
  · intro k u' hk hu' x hx hxn
    exact h6 k u' hk.1 hk.2 hu' x ⟨hx, hxn⟩

/-- the text a mark add writes, by the cases of UpdateTag (`addedOf matched ids` = the ids of the call not yet
    matched, in the order given, without repetition) -/
theorem mark_add_definition (t : Tag) (ids : List Nat) :
    (markAddApply t ids).definition =
      if addedOf t.matched ids = [] then t.definition
      else if t.definition == "id:-1" then "id:" ++ joinIds (addedOf t.matched ids)
      else if plainIdList t.definition then t.definition ++ "," ++ joinIds (addedOf t.matched ids)
      else orForm t.definition (addedOf t.matched ids) :=
  markAddApply_definition t ids

theorem mem_addedOf_iff (matched ids : List Nat) (x : Nat) :
    x ∈ addedOf matched ids ↔ x ∈ ids ∧ x ∉ matched := mem_addedOf matched ids x

/-- **Parser contract** for the definition texts the model itself writes (`query.Parse` is not part of the
    model): `sem d x` = "stream `x` satisfies definition `d`".  `id:-1` matches nothing and a plain id
    list `id:a,b,c` (`plainIdList`) matches exactly the ids it names (`plainIds`). -/
structure DefSem (sem : String → Nat → Prop) : Prop where
  empty : ∀ x, ¬ sem "id:-1" x
  plain : ∀ s, plainIdList s = true → ∀ x, sem s x ↔ x ∈ plainIds s

def sem0 (s : String) (x : Nat) : Prop := plainIdList s = true ∧ x ∈ plainIds s

theorem sem0_ok : DefSem sem0 :=
  ⟨fun x h => by rw [sem0, idNone_not_plain] at h; exact absurd h.1 (by simp), fun s hs x => by simp [sem0, hs]⟩

theorem defSem_satisfiable : ∃ sem, DefSem sem := ⟨sem0, sem0_ok⟩

private theorem sem_idList {sem : String → Nat → Prop} (hs : DefSem sem) {ids : List Nat} (hne : ids ≠ [])
    (x : Nat) : sem ("id:" ++ joinIds ids) x ↔ x ∈ ids := by
  obtain ⟨h1, h2⟩ := plain_id_join ids hne
  rw [hs.plain _ h1 x, h2]

/-- the text `markDelApply` writes denotes exactly the new set (no hypothesis on the old text) -/
theorem mark_del_definition_denotes (sem : String → Nat → Prop) (hs : DefSem sem) (t : Tag) (ids : List Nat) :
    ∀ x, sem (markDelApply t ids).definition x ↔ x ∈ (markDelApply t ids).matched := by
  intro x
  rw [markDelApply_definition]
  cases hm : (markDelApply t ids).matched with
  | nil =>
    simp only [List.isEmpty_nil, if_true, List.not_mem_nil, iff_false]
    exact hs.empty x
  | cons a l =>
    simp only [List.isEmpty_cons, Bool.false_eq_true, if_false]
    exact sem_idList hs (List.cons_ne_nil a l) x

/-- the text `markAddApply` writes, read by the parser: a stream satisfies the new text iff it satisfied
    the old one or is one of the ids really added (for the third branch: provided the parser reads
    `(d) or id:J` as the union of `d` and `J` at this stream) -/
theorem mark_add_definition_sem (sem : String → Nat → Prop) (hs : DefSem sem) (t : Tag) (ids : List Nat) (x : Nat)
    (hor : sem (orForm t.definition (addedOf t.matched ids)) x ↔
      (sem t.definition x ∨ x ∈ addedOf t.matched ids)) :
    sem (markAddApply t ids).definition x ↔ (sem t.definition x ∨ x ∈ addedOf t.matched ids) := by
  rw [markAddApply_definition]
  by_cases hadd : addedOf t.matched ids = []
  · simp [hadd]
  · simp only [hadd, if_false]
    by_cases hnone : (t.definition == "id:-1") = true
    · simp only [hnone, if_true]
      rw [sem_idList hs hadd x]
      have hd : t.definition = "id:-1" := by simpa using hnone
      have : ¬ sem t.definition x := by rw [hd]; exact hs.empty x
      simp [this]
    · simp only [hnone, Bool.false_eq_true, if_false]
      by_cases hplain : plainIdList t.definition = true
      · simp only [hplain, if_true]
        obtain ⟨h1, h2⟩ := plain_append_join t.definition _ hplain hadd
        rw [hs.plain _ h1 x, h2, List.mem_append, ← hs.plain _ hplain x]
      · simp only [hplain, Bool.false_eq_true, if_false]
        exact hor

/-- the text `markAddApply` writes denotes exactly the new set, provided the old text denotes the old set
    and — for the third branch only — the parser reads `(d) or id:J` as the union of `d` and `J` -/
theorem mark_add_definition_denotes (sem : String → Nat → Prop) (hs : DefSem sem) (t : Tag) (ids : List Nat)
    (hor : ∀ x, sem (orForm t.definition (addedOf t.matched ids)) x ↔
      (sem t.definition x ∨ x ∈ addedOf t.matched ids))
    (hold : ∀ x, sem t.definition x ↔ x ∈ t.matched) :
    ∀ x, sem (markAddApply t ids).definition x ↔ x ∈ (markAddApply t ids).matched := by
  intro x
  rw [mark_add_definition_sem sem hs t ids x (hor x), markAddApply_matched, mem_unionNat, hold x]

/-- the hypothesis `hor` of `mark_add_definition_denotes` is consistent with the contract: the third-branch
    text is neither `id:-1` nor a plain id list nor the old text itself, so a parser meaning with the
    union reading exists for every old definition -/
theorem mark_add_or_reading_satisfiable (d : String) (ids : List Nat) :
    ∃ sem, DefSem sem ∧ ∀ x, sem (orForm d ids) x ↔ (sem d x ∨ x ∈ ids) := by
  refine ⟨fun s x => if s = orForm d ids then ((plainIdList d = true ∧ x ∈ plainIds d) ∨ x ∈ ids)
      else (plainIdList s = true ∧ x ∈ plainIds s), ⟨?_, ?_⟩, ?_⟩
  · intro x
    simp only [Ne.symm (orForm_ne_idNone d ids), if_false, idNone_not_plain]
    simp
  · intro s hs x
    have : s ≠ orForm d ids := by
      intro h; rw [h, orForm_not_plain] at hs; cases hs
    simp [this, hs]
  · intro x
    have : d ≠ orForm d ids := Ne.symm (orForm_ne_self d ids)
    simp [this]

/-- what the construction pass of `loadTags` refuses: a parse error, a name used twice, a mark whose
    definition is not an id filter -/
abbrev BuildOK (saved : List Saved) : Prop := Pk.Proofs.TagGraphMore.BuildOK saved

/-- An accepted table is loaded as a well-formed graph with exactly the saved tags, each with the saved
    definition, colour and parse facts.  (Converters are left out of the model: `Saved` carries none and every
    loaded tag has none, whereas `New` re-attaches the converters the state file names.)
    A mark starts with the ids of its definition matched and nothing pending, any other tag with every
    stream pending. -/
theorem loadTags_graph (next : Nat) (convs : List Name) (saved : List Saved) (st : State)
    (h : loadTags next convs saved = some st) :
    GraphWF st ∧ st.nextStreamID = next ∧ st.convs = convs ∧
    (∀ n, (tget st.tags n).isSome ↔ ∃ s ∈ saved, s.name = n) ∧
    (∀ s ∈ saved, ∃ t, tget st.tags s.name = some t ∧
      t.definition = s.definition ∧ t.color = s.color ∧ t.converters = [] ∧
      t.mainTags = s.facts.mainTags ∧ t.subTags = s.facts.subTags ∧
      t.mainFeat = s.facts.mainFeat ∧ t.subFeat = s.facts.subFeat ∧
      t.cond = (if s.facts.idsOk then some s.facts.ids else none) ∧ t.known = true ∧
      t.matched = (if markPrefix s.name then s.facts.ids else []) ∧
      t.uncertain = (if markPrefix s.name then [] else List.range next) ∧
      (∀ x, x ∈ t.referencedBy ↔ ∃ s' ∈ saved, s'.name = x ∧ s.name ∈ s'.facts.refs)) := by
  obtain ⟨hok, hcl, hac, rfl⟩ := (loadTags_eq_some_iff next convs saved st).mp h
  refine ⟨loadedTags_wf _ saved hok.2 hcl hac, rfl, rfl, ?_, ?_⟩
  · intro n
    show (tget (loadedTags (List.range next) saved) n).isSome ↔ _
    rw [loaded_isSome]
    simp [List.mem_map]
  · intro s hs
    obtain ⟨rb, h1, h2⟩ := tget_loaded_of_mem (List.range next) saved hok.2 s hs
    rw [loadTag_eq] at h1
    exact ⟨_, h1, rfl, rfl, rfl, rfl, rfl, rfl, rfl, rfl, rfl, rfl, rfl, h2⟩

/-- A saved table is rejected iff it has a parse error, a duplicate name, a mark whose definition is not an
    id filter, a tag referencing itself, a reference to a missing tag, or a reference cycle (no rank
    function).  (A self reference is the shortest cycle; it is listed because `New` checks it separately.) -/
theorem loadTags_rejects_only_bad (next : Nat) (convs : List Name) (saved : List Saved) :
    loadTags next convs saved = none ↔
      ((∃ s ∈ saved, s.facts.parseErr = true) ∨
       ¬ (saved.map (·.name)).Nodup ∨
       (∃ s ∈ saved, markPrefix s.name = true ∧ s.facts.idsOk = false) ∨
       (∃ s ∈ saved, s.name ∈ s.facts.refs) ∨
       (∃ s ∈ saved, ∃ r ∈ s.facts.refs, r ∉ saved.map (·.name)) ∨
       ¬ ∃ rank : Name → Nat, ∀ s ∈ saved, ∀ r ∈ s.facts.refs, rank r < rank s.name) := by
  constructor
  · intro h
    apply Classical.byContradiction
    intro hno
    simp only [not_or] at hno
    obtain ⟨h1, h2, h3, _, h5, h6⟩ := hno
    have hok : BuildOK saved := by
      refine ⟨fun s hs => ⟨?_, fun hc => ?_⟩, Classical.not_not.mp h2⟩
      · cases hp : s.facts.parseErr
        · rfl
        · exact absurd ⟨s, hs, hp⟩ h1
      · exact h3 ⟨s, hs, hc⟩
    have hcl : RefsClosed saved := by
      intro s hs r hr
      exact Classical.byContradiction fun hn => h5 ⟨s, hs, r, hr, hn⟩
    have := (loadTags_eq_some_iff next convs saved _).mpr ⟨hok, hcl, Classical.not_not.mp h6, rfl⟩
    rw [h] at this; cases this
  · intro hbad
    cases hl : loadTags next convs saved with
    | none => rfl
    | some st =>
      exfalso
      obtain ⟨hok, hcl, hac, _⟩ := (loadTags_eq_some_iff next convs saved st).mp hl
      rcases hbad with ⟨s, hs, h⟩ | h | ⟨s, hs, h⟩ | ⟨s, hs, h⟩ | ⟨s, hs, r, hr, h⟩ | h
      · have := (hok.1 s hs).1
        rw [h] at this; cases this
      · exact h hok.2
      · exact (hok.1 s hs).2 h
      · exact noSelfRef_of_acyclic saved hac s hs h
      · exact h (hcl s hs r hr)
      · exact h hac

def Run (C : State → Op → Prop) : State → List Op → Prop
  | _, [] => True
  | st, o :: os => C st o ∧ Run C (step st o).2 os

theorem run_invariant (I : State → Prop) (C : State → Op → Prop)
    (hstep : ∀ st op, I st → C st op → I (step st op).2) :
    ∀ (ops : List Op) (st : State), I st → Run C st ops → I (run st ops) := by
  intro ops
  induction ops with
  | nil => intro st h _; exact h
  | cons o os ih => intro st h hr; exact ih _ (hstep st o h hr.1) hr.2

def fresh (next : Nat) (convs : List Name) : State := { tags := [], nextStreamID := next, convs := convs }

/-- The code recognises a mark name in two ways: `strings.HasPrefix` with `"mark/"` or `"generated/"`
    (`markPrefix`, used by UpdateTag and the start-up validation) and `parseTagName` (cut at the first `/`, used
    by AddTag and the rename check).  Both agree on every string, so no theorem needs a hypothesis on names. -/
theorem nameOK (n : Name) : markPrefix n = (parseTagName n).2.2 := markPrefix_eq_isMark n

theorem isMark_eq_typ (n : Name) :
    (parseTagName n).2.2 = ((parseTagName n).1 == "mark" || (parseTagName n).1 == "generated") :=
  parseTagName_isMark n

/-- every tag is `known` (no settling happens inside the API) and every mark has an id condition -/
def MarkCondP (n : Name) (t : Tag) : Prop :=
  t.known = true ∧ (markPrefix n = true → t.cond.isSome = true)

def MarksHaveIds (st : State) : Prop := TagInv MarkCondP st.tags

theorem markCondP_core : CoreOnly MarkCondP := by
  intro n a b _ h2 _ h4 h
  exact ⟨h4 ▸ h.1, fun hm => h2 ▸ h.2 hm⟩

theorem idsOk_of_not_rejected (n : Name) (p : Facts) (h : defRejected n p true = false) : p.idsOk = true := by
  unfold defRejected at h
  cases hi : p.idsOk
  · simp [hi] at h
  · rfl

/-- a rename keeps the kind of the tag (the `newTyp != oldTyp` check of UpdateTag) -/
private theorem markPrefix_of_typ {n n' : Name} (h : (parseTagName n').1 = (parseTagName n).1) :
    markPrefix n' = markPrefix n := by
  rw [nameOK, nameOK, isMark_eq_typ, isMark_eq_typ, h]

/-- a definition accepted for a mark is an id filter -/
private theorem mkTag_cond (c d : String) {n : Name} {p : Facts} (h : defRejected n p true = false) :
    (mkTag c d p).cond = some p.ids :=
  if_pos (idsOk_of_not_rejected n p h)

theorem marksHaveIds_step (st : State) (op : Op) (inv : MarksHaveIds st) :
    MarksHaveIds (step st op).2 := by
  apply step_tagInv MarkCondP st (frame_of_coreOnly markCondP_core _) op inv
  cases op with
  | add n c d p =>
    intro hrej
    refine ⟨by unfold addedTag; split <;> rfl, fun hm => ?_⟩
    rw [← nameOK, hm] at hrej
    rw [addedTag, if_pos (nameOK n ▸ hm)]
    exact Option.isSome_iff_exists.mpr ⟨_, mkTag_cond c d hrej⟩
  | query n d p =>
    intro hrej t _ _
    refine ⟨rfl, fun hm => ?_⟩
    rw [hm] at hrej
    exact Option.isSome_iff_exists.mpr ⟨_, mkTag_cond t.color d hrej⟩
  | rename n n' =>
    intro t _ hp htyp
    exact ⟨hp.1, fun hm => hp.2 (markPrefix_of_typ htyp ▸ hm)⟩
  | markAdd n ids =>
    intro t _ hp
    rw [markTag_of_known hp.1]
    refine ⟨(markAddApply_other t ids).2.2.2.2.1.trans hp.1, fun hm => ?_⟩
    show (markAddApply t ids).cond.isSome = true
    rw [markAddApply_cond, Option.isSome_map]
    exact hp.2 hm
  | markDel n ids =>
    intro t _ hp
    rw [markTag_of_known hp.1]
    exact ⟨hp.1, fun _ => rfl⟩
  | del n => trivial
  | color n c => trivial
  | converters n cs => trivial

/-- the invariants of every call sequence from a fresh manager that the round trip needs -/
theorem reachable_invariants (next : Nat) (convs : List Name) (ops : List Op) :
    GraphWF (run (fresh next convs) ops) ∧ KeysNodup (run (fresh next convs) ops).tags ∧
    MarksHaveIds (run (fresh next convs) ops) :=
  Lib.foldl_inv (fun (st : State) => Pk.Props.C11.GraphWF st ∧ KeysNodup st.tags ∧ MarksHaveIds st) _
    (fun st op h => ⟨Pk.Props.C11.graph_step st op h.1, step_keysNodup st op h.2.1, marksHaveIds_step st op h.2.2⟩)
    ops (fresh next convs) ⟨graphWF_empty, List.nodup_nil, tagInv_nil _⟩

/-- the stored definition text of a (known) mark denotes its match set on every existing stream that is
    not pending for the mark (pending streams are re-evaluated by the tagging job: `MarkCondInv`,
    `settle_markDefStrict`) -/
def MarkDefP (sem : String → Nat → Prop) (next : Nat) (n : Name) (t : Tag) : Prop :=
  markPrefix n = true → t.known = true →
    ∀ x, x < next → x ∉ t.uncertain → (sem t.definition x ↔ x ∈ t.matched)

def MarkDefInv (sem : String → Nat → Prop) (st : State) : Prop :=
  TagInv (MarkDefP sem st.nextStreamID) st.tags

theorem markDefP_frame (sem : String → Nat → Prop) (next : Nat) : Frame next (MarkDefP sem next) := by
  intro n a b h1 _ h3 h4 hg h hm hk x hx hxu
  rw [← h1, ← h3]
  exact h hm (h4 ▸ hk) x hx (fun hxa => hxu (hg x hx hxa))

/-- **Payload contract** of a call for `MarkDefInv` (on existing streams only):
    * AddTag of a mark: the parse facts supplied with the definition are those of the definition
      (`sem d x ↔ x ∈ p.ids`);
    * mark add: the parser reads the third-branch text `(d) or id:J` as the union of `d` and `J`
      (see `mark_add_or_reading_satisfiable`).
    Nothing is asked of UpdateTag(query) — also not on a mark: it makes every stream pending. -/
def OpDenotes (sem : String → Nat → Prop) (st : State) : Op → Prop
  | .add n _ d p => markPrefix n = true → ∀ x, x < st.nextStreamID → (sem d x ↔ x ∈ p.ids)
  | .markAdd n ids => ∀ t, tget st.tags n = some t → ∀ x, x < st.nextStreamID →
      (sem (orForm t.definition (addedOf t.matched ids)) x ↔
        (sem t.definition x ∨ x ∈ addedOf t.matched ids))
  | _ => True

/-- `MarkDefInv` is preserved by every call that satisfies the payload contract, query updates of marks
    included -/
theorem markDefInv_step (sem : String → Nat → Prop) (hs : DefSem sem) (st : State) (op : Op)
    (inv : MarkDefInv sem st) (hop : OpDenotes sem st op) : MarkDefInv sem (step st op).2 := by
  unfold MarkDefInv
  rw [step_next]
  apply step_tagInv (MarkDefP sem st.nextStreamID) st (markDefP_frame sem _) op inv
  cases op with
  | add n c d p =>
    intro _ hm _ x hx _
    rw [addedTag, if_pos (nameOK n ▸ hm)]
    exact hop hm x hx
  | query n d p =>
    -- every stream is pending for the new definition
    intro _ t _ _ _ _ x hx hxu
    exact absurd (List.mem_range.mpr hx) hxu
  | rename n n' =>
    intro t _ hp htyp hm
    exact hp (markPrefix_of_typ htyp ▸ hm)
  | markAdd n ids =>
    intro t ht hp hm hk x hx hxu
    have hk' : t.known = true := (markTag_other true t ids).2.2.2.2.1.symm.trans hk
    rw [markTag_of_known hk']
    show sem (markAddApply t ids).definition x ↔ x ∈ (markAddApply t ids).matched
    rw [mark_add_definition_sem sem hs t ids x (hop t ht x hx), markAddApply_matched, mem_unionNat,
      hp hm hk' x hx hxu]
  | markDel n ids =>
    intro t _ _ _ hk x _ _
    rw [markTag_of_known ((markTag_other false t ids).2.2.2.2.1.symm.trans hk)]
    exact mark_del_definition_denotes sem hs t ids x
  | del n => trivial
  | color n c => trivial
  | converters n cs => trivial

theorem markDefInv_reachable (sem : String → Nat → Prop) (hs : DefSem sem) (next : Nat) (convs : List Name)
    (ops : List Op) (hops : Run (OpDenotes sem) (fresh next convs) ops) :
    MarkDefInv sem (run (fresh next convs) ops) :=
  run_invariant (MarkDefInv sem) (OpDenotes sem) (markDefInv_step sem hs) ops _ (tagInv_nil _) hops

/-- the condition the tagging job evaluates for a (known) mark denotes the same existing streams as its text -/
def MarkCondDenP (sem : String → Nat → Prop) (next : Nat) (n : Name) (t : Tag) : Prop :=
  markPrefix n = true → t.known = true →
    ∃ c, t.cond = some c ∧ ∀ x, x < next → (sem t.definition x ↔ x ∈ c)

def MarkCondInv (sem : String → Nat → Prop) (st : State) : Prop :=
  TagInv (MarkCondDenP sem st.nextStreamID) st.tags

theorem markCondDenP_core (sem : String → Nat → Prop) (next : Nat) : CoreOnly (MarkCondDenP sem next) := by
  intro n a b h1 h2 _ h4 h hm hk
  obtain ⟨c, hc, hx⟩ := h hm (h4 ▸ hk)
  exact ⟨c, h2 ▸ hc, fun x hlt => h1 ▸ hx x hlt⟩

/-- payload contract for `MarkCondInv`: as `OpDenotes`, and also for a query update of a mark the parse
    facts supplied are those of the new definition -/
def OpCondDenotes (sem : String → Nat → Prop) (st : State) : Op → Prop
  | .add n _ d p => markPrefix n = true → ∀ x, x < st.nextStreamID → (sem d x ↔ x ∈ p.ids)
  | .query n d p => markPrefix n = true → ∀ x, x < st.nextStreamID → (sem d x ↔ x ∈ p.ids)
  | .markAdd n ids => ∀ t, tget st.tags n = some t → ∀ x, x < st.nextStreamID →
      (sem (orForm t.definition (addedOf t.matched ids)) x ↔
        (sem t.definition x ∨ x ∈ addedOf t.matched ids))
  | _ => True

theorem opDenotes_of_cond (sem : String → Nat → Prop) (st : State) (op : Op) (h : OpCondDenotes sem st op) :
    OpDenotes sem st op := by
  cases op <;> first | exact h | trivial

theorem markCondInv_step (sem : String → Nat → Prop) (hs : DefSem sem) (st : State) (op : Op)
    (inv : MarkCondInv sem st) (hop : OpCondDenotes sem st op) : MarkCondInv sem (step st op).2 := by
  unfold MarkCondInv
  rw [step_next]
  apply step_tagInv (MarkCondDenP sem st.nextStreamID) st
    (frame_of_coreOnly (markCondDenP_core sem _) _) op inv
  cases op with
  | add n c d p =>
    intro hrej hm _
    rw [← nameOK, hm] at hrej
    rw [addedTag, if_pos (nameOK n ▸ hm)]
    exact ⟨p.ids, mkTag_cond c d hrej, hop hm⟩
  | query n d p =>
    intro hrej t _ _ hm _
    rw [hm] at hrej
    exact ⟨p.ids, mkTag_cond t.color d hrej, hop hm⟩
  | rename n n' =>
    intro t _ hp htyp hm
    exact hp (markPrefix_of_typ htyp ▸ hm)
  | markAdd n ids =>
    intro t ht hp hm hk
    have hk' : t.known = true := (markTag_other true t ids).2.2.2.2.1.symm.trans hk
    rw [markTag_of_known hk']
    obtain ⟨c, hc, hx⟩ := hp hm hk'
    refine ⟨unionNat c (addedOf t.matched ids), ?_, fun x hlt => ?_⟩
    · show (markAddApply t ids).cond = _
      rw [markAddApply_cond, hc]; rfl
    · show sem (markAddApply t ids).definition x ↔ _
      rw [mark_add_definition_sem sem hs t ids x (hop t ht x hlt), mem_unionNat, hx x hlt]
  | markDel n ids =>
    intro t _ _ _ hk
    rw [markTag_of_known ((markTag_other false t ids).2.2.2.2.1.symm.trans hk)]
    exact ⟨(markDelApply t ids).matched, rfl, fun x _ => mark_del_definition_denotes sem hs t ids x⟩
  | del n => trivial
  | color n c => trivial
  | converters n cs => trivial

theorem tget_settle (m : TagMap) (n : Name) :
    tget (m.map fun (x : Name × Tag) => (x.1, settleTag x.2)) n = (tget m n).map settleTag := by
  induction m with
  | nil => rfl
  | cons a m ih =>
    obtain ⟨k, v⟩ := a
    by_cases hk : k = n <;> simp [tget, hk, ih]

/-- **after the tagging jobs have run** (`settle`) the text of every known mark denotes exactly its match
    set on all existing streams, and nothing is pending for it -/
theorem settle_markDefStrict (sem : String → Nat → Prop) (st : State)
    (h1 : MarkDefInv sem st) (h2 : MarkCondInv sem st) :
    ∀ n t', tget (settle st).tags n = some t' → markPrefix n = true → t'.known = true →
      t'.uncertain = [] ∧ ∀ x, x < st.nextStreamID → (sem t'.definition x ↔ x ∈ t'.matched) := by
  intro n t' ht' hm hk
  obtain ⟨t, ht, rfl⟩ := Option.map_eq_some_iff.mp ((tget_settle st.tags n).symm.trans ht')
  unfold settleTag at hk ⊢
  by_cases he : t.uncertain.isEmpty = true
  · rw [if_pos he] at hk ⊢
    have hnil : t.uncertain = [] := by simpa using he
    refine ⟨hnil, fun x hx => h1 n t ht hm hk x hx (by rw [hnil]; simp)⟩
  · rw [if_neg he] at hk ⊢
    cases hc : t.cond with
    | none => rw [hc] at hk; cases hk
    | some c =>
      rw [hc] at hk
      simp only at hk ⊢
      refine ⟨trivial, fun x hx => ?_⟩
      obtain ⟨c', hc', hden⟩ := h2 n t ht hm hk
      rw [hc] at hc'
      cases hc'
      rw [mem_unionNat, mem_diffNat, mem_interNat, hden x hx]
      by_cases hu : x ∈ t.uncertain
      · simp [hu]
      · have := h1 n t ht hm hk x hx hu
        rw [hden x hx] at this
        simp [hu, this]

/-- the same after every call sequence from a fresh manager that satisfies the payload contract -/
theorem settle_markDefStrict_reachable (sem : String → Nat → Prop) (hs : DefSem sem) (next : Nat)
    (convs : List Name) (ops : List Op) (hops : Run (OpCondDenotes sem) (fresh next convs) ops) :
    ∀ n t', tget (settle (run (fresh next convs) ops)).tags n = some t' → markPrefix n = true →
      t'.known = true → t'.uncertain = [] ∧ ∀ x, x < next → (sem t'.definition x ↔ x ∈ t'.matched) := by
  have h := run_invariant (fun st => MarkDefInv sem st ∧ MarkCondInv sem st) (OpCondDenotes sem)
    (fun st op hi hc => ⟨markDefInv_step sem hs st op hi.1 (opDenotes_of_cond sem st op hc),
      markCondInv_step sem hs st op hi.2 hc⟩) ops (fresh next convs)
    ⟨tagInv_nil _, tagInv_nil _⟩ hops
  have hn : (run (fresh next convs) ops).nextStreamID = next := run_next ops _
  intro n t' ht' hm hk
  have := settle_markDefStrict sem _ h.1 h.2 n t' ht' hm hk
  rw [hn] at this
  exact this

/-- what the state file keeps of a tag (the model's `Saved`: name, definition, colour and — computed
    again by `query.Parse` at start-up — the parse facts of the definition) -/
def savedOfTag (n : Name) (t : Tag) : Saved :=
  { name := n, definition := t.definition, color := t.color,
    facts := { mainTags := t.mainTags, subTags := t.subTags, mainFeat := t.mainFeat, subFeat := t.subFeat,
               idsOk := t.cond.isSome, ids := t.cond.getD [] } }

def saveOf (st : State) : List Saved := st.tags.map fun x => savedOfTag x.1 x.2

theorem saveOf_names (st : State) : (saveOf st).map (·.name) = tkeys st.tags := by
  simp [saveOf, savedOfTag, tkeys, Function.comp_def]

theorem savedOfTag_refs (n : Name) (t : Tag) : (savedOfTag n t).facts.refs = t.refs := rfl

theorem tkeys_refFold (l acc : TagMap) : tkeys (refFold l acc) = tkeys acc := by
  induction l generalizing acc with
  | nil => rfl
  | cons e l ih =>
    show tkeys (refFold l (addReferrer e.1 acc e.2.refs)) = _
    rw [ih, tkeys_addReferrer]

/-- what a reload keeps of a tag: everything the state file holds, and the reference structure -/
def Reloaded (t t' : Tag) : Prop :=
  t'.definition = t.definition ∧ t'.color = t.color ∧
  t'.mainTags = t.mainTags ∧ t'.subTags = t.subTags ∧ t'.mainFeat = t.mainFeat ∧ t'.subFeat = t.subFeat ∧
  t'.cond = t.cond ∧ (∀ x, x ∈ t'.referencedBy ↔ x ∈ t.referencedBy)

/-- the table saved from a well-formed state with distinct keys whose marks have id conditions loads
    back to a well-formed state with the same tags in the same order, each with the same definition,
    colour, parse facts, references and referrers.  Converters are not part of the statement: the model's
    `Saved` has no converter field, so the loaded tags have none (`t'.converters = []`). -/
theorem loadTags_roundtrip_of_inv (st : State) (wf : GraphWF st) (hk : KeysNodup st.tags)
    (hm : MarksHaveIds st) :
    ∃ st', loadTags st.nextStreamID st.convs (saveOf st) = some st' ∧ GraphWF st' ∧
      st'.nextStreamID = st.nextStreamID ∧ st'.convs = st.convs ∧ tkeys st'.tags = tkeys st.tags ∧
      ∀ n t, tget st.tags n = some t →
        ∃ t', tget st'.tags n = some t' ∧ Reloaded t t' ∧ t'.converters = [] := by
  have hsaved : ∀ {Q : Saved → Prop}, (∀ n t, tget st.tags n = some t → Q (savedOfTag n t)) →
      ∀ s ∈ saveOf st, Q s := by
    intro Q h s hs
    obtain ⟨e, he, rfl⟩ := List.mem_map.mp hs
    exact h e.1 e.2 (tget_of_mem _ hk _ _ he)
  have hmem' : ∀ n t, tget st.tags n = some t → savedOfTag n t ∈ saveOf st :=
    fun n t ht => List.mem_map.mpr ⟨(n, t), mem_of_tget _ _ _ ht, rfl⟩
  have hok : Pk.Proofs.TagGraphMore.BuildOK (saveOf st) :=
    ⟨hsaved fun n t ht => ⟨rfl, fun h => Bool.false_ne_true (h.2.symm.trans ((hm n t ht).2 h.1))⟩,
      saveOf_names st ▸ hk⟩
  have hcl : RefsClosed (saveOf st) :=
    hsaved fun n t ht r hr => by rw [saveOf_names, mem_keys]; exact wf.closed n t ht r hr
  have hac : RefsAcyclic (saveOf st) :=
    wf.acyclic.imp fun _ hrank => hsaved fun n t ht => hrank n t ht
  have hload := (loadTags_eq_some_iff st.nextStreamID st.convs (saveOf st) _).mpr ⟨hok, hcl, hac, rfl⟩
  obtain ⟨hwf, hn, hc, _, hall⟩ := loadTags_graph _ _ _ _ hload
  refine ⟨_, hload, hwf, hn, hc, ?_, fun n t ht => ?_⟩
  · show tkeys (loadedTags (List.range st.nextStreamID) (saveOf st)) = _
    unfold loadedTags
    rw [tkeys_refFold, tkeys_entries, saveOf_names]
  · obtain ⟨t', h1, hd, hcol, hconv, hmt, hst, hmf, hsf, hcond, _, _, _, hrb⟩ := hall _ (hmem' n t ht)
    have hcond' : (if t.cond.isSome = true then some (t.cond.getD []) else none) = t.cond := by
      cases t.cond <;> rfl
    refine ⟨t', h1, ⟨hd, hcol, hmt, hst, hmf, hsf, hcond.trans hcond', fun x => ?_⟩, hconv⟩
    rw [hrb x, wf.mirror n t ht x]
    constructor
    · rintro ⟨s', hs', hx, hn⟩
      revert hx hn
      apply hsaved ?_ s' hs'
      exact fun _ u hu hx hn => ⟨u, hx ▸ hu, hn⟩
    · rintro ⟨u, hu, hn⟩
      exact ⟨savedOfTag x u, hmem' x u hu, rfl, hn⟩

/-- For every state reachable from a fresh manager (by any call sequence) the saved table loads back to a
    well-formed state with the same tags, definitions, colours, parse facts and reference structure. -/
theorem loadTags_roundtrip (next : Nat) (convs : List Name) (ops : List Op) :
    ∃ st', loadTags (run (fresh next convs) ops).nextStreamID (run (fresh next convs) ops).convs
        (saveOf (run (fresh next convs) ops)) = some st' ∧ GraphWF st' ∧
      st'.nextStreamID = (run (fresh next convs) ops).nextStreamID ∧
      st'.convs = (run (fresh next convs) ops).convs ∧
      tkeys st'.tags = tkeys (run (fresh next convs) ops).tags ∧
      ∀ n t, tget (run (fresh next convs) ops).tags n = some t →
        ∃ t', tget st'.tags n = some t' ∧ Reloaded t t' ∧ t'.converters = [] := by
  obtain ⟨h1, h2, h3⟩ := reachable_invariants next convs ops
  exact loadTags_roundtrip_of_inv _ h1 h2 h3

theorem sem0_id_join (ids : List Nat) (hne : ids ≠ []) (x : Nat) : sem0 ("id:" ++ joinIds ids) x ↔ x ∈ ids :=
  sem_idList sem0_ok hne x

private def stQ : State :=
  { tags := [("mark/a", { definition := "id:1", mainFeat := 1, cond := some [1], matched := [1] })],
    nextStreamID := 10 }
private def pQ : Facts := { mainFeat := 1, idsOk := true, ids := [2] }

private def tQ' : Tag :=
  { definition := "id:2", mainFeat := 1, cond := some [2], matched := [], uncertain := [0, 1, 2, 3, 4, 5, 6, 7, 8, 9] }

private theorem stQ_query :
    step stQ (.query "mark/a" "id:2" pQ) =
      (.ok, { tags := [("mark/a", tQ')], nextStreamID := 10 }) := by
  decide +kernel

/-- the strict reading: the text of every (known) mark denotes its match set on ALL streams, pending or not -/
def MarkDefStrict (sem : String → Nat → Prop) (st : State) : Prop :=
  ∀ n t, tget st.tags n = some t → markPrefix n = true → t.known = true →
    ∀ x, sem t.definition x ↔ x ∈ t.matched

private theorem stQ_strict : MarkDefStrict sem0 stQ := by
  intro n t h _ _ x
  obtain ⟨_, rfl⟩ := tget_singleton h
  exact sem0_id_join [1] (by simp) x

/-- The STRICT reading is not an invariant, and can not be: an accepted query update of a mark (with the
    parse facts of the new definition) resets `matched` to ∅ with every stream pending, so until the
    tagging job has run the new text `id:2` does not denote `matched`.  This is the intended pending
    state, not a defect: the pending-aware `MarkDefInv` is preserved by this call (`markDefInv_step`),
    and the strict reading is restored once the jobs have run (`settle_markDefStrict`). -/
theorem markDefStrict_query_counterexample :
    ∃ (st : State) (n d : String) (p : Facts),
      MarkDefStrict sem0 st ∧ markPrefix n = true ∧ (∀ x, sem0 d x ↔ x ∈ p.ids) ∧
      (step st (.query n d p)).1 = .ok ∧ ¬ MarkDefStrict sem0 (step st (.query n d p)).2 := by
  have hm : markPrefix "mark/a" = true := by simp [markPrefix]
  have hd : ∀ x, sem0 "id:2" x ↔ x ∈ pQ.ids := sem0_id_join [2] (by simp)
  refine ⟨stQ, "mark/a", "id:2", pQ, stQ_strict, hm, hd, ?_, ?_⟩
  · rw [stQ_query]
  · rw [stQ_query]
    intro h
    have := (h "mark/a" tQ' (by decide) hm rfl 2).mp ((hd 2).mpr List.mem_cons_self)
    cases this

/-- With the pending set restored (`prevUncertain`) a mark add made right after a query update of the
    mark keeps every stream pending: the tag has text `id:2,5`, condition {2,5}, match set {5} and all
    streams pending — and once the tagging jobs have run (`settle`) it matches {2,5}, nothing pending.
    (Were the pending set cleared by the mark add, id 2 of the new definition would be lost.) -/
theorem mark_add_after_query_keeps_pending :
    (run stQ [.query "mark/a" "id:2" pQ, .markAdd "mark/a" [5]]).tags =
      [("mark/a", { definition := "id:2,5", mainFeat := 1, cond := some [2, 5], matched := [5], uncertain := [0, 1, 2, 3, 4, 5, 6, 7, 8, 9] })] ∧
    (settle (run stQ [.query "mark/a" "id:2" pQ, .markAdd "mark/a" [5]])).tags =
      [("mark/a", { definition := "id:2,5", mainFeat := 1, cond := some [2, 5], matched := [2, 5], uncertain := [] })] := by
  decide +kernel

theorem graphWF_noRefs (m : TagMap)
    (h : ∀ n t, tget m n = some t → t.refs = [] ∧ t.referencedBy = []) : Pk.Proofs.TagGraph.GraphWF m := by
  refine ⟨?_, ⟨fun _ => 0, ?_⟩, ?_⟩
  · intro n t ht r hr; rw [(h n t ht).1] at hr; cases hr
  · intro n t ht r hr; rw [(h n t ht).1] at hr; cases hr
  · intro n t ht x
    rw [(h n t ht).2]
    constructor
    · intro hx; cases hx
    · rintro ⟨u, hu, hn⟩; rw [(h x u hu).1] at hn; cases hn

private def stC : State :=
  { tags := [("tag/a", { definition := "cport:80", mainFeat := 4, converters := ["c"] })],
    nextStreamID := 4, convs := ["c"] }

/-- The round trip of the MODEL does not keep converters (`Saved` has no converter field and `loadTags`
    attaches none; the real `New` does re-attach them): this state — the result of an accepted
    `UpdateTag(converters)` call — satisfies all invariants of reachable states, and its tag comes back
    without its converter. -/
theorem loadTags_roundtrip_converters_counterexample :
    ∃ (st0 st : State), step st0 (.converters "tag/a" ["c"]) = (.ok, st) ∧
      GraphWF st ∧ KeysNodup st.tags ∧ MarksHaveIds st ∧
      ∃ st' t t', loadTags st.nextStreamID st.convs (saveOf st) = some st' ∧
        tget st.tags "tag/a" = some t ∧ tget st'.tags "tag/a" = some t' ∧ t'.converters ≠ t.converters := by
  have wf : GraphWF stC := graphWF_noRefs _ (fun n t h => by obtain ⟨_, rfl⟩ := tget_singleton h; exact ⟨rfl, rfl⟩)
  have hk : KeysNodup stC.tags := by simp [KeysNodup, stC, tkeys]
  have hm : MarksHaveIds stC := by
    intro n t h
    obtain ⟨rfl, rfl⟩ := tget_singleton h
    exact ⟨rfl, fun hp => by simp [markPrefix] at hp⟩
  have hget : tget stC.tags "tag/a" = some { definition := "cport:80", mainFeat := 4, converters := ["c"] } := by
    decide
  obtain ⟨st', h1, _, _, _, _, h6⟩ := loadTags_roundtrip_of_inv stC wf hk hm
  obtain ⟨t', ht', _, hc⟩ := h6 "tag/a" _ hget
  refine ⟨{ tags := [("tag/a", { definition := "cport:80", mainFeat := 4 })], nextStreamID := 4, convs := ["c"] },
    stC, by decide, wf, hk, hm, st', _, t', h1, hget, ht', ?_⟩
  rw [hc]
  simp

private def m0a : Tag :=
  { definition := "id:1,2", cond := some [1, 2], matched := [1, 2], referencedBy := ["tag/b"] }
private def m0b : Tag := { definition := "tag:a", mainTags := ["mark/a"], referencedBy := ["tag/c"] }
private def m0c : Tag := { definition := "data:x tag:b", subTags := ["tag/b"] }
private def m0 : State := { tags := [("mark/a", m0a), ("tag/b", m0b), ("tag/c", m0c)], nextStreamID := 10 }

private theorem m0_wf : GraphWF m0 := graphWF_of_check _ (by decide) (by decide)

/-- a mark add with a duplicate id (5, 5), an id already present (2) and a new one (3): the call is
    accepted, the mark matches {1,2,3,5}, its text gets the ids really added in the order given, the
    direct referrer has exactly the new ids pending, the sub-query referrer everything -/
example : step m0 (.markAdd "mark/a" [5, 5, 2, 3]) =
    (.ok, { tags := [("mark/a", { m0a with definition := "id:1,2,5,3", cond := some [1, 2, 3, 5], matched := [1, 2, 3, 5] }),
                     ("tag/b", { m0b with uncertain := [3, 5] }),
                     ("tag/c", { m0c with uncertain := [0, 1, 2, 3, 4, 5, 6, 7, 8, 9] })],
            nextStreamID := 10 }) := by
  decide +kernel

example : step m0 (.markDel "mark/a" [5, 2, 2]) =
    (.ok, { tags := [("mark/a", { m0a with definition := "id:1", cond := some [1], matched := [1] }),
                     ("tag/b", { m0b with uncertain := [2] }),
                     ("tag/c", { m0c with uncertain := [0, 1, 2, 3, 4, 5, 6, 7, 8, 9] })],
            nextStreamID := 10 }) := by
  decide +kernel

/-- a mark with a non-empty pending set ({7}): during the walk the referrer inherits old ∪ new ({3, 7}),
    afterwards the mark's own pending set is the old one again (`prevUncertain`) -/
example : (step { m0 with tags := [("mark/a", { m0a with uncertain := [7] }), ("tag/b", m0b), ("tag/c", m0c)] }
      (.markAdd "mark/a" [3])).2.tags =
    [("mark/a", { m0a with definition := "id:1,2,3", cond := some [1, 2, 3], matched := [1, 2, 3], uncertain := [7] }),
     ("tag/b", { m0b with uncertain := [3, 7] }),
     ("tag/c", { m0c with uncertain := [0, 1, 2, 3, 4, 5, 6, 7, 8, 9] })] := by
  decide +kernel

/-- the hypotheses of `mark_add_applies` / `mark_del_applies` are satisfiable (with referrers present) -/
example : ∃ st' t', step m0 (.markAdd "mark/a" [5, 5, 2, 3]) = (.ok, st') ∧ tget st'.tags "mark/a" = some t' ∧
    ∀ x, x ∈ t'.matched ↔ x ∈ [1, 2] ∨ x ∈ [5, 5, 2, 3] := by
  obtain ⟨st', t', h1, _, _, h4, h5, _⟩ := mark_add_applies m0 "mark/a" [5, 5, 2, 3] m0a m0_wf
    (by decide) (by simp [markPrefix]) rfl (by simp) (by decide)
  exact ⟨st', t', h1, h4, h5⟩

example : References m0.tags "tag/c" "mark/a" :=
  ⟨by decide, .step (r := "tag/b") (by decide) (.step (r := "mark/a") (by decide) .self)⟩

example : (markAddApply { definition := "id:-1", cond := some [] } [4, 4]).definition = "id:4" := by
  decide +kernel
example : (markAddApply { definition := "id:1 or id:2", cond := some [1, 2], matched := [1, 2] } [2, 7]).definition
    = "(id:1 or id:2) or id:7" := by
  decide +kernel

/-- a saved table with a reference cycle is rejected -/
example : loadTags 4 [] [⟨"tag/a", "tag:b", "", { mainTags := ["tag/b"] }⟩,
                         ⟨"tag/b", "tag:a", "", { mainTags := ["tag/a"] }⟩] = none := by
  decide +kernel

/-- … and so are a duplicate name, a mark without id list, a missing reference -/
example : loadTags 4 [] [⟨"tag/a", "x", "", {}⟩, ⟨"tag/a", "y", "", {}⟩] = none := by
  decide +kernel
example : loadTags 4 [] [⟨"mark/a", "cport:80", "", { mainFeat := 4 }⟩] = none := by
  decide +kernel
example : loadTags 4 [] [⟨"tag/a", "tag:zz", "", { mainTags := ["tag/zz"] }⟩] = none := by
  decide +kernel

private def chain3 : List Saved :=
  [⟨"tag/a", "cport:80", "red", { mainFeat := 4 }⟩,
   ⟨"tag/b", "tag:a", "", { mainTags := ["tag/a"], mainFeat := 64 }⟩,
   ⟨"mark/c", "id:1 tag:b", "", { subTags := ["tag/b"], idsOk := true, ids := [1] }⟩]

/-- a saved table of three tags with a reference chain is accepted; referrers, match sets and pending
    sets are as `loadTags_graph` says -/
example : (loadTags 4 [] chain3).map
      (fun st => st.tags.map fun x => (x.1, x.2.referencedBy, x.2.matched, x.2.uncertain)) =
    some [("tag/a", ["tag/b"], [], [0, 1, 2, 3]), ("tag/b", ["mark/c"], [], [0, 1, 2, 3]), ("mark/c", [], [1], [])] := by
  decide +kernel

/-- the cycle is what `loadTags_rejects_only_bad` names: no rank function -/
example : ¬ ∃ rank : Name → Nat, ∀ s ∈ ([⟨"tag/a", "tag:b", "", { mainTags := ["tag/b"] }⟩,
    ⟨"tag/b", "tag:a", "", { mainTags := ["tag/a"] }⟩] : List Saved), ∀ r ∈ s.facts.refs, rank r < rank s.name := by
  rintro ⟨rank, h⟩
  have h1 := h _ (List.mem_cons_self) "tag/b" (by decide)
  have h2 := h _ (List.mem_cons_of_mem _ List.mem_cons_self) "tag/a" (by decide)
  simp only at h1 h2
  omega

end Pk.Props.C11More
