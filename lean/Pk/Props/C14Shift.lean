/-
  C14, second half — "parsing the same text twice gives equivalent queries".

  Two `query.Parse` calls on the same text happen at two reference times `r1`, `r2` (the wall clock
  of the call).  This file relates `parse r1 e` and `parse r2 e` for the same lexed AST `e`.

  How the model stores the reference time (Pk/Model/Query/Translate.lean, `timeParts`): a time
  condition `{sum, dur, rtf}` means `dur + Σ f·ftime + l·ltime ≥ 0` with packet times measured from
  the reference time; an absolute literal `T` with sign `±` adds `±(T - ref)` to `dur` and `∓1` to
  `rtf` (ReferenceTimeFactor).  Hence `dur - rtf·ref` is independent of `ref`, and re-parsing `d` ns
  later adds `rtf·d` to every `dur`.

  Definitions (Pk/Proofs/Query/Total.lean, ShiftDefs.lean, ShiftTerm.lean, ShiftParse.lean; unfolded by the
  `example`s below):
    * `shiftParsed d` — add `rtf·d` to the `dur` of every time condition of a parse result;
    * `Outcome.map f` — apply `f` to the value of an `ok` outcome, keep `err/panic/diverged`;
    * `kind o` — the outcome without its value (`ok ()`, or the same message / site);
    * `partsAbs r`, `partsVar r` — signed number of absolute literals / of packet-time variables in
      the bound `r` (a `List TimePart`);
    * `Term.TimeSafe` (the hypothesis of (b), see below), `Term.TimeAnchored`, `Term.TimeFloating`;
    * `Env.shift d ρ` — the environment whose packet times are `d` later.

  Results
    (a) `parse_outcome_kind`: ok / err(msg) / panic(site) / diverged(site) of `parse r e` does not
        depend on `r` — for EVERY expression, no hypothesis.  With `TimeSafe` also "matches
        nothing" (`Parsed.nothing`) does not depend on `r` (`parse_nothing_iff`); without it it
        does (`nothing_kind_counterexample`).
    (b) `reftime_shift_equiv`: `parse r2 e = (parse r1 e).map (shiftParsed (r2 - r1))` for every
        expression all of whose time filters are `TimeSafe` (sub-queries, variables, THEN, NOT,
        lists, relative / absolute / mixed bounds included; `Expr.Shaped` is not needed).
        The statement WITHOUT the hypothesis is false for grammar-shaped input:
        `reftime_shift_counterexample` (`ftime:@ftime@+2020-01-01 1200:` parses to "nothing"
        before 2020-01-01 12:00 and to "everything" after: `cleanTimeConditions` folds the
        constant `ref - T ≥ 0`).
    (c) `reftime_floating_equal`: no absolute times (net) in any bound ⇒ `parse r2 e = parse r1 e`;
        `reftime_anchored_invariant`: every bound denotes a point in time ⇒ the two results mean
        the same for the same packets (`evalParsed p2 ρ = evalParsed p1 (Env.shift (r2-r1) ρ)`,
        and in absolute terms `reftime_anchored_absolute`); `reftime_normal_form`: re-anchored to
        the epoch (`shiftParsed (-r)`), the result does not depend on `r` at all — this is
        "equal up to the stored reference time".
        `relative_filter_follows_clock`: for a relative filter the *same* normal form is meant
        relative to a later clock, so the set of matching streams legitimately differs.

  Not covered (outside the model): a time literal without date (`HHMM[SS]`) takes its date from the
  reference time while the AST is built (conditions.go:757-771), so for such text the lexed AST
  itself — `Civil` always carries a date — depends on the day of the reference time.
-/
import Pk.Props.C14
import Pk.Proofs.Query.ShiftParse

namespace Pk.Props.C14Shift
open Pk.Query Pk.Query.Shift

/-- a time condition is moved by adding `rtf·d` to its duration; nothing else changes -/
example (d : Int) (c : TimeC) : shiftT d c = { sum := c.sum, dur := c.dur + c.rtf * d, rtf := c.rtf } := rfl
/-- conditions of the other kinds are not moved -/
example (d : Int) (c : NumC) : shiftC d (.num c) = .num c := rfl
example (d : Int) (c : TimeC) : shiftC d (.time c) = .time (shiftT d c) := rfl
/-- `shiftParsed` moves every condition of every conjunct; "matches nothing" stays -/
example (d : Int) (cs : CSet) : shiftParsed d (.set cs) = .set (cs.map (fun c => c.map (shiftC d))) := rfl
example (d : Int) : shiftParsed d .nothing = .nothing := rfl
example (f : Parsed → Parsed) (p : Parsed) : (Outcome.ok p).map f = .ok (f p) := rfl
example (f : Parsed → Parsed) (m : String) : (Outcome.err m).map f = .err m := rfl
/-- the counters of a bound: `-1h+@a:ftime@-2020-01-01 1200` has one variable and minus one absolute time -/
example : partsVar [.dur "-" 1, .var "+" ⟨"a", "ftime"⟩, .abs "-" ⟨2020, 1, 1, 12, 0, 0⟩] = 1 ∧
    partsAbs [.dur "-" 1, .var "+" ⟨"a", "ftime"⟩, .abs "-" ⟨2020, 1, 1, 12, 0, 0⟩] = -1 := by decide
/-- the hypothesis of (b): no bound has both a non-zero net count of absolute times and a net
    variable count of exactly 1 -/
example (r : List TimePart) : RangeSafe r ↔ (partsAbs r = 0 ∨ partsVar r ≠ 1) := Iff.rfl
example (t : Term) (l : List (List (List TimePart))) (h : t.value = .times l) :
    t.TimeSafe ↔ ∀ e ∈ l, ∀ r ∈ e, RangeSafe r := by unfold Term.TimeSafe; rw [h]
/-- bounds that denote a point in time: one absolute time or one variable, net -/
example (t : Term) (l : List (List (List TimePart))) (h : t.value = .times l) :
    t.TimeAnchored ↔ ∀ e ∈ l, e ≠ [] ∧ ∀ r ∈ e, r ≠ [] → partsAbs r + partsVar r = 1 := by
  unfold Term.TimeAnchored; rw [h]
/-- bounds without (net) absolute times -/
example (t : Term) (l : List (List (List TimePart))) (h : t.value = .times l) :
    t.TimeFloating ↔ ∀ e ∈ l, ∀ r ∈ e, partsAbs r = 0 := by unfold Term.TimeFloating; rw [h]
/-- terms that are not time filters satisfy all three -/
example (t : Term) (names : List String) (h : t.value = .tags names) :
    t.TimeSafe ∧ t.TimeAnchored ∧ t.TimeFloating := by
  unfold Term.TimeSafe Term.TimeAnchored Term.TimeFloating; rw [h]; exact ⟨trivial, trivial, trivial⟩
example (d : Int) (ρ : Env) (sq : String) :
    (Env.shift d ρ sq).ftime = (ρ sq).ftime + d ∧ (Env.shift d ρ sq).ltime = (ρ sq).ltime + d ∧
      (Env.shift d ρ sq).cport = (ρ sq).cport := ⟨rfl, rfl, rfl⟩

/-- the hypothesis of (b) is decidable -/
instance (r : List TimePart) : Decidable (RangeSafe r) := by unfold RangeSafe; infer_instance
instance (t : Term) : Decidable t.TimeSafe := by unfold Term.TimeSafe; split <;> infer_instance

/-- whether `parse` succeeds, and with which error message (or at which panic / divergence site)
    it fails, does not depend on the reference time — every expression, grammar-shaped or not -/
theorem parse_outcome_kind (r1 r2 : Int) (e : Expr) : kind (parse r2 e) = kind (parse r1 e) := by
  rw [kind_parse, kind_parse, translate_kind]

theorem parse_ok_iff (r1 r2 : Int) (e : Expr) : (∃ p, parse r1 e = .ok p) ↔ (∃ p, parse r2 e = .ok p) := by
  rw [kind_ok_iff, kind_ok_iff, parse_outcome_kind r1 r2 e]

theorem parse_err_iff (r1 r2 : Int) (e : Expr) (m : String) : parse r1 e = .err m ↔ parse r2 e = .err m := by
  rw [kind_err_iff (parse r1 e), kind_err_iff (parse r2 e), parse_outcome_kind r1 r2 e]

/-- `reftime_shift_equiv`: two parses of the same text at reference times `r1` and `r2` return the
    same outcome and, when ok, the same normal form up to the reference time: the second is the
    first with every time condition re-anchored by `r2 - r1`.
    The hypothesis `TermsOf Term.TimeSafe e` cannot be left out: without it the normaliser may decide
    the sign of a constant that contains the reference time (`reftime_shift_counterexample`,
    confirmed on the Go code).  Meaningful queries satisfy it: a bound that denotes a point in time
    has `partsAbs + partsVar = 1` (so `partsAbs ≠ 0` excludes `partsVar = 1`), a bound that denotes
    an offset from now has `partsAbs + partsVar = 0` and violates it only in the form
    `@x:ftime@ - <absolute time>` (`partsAbs = -1`, `partsVar = 1`). -/
theorem reftime_shift_equiv (r1 r2 : Int) (e : Expr) (hs : TermsOf Term.TimeSafe e) :
    parse r2 e = (parse r1 e).map (shiftParsed (r2 - r1)) := by
  have h := parse_shift r1 (r2 - r1) e hs
  have hr : r1 + (r2 - r1) = r2 := by omega
  rwa [hr] at h

/-- the grammar-shaped witness: `ftime:@ftime@+2020-01-01 1200:` -/
def degenerate : Expr :=
  .term { sq := "", key := "ftime", conv := "",
          value := .times [[[.var "" ⟨"", "ftime"⟩, .abs "+" ⟨2020, 1, 1, 12, 0, 0⟩], []]] }

theorem degenerate_shaped : degenerate.Shaped := by
  apply TermsOf.term
  simp [Term.Shaped]

/-- 2017-07-14 02:40:00 UTC and 2020-09-13 12:26:40 UTC -/
def refBefore : Int := 1500000000000000000
def refAfter : Int := 1600000000000000000

/-- without `TimeSafe` not even "matches nothing" is independent of the reference time -/
theorem nothing_kind_counterexample :
    parse refBefore degenerate = .ok .nothing ∧ parse refAfter degenerate = .ok (.set [[]]) := by
  decide +kernel

/-- `reftime_shift_equiv` without its hypothesis is false on grammar-shaped input -/
theorem reftime_shift_counterexample :
    ¬ (∀ (r1 r2 : Int) (e : Expr), e.Shaped → parse r2 e = (parse r1 e).map (shiftParsed (r2 - r1))) := by
  intro h
  have := h refBefore refAfter degenerate degenerate_shaped
  rw [nothing_kind_counterexample.1, nothing_kind_counterexample.2] at this
  simp [shiftParsed] at this

/-- the witness violates exactly that hypothesis -/
theorem degenerate_not_safe : ¬ TermsOf Term.TimeSafe degenerate := by
  intro h
  cases h with
  | term ht =>
    have := ht [[.var "" ⟨"", "ftime"⟩, .abs "+" ⟨2020, 1, 1, 12, 0, 0⟩], []] List.mem_cons_self
      [.var "" ⟨"", "ftime"⟩, .abs "+" ⟨2020, 1, 1, 12, 0, 0⟩] List.mem_cons_self
    revert this
    decide

/-- (a), second part: with `TimeSafe`, "matches nothing" does not depend on the reference time -/
theorem parse_nothing_iff (r1 r2 : Int) (e : Expr) (hs : TermsOf Term.TimeSafe e) :
    parse r1 e = .ok .nothing ↔ parse r2 e = .ok .nothing := by
  rw [reftime_shift_equiv r1 r2 e hs]
  cases parse r1 e with
  | ok p => cases p <;> simp [shiftParsed]
  | err m => simp
  | panic s => simp
  | diverged s => simp

/-- re-anchored to the epoch the normal form does not depend on the reference time: the pair
    (reference time, conditions) that `Parse` returns denotes the same query both times -/
theorem reftime_normal_form (r1 r2 : Int) (e : Expr) (hs : TermsOf Term.TimeSafe e) :
    (parse r2 e).map (shiftParsed (-r2)) = (parse r1 e).map (shiftParsed (-r1)) := by
  -- both sides are the parse at reference time 0
  rw [← parse_shift r2 (-r2) e hs, ← parse_shift r1 (-r1) e hs, Int.add_right_neg, Int.add_right_neg]

/-- bounds without absolute times (relative filters `-1h:`, variables, durations): both parses
    return literally the same result -/
theorem reftime_floating_equal (r1 r2 : Int) (e : Expr) (hf : TermsOf Term.TimeFloating e) :
    parse r2 e = parse r1 e := by
  rw [reftime_shift_equiv r1 r2 e (termsOf_mono (fun _ => TimeFloating.safe) hf)]
  cases hp : parse r1 e with
  | ok p =>
    have := parse_tp tinv_floating Term.TimeFloating (fun ref t cs ht h => trTerm_floating ref t cs ht h)
      r1 e hf p hp
    simp only [Outcome.map_ok, floating_shiftParsed _ p this]
  | err m => rfl
  | panic s => rfl
  | diverged s => rfl

/-- every bound denotes a point in time (`ftime`/`ltime`/`time` given as absolute times, or as
    another stream's packet time plus a duration), or there is no time filter at all: the two
    results mean the same — `p2`, whose packet times are measured from `r2`, holds exactly when
    `p1` holds for the same packets measured from `r1` -/
theorem reftime_anchored_invariant (r1 r2 : Int) (e : Expr) (ha : TermsOf Term.TimeAnchored e)
    (p1 p2 : Parsed) (h1 : parse r1 e = .ok p1) (h2 : parse r2 e = .ok p2) (ρ : Env) :
    evalParsed p2 ρ = evalParsed p1 (Env.shift (r2 - r1) ρ) := by
  have hs := reftime_shift_equiv r1 r2 e (termsOf_mono (fun _ => TimeAnchored.safe) ha)
  rw [h1, h2, Outcome.map_ok, Outcome.ok.injEq] at hs
  subst hs
  exact evalParsed_shift _ ρ p1
    (parse_tp tinv_anchored Term.TimeAnchored (fun ref t cs ht h => trTerm_anchored ref t cs ht h) r1 e ha p1 h1)

theorem env_shift_shift (d e : Int) (ρ : Env) : Env.shift d (Env.shift e ρ) = Env.shift (e + d) ρ := by
  funext sq
  simp only [Env.shift, Stream.mk.injEq, true_and, and_true]
  omega

/-- the same in absolute terms: `α` holds the packet times as wall-clock times; the engine hands
    the query parsed at `r` the times relative to `r` -/
theorem reftime_anchored_absolute (r1 r2 : Int) (e : Expr) (ha : TermsOf Term.TimeAnchored e)
    (p1 p2 : Parsed) (h1 : parse r1 e = .ok p1) (h2 : parse r2 e = .ok p2) (α : Env) :
    evalParsed p2 (Env.shift (-r2) α) = evalParsed p1 (Env.shift (-r1) α) := by
  rw [reftime_anchored_invariant r1 r2 e ha p1 p2 h1 h2, env_shift_shift]
  have : -r2 + (r2 - r1) = -r1 := by omega
  rw [this]

def hour : Int := 3600000000000
def noon2020 : Civil := ⟨2020, 1, 1, 12, 0, 0⟩

/-- `ftime:-1h:2020-01-01 1200 OR ltime:2020-01-01 1200+1h:` — a relative lower bound, an absolute
    upper bound and an absolute bound with an offset -/
def mixed : Expr :=
  .or [.term { sq := "", key := "ftime", conv := "", value := .times [[[.dur "-" hour], [.abs "" noon2020]]] },
       .term { sq := "", key := "ltime", conv := "", value := .times [[[.abs "" noon2020, .dur "+" hour], []]] }]

theorem mixed_safe : TermsOf Term.TimeSafe mixed :=
  TermsOf_of_termsB (fun t => decide t.TimeSafe) (fun _ h => of_decide_eq_true h) mixed (by decide +kernel)

/-- the hypotheses of `reftime_shift_equiv` are satisfiable by a query with a relative time filter,
    and the conclusion is not trivial: the absolute bounds move by 10^17 ns, the relative one stays -/
example :
    parse refBefore mixed = .ok (.set
      [[.time { sum := [{ sq := "", f := -1, l := 0 }], dur := 77880000000000000, rtf := -1 },
        .time { sum := [{ sq := "", f := 1, l := 0 }], dur := 3600000000000, rtf := 0 }],
       [.time { sum := [{ sq := "", f := 0, l := 1 }], dur := -77883600000000000, rtf := 1 }]]) ∧
    parse refAfter mixed = .ok (.set
      [[.time { sum := [{ sq := "", f := -1, l := 0 }], dur := -22120000000000000, rtf := -1 },
        .time { sum := [{ sq := "", f := 1, l := 0 }], dur := 3600000000000, rtf := 0 }],
       [.time { sum := [{ sq := "", f := 0, l := 1 }], dur := 22116400000000000, rtf := 1 }]]) := by
  decide +kernel

example : parse refAfter mixed = (parse refBefore mixed).map (shiftParsed (refAfter - refBefore)) :=
  reftime_shift_equiv refBefore refAfter mixed mixed_safe

/-- `ftime:-1h:` -/
def lastHour : Expr :=
  .term { sq := "", key := "ftime", conv := "", value := .times [[[.dur "-" hour], []]] }

theorem lastHour_floating : TermsOf Term.TimeFloating lastHour := by
  apply TermsOf.term
  simp [Term.TimeFloating, partsAbs]

/-- a stream whose first packet is at the wall-clock time `t` -/
def streamAt (t : Int) : Env := fun _ => { unitStream with ftime := t, ltime := t }

/-- a relative filter has the same normal form at both reference times, and that normal form is
    meant relative to the clock of the parse: a stream from 30 minutes before `refBefore` matches
    the query parsed at `refBefore` and not the one parsed at `refAfter`.  This is the intended
    dependence on the reference time, not covered by `reftime_anchored_absolute`. -/
theorem relative_filter_follows_clock :
    parse refAfter lastHour = parse refBefore lastHour ∧
    ∃ p, parse refBefore lastHour = .ok p ∧
      evalParsed p (Env.shift (-refBefore) (streamAt (refBefore - 1800000000000))) = true ∧
      evalParsed p (Env.shift (-refAfter) (streamAt (refBefore - 1800000000000))) = false := by
  refine ⟨reftime_floating_equal _ _ _ lastHour_floating, _, rfl, ?_, ?_⟩ <;> decide +kernel

end Pk.Props.C14Shift
