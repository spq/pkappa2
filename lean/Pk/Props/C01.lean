/-
  C01 — index files return every stored stream exactly as written.

  Property theorems over the model of internal/index/{format,writer,reader}.go
  (Pk/Model/Bytes.lean, Pk/Model/IndexFormat.lean). The model is tied to the code by the
  correspondence check (`./check C01`), on the repaired code: F8 (the reader taking the host-group `Start`
  as a byte offset) and F9 (`popN` popping bytes, not hosts) are repaired in the repository; their
  witnesses are corpus/C01/f8_*.ops and f9_*.ops.

  Vocabulary: `Writer.addAll w ss` = `AddStream` of every stream of `ss` in order (all accepted);
  `w.finalize` = the sections `Finalize` writes; `newReader f` = `NewReader` on such a file.
-/
import Pk.Model.IndexFormat
import Pk.Proofs.Bytes
import Pk.Proofs.IndexFormatHosts
import Pk.Proofs.IndexFormatLookup
import Pk.Proofs.IndexFormatRoundtrip
import Pk.Proofs.IndexFormatSkip
import Pk.Proofs.IndexFormatMeta
import Pk.Proofs.IndexFormatHostsRoundtrip
import Pk.Proofs.SortSearch
import Pk.Proofs.IndexFormatFullWriter

namespace Pk.Props.C01
open Pk Pk.Bytes Pk.Index

private theorem fld_skip (k n : Nat) (rest : Bytes) (o j : Nat) (h : k ≤ o) :
    fld (le k n ++ rest) o j = fld rest (o - k) j := by
  unfold fld
  have : o = k + (o - k) := by omega
  rw [this, ← List.drop_drop, drop_le_append]
  simp

private theorem fld_here (k n : Nat) (rest : Bytes) : fld (le k n ++ rest) 0 k = n % 256 ^ k := by
  unfold fld
  simp only [List.drop_zero, take_le_append, val_le]

private theorem fld_last (k n : Nat) : fld (le k n) 0 k = n % 256 ^ k := by
  have := fld_here k n []
  simpa using this

/-- every fixed record of format.go survives `binary.Write` / the reader's decode -/
theorem codec_roundtrip_packet (p : PacketRec) (h : p.WF) : PacketRec.dec p.enc = p := by
  obtain ⟨h1, h2, h3, h4, h5, h6⟩ := h
  cases p
  simp only [PacketRec.enc, PacketRec.dec, List.append_assoc] at *
  simp [fld_skip, fld_here, fld_last, Nat.mod_eq_of_lt, *]
theorem codec_roundtrip_stream (s : StreamRec) (h : s.WF) : StreamRec.dec s.enc = s := by
  obtain ⟨h1, h2, h3, h4, h5, h6, h7, h8, h9, h10, h11, h12, h13⟩ := h
  cases s
  simp only [StreamRec.enc, StreamRec.dec, List.append_assoc] at *
  simp [fld_skip, fld_here, fld_last, Nat.mod_eq_of_lt, *]
theorem codec_roundtrip_hostgroup (e : HGEntry) (h : e.WF) : HGEntry.dec e.enc = e := by
  obtain ⟨h1, h2, h3⟩ := h
  cases e
  simp only [HGEntry.enc, HGEntry.dec, List.append_assoc] at *
  simp [fld_skip, fld_here, fld_last, Nat.mod_eq_of_lt, *]
theorem codec_roundtrip_import (e : ImportRec) (h : e.WF) : ImportRec.dec e.enc = e := by
  obtain ⟨h1, h2⟩ := h
  cases e
  simp only [ImportRec.enc, ImportRec.dec, List.append_assoc] at *
  simp [fld_skip, fld_here, fld_last, Nat.mod_eq_of_lt, *]

/-- little-endian fixed-width integers: decode ∘ encode is truncation, encode ∘ decode is the identity -/
theorem codec_roundtrip_le (k n : Nat) : val (le k n) = n % 256 ^ k := val_le k n
theorem codec_roundtrip_le_inv (bs : Bytes) : le bs.length (val bs) = bs := by
  induction bs with
  | nil => rfl
  | cons b bs ih =>
    rw [List.length_cons, le, val, Nat.add_mul_mod_self_left, Nat.mod_eq_of_lt b.toNat_lt,
      Nat.add_mul_div_left _ _ (by decide), Nat.div_eq_of_lt b.toNat_lt, Nat.zero_add, ih, UInt8.ofNat_toNat]

/-- the segmentation varint of the writer is read back by the reader, whatever follows it -/
theorem varint_roundtrip (n : Nat) (h : n < 2 ^ 64) (rest : Bytes) :
    decVarint (encVarint n ++ rest) = some (n, rest) := Pk.Bytes.varint_roundtrip n h rest

theorem splitAux_sum (fuel n : Nat) (h : n ≤ fuel + 65535) : (splitAux fuel n).sum = n :=
  (splitAux_spec fuel n h).1

/-- a chunk of any size is split into packet records whose sizes sum to it -/
theorem split64k_sum (n : Nat) : (splitSizes n).sum = n := splitAux_sum n n (by omega)

/-- … and every record size fits the 16-bit field -/
theorem split64k_fits (n : Nat) : ∀ x ∈ splitSizes n, x ≤ 65535 := (splitAux_spec n n (by omega)).2

/-- `skip_counters_sound`: in the packet records the writer emits for a stream (any record list: split
    chunks, payload-less runs of any length, saturation at 255) following `SkipPacketsForData` from any
    record never passes a record with payload and lands on a record of the stream — at the latest the last
    one, whose has-next flag is the only thing `clearLastHasNext` changes. -/
theorem skip_counters_sound (recs : List PacketRec) : SkipSound (clearLastHasNext (setSkips recs).1) :=
  clearLast_sound _ (setSkips_spec recs).1

/-- the skip pass changes no payload size -/
theorem skip_counters_keep_sizes (recs : List PacketRec) : (setSkips recs).1.map (·.size) = recs.map (·.size) :=
  setSkips_map (·.size) (fun _ _ => rfl) recs

/-- `hostTable_aligned`: over any sequence of accepted `AddStream` calls (including the undo of a first
    address whose partner does not fit) every host group holds a whole number of 4- or 16-byte hosts,
    at least one, at most 65 536 bytes. (The `AddIndex` paths are covered in Props/C07.) -/
theorem hostTable_aligned (ss : List StreamIn) (hss : ∀ s ∈ ss, s.AddrWF) :
    ∀ (w w' : Writer), GroupsInv w.hostGroups → w.addAll ss = some w' → GroupsInv w'.hostGroups :=
  fun w w' hw h => addAll_induct (P := fun w _ => GroupsInv w.hostGroups) ss
    (fun w w' _ s hs hP h => addStream_inv w w' s true (hss s hs) hP h) w w' [] hw h

/-- `hostgroups_decode`: for any number of host groups of either family (second and later groups
    included) the reader's host groups are exactly the writer's. -/
theorem hostgroups_decode (w : Writer) (h : GroupsInv w.hostGroups)
    (hb4 : (v4of w.hostGroups).length < 2 ^ 32) (hb6 : (v6of w.hostGroups).length < 2 ^ 32) :
    readHostGroups w.finalize.v4 w.finalize.v6 w.finalize.hostGroups = .ok (w.hostGroups.map HostGroup.toReader) :=
  hostgroups_decode' w h hb4 hb6

/-- reader host `i` of group `g` = writer host `i` of group `g` -/
theorem hostgroups_decode_host (g : HostGroup) (i : Nat) :
    g.toReader.get i = (g.hosts.drop (g.hostSize * i)).take g.hostSize := rfl

/-- `lookup_by_id_exact`: a stored stream is found under its id, and it is that stream … -/
theorem lookup_by_id_exact (f : FileModel) (r : Reader) (h : newReader f = .ok r)
    (hnd : (f.streams.map (·.id)).Nodup) (i : Nat) (s : StreamRec) (hs : f.streams[i]? = some s) :
    r.streamByID s.id = some (i, s) := streamByID_found f r h hnd i s hs

/-- … and nothing is found under an id that was not stored -/
theorem lookup_by_id_absent (f : FileModel) (r : Reader) (h : newReader f = .ok r) (id : Nat)
    (hid : ∀ s ∈ f.streams, s.id ≠ id) : r.streamByID id = none := streamByID_absent f r h id hid

private theorem written_ids (ss : List StreamIn) (w : Writer) (hw : ({} : Writer).addAll ss = some w) :
    w.finalize.streams.map (·.id) = ss.map (·.id) :=
  addAll_ids ss w hw

/-- Min/MaxStreamID of the reopened file are the minimum and the maximum of the written ids -/
theorem roundtrip_idrange (ss : List StreamIn) (w : Writer) (r : Reader)
    (hw : ({} : Writer).addAll ss = some w) (hr : newReader w.finalize = .ok r) :
    r.idMin = minList (ss.map (·.id)) (2 ^ 64 - 1) ∧ r.idMax = maxList (ss.map (·.id)) 0 := by
  obtain ⟨_, hmin, hmax, _, _⟩ := newReader_ok _ r hr
  rw [hmin, hmax, written_ids ss w hw]
  exact ⟨rfl, rfl⟩

/-- `roundtrip_ids`: the reopened file holds exactly the written ids, in the order written; Min/MaxStreamID
    bound them. -/
theorem roundtrip_ids (ss : List StreamIn) (w : Writer) (r : Reader)
    (hw : ({} : Writer).addAll ss = some w) (hr : newReader w.finalize = .ok r) :
    r.f.streams.map (·.id) = ss.map (·.id) ∧
    (∀ s ∈ ss, r.idMin ≤ s.id ∧ s.id ≤ r.idMax) := by
  obtain ⟨hmin, hmax⟩ := roundtrip_idrange ss w r hw hr
  refine ⟨by rw [(newReader_ok _ r hr).1]; exact written_ids ss w hw, fun s hs => ?_⟩
  have hmem : s.id ∈ ss.map (·.id) := List.mem_map.mpr ⟨s, hs, rfl⟩
  rw [hmin, hmax]
  exact ⟨(minList_le _ _).2 _ hmem, (le_maxList _ _).2 _ hmem⟩

/-- with distinct ids, the stream written at position `i` is found under its id, at position `i`, as the record
    stored there (the position `roundtrip_meta`, `roundtrip_hosts` and `roundtrip_blob` speak about) -/
theorem roundtrip_lookup_at (ss : List StreamIn) (w : Writer) (r : Reader)
    (hw : ({} : Writer).addAll ss = some w) (hr : newReader w.finalize = .ok r)
    (hnd : (ss.map (·.id)).Nodup) (i : Nat) (s : StreamIn) (hs : ss[i]? = some s) :
    ∃ rec_, r.f.streams[i]? = some rec_ ∧ rec_.id = s.id ∧ r.streamByID s.id = some (i, rec_) := by
  have hids := written_ids ss w hw
  have hi : (w.finalize.streams.map (·.id))[i]? = some s.id := by rw [hids]; simp [hs]
  rw [List.getElem?_map] at hi
  obtain ⟨rec_, hrec, hid⟩ := Option.map_eq_some_iff.mp hi
  refine ⟨rec_, by rw [(newReader_ok _ r hr).1]; exact hrec, hid, ?_⟩
  rw [← hid]
  exact streamByID_found _ r hr (by rw [hids]; exact hnd) i rec_ hrec

/-- with distinct ids, `StreamByID` finds every written stream and nothing else -/
theorem roundtrip_lookup (ss : List StreamIn) (w : Writer) (r : Reader)
    (hw : ({} : Writer).addAll ss = some w) (hr : newReader w.finalize = .ok r)
    (hnd : (ss.map (·.id)).Nodup) :
    (∀ s ∈ ss, ∃ i rec_, r.streamByID s.id = some (i, rec_) ∧ rec_.id = s.id) ∧
    (∀ id, id ∉ ss.map (·.id) → r.streamByID id = none) := by
  constructor
  · intro s hs
    obtain ⟨i, hi⟩ := List.getElem?_of_mem hs
    obtain ⟨rec_, _, hid, hlk⟩ := roundtrip_lookup_at ss w r hw hr hnd i s hi
    exact ⟨i, rec_, hlk, hid⟩
  · intro id hid
    apply streamByID_absent _ r hr
    intro s hs heq
    apply hid
    rw [← written_ids ss w hw, ← heq]
    exact List.mem_map.mpr ⟨s, hs, rfl⟩

/-- `roundtrip_meta`: for every written stream (well-formed times: this era, last ≥ first) the reopened file
    holds, at the same position, a record with its id, ports, protocol and per-direction byte counts, and
    `FirstPacket()` / `LastPacket()` return the first/last packet time exactly (ns) — whichever way the file's
    reference second moved while later streams were added. (Host addresses: `roundtrip_hosts`.) -/
theorem roundtrip_meta (ss : List StreamIn) (w : Writer) (r : Reader)
    (hw : ({} : Writer).addAll ss = some w) (hr : newReader w.finalize = .ok r) (hwf : ∀ s ∈ ss, s.TimeWF)
    (i : Nat) (s : StreamIn) (hs : ss[i]? = some s) :
    ∃ rec_, r.f.streams[i]? = some rec_ ∧ rec_.id = s.id ∧ rec_.cp = s.cport ∧ rec_.sp = s.sport ∧
      protoName rec_.flags = (if s.flags / 2 % 2 = 0 then "TCP" else "UDP") ∧
      (∃ cds, chunkDirs s.packets s.data = some cds ∧ rec_.cb = (dirBytes 0 cds).length ∧ rec_.sb = (dirBytes 1 cds).length) ∧
      ∃ p0 pl, s.packets.head? = some p0 ∧ s.packets.getLast? = some pl ∧
        r.firstPacket rec_ = p0.ts ∧ r.lastPacket rec_ = pl.ts := by
  have hm := addAll_meta ss w hwf hw
  obtain ⟨rec_, hrec, hro⟩ := hm.2.get i s hs
  obtain ⟨hst, _, _, href, _⟩ := reopen w r hr
  have ht := (href.symm ▸ hro : RecOf r.f.ref s rec_).times
  obtain ⟨h1, h2, h3, h4, h5, _⟩ := hro
  refine ⟨rec_, by rw [hst]; exact hrec, h1, h2, h3, ?_, h5, ht⟩
  rw [h4]; unfold protoFlags protoName
  by_cases hp : s.flags / 2 % 2 = 0 <;> simp [hp]

/-- `roundtrip_hosts`: for every written stream the reader resolves the record's (group, client index, server
    index) to exactly the client and server address that were written — for any number of hosts and host groups
    of either family, whatever was added before or afterwards (F8, F9). -/
theorem roundtrip_hosts (ss : List StreamIn) (w : Writer) (r : Reader)
    (hw : ({} : Writer).addAll ss = some w) (hr : newReader w.finalize = .ok r) (hwf : ∀ s ∈ ss, s.AddrWF)
    (hcap : w.hostGroups.length ≤ 65536)
    (hb4 : (v4of w.hostGroups).length < 2 ^ 32) (hb6 : (v6of w.hostGroups).length < 2 ^ 32)
    (i : Nat) (s : StreamIn) (hs : ss[i]? = some s) :
    ∃ rec_, r.f.streams[i]? = some rec_ ∧ r.hosts rec_ = .ok (s.client, s.server) := by
  have hinv0 : GroupsInv ({} : Writer).hostGroups := fun g hg => by simp at hg
  have hinv := hostTable_aligned ss hwf {} w hinv0 hw
  have hz := (addAll_hosts ss w hwf hw).2 hcap
  obtain ⟨rec_, hrec, g, hg, v1, v2, e1, e2⟩ := hz.get i s hs
  obtain ⟨hst, _, _, _, _, hgroups⟩ := reopen w r hr
  have hgroups := hgroups hinv (by omega) (by omega)
  refine ⟨rec_, by rw [hst]; exact hrec, ?_⟩
  unfold Reader.hosts
  have : r.hostGroups[rec_.hg]? = some g.toReader := by rw [hgroups]; simp [hg]
  rw [this]
  have c1 : ¬ (g.toReader.hostSize * rec_.ch + g.toReader.hostSize > g.toReader.hosts.length ∨
      g.toReader.hostSize * rec_.sh + g.toReader.hostSize > g.toReader.hosts.length) := by
    unfold HostGroup.Valid at v1 v2
    simp only [HostGroup.toReader]; omega
  simp only [c1, if_false, toReader_get, e1, e2]

/-- a finished file with at least one stream can be reopened (the hypothesis `newReader … = .ok r` of the
    round-trip theorems is satisfiable for every accepted non-empty stream set) -/
theorem reopen_succeeds (ss : List StreamIn) (w : Writer) (hw : ({} : Writer).addAll ss = some w)
    (hne : ss ≠ []) (hwf : ∀ s ∈ ss, s.AddrWF)
    (hb4 : (v4of w.hostGroups).length < 2 ^ 32) (hb6 : (v6of w.hostGroups).length < 2 ^ 32) :
    ∃ r, newReader w.finalize = .ok r := by
  have hinv0 : GroupsInv ({} : Writer).hostGroups := fun g hg => by simp at hg
  have hinv := hostTable_aligned ss hwf {} w hinv0 hw
  have hids := addAll_ids ss w hw
  have hst : w.streams ≠ [] := by
    intro h; rw [h] at hids; simp at hids; exact hne hids
  obtain ⟨r, hr, _⟩ := reopen_ok w hinv hst hb4 hb6
  exact ⟨r, hr⟩

/-- `roundtrip_blob` (the writer half of `roundtrip_payload'`): in the reopened file the data section holds, at
    the record's `DataStart`, exactly the stream's client bytes, then its server bytes, then its segmentation
    varints — for every stream, whatever was written before and after it (chunks of any size). -/
theorem roundtrip_blob (ss : List StreamIn) (w : Writer) (r : Reader)
    (hw : ({} : Writer).addAll ss = some w) (hr : newReader w.finalize = .ok r)
    (i : Nat) (s : StreamIn) (hs : ss[i]? = some s) :
    ∃ rec_ cds, r.f.streams[i]? = some rec_ ∧ chunkDirs s.packets s.data = some cds ∧
      (r.f.data.drop rec_.dataStart).take (streamBlob cds).length =
        dirBytes 0 cds ++ dirBytes 1 cds ++ segBytes 0 (segRuns (cds.map fun c => (c.1, c.2.length))) := by
  have hd := addAll_place ss w hw
  obtain ⟨rec_, hrec, _, _, cds, hcd, _, hblob⟩ := hd.2.2.get i s hs
  obtain ⟨hst, _, hdata, _⟩ := reopen w r hr
  exact ⟨rec_, cds, by rw [hst]; exact hrec, hcd, by rw [hdata]; exact hblob⟩

/-- `sortedLookup_search_correct`: `sort.Search` over a predicate that is false below `k` and true from `k` on
    returns `k` (the predicate of `StreamByFirstPacketSource` is of that shape on a lookup sorted by
    (file name, packet index)). -/
theorem sortedLookup_search_correct (f : Nat → Bool) (k n : Nat) (hk : k ≤ n)
    (hlo : ∀ i, i < k → f i = false) (hhi : ∀ i, k ≤ i → f i = true) : sortSearch f 0 n = k := by
  obtain ⟨_, h1, h2⟩ := sortSearch_threshold f n (fun a b hab _ ha => hhi b (by
    rcases Nat.lt_or_ge a k with h | h
    · rw [hlo a h] at ha; cases ha
    · omega))
  rcases Nat.lt_trichotomy (sortSearch f 0 n) k with h | h | h
  · have := h2 _ (Nat.le_refl _) (by omega); rw [hlo _ h] at this; cases this
  · exact h
  · have := h1 k h; rw [hhi k (Nat.le_refl _)] at this; cases this

/-- `expectWraps_ge_actual`: the wrap budget `Stream.Data` derives from last − first is never smaller than the
    number of 2^32 µs wraps of the relative packet times, so no wrap goes undetected while it is non-zero -/
theorem expectWraps_ge_actual (d : Nat) (h : d < 2 ^ 62) :
    ((d / 1000 / 2 ^ 32 : Nat) : Int) ≤ (i64 d + 1000).tdiv wrapNs := by
  rw [i64_small d (by omega)]
  rw [Int.tdiv_eq_ediv_of_nonneg (by omega)]
  unfold wrapNs
  omega

/-! ## full statements (decided in Pk/Props/C01Full.lean)

  `RoundtripPackets` and `LookupByFirstPacketExact` are false as stated
  (a capture file name containing a NUL byte is cut by the reader: `roundtrip_packets_counterexample`,
  `lookup_by_first_packet_counterexample`); with the input condition `NamesWF` (no NUL in file names) they are
  proved as `roundtrip_packets'`, `lookup_by_first_packet_exact'`. `RoundtripPayload` is proved as
  `roundtrip_payload'` for streams of less than 2^64 payload bytes. The tie checks each of them on every
  generated stream set as well (observable lines `obs`/`src`, and the Go round-trip oracle). -/

/-- packets as `Stream.Packets` must return them: one entry per source reference, in the writer's order,
    time truncated to µs relative to the first packet -/
def expectedPackets (s : StreamIn) : List PacketOut :=
  match s.packets.head? with
  | none => []
  | some p0 => (s.packets.map fun p => p.pmds.map fun ref =>
      ({ file := ref.file, index := ref.index, dir := p.dir, ts := p0.ts + (p.ts - p0.ts).tdiv 1000 * 1000 } : PacketOut)).flatten

/-- non-decreasing times, consecutive gaps < 2^32 µs (after truncation), indexes < 2^64, neighbouring source
    references distinct -/
def PacketsWF (s : StreamIn) : Prop :=
  s.TimeWF ∧
  (∀ i p q, s.packets[i]? = some p → s.packets[i + 1]? = some q → p.ts ≤ q.ts ∧
      (match s.packets.head? with
       | some p0 => (q.ts - p0.ts).tdiv 1000 - (p.ts - p0.ts).tdiv 1000 < 2 ^ 32
       | none => True)) ∧
  (∀ p ∈ s.packets, p.refs ≠ [] ∧ p.dir < 2 ∧ ∀ ref ∈ p.refs, ref.index < 2 ^ 64) ∧
  (expectedPackets s).Pairwise (fun a b => (a.file, a.index) ≠ (b.file, b.index))

/-- `roundtrip_packets` (full statement) -/
def RoundtripPackets : Prop :=
  ∀ (ss : List StreamIn) (w : Writer) (r : Reader), ({} : Writer).addAll ss = some w → newReader w.finalize = .ok r →
    (∀ s ∈ ss, PacketsWF s) → ∀ (i : Nat) (s : StreamIn), ss[i]? = some s →
      ∃ rec_, r.f.streams[i]? = some rec_ ∧ r.packets rec_ = .ok (expectedPackets s)

/-- (direction, length) runs with neighbours of one direction merged and empties dropped -/
def mergedRuns : List (Nat × Nat) → List (Nat × Nat)
  | [] => []
  | (d, n) :: rest =>
    if n = 0 then mergedRuns rest else
    match mergedRuns rest with
    | (d', n') :: rs => if d = d' then (d, n + n') :: rs else (d, n) :: (d', n') :: rs
    | [] => [(d, n)]

/-- `roundtrip_payload` (full statement): per direction the returned chunks concatenate to what was written, and
    the order of direction changes is the same -/
def RoundtripPayload : Prop :=
  ∀ (ss : List StreamIn) (w : Writer) (r : Reader), ({} : Writer).addAll ss = some w → newReader w.finalize = .ok r →
    (∀ s ∈ ss, PacketsWF s ∧ (s.data.map (·.pos)).Pairwise (· < ·)) → ∀ (i : Nat) (s : StreamIn), ss[i]? = some s →
      ∃ rec_ cds ds, r.f.streams[i]? = some rec_ ∧ chunkDirs s.packets s.data = some cds ∧ r.data rec_ = .ok ds ∧
        ((ds.filter (·.dir == 0)).map (·.content)).flatten = dirBytes 0 cds ∧
        ((ds.filter (·.dir == 1)).map (·.content)).flatten = dirBytes 1 cds ∧
        mergedRuns (ds.map fun d => (d.dir, d.content.length)) = mergedRuns (cds.map fun c => (c.1, c.2.length))

/-- `lookup_by_first_packet_exact` (full statement): found iff some stored stream starts at that source packet,
    and then it is that stream -/
def LookupByFirstPacketExact : Prop :=
  ∀ (ss : List StreamIn) (w : Writer) (r : Reader), ({} : Writer).addAll ss = some w → newReader w.finalize = .ok r →
    (∀ s ∈ ss, PacketsWF s) →
    ((ss.map fun s => (expectedPackets s).head?.map fun p => (p.file, p.index)).Pairwise (· ≠ ·)) →
    ∀ (file : Bytes) (index : Nat), index < 2 ^ 64 →
      (r.streamBySource file index).map (·.2.id) =
        (ss.find? fun s => (expectedPackets s).head?.map (fun p => (p.file, p.index)) == some (file, index)).map (·.id)

def exA : StreamIn :=
  { id := 3, client := [10,0,0,2], server := [10,0,0,3], cport := 1, sport := 2, flags := 2,
    packets := [{ ts := 1599999999000000000, dir := 0, refs := [{ file := [98], index := 0 }] }], data := [] }
def exB : StreamIn :=
  { id := 9, client := [10,0,0,3], server := [10,0,0,3], cport := 5, sport := 6, flags := 0,
    packets := [{ ts := 1599999998000000000, dir := 1, refs := [{ file := [98], index := 4294967296 }] }], data := [] }

/-- the real writer accepts such sets: the model does, for a set whose second stream moves the reference second down -/
example : (({} : Writer).addAll [exA, exB]).isSome = true := by decide
example : exA.AddrWF ∧ exB.AddrWF := by simp [StreamIn.AddrWF, HostAddr, exA, exB]
example : exA.TimeWF := ⟨_, _, rfl, rfl, by decide, by decide, by decide⟩
example : ((([exA, exB] : List StreamIn).map (·.id))).Nodup := by decide
example : (⟨1, 2, 3, 4, 5, 1⟩ : PacketRec).WF := by simp [PacketRec.WF]
example : (⟨7, 8, 9⟩ : HGEntry).WF := by simp [HGEntry.WF]

end Pk.Props.C01
