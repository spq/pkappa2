/-
  C06ReachSpec — the contracts, the ghost and the job invariant of C06Reach, "decided ⇒ correct" (C06) over whole
  histories.  Definitions, and the two congruences `inv_congr`, `jobInv_congr` (the invariants read the truth only where
  `SameOn` compares it); the theorems are in Pk/Props/C06Reach.lean, the lemmas in Pk/Proofs/MgrTruth*.lean.

  `Pk/Props/C06.lean` proves the single-step theorems about tags under frame hypotheses that mention the
  pending sets of the post-state (`hframe` of `inv_step_stable`, `hcov` of `tagjob_publish_sound`).  C06Reach
  discharges those from the model: for EVERY history of events (API calls and job completions in any order)
  from the initial state, `C06.Inv` holds in every state reached, under hypotheses that speak only about
   (a) the event payloads: `PayloadOK` (MgrReach), `ImportAddsNew` (a contract on the builder's result),
       `EvFeatOK` (a clause of the facts contract: a definition that references a tag reports the feature bit
       `FeatureFilterTags`), the search-result contract `ResultOK`, and
   (b) how the ground truth may move from one state to the next: the frame contract `TruthStep`
       (per dependency class of the definitions, closed under tag references: `Dep`),
  plus ONE narrow side condition, `JobTextOK`, which is an artefact of indexing the abstract truth by
  tag names rather than by definition texts.  None of them mentions a pending set or a match set of a
  post-state; `TruthStep` mentions the match set of the PRE-state in the two mark clauses (the real system
  computes the new definition text of a mark tag from it) and the result code of the call (a rejected call
  changes nothing).

  Three repairs of the Go service shape the contracts:
   * F54: every tag carries the identity `gen` of the `AddTag` call that created it, and the tagging completion
     publishes only onto the same incarnation.  So deleting and re-creating the job's tag needs no hypothesis
     (`aba_now_safe`, `aba_decided_correct`); the state invariant `GenInv` (identities below the counter,
     pairwise different) and the job invariant `JobInv` follow the incarnation by its identity, also through
     renames.
   * F55: a converter completion makes tags with data-dependent SUB-QUERY features pending on every stream, and
     `ConvBase` lets their truth change on every stream.
   * F59: detaching a converter from the last tag whose matches it served (`updConv` / `delTag`) resets the
     converter's cache, so the truth of every payload tag may change; the service makes those tags pending
     everywhere, sweeps, records `rst = all streams` and may START a tagging job (`outputDropped`).  `TruthStep`
     lets an accepted `updConv` / `delTag` in the `DropsOutput` situation change payload tags on any stream
     (`PayloadBase`, plus referrers via `Dep`); otherwise `updConv` changes nothing and `delTag m` only `m`.  A
     job started in the middle of such an event is covered by `job_started` (Pk/Proofs/MgrTruthOrigin.lean): later
     `outputDropped` calls of the same event only add pending streams that are justified by pending references
     (`inherit_sound'`, `LateCov`).

  The frame contract bounds the set of (tag, stream) pairs whose truth changes by the CLOSURE of a base set
  under tag references (`Dep`, a least fixed point).  This is weaker than the one-step form "n changes only
  if its own class is hit or a tag it references changes" (which implies it on an acyclic tag graph), and it
  is exactly what the model supports: the sweep `inheritTagUncertainty` makes the whole closure pending.

  The run relation is over triples (state, current truth, ghost): the ghost remembers, while a tagging
  job is in flight, the truth function at the moment the job was started (`ghostNext`).  `JobInv` is the
  invariant that discharges `hcov` of `C06.tagjob_publish_sound` at the completion: every stream on which
  the answer the completion is going to publish (`Ans`) differs from the current truth is recorded in the
  during-job masks `upd`/`rst`/`add` in a way that makes it pending again after the completion (`Cov`), as long
  as the incarnation the job was started for still carries the definition text of the snapshot (otherwise the
  completion discards the result).
-/
import Pk.Props.C06
import Pk.Props.MgrReach
import Pk.Props.MgrSpec
import Pk.Proofs.MgrTruthDep
import Pk.Proofs.MgrTruthFrame

namespace Pk.Props.C06Reach
open Pk.Mgr Pk.Props.MgrReach Pk.Proofs.MgrTruth Pk.Proofs.MgrTags

/-- the abstract ground truth: "evaluating tag `n`'s current definition on stream `id`'s current data" -/
abbrev Truth := String → Nat → Bool

/-! ## dependency classes of a definition (`query.Features()`) -/

/-- the definition looks at something besides the stream id (`MainFeatures &^ FeatureFilterID ≠ 0`) -/
def F254 (t : Tag) : Prop := t.mfeat &&& (255 - fID) ≠ 0
/-- the definition looks at data or times -/
def FDT (t : Tag) : Prop := t.mfeat &&& (fData ||| fTimeAbs ||| fTimeRel) ≠ 0

/-- tags that are not in the table and streams ≥ `next` carry no obligation -/
def SameAt (s : St) (T T' : Truth) (n : String) : Prop :=
  ∀ t, sget s.tags n = some t → ∀ id, id < s.next → T' n id = T n id
def SameOn (s : St) (T T' : Truth) : Prop := ∀ n, SameAt s T T' n
/-- the truth changes only inside the closure of the base set `B` under tag references -/
def ChangesIn (s : St) (nx : Nat) (B : String → Nat → Prop) (T T' : Truth) : Prop :=
  ∀ n t, sget s.tags n = some t → ∀ id, id < s.next → T' n id ≠ T n id → Dep s.tags nx B n id

/-- what an import completion may change directly: per dependency class of the definition -/
def ImportBase (s : St) (upd rst add : List Nat) (n : String) (id : Nat) : Prop :=
  ∃ t, sget s.tags n = some t ∧
    (-- a new stream: every definition may match it (also: an id list may name it)
     id ∈ add ∨
     -- sub-query features: any stream may change, provided the import reports some stream.  (An import completion
     -- with created files but EMPTY `upd`/`rst`/`add` makes tags with sub-query features pending everywhere but
     -- leaves the during-job masks empty, so a running job for a tag that references such a tag publishes with
     -- `unc = []` while its reference is pending.)
     (t.sfeat ≠ 0 ∧ (upd ≠ [] ∨ rst ≠ [] ∨ add ≠ [])) ∨
     -- a reset stream (packets re-assembled from scratch: addresses, ports, … may differ): everything
     -- but the id
     (id ∈ rst ∧ F254 t) ∨
     -- an updated stream (more packets of the same connection): data and times
     (id ∈ upd ∧ FDT t))

/-- what a converter completion may change directly, for a converter that is still configured: a definition
    whose MAIN query looks at stream data, on the streams the completion reports; a definition whose
    SUB-QUERY looks at stream data, on ANY stream as soon as the completion reports a non-empty set (the stream
    whose answer changes need not be the converted one; F55) -/
def ConvBase (s : St) (sets : List (String × IdSet)) (n : String) (id : Nat) : Prop :=
  ∃ t, sget s.tags n = some t ∧ ∃ p, p ∈ sets ∧ p.1 ∈ s.convs ∧
    ((t.mfeat &&& fData ≠ 0 ∧ id ∈ p.2) ∨ (t.sfeat &&& fData ≠ 0 ∧ p.2 ≠ []))

/-- what dropping converter output may change directly (an `updConv` / `delTag` that detaches a converter from the
    last tag whose matches it served: `DropsOutput`, Pk/Proofs/MgrTruthFrame.lean — the converter's cache is reset):
    every definition that looks at stream data in its main query or in a sub-query ("payload tag") also matches
    on cached converter output, so its truth may change on ANY stream (F59) -/
def PayloadBase (s : St) (n : String) (_id : Nat) : Prop :=
  ∃ t, sget s.tags n = some t ∧ Payload t

/-- how the truth may change at event `e` taken in state `s` (`T` before, `T'` after) -/
def TruthStep (s : St) (e : Ev) (T T' : Truth) : Prop :=
  -- a rejected API call changes nothing
  ((step s e {}).2 = Res.err → SameOn s T T') ∧
  ((step s e {}).2 ≠ Res.err →
    match e with
    | .importDone _ u c upd rst add =>
      match s.jImport with
      | none => SameOn s T T'               -- no import in flight: the event is void
      | some (jn, _) =>
        if c = [] then SameOn s T T'        -- an import that wrote no file changed no stream
        else ChangesIn s (jn + u) (ImportBase s upd rst add) T T'
    | .convertDone =>
      match s.jConv with
      | none => SameOn s T T'
      | some (sets, _) => ChangesIn s s.next (ConvBase s sets) T T'
    | .addTag name _ _ f =>
      -- only the new tag; an id-list definition (mark tag) is true exactly on the listed streams
      (∀ n, n ≠ name → SameAt s T T' n) ∧
      ((parseTagName name).2.2 = true → ∀ id, id < s.next → (T' name id = true ↔ id ∈ f.ids))
    | .updQuery name _ _ =>
      -- only the edited tag and its (transitive) referrers
      ChangesIn s s.next (fun n _ => n = name) T T'
    | .markAdd name ids =>
      if ids = [] then SameOn s T T' else
      ∀ t, sget s.tags name = some t →
        -- the definition is extended by the streams that are not recorded as matching yet …
        (∀ id, id < s.next → T' name id = (T name id || decide (id ∈ ids ∧ id ∉ t.mat))) ∧
        -- … and only referrers of a stream whose truth changed follow
        ChangesIn s s.next (fun n id => n = name ∧ id < s.next ∧ T' name id ≠ T name id) T T'
    | .markDel name ids =>
      if ids = [] then SameOn s T T' else
      ∀ t, sget s.tags name = some t →
        -- the definition is REWRITTEN as the id list of the remaining recorded matches
        (∀ id, id < s.next → (T' name id = true ↔ (id ∈ t.mat ∧ id ∉ ids))) ∧
        ChangesIn s s.next (fun n id => n = name ∧ id < s.next ∧ T' name id ≠ T name id) T T'
    | .updName name new =>
      if new = "" then SameOn s T T' else
      -- the tag's truth moves to the new name (a renamed tag has no referrers)
      (∀ n, n ≠ name → n ≠ new → SameAt s T T' n) ∧ (∀ id, id < s.next → T' new id = T name id)
    | .delTag name =>
      -- a deleted tag has no referrers; deleting the last tag of a converter drops the converter's output:
      -- payload tags and their (transitive) referrers
      (¬ DropsOutput s (.delTag name) → ∀ n, n ≠ name → SameAt s T T' n) ∧
      (DropsOutput s (.delTag name) → ∀ n t, n ≠ name → sget s.tags n = some t → ∀ id, id < s.next →
        T' n id ≠ T n id → Dep s.tags s.next (PayloadBase s) n id)
    | .updConv name convs =>
      -- changing the converters of a tag changes nothing, unless it detaches a converter from its last tag:
      -- then payload tags and their (transitive) referrers
      (¬ DropsOutput s (.updConv name convs) → SameOn s T T') ∧
      (DropsOutput s (.updConv name convs) → ChangesIn s s.next (PayloadBase s) T T')
    | _ => SameOn s T T')

/-- every stream id an import hands out is reported as added.  `PayloadOK` (C10.EvOK) only says
    that the created files hold the new ids; `invalidateTags` makes exactly the reported `add` pending.
    Counterexample without it: one tag with `unc = []`, `next = all = 0`, `jImport = some (0, [])`, event
    `importDone 1 1 [(0,[0])] [] [] []`: afterwards `next = 1`, the tag decides stream 0 (answer "no")
    although nobody evaluated it (formal: `importAddsNew_counterexample`, Pk/Proofs/MgrTruthCexAddsNew.lean). -/
def ImportAddsNew (s : St) : Ev → Prop
  | .importDone _ u _ _ _ add => ∀ jn held, s.jImport = some (jn, held) → ∀ id, jn ≤ id → id < jn + u → id ∈ add
  | _ => True

/-- the search-result contract: the result handed to a tagging completion is the truth AT THE TIME THE JOB
    STARTED (the ghost `g`), restricted to the streams the job was asked about -/
def ResultOK (s : St) (e : Ev) (g : Truth) : Prop :=
  match e with
  | .tagDone name result =>
    ∀ snap held, s.jTag = some (name, snap, held) → ∀ id, id ∈ result ↔ (id ∈ snap.unc ∧ g name id = true)
  | _ => True

/-- `query.FeatureFilterTags`: the feature bit `query.Features()` sets for every tag condition -/
def fTags : Nat := 64

/-- a definition that references a tag in its main query reports the feature bit `FeatureFilterTags` in
    its main features, one that references a tag in a sub-query reports it in its sub-query features.  This
    is what makes the during-job mask `rst` effective for referrers: a mark update records the touched
    streams in `rst` and restores the mark tag's own pending set afterwards; at the completion of a job for
    a tag that references the mark tag DIRECTLY, `rst` is applied only if the definition looks at more than
    ids (sub-query reference: only if it has sub-query features).  On the model, with facts that violate the
    clause: mark/m = "id:0", tag/x with mainT = [mark/m], mfeat = 0, x's job in flight with result [0];
    `markDel mark/m [0]`; `tagDone tag/x [0]` leaves x with mat = [0], unc = [] although stream 0 is no longer
    in mark/m (formal: `featRefOK_counterexample`, Pk/Proofs/MgrTruthCexFeat.lean). -/
def FeatRefOK (f : Facts) : Prop :=
  (f.main ≠ [] → f.mfeat &&& fTags ≠ 0) ∧ (f.sub ≠ [] → f.sfeat &&& fTags ≠ 0)

def EvFeatOK : Ev → Prop
  | .addTag _ _ _ f => FeatRefOK f
  | .updQuery _ _ f => FeatRefOK f
  | _ => True

def TagFeat (t : Tag) : Prop :=
  (t.mainT ≠ [] → t.mfeat &&& fTags ≠ 0) ∧ (t.subT ≠ [] → t.sfeat &&& fTags ≠ 0)

/-- state invariant: every tag of the table and the snapshot of the job in flight carry the tag-reference
    feature (preserved by `step` under `EvFeatOK`: `tagFeat_step`) -/
def TagFeatInv (s : St) : Prop :=
  (∀ n t, sget s.tags n = some t → TagFeat t) ∧
  (∀ jn snap held, s.jTag = some (jn, snap, held) → TagFeat snap)

/-- a tag whose job is in flight and that references a mark tag directly is subject to `rst`.  Not a
    hypothesis: it follows from `TagFeatInv` (`markRefOK_of_feat`) -/
def MarkRefOK (s : St) (e : Ev) : Prop :=
  match e with
  | .markAdd name _ | .markDel name _ =>
    ∀ jn snap held, s.jTag = some (jn, snap, held) →
      (name ∈ snap.mainT → F254 snap) ∧ (name ∈ snap.subT → snap.sfeat ≠ 0)
  | _ => True

/-- state invariant: the identities (`gen`, the number of the creating `AddTag` call) in use are below the
    counter `ngen` — so a tag created later never has the identity of the snapshot of the job in flight — and
    two different names never carry the same identity (preserved by `step`: `genInv_step`) -/
def GenInv (s : St) : Prop :=
  (∀ n t, sget s.tags n = some t → t.gen < s.ngen) ∧
  (∀ jn snap held, s.jTag = some (jn, snap, held) → snap.gen < s.ngen) ∧
  (∀ n1 t1 n2 t2, sget s.tags n1 = some t1 → sget s.tags n2 = some t2 → t1.gen = t2.gen → n1 = n2)

-- The completion of a tagging job publishes its result iff the tag of that name carries the identity `gen`
-- AND the definition TEXT of the snapshot.  The identity rules out deletion and re-creation (F54; that trace is
-- safe: `aba_now_safe`).  What the identity cannot rule out is an edit that puts the snapshot's TEXT back on the
-- same incarnation; the abstract truth is indexed by names, not by texts, so two clauses remain:
--  * `updQuery` (of the incarnation the job was started for) back to the text of the snapshot records
--    `rst = all streams`, which covers everything provided the definition looks at more than ids or has
--    sub-query features (for a definition that looks at ids only the old answers are in fact still right —
--    same text, same id list — but the abstract truth does not know that);
--  * a mark update on the incarnation the job was started for that leaves the snapshot's text in place is a
--    no-op for that tag (it had the text before and its truth does not change).  (A mark update normally
--    changes the text; the text stays only if no listed stream is new resp. recorded.)
/-- edits of the tag the job in flight was started for do not put the snapshot's definition text back -/
def JobTextOK (s : St) (e : Ev) (st : Started) (T T' : Truth) : Prop :=
  ∀ jn snap held, s.jTag = some (jn, snap, held) →
    match e with
    | .updQuery name d _ =>
      ∀ t, sget s.tags name = some t → t.gen = snap.gen → d = snap.defn → (step s e st).2 = Res.ok →
        (F254 snap ∨ snap.sfeat ≠ 0)
    | .markAdd name _ | .markDel name _ =>
      ∀ t, sget s.tags name = some t → t.gen = snap.gen →
        (∃ t', sget (step s e st).1.tags name = some t' ∧ t'.defn = snap.defn) →
        t.defn = snap.defn ∧ ∀ id, id < s.next → T' name id = T name id
    | _ => True

/-- the ghost after an event: the truth at the start of the job in flight.  A job starts at the end of an
    event during which none was in flight, or at the end of a tagging completion. -/
def ghostNext (s : St) (e : Ev) (T' g : Truth) : Truth :=
  if s.jTag.isNone then T' else
    match e with
    | .tagDone _ _ => T'
    | _ => g

def masksNE (s : St) : Prop := s.upd ≠ [] ∨ s.rst ≠ [] ∨ s.add ≠ []

/-- stream `id` is made pending by the during-job masks alone when the job's tag is published -/
def CovM (s : St) (snap : Tag) (id : Nat) : Prop :=
  id ∈ s.add ∨ (snap.sfeat ≠ 0 ∧ masksNE s) ∨ (id ∈ s.rst ∧ F254 snap) ∨ (id ∈ s.upd ∧ FDT snap)

/-- … or by the sweep that follows (it runs only if some mask is non-empty) -/
def Cov (s : St) (snap : Tag) (id : Nat) : Prop :=
  CovM s snap id ∨
  (masksNE s ∧ ((∃ r, r ∈ snap.mainT ∧ Pend s.tags r id) ∨ (∃ r, r ∈ snap.subT ∧ ∃ id', Pend s.tags r id')))

/-- the answer the completion is going to publish for stream `id` -/
def Ans (snap : Tag) (g : Nat → Bool) (id : Nat) : Bool := if id ∈ snap.unc then g id else decide (id ∈ snap.mat)

/-- while the incarnation the job in flight was started for (the tag with the identity `gen` of the snapshot,
    under whatever name it has now) carries the snapshot's text: every stream on which the answer to be
    published differs from the current truth is covered by the masks -/
def JobInv (s : St) (T g : Truth) : Prop :=
  ∀ jn snap held n ot, s.jTag = some (jn, snap, held) → sget s.tags n = some ot → ot.gen = snap.gen →
    ot.defn = snap.defn →
    (∀ id, id < s.next → CovM s snap id) ∨
    (Attrs ot = Attrs snap ∧ ∀ id, id < s.next → T n id ≠ Ans snap (g jn) id → Cov s snap id)

structure Good (s : St) (T g : Truth) : Prop where
  reach : Reach s
  acyclic : C09.Acyclic s
  gens : GenInv s
  feats : TagFeatInv s
  inv : C06.Inv s T
  job : JobInv s T g

structure StepOK (s : St) (T g : Truth) (e : Ev) (st : Started) (T' : Truth) : Prop where
  payload : PayloadOK s e
  featOK : EvFeatOK e
  addsNew : ImportAddsNew s e
  truth : TruthStep s e T T'
  result : ResultOK s e g
  jobText : JobTextOK s e st T T'

/-- a history: events with the tagging choices the implementation made, annotated with the ground truth
    after each event -/
abbrev Hist := List (Ev × Started × Truth)

def RunOK (s : St) (T g : Truth) : Hist → Prop
  | [] => True
  | (e, st, T') :: rest => StepOK s T g e st T' ∧ RunOK (step s e st).1 T' (ghostNext s e T' g) rest

def runSt (s : St) : Hist → St
  | [] => s
  | (e, st, _) :: rest => runSt (step s e st).1 rest
def runT (T : Truth) : Hist → Truth
  | [] => T
  | (_, _, T') :: rest => runT T' rest
def runG (s : St) (g : Truth) : Hist → Truth
  | [] => g
  | (e, st, T') :: rest => runG (step s e st).1 (ghostNext s e T' g) rest

def initSt (convs : List String) : St :=
  { convs := convs, toconv := convs.map (fun c => (c, [])), cached := convs.map (fun c => (c, [])) }

theorem inv_congr {s : St} {T T' : Truth} (h : C06.Inv s T) (hs : SameOn s T T') : C06.Inv s T' := by
  intro n t ht id hid hnu
  rw [hs n t ht id hid]
  exact h n t ht id hid hnu

theorem jobInv_congr {s : St} {T T' g : Truth} (h : JobInv s T g) (hs : SameOn s T T') : JobInv s T' g := by
  intro jn snap held n ot hj hot hg hd
  rcases h jn snap held n ot hj hot hg hd with h1 | ⟨h2, h4⟩
  · exact Or.inl h1
  · refine Or.inr ⟨h2, fun id hid hne => h4 id hid ?_⟩
    rw [← hs n ot hot id hid]; exact hne

end Pk.Props.C06Reach
