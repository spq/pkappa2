/-
  C16Reach — "converter output always belongs to the stream's current data" (C16) over whole histories.

  `Pk/Props/C16.lean` holds the single-step facts; this file closes the property over every history of events
  (API calls and job completions in any order) from the initial state.  The model has no payload bytes, so the
  statement uses GHOST VERSIONS:
    `ver  : Nat → Nat`           the current version of the data of stream `id`;
    `cver : String → Nat → Nat`  the version from which the cached output of converter `c` for `id` was computed.
  The run relation moves `ver` as the contract `VerStep` allows (a promise about what the builder reports, like
  `C06Reach.TruthStep`) and updates `cver` where the model caches (`ghostNext`): the converter job that starts
  inside a step (`startConverter` runs after the event's own effect) converts from the files served at that
  moment, i.e. from the versions AFTER the event.

  Proved from `PayloadOK` (MgrReach) and `VerStep` alone:
   (1) `cached_current_run` — in every state reached, cached output was computed from the current data;
   (2) `output_exists_run`, `output_current_when_idle` — every existing stream that matches a tag with converter
       `c` attached is cached or queued for `c`; in an idle state it is cached, from its current data;
   (3) `detach_stops_all_runs` — after the detach of `c` from its last tag nothing is cached, queued or converted
       for `c` until it is attached again.  This rests on `detachConv` keeping queued only what the OTHER tags
       with the converter match; a detach that removes only the tag's current matches from the queue leaves
       stale entries that are converted later (finding F57, repaired in `detachConverterFromTag`;
       `detach_stale_run_now_safe` evaluates the history that showed it).

  Two choices in the statement are forced, each by a counterexample below:
   * `Changed` (hence `VerStep`) lets the version of a stream move only at the completion of an import job in
     flight that wrote a file: `changed_needs_created_counterexample`.  (The "increases" half of `VerStep` is not
     used by the proofs: (1) needs only "what is not reported keeps its version".)
   * `ghostNext` sets `cver` on the set the converter job started inside the step holds (`convertedNow`), not on
     the difference of the caches before and after the step: `naive_ghost_counterexample`.

  A conversion still running inside the job goroutine while an import completes is not expressible in this model
  (the model converts at job start); see the head of C16.lean.
-/
import Pk.Props.C16
import Pk.Props.MgrSpec
import Pk.Props.MgrReach
import Pk.Props.C09Settles
import Pk.Proofs.MgrConvRun
import Pk.Proofs.MgrConvRunExample
import Pk.Proofs.MgrConvRunDetach
import Pk.Proofs.MgrConcrete
import Pk.Proofs.MgrTruthFrame

namespace Pk.Props.C16Reach
open Pk.Mgr Pk.Props.MgrReach Pk.Props.C16 Pk.Proofs.MgrConvRun

abbrev CVer := String → Nat → Nat

/-- a converter job started inside this step (`startConverterJobIfNeeded` ran at the end of the event's
    closure): the flag went up; for a converter completion: the completed job was replaced by a new one -/
def jobStarted (s : St) (e : Ev) (s' : St) : Bool :=
  match e with
  | .convertDone => s.jConv.isSome && s'.convert
  | _ => !s.convert && s'.convert

/-- the model cached output of converter `c` for stream `id` in this step: a converter job started inside the
    step and `id` is in the set the job holds for `c` (`remaining` of `startConverter`: the streams the job
    converted, i.e. requested, found in the files it holds, and not cached already) -/
def convertedNow (s : St) (e : Ev) (st : Started) (c : String) (id : Nat) : Bool :=
  jobStarted s e (step s e st).1 &&
    match (step s e st).1.jConv with
    | some (sets, _) => sets.any (fun p => p.1 == c && p.2.contains id)
    | none => false

/-- the ghost after an event: the job that starts inside the step converts from the files the service serves
    at that moment, i.e. from the versions AFTER the event; all other entries keep their version -/
def ghostNext (s : St) (e : Ev) (st : Started) (ver' : Ver) (cver : CVer) : CVer :=
  fun c id => if convertedNow s e st c id then ver' id else cver c id

def CachedCurrent (s : St) (ver : Ver) (cver : CVer) : Prop :=
  ∀ c id, id ∈ cachedOf s c → cver c id = ver id

def CachedKeys (s : St) : Prop := ∀ c, c ∉ s.convs → cachedOf s c = []

def CachedBounded (s : St) : Prop := ∀ c id, id ∈ cachedOf s c → id < s.next

structure Good (s : St) (ver : Ver) (cver : CVer) : Prop where
  reach : Reach s
  acyclic : C09.Acyclic s
  plain : C09.ConvPlain s
  keys : CachedKeys s
  bounded : CachedBounded s
  current : CachedCurrent s ver cver

structure StepOK (s : St) (ver : Ver) (e : Ev) (ver' : Ver) : Prop where
  payload : PayloadOK s e
  vers : VerStep s e ver ver'

/-- a history: events with the tagging choices the implementation made, annotated with the versions after
    each event -/
abbrev Hist := List (Ev × Started × Ver)

def RunOK (s : St) (ver : Ver) : Hist → Prop
  | [] => True
  | (e, st, ver') :: rest => StepOK s ver e ver' ∧ RunOK (step s e st).1 ver' rest

def runSt (s : St) : Hist → St
  | [] => s
  | (e, st, _) :: rest => runSt (step s e st).1 rest
def runV (ver : Ver) : Hist → Ver
  | [] => ver
  | (_, _, ver') :: rest => runV ver' rest
def runC (s : St) (cver : CVer) : Hist → CVer
  | [] => cver
  | (e, st, ver') :: rest => runC (step s e st).1 (ghostNext s e st ver' cver) rest

instance (s : St) (e : Ev) (id : Nat) : Decidable (Changed s e id) := by unfold Changed; split <;> infer_instance
instance (s : St) (e : Ev) (ver ver' : Ver) : Decidable (VerStep s e ver ver') := by unfold VerStep; infer_instance

/-- one event of a concrete run: the step equation moves the run from `s` to `s'`, and the contract of the event is a
    finite check (`PayloadCheck`, `VerStep` below `s.next`) -/
private theorem runOK_step {s s' : St} {e : Ev} {st : Started} {r : Res} (h : step s e st = (s', r)) {ver v : Ver}
    {rest : Hist} (c : PayloadCheck s e ∧ VerStep s e ver v) (hr : RunOK s' v rest) :
    RunOK s ver ((e, st, v) :: rest) := by
  refine ⟨⟨payloadOK_of_check c.1, c.2⟩, ?_⟩
  rw [h]
  exact hr

private theorem inSets_iff (sets : List (String × IdSet)) (c : String) (id : Nat) :
    sets.any (fun p => p.1 == c && p.2.contains id) = true ↔ inSets sets c id := by
  simp only [List.any_eq_true, Bool.and_eq_true, beq_iff_eq, List.contains_iff_mem, inSets]

/-- the flag was down in the state the event's caches are compared with, and is up afterwards -/
private theorem jobStarted_eq (s : St) (e : Ev) (st : Started) :
    jobStarted s e (step s e st).1 = (!(ctBase s e).convert && (step s e st).1.convert) := by
  cases e with
  | convertDone =>
    cases hj : s.jConv with
    | none => rw [step_convertDone_none s st hj]; simp [jobStarted, ctBase, hj]
    | some q => simp [jobStarted, ctBase, hj]
  | _ => rfl

/-- `step_ct` read through `convertedNow`: no converter job started inside the step and nothing is converted, or one
    did and `convertedNow` is membership in the sets it holds -/
private theorem convertedNow_ct (s : St) (e : Ev) (st : Started) :
    (Quiet (Changed s e) (ctBase s e) (step s e st).1 ∧ ∀ c id, convertedNow s e st c id = false) ∨
    (Began (Changed s e) (ctBase s e) (step s e st).1 ∧ ∀ sets held, (step s e st).1.jConv = some (sets, held) →
      ∀ c id, convertedNow s e st c id = true ↔ inSets sets c id) := by
  have hjs := jobStarted_eq s e st
  rcases step_ct s e st with hq | hb
  · refine .inl ⟨hq, fun c id => ?_⟩
    rw [convertedNow, hjs, hq.convert, Bool.not_and_self, Bool.false_and]
  · refine .inr ⟨hb, fun sets held hj c id => ?_⟩
    rw [convertedNow, hjs, hb.off, hb.on, hj]
    exact inSets_iff sets c id

theorem converted_cached (s : St) (e : Ev) (st : Started) (c : String) (id : Nat)
    (h : convertedNow s e st c id = true) :
    id ∈ cachedOf (step s e st).1 c ∧ c ∈ s.convs ∧
    ∃ sets held, (step s e st).1.jConv = some (sets, held) ∧ ∃ p ∈ sets, p.1 = c ∧ id ∈ p.2 := by
  rcases convertedNow_ct s e st with ⟨_, h0⟩ | ⟨hb, hcn⟩
  · rw [h0] at h; cases h
  · obtain ⟨sets, held, hj, hin, _⟩ := hb.job
    have hi := (hcn sets held hj c id).1 h
    exact ⟨(hin c id hi).1, (ctBase_keep s e).2 ▸ (hin c id hi).2, sets, held, hj, hi⟩

/-- an entry of the cache after the event was either converted inside this step, or it is an old entry of a
    stream the event did not change: the case split on which `cached_current_step` rests -/
theorem cached_step_cases (s : St) (e : Ev) (st : Started) (hk : CachedKeys s) (c : String) (id : Nat)
    (h : id ∈ cachedOf (step s e st).1 c) :
    convertedNow s e st c id = true ∨ (convertedNow s e st c id = false ∧ id ∈ cachedOf s c ∧ ¬ Changed s e id) := by
  obtain ⟨hca, hcv⟩ := ctBase_keep s e
  have hold : id ∈ Pk.Proofs.MgrConv.cOf (ctBase s e) c ∧ (c ∈ (ctBase s e).convs → ¬ Changed s e id) →
      id ∈ cachedOf s c ∧ ¬ Changed s e id := by
    rintro ⟨h1, h2⟩
    have h1' : id ∈ cachedOf s c := by simpa only [cachedOf, Pk.Proofs.MgrConv.cOf, hca] using h1
    refine ⟨h1', fun hch => ?_⟩
    by_cases hc : c ∈ s.convs
    · exact h2 (hcv ▸ hc) hch
    · rw [hk c hc] at h1'; cases h1'
  rcases convertedNow_ct s e st with ⟨hq, h0⟩ | ⟨hb, hcn⟩
  · exact .inr ⟨h0 c id, hold (hq.sub c id h)⟩
  · obtain ⟨sets, held, hj, _, hsub⟩ := hb.job
    cases hx : convertedNow s e st c id with
    | true => exact .inl rfl
    | false =>
      refine .inr ⟨rfl, (hsub c id h).elim hold fun hi => ?_⟩
      rw [(hcn sets held hj c id).2 hi] at hx; cases hx

theorem convs_step (s : St) (e : Ev) (st : Started) : (step s e st).1.convs = s.convs :=
  step_convs s e st

theorem cachedKeys_step (s : St) (e : Ev) (st : Started) (hk : CachedKeys s) : CachedKeys (step s e st).1 := by
  intro c hc
  rw [convs_step] at hc
  cases hl : cachedOf (step s e st).1 c with
  | nil => rfl
  | cons id r =>
    exfalso
    have hmem : id ∈ cachedOf (step s e st).1 c := by rw [hl]; exact List.mem_cons_self
    rcases cached_step_cases s e st hk c id hmem with h | ⟨_, h, _⟩
    · exact hc (converted_cached s e st c id h).2.1
    · rw [hk c hc] at h; cases h

theorem cachedBounded_step (s : St) (e : Ev) (st : Started) (hr : Reach s) (hok : PayloadOK s e)
    (hk : CachedKeys s) (hb : CachedBounded s) : CachedBounded (step s e st).1 := by
  have hr' := reach_step s e st hr hok
  intro c id hid
  rcases cached_step_cases s e st hk c id hid with h | ⟨_, h, _⟩
  · obtain ⟨_, _, sets, held, hj, p, hp, _, hip⟩ := converted_cached s e st c id h
    have := hr'.jobUnc.2.2.2.2.2 sets held hj p hp id hip
    exact Nat.lt_of_lt_of_le this hr'.allLeNext
  · exact Nat.lt_of_lt_of_le (hb c id h) (Pk.Proofs.MgrReach.next_mono s e st hr.importJob)

/-- ONE EVENT (1): cached output belongs to the current data after every event whose payload is admissible
    and along which the versions move as the contract `VerStep` says -/
theorem cached_current_step (s : St) (e : Ev) (st : Started) (ver ver' : Ver) (cver : CVer)
    (hg : Good s ver cver) (hok : StepOK s ver e ver') :
    Good (step s e st).1 ver' (ghostNext s e st ver' cver) := by
  refine ⟨reach_step s e st hg.reach hok.payload, C09.acyclic_step s e st hg.reach hok.payload hg.acyclic,
    C09.convPlain_step s e st hg.reach hg.plain, cachedKeys_step s e st hg.keys,
    cachedBounded_step s e st hg.reach hok.payload hg.keys hg.bounded, ?_⟩
  intro c id hid
  unfold ghostNext
  rcases cached_step_cases s e st hg.keys c id hid with h | ⟨h1, h2, h3⟩
  · rw [if_pos h]
  · rw [h1]
    simp only [Bool.false_eq_true, if_false]
    rw [hg.current c id h2, ((hok.vers id (hg.bounded c id h2)).2 h3)]

theorem good_init (convs : List String) (ver : Ver) (cver : CVer) : Good (initSt convs) ver cver := by
  have hc : ∀ c, cachedOf (initSt convs) c = [] := by
    intro c
    simp only [cachedOf, initSt, sget]
    induction convs with
    | nil => rfl
    | cons a r ih =>
      simp only [List.map_cons, List.find?_cons]
      split
      · rfl
      · exact ih
  refine ⟨reach_init convs, rfl, C09.convPlain_init convs, fun c _ => hc c, ?_, ?_⟩
  · intro c id h; rw [hc] at h; cases h
  · intro c id h; rw [hc] at h; cases h

theorem good_run (s : St) (ver : Ver) (cver : CVer) (h : Hist) (hg : Good s ver cver) (hh : RunOK s ver h) :
    Good (runSt s h) (runV ver h) (runC s cver h) := by
  induction h generalizing s ver cver with
  | nil => exact hg
  | cons a rest ih =>
    obtain ⟨e, st, ver'⟩ := a
    exact ih _ _ _ (cached_current_step s e st ver ver' cver hg hh.1) hh.2

theorem runOK_prefix (s : St) (ver : Ver) (h1 h2 : Hist) (hh : RunOK s ver (h1 ++ h2)) : RunOK s ver h1 := by
  induction h1 generalizing s ver with
  | nil => trivial
  | cons a rest ih =>
    obtain ⟨e, st, ver'⟩ := a
    exact ⟨hh.1, ih _ _ hh.2⟩

/-- EVERY HISTORY (1): for every history of events (API calls and job completions in any order) from the
    initial state whose payloads are admissible and along which the versions move as `VerStep` says, in the
    state reached — and, every prefix of such a history being one, in every state on the way
    (`cached_current_everywhere`) — cached converter output was computed from the CURRENT data of its stream -/
theorem cached_current_run (convs : List String) (ver0 : Ver) (cver0 : CVer) (h : Hist)
    (hh : RunOK (initSt convs) ver0 h) :
    ∀ c id, id ∈ cachedOf (runSt (initSt convs) h) c → runC (initSt convs) cver0 h c id = runV ver0 h id :=
  (good_run _ _ _ h (good_init convs ver0 cver0) hh).current

theorem cached_current_everywhere (convs : List String) (ver0 : Ver) (cver0 : CVer) (h1 h2 : Hist)
    (hh : RunOK (initSt convs) ver0 (h1 ++ h2)) :
    ∀ c id, id ∈ cachedOf (runSt (initSt convs) h1) c → runC (initSt convs) cver0 h1 c id = runV ver0 h1 id :=
  cached_current_run convs ver0 cver0 h1 (runOK_prefix _ _ h1 h2 hh)

/-- EVERY HISTORY (2a): in every state reached, every existing stream that matches a tag with converter `c`
    attached is cached or queued for `c` -/
theorem output_exists_run (convs : List String) (ver0 : Ver) (h : Hist) (hh : RunOK (initSt convs) ver0 h) :
    Accounted (runSt (initSt convs) h) :=
  (good_run _ _ _ h (good_init convs ver0 (fun _ _ => 0)) hh).reach.accounted

/-- when no further API calls arrive, every run of job completions (`C09.CStep`) is finite, so an idle state, to
    which (2b) below applies, is reached -/
theorem completions_settle (s : St) : Acc C09.CStep s := C09.settles.apply s

/-- (2b) in a state that satisfies the invariants and has no job in flight, every existing stream that matches a
    tag with converter `c` attached HAS cached output of `c`, computed from its current data -/
theorem output_current_idle (s : St) (ver : Ver) (cver : CVer) (hg : Good s ver cver) (hi : C09.Idle s)
    (n : String) (t : Tag) (ht : sget s.tags n = some t) (c : String) (hc : c ∈ t.convs)
    (id : Nat) (hm : id ∈ t.mat) (hid : id < s.next) :
    id ∈ cachedOf s c ∧ cver c id = ver id := by
  have hq := (C09.idle_is_quiescent _ hg.reach hi hg.acyclic).2.2 c (hg.reach.convsWF n t ht c hc)
  have hin : id ∈ cachedOf s c := by
    rcases hg.reach.accounted n t ht c hc id hm hid with h1 | h1
    · exact h1
    · have : queuedOf s c = [] := hq
      rw [this] at h1; cases h1
  exact ⟨hin, hg.current c id hin⟩

/-- EVERY HISTORY (2b): … in particular in every idle state reached from the initial state -/
theorem output_current_when_idle (convs : List String) (ver0 : Ver) (cver0 : CVer) (h : Hist)
    (hh : RunOK (initSt convs) ver0 h) (hi : C09.Idle (runSt (initSt convs) h))
    (n : String) (t : Tag) (ht : sget (runSt (initSt convs) h).tags n = some t) (c : String) (hc : c ∈ t.convs)
    (id : Nat) (hm : id ∈ t.mat) (hid : id < (runSt (initSt convs) h).next) :
    id ∈ cachedOf (runSt (initSt convs) h) c ∧ runC (initSt convs) cver0 h c id = runV ver0 h id :=
  output_current_idle _ _ _ (good_run _ _ _ h (good_init convs ver0 cver0) hh) hi n t ht c hc id hm hid

def Unattached (s : St) (c : String) : Prop := ∀ n t, sget s.tags n = some t → c ∉ t.convs

def Held (s : St) (c : String) (id : Nat) : Prop := id ∈ cachedOf s c ∨ id ∈ queuedOf s c

/-- the event attaches converter `c` to a tag: an ACCEPTED `updConv` call whose selection contains `c`
    (the only place where the service attaches converters) -/
def Attaches (s : St) (e : Ev) (st : Started) (c : String) : Prop :=
  match e with
  | .updConv _ cs => c ∈ cs ∧ (step s e st).2 ≠ Res.err
  | _ => False

def NoAttach (c : String) (s : St) : Hist → Prop
  | [] => True
  | (e, st, _) :: rest => ¬ Attaches s e st c ∧ NoAttach c (step s e st).1 rest

/-- (3, the moment of the detach) `detachConv` for the LAST tag that has `c` attached: afterwards `c` is attached to
    no tag, its cache is empty and its queue is empty (only what OTHER tags with `c` match stays queued), whatever
    the tagging choice: the dropped-output step that `detachConv` runs then caches and queues nothing -/
theorem detach_last (s : St) (n c : String) (t : Tag) (hw : C06.TagsWF s) (ht : sget s.tags n = some t)
    (hoth : ∀ n2 t2, sget s.tags n2 = some t2 → n2 ≠ n → c ∉ t2.convs) (choice : Option String := none) :
    Unattached (detachConv s n c choice) c ∧ cachedOf (detachConv s n c choice) c = [] ∧
      queuedOf (detachConv s n c choice) c = [] :=
  Pk.Proofs.MgrConvRun.detach_last s n c t choice hw ht hoth

/-- … so nothing at all is held for `c` afterwards, whether or not a converter job is in flight -/
theorem detach_last_clean (s : St) (n c : String) (t : Tag) (hw : C06.TagsWF s) (ht : sget s.tags n = some t)
    (hoth : ∀ n2 t2, sget s.tags n2 = some t2 → n2 ≠ n → c ∉ t2.convs) (choice : Option String := none) :
    Unattached (detachConv s n c choice) c ∧ ∀ id, ¬ Held (detachConv s n c choice) c id := by
  obtain ⟨h1, h2, h3⟩ := detach_last s n c t hw ht hoth choice
  refine ⟨h1, fun id hh => ?_⟩
  rcases hh with h | h
  · rw [h2] at h; cases h
  · rw [h3] at h; cases h

def Detaches (e : Ev) (name c : String) : Prop :=
  (∃ cs, e = .updConv name cs ∧ c ∉ cs) ∨ e = .delTag name

/-- (3, the detaching EVENT) an accepted `updConv` that deselects `c` on the last tag that has it, or an accepted
    `delTag` of that tag — ALSO while a converter job is in flight: in the state after the event `c` is attached to
    no tag, nothing is cached and nothing is queued for it -/
theorem detach_event_clean (s : St) (e : Ev) (st : Started) (c name : String) (t : Tag) (hw : C06.TagsWF s)
    (he : Detaches e name c) (ht : sget s.tags name = some t) (hc : c ∈ t.convs)
    (hoth : ∀ n2 t2, sget s.tags n2 = some t2 → n2 ≠ name → c ∉ t2.convs)
    (hacc : (step s e st).2 ≠ Res.err) :
    Unattached (step s e st).1 c ∧ ∀ id, ¬ Held (step s e st).1 c id := by
  rcases he with ⟨cs, rfl, hcs⟩ | rfl
  · exact updConv_detach_clean c s st name cs t hw ht hc hcs hoth hacc
  · exact delTag_detach_clean c s st name t hw ht hc hoth hacc

/-- ONE EVENT (3): while `c` is attached to no tag, every event that does not attach it leaves it unattached and
    adds NOTHING to what `c` holds: a stream cached or queued for `c` afterwards was cached or queued before
    (entries only move between the cache and the queue — an import re-queues changed streams, a converter job
    drains the queue — or disappear); a conversion for `c` inside the step is the conversion of such an entry -/
theorem detach_no_new_runs_step (s : St) (e : Ev) (st : Started) (c : String)
    (hu : Unattached s c) (hna : ¬ Attaches s e st c) :
    Unattached (step s e st).1 c ∧ (∀ id, Held (step s e st).1 c id → Held s c id) ∧
    (∀ id, convertedNow s e st c id = true → Held s c id) := by
  have huq : UQ c s (step s e st).1 := by
    by_cases h : ∃ n cs, e = .updConv n cs ∧ c ∈ cs
    · obtain ⟨n, cs, rfl, hc⟩ := h
      have herr : (step s (.updConv n cs) st).2 = Res.err :=
        Classical.byContradiction fun hne => hna ⟨hc, hne⟩
      rw [Pk.Proofs.MgrTruth.step_rejected s _ st herr]
      exact UQ.refl _ _
    · exact step_uq c s e st (fun n cs he hc => h ⟨n, cs, he, hc⟩)
  refine ⟨huq.tags hu, huq.held hu, fun id hc => ?_⟩
  exact huq.held hu id (Or.inl (converted_cached s e st c id hc).1)

/-- EVERY HISTORY (3): from a state in which `c` is attached to no tag, along every history that does not attach it
    again: `c` stays unattached and holds, in the state reached, only streams it held at the start -/
theorem detach_no_new_runs (s : St) (c : String) (h : Hist) (hu : Unattached s c) (hna : NoAttach c s h) :
    Unattached (runSt s h) c ∧ ∀ id, Held (runSt s h) c id → Held s c id := by
  induction h generalizing s with
  | nil => exact ⟨hu, fun _ h => h⟩
  | cons a rest ih =>
    obtain ⟨e, st, ver'⟩ := a
    obtain ⟨h1, h2, _⟩ := detach_no_new_runs_step s e st c hu hna.1
    obtain ⟨h3, h4⟩ := ih _ h1 hna.2
    exact ⟨h3, fun id hh => h2 id (h4 id hh)⟩

/-- EVERY HISTORY (3, clean detach): if `c` holds nothing when it becomes unattached (`detach_last_clean`), then as
    long as it is not attached again nothing is ever cached or queued for it, and no event converts anything for
    it: there are no further runs of `c` -/
theorem detach_no_runs_when_clean (s : St) (c : String) (h : Hist) (hu : Unattached s c)
    (hclean : ∀ id, ¬ Held s c id) (hna : NoAttach c s h) :
    (∀ id, ¬ Held (runSt s h) c id) ∧
    ∀ (e : Ev) (st : Started), ¬ Attaches (runSt s h) e st c → ∀ id, convertedNow (runSt s h) e st c id = false := by
  obtain ⟨h1, h2⟩ := detach_no_new_runs s c h hu hna
  refine ⟨fun id hh => hclean id (h2 id hh), fun e st hne id => ?_⟩
  cases hx : convertedNow (runSt s h) e st c id with
  | false => rfl
  | true =>
    exact absurd (h2 id ((detach_no_new_runs_step _ e st c h1 hne).2.2 id hx)) (hclean id)

private theorem nil_of_not_mem {l : List Nat} (h : ∀ id, id ∉ l) : l = [] :=
  List.eq_nil_iff_forall_not_mem.2 h

/-- (3) DETACHING STOPS FURTHER RUNS.  After an accepted event that detaches `c` from its LAST tag (`updConv` or
    `delTag`; also when a converter job is in flight at that moment): right after the event the cache and the queue
    of `c` are empty, and for EVERY later history that does not attach `c` again: in the state reached `c` is still
    attached to no tag, nothing is cached and nothing is queued for it, and no event taken there (that does not
    attach it) converts anything for it.  (All prefixes of the later history being such histories, this holds in
    every state on the way; the completion of the job that was in flight at the detach is one of the later
    events: `inflight_completion_harmless`.) -/
theorem detach_stops_all_runs (s : St) (e : Ev) (st : Started) (c name : String) (t : Tag) (hw : C06.TagsWF s)
    (he : Detaches e name c) (ht : sget s.tags name = some t) (hc : c ∈ t.convs)
    (hoth : ∀ n2 t2, sget s.tags n2 = some t2 → n2 ≠ name → c ∉ t2.convs)
    (hacc : (step s e st).2 ≠ Res.err) :
    (cachedOf (step s e st).1 c = [] ∧ queuedOf (step s e st).1 c = []) ∧
    ∀ h : Hist, NoAttach c (step s e st).1 h →
      Unattached (runSt (step s e st).1 h) c ∧
      cachedOf (runSt (step s e st).1 h) c = [] ∧ queuedOf (runSt (step s e st).1 h) c = [] ∧
      ∀ (e' : Ev) (st' : Started), ¬ Attaches (runSt (step s e st).1 h) e' st' c →
        ∀ id, convertedNow (runSt (step s e st).1 h) e' st' c id = false := by
  obtain ⟨h1, h2⟩ := detach_event_clean s e st c name t hw he ht hc hoth hacc
  refine ⟨⟨nil_of_not_mem fun id h => h2 id (Or.inl h), nil_of_not_mem fun id h => h2 id (Or.inr h)⟩, ?_⟩
  intro h hna
  obtain ⟨h3, h4⟩ := detach_no_runs_when_clean _ c h h1 h2 hna
  exact ⟨(detach_no_new_runs _ c h h1 hna).1, nil_of_not_mem fun id hh => h3 id (Or.inl hh),
    nil_of_not_mem fun id hh => h3 id (Or.inr hh), h4⟩

/-- THE JOB THAT WAS IN FLIGHT AT THE DETACH may still complete, and its completion reports a set for `c` (the
    streams it converted for `c` before the detach).  What `convertDone` does with a reported set `(c, ids)` of a
    configured converter: tags whose definition looks at converted DATA become pending on `ids` (main query) resp.
    everywhere (sub-query), and `ids` is added to the during-job mask `upd` — tags, not converters.  It neither
    caches nor queues anything for `c`: while `c` is attached to no tag and holds nothing, after the completion it
    still holds nothing, is still attached to no tag, and the converter job that may start at the end of the
    completion converts nothing for it. -/
theorem inflight_completion_harmless (s : St) (st : Started) (c : String) (hu : Unattached s c)
    (hclean : ∀ id, ¬ Held s c id) :
    Unattached (step s .convertDone st).1 c ∧ (∀ id, ¬ Held (step s .convertDone st).1 c id) ∧
    ∀ id, convertedNow s .convertDone st c id = false := by
  obtain ⟨h1, h2, h3⟩ := detach_no_new_runs_step s .convertDone st c hu (fun h => h)
  refine ⟨h1, fun id hh => hclean id (h2 id hh), fun id => ?_⟩
  cases hx : convertedNow s .convertDone st c id with
  | false => rfl
  | true => exact absurd (h3 id hx) (hclean id)

section example_
open Pk.Proofs.MgrConvRunExample

/-- the versions of the example: every stream starts with version 1; the second import bumps stream 0 to 2 -/
def exV1 : Ver := fun _ => 1
def exV2 : Ver := fun id => if id = 0 then 2 else 1

/-- import a stream, tag it, attach the converter (its job starts and converts stream 0), the job completes;
    then an import that updates stream 0 (events and states: Pk/Proofs/MgrConvRunExample.lean) -/
def exHist1 : Hist :=
  [ (e1, {}, exV1), (e2, {}, exV1), (e3, { tag := some "tag/x" }, exV1), (e4, {}, exV1), (e5, {}, exV1), (e6, {}, exV1) ]
def exHist2 : Hist := [ (e7, {}, exV1), (e8, {}, exV2) ]

private theorem ex_runOK : RunOK (initSt ["c"]) exV1 (exHist1 ++ exHist2) :=
  runOK_step step1 (by decide +kernel) <| runOK_step step2 (by decide +kernel) <|
  runOK_step step3 (by decide +kernel) <| runOK_step step4 (by decide +kernel) <|
  runOK_step step5 (by decide +kernel) <| runOK_step step6 (by decide +kernel) <|
  runOK_step step7 (by decide +kernel) <| runOK_step step8 (by decide +kernel) trivial

private theorem ex_runOK7 : RunOK (initSt ["c"]) exV1 (exHist1 ++ [(e7, ({} : Started), exV1)]) :=
  runOK_prefix _ _ (exHist1 ++ [(e7, ({} : Started), exV1)]) [(e8, ({} : Started), exV2)] (by
    have := ex_runOK
    simpa [exHist2, List.append_assoc] using this)

private theorem ex_runSt1 : runSt (initSt ["c"]) exHist1 = s6 := by
  show runSt s0 exHist1 = s6
  simp only [exHist1, runSt, step1, step2, step3, step4, step5, step6]

private theorem ex_runSt7 : runSt (initSt ["c"]) (exHist1 ++ [(e7, ({} : Started), exV1)]) = s7 := by
  show runSt s0 _ = s7
  simp only [exHist1, List.cons_append, List.nil_append, runSt, step1, step2, step3, step4, step5, step6, step7]

private theorem ex_runSt2 : runSt (initSt ["c"]) (exHist1 ++ exHist2) = s8 := by
  show runSt s0 _ = s8
  simp only [exHist1, exHist2, List.cons_append, List.nil_append, runSt, step1, step2, step3, step4, step5, step6, step7, step8]

private theorem ex_hc5 : convertedNow s4 e5 {} "c" 0 = true := by decide +kernel
private theorem ex_hc6 : convertedNow s5 e6 {} "c" 0 = false := by decide +kernel
private theorem ex_hc7 : convertedNow s6 e7 {} "c" 0 = false := by decide +kernel
private theorem ex_hc8 : convertedNow s7 e8 {} "c" 0 = true := by decide +kernel

/-- NON-VACUITY: the concrete history satisfies all hypotheses of `cached_current_run`.  After the converter
    job completed (`exHist1`) stream 0 has cached output of converter "c", computed from version 1; the import
    that updates stream 0 (`exHist2`) changes its version to 2, the model drops the output and the converter job
    that starts inside the same step converts stream 0 again (`convertedNow`): the cached output now belongs to
    version 2, the current one -/
theorem cached_current_example (cver0 : CVer) :
    RunOK (initSt ["c"]) exV1 (exHist1 ++ exHist2) ∧
    (cachedOf (runSt (initSt ["c"]) exHist1) "c" = [0] ∧ runC (initSt ["c"]) cver0 exHist1 "c" 0 = 1 ∧
      runV exV1 exHist1 0 = 1) ∧
    convertedNow s7 e8 {} "c" 0 = true ∧
    (cachedOf (runSt (initSt ["c"]) (exHist1 ++ exHist2)) "c" = [0] ∧
      runC (initSt ["c"]) cver0 (exHist1 ++ exHist2) "c" 0 = 2 ∧ runV exV1 (exHist1 ++ exHist2) 0 = 2) := by
  refine ⟨ex_runOK, ⟨?_, ?_, rfl⟩, ex_hc8, ?_, ?_, rfl⟩
  · rw [ex_runSt1]; rfl
  · show runC s0 cver0 exHist1 "c" 0 = 1
    simp only [exHist1, runC, step1, step2, step3, step4, step5, ghostNext, ex_hc5, ex_hc6, if_true,
      Bool.false_eq_true, if_false]
    rfl
  · rw [ex_runSt2]; rfl
  · show runC s0 cver0 (exHist1 ++ exHist2) "c" 0 = 2
    simp only [exHist1, exHist2, List.cons_append, List.nil_append, runC, step1, step2, step3, step4, step5, step6,
      step7, ghostNext, ex_hc8, if_true]
    rfl

/-- the NAIVE ghost: "every (c, id) that is in the cache after the step and was not before gets the current
    version" -/
def ghostNaive (s : St) (e : Ev) (st : Started) (ver' : Ver) (cver : CVer) : CVer :=
  fun c id => if (cachedOf (step s e st).1 c).contains id && !(cachedOf s c).contains id then ver' id else cver c id

private theorem ex_runC7 (cver0 : CVer) :
    runC (initSt ["c"]) cver0 (exHist1 ++ [(e7, ({} : Started), exV1)]) "c" 0 = 1 := by
  show runC s0 cver0 _ "c" 0 = 1
  simp only [exHist1, List.cons_append, List.nil_append, runC, step1, step2, step3, step4, step5, step6, ghostNext,
    ex_hc5, ex_hc6, ex_hc7, if_true, Bool.false_eq_true, if_false]
  rfl

/-- with the naive ghost the step theorem is FALSE — for a reason that has nothing to do with the model: in the
    example above stream 0 is in the cache of "c" before AND after the import that updates it (the output is dropped
    and converted again inside the same step), so a ghost that only looks at the difference of the two caches keeps
    the old version.  `ghostNext` therefore follows the set the converter job holds (`convertedNow`). -/
theorem naive_ghost_counterexample :
    ¬ (∀ (s : St) (e : Ev) (st : Started) (ver ver' : Ver) (cver : CVer), Good s ver cver → StepOK s ver e ver' →
        CachedCurrent (step s e st).1 ver' (ghostNaive s e st ver' cver)) := by
  intro h
  have hg := good_run _ _ _ _ (good_init ["c"] exV1 (fun _ _ => 0)) ex_runOK7
  rw [ex_runSt7] at hg
  -- stream 0 is cached before and after the step, so the naive ghost keeps the version it had
  have hn : ∀ cv : CVer, ghostNaive s7 e8 {} exV2 cv "c" 0 = cv "c" 0 := by
    intro cv
    unfold ghostNaive
    rw [step8]
    rfl
  have h2 := h s7 e8 {} _ exV2 _ hg ⟨payloadOK_of_check (by decide +kernel), by decide +kernel⟩ "c" 0
    (by rw [step8]; decide)
  rw [hn, ex_runC7] at h2
  exact absurd h2 (by decide)

def VerStepAll (s : St) (e : Ev) (ver ver' : Ver) : Prop :=
  ∀ id, id < s.next → (ChangedAll s e id → ver id < ver' id) ∧ (¬ ChangedAll s e id → ver' id = ver id)

/-- the clause `created ≠ []` of `Changed` cannot be dropped: an import completion that wrote NO file does not
    invalidate anything in the model (nor in the service: the invalidation sits inside `if len(createdFiles) > 0`),
    so a contract that lets the versions move at such a completion is violated at once.  (Every change of a stream
    is written to a new index file, so real completions satisfy the clause.) -/
theorem changed_needs_created_counterexample :
    ¬ (∀ (s : St) (e : Ev) (st : Started) (ver ver' : Ver) (cver : CVer), Good s ver cver → PayloadOK s e →
        VerStepAll s e ver ver' → CachedCurrent (step s e st).1 ver' (ghostNext s e st ver' cver)) := by
  intro h
  have hg := good_run _ _ _ _ (good_init ["c"] exV1 (fun _ _ => 0)) ex_runOK7
  rw [ex_runSt7] at hg
  have hpay : PayloadOK s7 (.importDone 1 0 [] [0] [] []) := payloadOK_of_check (by decide +kernel)
  have hver : VerStepAll s7 (.importDone 1 0 [] [0] [] []) (runV exV1 (exHist1 ++ [(e7, ({} : Started), exV1)])) exV2 := by
    intro id hid
    have h0 : id = 0 := by
      have : id < 1 := hid
      omega
    subst h0
    exact ⟨fun _ => by decide, fun hn => absurd ⟨rfl, Or.inl (by simp)⟩ hn⟩
  have := h s7 _ {} _ exV2 _ hg hpay hver "c" 0 (by decide)
  have hcn : convertedNow s7 (.importDone 1 0 [] [0] [] []) {} "c" 0 = false := by decide
  simp only [ghostNext, hcn, Bool.false_eq_true, if_false] at this
  rw [ex_runC7] at this
  revert this
  decide

end example_

section stale
open Pk.Proofs.MgrConvRunStale

def stV1 : Ver := fun _ => 1
def stV2 : Ver := fun id => if id = 1 then 2 else 1

/-- the second history of Pk/Proofs/MgrConvRunExample.lean (namespace `MgrConvRunStale`) up to the detach of
    converter "c" from its last tag -/
def stHist : Hist :=
  [ (f1, {}, stV1), (f2, {}, stV1), (f3, {}, stV1), (f4, {}, stV1), (f5, {}, stV1), (f6, {}, stV1), (f7, {}, stV2),
    (f8, {}, stV2), (f9, {}, stV2) ]

/-- … and the completion of the converter job that was in flight all along -/
def stLast : Hist := [ (f10, {}, stV2) ]

private theorem st_runOK : RunOK (initSt ["c"]) stV1 (stHist ++ stLast) :=
  runOK_step step1 (by decide +kernel) <| runOK_step step2 (by decide +kernel) <|
  runOK_step step3 (by decide +kernel) <| runOK_step step4 (by decide +kernel) <|
  runOK_step step5 (by decide +kernel) <| runOK_step step6 (by decide +kernel) <|
  runOK_step step7 (by decide +kernel) <| runOK_step step8 (by decide +kernel) <|
  runOK_step step9 (by decide +kernel) <| runOK_step step10 (by decide +kernel) trivial

private theorem st_runSt : runSt (initSt ["c"]) stHist = t9 := by
  show runSt t0 stHist = t9
  simp only [stHist, runSt, step1, step2, step3, step4, step5, step6, step7, step8, step9]

private theorem st_runSt' : runSt (initSt ["c"]) (stHist ++ stLast) = t10 := by
  show runSt t0 _ = t10
  simp only [stHist, stLast, List.cons_append, List.nil_append, runSt, step1, step2, step3, step4, step5, step6, step7,
    step8, step9, step10]

/-- THE HISTORY OF FINDING F57 (Pk/Proofs/MgrConvRunExample.lean) satisfies all contracts; stream 1 is queued for "c"
    (re-queued by an import while the converter job J is in flight) and un-marked; the `updConv` that detaches "c"
    from its last tag — J still in flight — leaves "c" attached to no tag with an EMPTY cache and an EMPTY queue (a
    detach that takes only the tag's matches off the queue leaves stream 1 queued, and the completion of J then
    starts a job that converts it); the completion of J converts nothing for "c" and starts no converter job at
    all; afterwards "c" still holds nothing -/
theorem detach_stale_run_now_safe :
    RunOK (initSt ["c"]) stV1 (stHist ++ stLast) ∧
    -- before the detach: stream 1 queued for "c", a converter job in flight
    (queuedOf t8 "c" = [1] ∧ t8.convert = true) ∧
    -- after the detach
    Unattached (runSt (initSt ["c"]) stHist) "c" ∧
    cachedOf (runSt (initSt ["c"]) stHist) "c" = [] ∧ queuedOf (runSt (initSt ["c"]) stHist) "c" = [] ∧
    (runSt (initSt ["c"]) stHist).convert = true ∧
    -- the completion of the job in flight
    (∀ id, convertedNow (runSt (initSt ["c"]) stHist) f10 {} "c" id = false) ∧
    (runSt (initSt ["c"]) (stHist ++ stLast)).jConv = none ∧
    cachedOf (runSt (initSt ["c"]) (stHist ++ stLast)) "c" = [] ∧
    queuedOf (runSt (initSt ["c"]) (stHist ++ stLast)) "c" = [] := by
  have hu : Unattached t9 "c" := forall_sget (T := t9.tags) (P := fun _ (t : Tag) => "c" ∉ t.convs) (by decide +kernel)
  rw [st_runSt, st_runSt']
  refine ⟨st_runOK, ⟨rfl, rfl⟩, hu, rfl, rfl, rfl, ?_, rfl, rfl, rfl⟩
  intro id
  simp only [convertedNow, step10]
  rfl

/-- … and BY THE THEOREM: the ninth event of the history is an accepted `updConv` that detaches "c" from its last tag,
    so `detach_stops_all_runs` applies to every continuation that does not attach "c" again -/
theorem detach_stale_run_by_theorem (h : Hist) (hna : NoAttach "c" t9 h) :
    Unattached (runSt t9 h) "c" ∧ cachedOf (runSt t9 h) "c" = [] ∧ queuedOf (runSt t9 h) "c" = [] := by
  have hw : C06.TagsWF t8 := by
    show List.Pairwise _ [_]
    exact List.pairwise_singleton _ _
  have hoth : ∀ n2 t2, sget t8.tags n2 = some t2 → n2 ≠ "mark/m" → "c" ∉ t2.convs :=
    forall_sget (T := t8.tags) (P := fun n2 (t2 : Tag) => n2 ≠ "mark/m" → "c" ∉ t2.convs) (by decide +kernel)
  have := (detach_stops_all_runs t8 f9 {} "c" "mark/m" (mTag "id:0" [0] ["c"]) hw
    (Or.inl ⟨[], rfl, by simp⟩) rfl (by simp [mTag]) hoth (by rw [step9]; simp)).2
  rw [step9] at this
  obtain ⟨h1, h2, h3, _⟩ := this h hna
  exact ⟨h1, h2, h3⟩

end stale

end Pk.Props.C16Reach
