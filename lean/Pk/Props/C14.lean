/-
  C14 — the query parser is total.

  The model functions return `Outcome α ::= ok a | err msg | panic site | diverged site`
  (Pk/Model/Query/Ast.lean).  Sites of the Go code that can panic or loop:
    * `ncs[ir]` / `tcs[ir]` index in term translation (more than two ranges)  → `.panic`
    * the "subtract own variable" loops with index fix-ups (`i--`, `sc--`)      → fuel, `.diverged`
    * `f % commonFactor` with commonFactor = 0 in cleanNumberConditions           → predicate `numNormSite`
    * `FlagCondition.invert` sub-mask enumeration `for v := …; ; { v--; v &= Mask … }` → `flagInvertLoop`
    * the common-factor loop (hang F2, fixed: the model's `cfLoop` is structural)
    * the pair-removal loop of cleanFlagConditions (`i -= 2`, index -1 on three or more names)  → predicate
      `flagDedupPanics` (Clean.lean); NOT the subject of a theorem
  Everything else in the model is structural recursion (Lean accepts it only because it terminates).

  Proved: every other site is unreachable / every loop terminates for all ASTs that participle's grammar
  can produce (`Expr.Shaped`: at most two ranges per list entry), including sub-queries and
  variables; the DNF size bound.  Not proved (tie only): participle's lexer/PEG layer.
  `reftime_shift_equiv` (results for two reference times): Pk/Props/C14Shift.lean; the fuzz harness
  also compares two real parses modulo the reference time.
-/
import Pk.Proofs.Query.Laws
import Pk.Proofs.Query.Total
namespace Pk.Props.C14
open Pk.Query

/-- term translation returns ok or err: no panic site, no divergence — all terms, with variables -/
theorem term_total (ref : Int) (t : Term) (h : t.Shaped) :
    (∃ g, trTerm ref t = .ok g) ∨ (∃ m, trTerm ref t = .err m) := Total.trTerm_tot ref t h

theorem translate_total (ref : Int) (e : Expr) (h : e.Shaped) :
    (∃ g, translate ref e = .ok g) ∨ (∃ m, translate ref e = .err m) :=
  Pk.Query.translate_total ref e h

theorem parse_total (ref : Int) (e : Expr) (h : e.Shaped) :
    (∃ p, parse ref e = .ok p) ∨ (∃ m, parse ref e = .err m) := Pk.Query.parse_total ref e h

/-- the own-variable loops (`for i, sc := 0, len; i <= sc; i++` with `i--`/`sc--` after a
    removal, conditions.go:702-720 and 801-826) terminate on every list: `sc - i + 1` decreases
    (`dedup_terminates` of DESIGN §5) -/
theorem dedup_terminates {σ : Type} (isOwn : σ → Bool) (dec : σ → σ) (isZero : σ → Bool)
    (fresh : σ) (l : List σ) : ∃ r, runOwnLoop isOwn dec isZero fresh l = .ok r :=
  ownLoop_terminates isOwn dec isZero fresh l

/-- `FlagCondition.invert`: the sub-mask walk returns to its start.  (`flagInvertLoop` is the literal loop;
    `Cond.invert` uses the closed form `flagInvertValues`; no theorem relates the two.) -/
theorem flagMask_terminates (value mask : Nat) (hm : mask < 65536) :
    ∃ fuel, flagInvertLoop value mask fuel (value &&& mask) [] ≠ none :=
  Pk.Query.flagMask_terminates value mask hm

/-- the common-factor loop (with the F2 repair) computes a common divisor of all factors; it is a
    structural recursion over the summands -/
theorem commonFactor_terminates (s0 : NumSummand) (more : List NumSummand) :
    ∃ cf : Nat, cfLoop (iabs s0.factor) more = cf ∧ ∀ s ∈ s0 :: more, (cf : Int) ∣ s.factor :=
  ⟨_, rfl, Pk.Query.common_factor_divides s0 more⟩

/-- every number condition produced by translating a term has pairwise distinct (sub-query, type)
    keys and no zero factor — also with variables (`id:@id@-@id@+@a:id@:` …) -/
theorem term_numbers_ok (ref : Int) (t : Term) (cs : CSet) (h : trTerm ref t = .ok (some cs)) :
    ∀ c ∈ cs, ∀ nc, Cond.num nc ∈ c → nc.OK := Total.trTerm_numOK ref t cs h

theorem invert_numbers_ok (nc : NumC) (h : nc.OK) :
    ∀ c ∈ Cond.invert (.num nc), ∀ nc', Cond.num nc' ∈ c → nc'.OK := invert_num_ok nc h

/-- a call of `Conditions.clean` on parser-shaped number conditions does not reach
    `f % commonFactor` with a zero divisor, and returns parser-shaped conditions again
    (AND/OR/THEN only concatenate conjuncts, so every call in a translation is of this kind) -/
theorem clean_total (c : Conj) (h : Conj.NumOK c) :
    Conj.NumOK (Conj.clean c) ∧ ∀ nc ∈ c.filterMap Cond.num?, numNormSite nc = false :=
  conj_clean_numOK c h

/-- every set a translation returns — any expression: sort/limit terms, multi-operand THEN,
    variables, sub-queries — holds only parser-shaped number conditions -/
theorem translate_numbers_ok (ref : Int) (e : Expr) (g : GSet) (h : translate ref e = .ok g) :
    CSet.NumOK g.items := translate_numOK ref e g h

/-- the calls of `Conditions.clean` made by `ConditionsSet.And` (listed by `andCalls`,
    `CSet.andPairs a b = (andCalls a b).map Conj.clean`) do not reach the divide-by-zero site -/
theorem and_total (a b : CSet) (ha : CSet.NumOK a) (hb : CSet.NumOK b) :
    CSet.andPairs a b = (andCalls a b).map Conj.clean ∧
    ∀ c ∈ andCalls a b, ∀ nc ∈ c.filterMap Cond.num?, numNormSite nc = false :=
  ⟨andPairs_eq_calls a b, and_calls_site_free a b ha hb⟩

/-- nor do the calls made by `ConditionsSet.Clean` (absorption loop and simple-ID fast path,
    listed by `cleanCalls`), in particular the final `Clean` of `query.Parse` -/
theorem Clean_total (ref : Int) (e : Expr) (g : GSet) (h : translate ref e = .ok g) :
    ∀ c ∈ finishCalls g, ∀ nc ∈ c.filterMap Cond.num?, numNormSite nc = false := by
  have hg := translate_numOK ref e g h
  cases g with
  | none => intro c hc; cases hc
  | some cs => exact fun c hc => (Clean_calls_site_free cs hg c hc).2

/-- normalisation is a function of the AST and the reference time (the model has no other input) -/
theorem parse_deterministic (ref : Int) (e : Expr) (p q : Outcome Parsed)
    (hp : parse ref e = p) (hq : parse ref e = q) : p = q := hp ▸ hq

/-- the number of conjuncts after translation is bounded by an explicit function of the expression:
    sum over OR, product over AND/THEN, exponential only under negation (every operator including
    multi-operand THEN and sort/limit terms; terms with variables and sub-queries) -/
theorem dnf_size_bound (ref : Int) (e : Expr) (hp : TermsOf Term.FragV e) (cs : CSet)
    (h : translate ref e = .ok (some cs)) : cs.length ≤ (dnfBound e).1 :=
  Pk.Query.dnf_size_bound laws ref Term.FragV (TermOK_of_TermLaw ref Term.FragV (termLawV ref)) e hp cs h

/-- a grammar-shaped expression with a range, a value list, a mask and a negated group; its
    translation is total by `parse_total` (and indeed `parse 0 e0 = .ok p0`) -/
example : ∃ p, parse 0 Example.e0 = .ok p := ⟨_, Example.e0_parse⟩

end Pk.Props.C14
