/- The stack of `New` is sorted by name, so looking an id up from its end finds the maximum name
   (`visibleInStack_eq`); the driver view `recoverView` lists what `visibleIn` says (`mem_recoverView`). -/
import Pk.Model.RecoverIdx
import Pk.Proofs.RecoverIdx
import Pk.Proofs.Lib
namespace Pk.Proofs.RecoverIdx
open Pk.Recover

theorem perm_insertByName (f : IndexFile) (l : List IndexFile) : (insertByName f l).Perm (f :: l) := by
  induction l with
  | nil => exact List.Perm.refl _
  | cons g gs ih =>
    simp only [insertByName]
    split
    · exact List.Perm.refl _
    · exact (List.Perm.cons g ih).trans (List.Perm.swap f g gs)

theorem perm_sortByName (l : List IndexFile) : (sortByName l).Perm l := by
  induction l with
  | nil => exact List.Perm.refl _
  | cons f fs ih => exact (perm_insertByName f _).trans (List.Perm.cons f ih)

theorem mem_stack (d : List IndexFile) (g : IndexFile) :
    g ∈ stack d ↔ g ∈ d ∧ g.complete = true := by
  rw [stack, (perm_sortByName _).mem_iff, List.mem_filter]

def SortedByName (l : List IndexFile) : Prop := l.Pairwise (fun a b => a.name ≤ b.name)

theorem sorted_insertByName (f : IndexFile) (l : List IndexFile) (h : SortedByName l) :
    SortedByName (insertByName f l) := by
  induction l with
  | nil => simp [insertByName, SortedByName]
  | cons g gs ih =>
    simp only [insertByName]
    have hg := List.pairwise_cons.mp h
    split
    · rename_i hle
      refine List.pairwise_cons.mpr ⟨?_, h⟩
      intro a ha
      rcases List.mem_cons.mp ha with rfl | ha
      · exact hle
      · exact Nat.le_trans hle (hg.1 a ha)
    · rename_i hnle
      refine List.pairwise_cons.mpr ⟨?_, ih hg.2⟩
      intro a ha
      rcases List.mem_cons.mp ((perm_insertByName f gs).mem_iff.mp ha) with rfl | ha
      · omega
      · exact hg.1 a ha

theorem sorted_sortByName (l : List IndexFile) : SortedByName (sortByName l) := by
  induction l with
  | nil => exact List.Pairwise.nil
  | cons f fs ih => exact sorted_insertByName f _ ih

theorem sorted_stack (d : List IndexFile) : SortedByName (stack d) := sorted_sortByName _

theorem eq_of_name_eq (d : List IndexFile) (hu : (d.map (·.name)).Nodup) (f g : IndexFile)
    (hf : f ∈ d) (hg : g ∈ d) (h : f.name = g.name) : f = g :=
  Pk.Lib.nodup_map_inj (·.name) d hu f hf g hg h

theorem strict_stack (d : List IndexFile) (hu : (d.map (·.name)).Nodup) :
    (stack d).Pairwise (fun a b => a.name < b.name) := by
  have hnd : ((stack d).map (·.name)).Nodup := by
    rw [stack, ((perm_sortByName _).map _).nodup_iff]
    exact (List.filter_sublist.map _).nodup hu
  have hs := sorted_stack d
  generalize stack d = l at hnd hs
  induction l with
  | nil => exact List.Pairwise.nil
  | cons a as ih =>
    simp only [List.map_cons, List.nodup_cons] at hnd
    have ha := List.pairwise_cons.mp hs
    refine List.pairwise_cons.mpr ⟨fun b hb => ?_, ih hnd.2 ha.2⟩
    have h1 := ha.1 b hb
    have h2 : a.name ≠ b.name := fun e => hnd.1 (List.mem_map.mpr ⟨b, hb, e.symm⟩)
    omega

theorem findLast_sorted (l : List IndexFile) (p : IndexFile → Bool) (hs : SortedByName l) (g : IndexFile)
    (h : l.reverse.find? p = some g) : g ∈ l ∧ p g = true ∧ ∀ h ∈ l, p h = true → h.name ≤ g.name := by
  obtain ⟨hp, as, bs, hl, hn⟩ := List.find?_eq_some_iff_append.mp h
  -- `l = bs.reverse ++ g :: as.reverse`: what comes before `g` is older, what comes after fails `p`
  obtain rfl : l = bs.reverse ++ g :: as.reverse := by
    rw [← List.reverse_reverse l, hl]; simp
  refine ⟨by simp, hp, fun f hf hpf => ?_⟩
  rcases List.mem_append.mp hf with hf | hf
  · exact (List.pairwise_append.mp hs).2.2 f hf g List.mem_cons_self
  · rcases List.mem_cons.mp hf with rfl | hf
    · exact Nat.le_refl _
    · have := hn f (List.mem_reverse.mp hf)
      simp [hpf] at this

theorem visibleInStack_eq (d : List IndexFile) (id : Nat) : visibleInStack d id = visibleIn d id := by
  unfold visibleInStack
  symm
  cases hfind : (stack d).reverse.find? (fun f => f.ids.contains id) with
  | none =>
    rw [Option.map_none, visibleIn_none_iff]
    rintro n ⟨f, hf, hs, _⟩
    obtain ⟨hc, hid⟩ := (serves_iff _ _).mp hs
    exact List.find?_eq_none.mp hfind f (List.mem_reverse.mpr ((mem_stack d f).mpr ⟨hf, hc⟩))
      (by simpa using hid)
  | some g =>
    obtain ⟨hg, hpg, hmax⟩ := findLast_sorted _ _ (sorted_stack d) g hfind
    obtain ⟨hgd, hgc⟩ := (mem_stack d g).mp hg
    rw [Option.map_some, visibleIn_some_iff]
    refine ⟨⟨g, hgd, (serves_iff _ _).mpr ⟨hgc, by simpa using hpg⟩, rfl⟩, ?_⟩
    rintro m ⟨f, hf, hs, rfl⟩
    obtain ⟨hc, hid⟩ := (serves_iff _ _).mp hs
    exact hmax f ((mem_stack d f).mpr ⟨hf, hc⟩) (by simpa using hid)

theorem mem_insertNat (x y : Nat) (l : List Nat) : y ∈ insertNat x l ↔ y = x ∨ y ∈ l := by
  induction l with
  | nil => simp [insertNat]
  | cons a as ih =>
    simp only [insertNat]
    split
    · simp
    · split
      · rename_i h; subst h; simp
      · simp only [List.mem_cons, ih, or_left_comm]

theorem mem_sortDedup (y : Nat) (l : List Nat) : y ∈ sortDedup l ↔ y ∈ l := by
  induction l with
  | nil => simp [sortDedup]
  | cons a as ih => simp [sortDedup, mem_insertNat, ih]

theorem sorted_insertNat (x : Nat) (l : List Nat) (h : l.Pairwise (· < ·)) :
    (insertNat x l).Pairwise (· < ·) := by
  induction l with
  | nil => simp [insertNat]
  | cons a as ih =>
    have ha := List.pairwise_cons.mp h
    simp only [insertNat]
    split
    · rename_i hlt
      refine List.pairwise_cons.mpr ⟨?_, h⟩
      intro b hb
      rcases List.mem_cons.mp hb with rfl | hb
      · exact hlt
      · exact Nat.lt_trans hlt (ha.1 b hb)
    · split
      · exact h
      · refine List.pairwise_cons.mpr ⟨?_, ih ha.2⟩
        intro b hb
        rcases (mem_insertNat x b as).mp hb with rfl | hb
        · omega
        · exact ha.1 b hb

theorem sorted_sortDedup (l : List Nat) : (sortDedup l).Pairwise (· < ·) := by
  induction l with
  | nil => exact List.Pairwise.nil
  | cons a as ih => exact sorted_insertNat a _ ih

theorem mem_allIds (d : List IndexFile) (id : Nat) :
    id ∈ allIds d ↔ ∃ f ∈ d, f.complete = true ∧ id ∈ f.ids := by
  simp only [allIds, mem_sortDedup, List.mem_flatMap, List.mem_filter, and_assoc]

theorem mem_recoverView (d : List IndexFile) (id n : Nat) :
    (id, n) ∈ recoverView d ↔ visibleIn d id = some n := by
  simp only [recoverView, List.mem_filterMap]
  constructor
  · rintro ⟨a, _, ha⟩
    obtain ⟨m, hv, h⟩ := Option.map_eq_some_iff.mp ha
    cases h
    exact hv
  · intro hv
    refine ⟨id, ?_, by rw [hv]; rfl⟩
    rw [mem_allIds, held_iff_visible, hv]; rfl

theorem sorted_recoverView (d : List IndexFile) :
    (recoverView d).Pairwise (fun a b => a.1 < b.1) := by
  refine List.Pairwise.filterMap _ ?_ (sorted_sortDedup _)
  intro a a' hlt b hb b' hb'
  obtain ⟨_, _, rfl⟩ := Option.map_eq_some_iff.mp hb
  obtain ⟨_, _, rfl⟩ := Option.map_eq_some_iff.mp hb'
  exact hlt

end Pk.Proofs.RecoverIdx
