/-
  The writer-level invariant "every record resolves to the addresses of its stream", carried through
  `AddStream`, and the reopening of a finished file (helper lemmas for C01 `roundtrip_hosts`).
-/
import Pk.Proofs.IndexFormatMeta
namespace Pk.Index
open Pk Pk.Bytes

def HostOf (gs : List HostGroup) (s : StreamIn) (rec_ : StreamRec) : Prop :=
  HostsAt gs rec_.hg rec_.ch rec_.sh s.client s.server

/-- `StreamRec.hg` is 16 bits wide: the records resolve while the writer has at most 65 536 groups (the number only grows, so
    the bound on the finished writer covers every writer on the way) -/
def HostsOK (w : Writer) (ss : List StreamIn) : Prop :=
  GroupsInv w.hostGroups ∧ (w.hostGroups.length ≤ 65536 → Zip (HostOf w.hostGroups) ss w.streams)

theorem addStream_hosts (w w' : Writer) (ss : List StreamIn) (s : StreamIn) (hw : HostsOK w ss) (hs : s.AddrWF)
    (h : w.addStream s = .ok (w', true)) : HostsOK w' (ss ++ [s]) := by
  obtain ⟨p0, pl, gid, cid, sid, cds, _, _, hp, _, _, hst, _⟩ := addStream_spec w w' s h
  obtain ⟨hinv, hext, g', hg', hh⟩ := placeHosts_spec w.hostGroups s.client s.server hs.1 hw.1 hp
  refine ⟨hinv, fun hcap => ?_⟩
  rw [hst]
  refine (((hw.2 (Nat.le_trans hext.length_le hcap)).imp fun _ _ hr => HostsAt.mono hext hr).rebase (fun _ _ _ _ hr => hr) w _).append ?_
  have hmod : gid % 65536 = gid := Nat.mod_eq_of_lt (Nat.lt_of_lt_of_le (getElem?_lt hg') hcap)
  exact ⟨g', by simp only [mkStreamRec, hmod]; exact hg', hh⟩

theorem addAll_hosts (ss : List StreamIn) (w : Writer) (hwf : ∀ s ∈ ss, s.AddrWF) (h : ({} : Writer).addAll ss = some w) :
    HostsOK w ss :=
  addAll_induct ss (fun w w' done s hs hinv h => addStream_hosts w w' done s hinv (hwf s hs) h) {} w []
    ⟨fun _ hg => (nomatch hg), fun _ => Zip.nil⟩ h

theorem sortedIndexes_length {κ : Type} (keys : List κ) (less : κ → κ → Bool) :
    (sortedIndexes keys less).length = keys.length := by
  unfold sortedIndexes
  simp [List.length_mergeSort]

/-- `hne`: `NewReader` rejects a file whose stream section or first/last-packet lookup tables are empty -/
theorem reopen_ok (w : Writer) (h : GroupsInv w.hostGroups) (hne : w.streams ≠ [])
    (hb4 : (v4of w.hostGroups).length < 2 ^ 32) (hb6 : (v6of w.hostGroups).length < 2 ^ 32) :
    ∃ r, newReader w.finalize = .ok r ∧ r.hostGroups = w.hostGroups.map HostGroup.toReader := by
  unfold newReader
  rw [hostgroups_decode' w h hb4 hb6]
  have h1 : w.finalize.streams.isEmpty = false := by
    show w.streams.isEmpty = false
    cases hw : w.streams with
    | nil => exact absurd hw hne
    | cons a t => rfl
  have hlen : ∀ (l : List Nat), l.length = w.streams.length → l.isEmpty = false := by
    intro l hl
    cases l with
    | nil => simp at hl; exact absurd (List.length_eq_zero_iff.mp hl.symm) hne
    | cons a t => rfl
  have e2 : w.finalize.lkFt = sortedIndexes (w.streams.map (·.first)) (fun a b => a < b) := rfl
  have e3 : w.finalize.lkLt = sortedIndexes (w.streams.map (·.last)) (fun a b => a < b) := rfl
  have h2 : w.finalize.lkFt.isEmpty = false := hlen _ (by rw [e2, sortedIndexes_length]; simp)
  have h3 : w.finalize.lkLt.isEmpty = false := hlen _ (by rw [e3, sortedIndexes_length]; simp)
  simp [h1, h2, h3]

end Pk.Index
