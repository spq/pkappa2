/-
  Soundness of the memoised MaxLength walk of `AcceptedLength` (`maxGo`), for EVERY program and every
  `cache` the walk itself can build.  The memo is sound for the maximum because "unbounded" is an upper
  bound in every context; for the minimum such a memo is not (`finding_F23` in Props/C18).  One notion, `Bd`,
  says what a cached value, the running total of a call and its result are: bounds for what is accepted from an
  instruction.
-/
import Pk.Model.RegexProg
import Pk.Proofs.RegexProg

namespace Pk.RegexProg
open Pk.Regex

/-- `MAXU` stands for "unbounded" -/
def UB (x v : Nat) : Prop := MAXU ≤ v ∨ x ≤ v

/-- `v` bounds `r` plus the length of whatever is accepted from `pos`: what the `for` loop of `evaluate`,
    standing at `pos` with `r` accumulated, is to return.  A bound moves backwards along an instruction
    (`Bd.rune`, `Bd.pass`, `Bd.alt`, `Bd.match_`, `Bd.top` for the two "unbounded" exits). -/
def Bd (p : Prog) (pos r v : Nat) : Prop :=
  ∀ pre w post, Accepts p pos pre w post → UB (r + w.length) v

def CacheOK (p : Prog) (c : Cache Nat) : Prop :=
  ∀ e v, c[e]? = some (some v) → Bd p e 0 v

theorem cacheOK_set {p : Prog} {c : Cache Nat} (hc : CacheOK p c) {entry v : Nat} (hb : Bd p entry 0 v) :
    CacheOK p (c.setIfInBounds entry (some v)) := by
  intro e x hx
  rw [Array.getElem?_setIfInBounds] at hx
  split at hx
  · rename_i heq
    split at hx
    · simp at hx; subst hx; subst heq; exact hb
    · simp at hx
  · exact hc e x hx

theorem UB.max {x a b : Nat} (h : UB x a ∨ UB x b) : UB x (Nat.max a b) := by
  unfold UB at *
  simp only [Nat.max_def]
  split <;> omega

theorem UB.satAdd {x m : Nat} (r : Nat) (h : UB x m) : UB (r + x) (satAdd r m) := by
  rw [satAdd_eq]
  unfold UB at *
  simp only [Nat.min_def]
  split <;> omega

theorem UB.of_byte {x r v : Nat} (h : UB (inc r + x) v) : UB (r + (x + 1)) v := by
  unfold UB inc at *; split at h <;> omega

theorem inc_le {r : Nat} (h : r ≤ MAXU) : inc r ≤ MAXU := by
  unfold inc; split <;> omega

theorem satAdd_le (a b : Nat) : satAdd a b ≤ MAXU := by
  rw [satAdd_eq]; exact Nat.min_le_right _ _

theorem Bd.top (p : Prog) (pos r : Nat) : Bd p pos r MAXU := fun _ _ _ _ => Or.inl (Nat.le_refl _)

section
variable {p : Prog} {pos : Nat} {i : Inst} (hi : p.inst[pos]? = some i) {r : Nat}
include hi

theorem Bd.rune (hr : i.op.isRune = true) {v : Nat} (h : Bd p i.out (inc r) v) : Bd p pos r v := by
  intro pre w post hacc
  have inv := hacc.inv hi
  simp only [hr, if_true] at inv
  obtain ⟨b, w', rfl, _, hrest⟩ := inv
  exact UB.of_byte (h _ _ _ hrest)

theorem Bd.pass (hr : i.op.isRune = false) (hp : i.op.isPass = true) {v : Nat} (h : Bd p i.out r v) :
    Bd p pos r v := by
  intro pre w post hacc
  have inv := hacc.inv hi
  simp only [hr, hp, if_true, Bool.false_eq_true, if_false] at inv
  exact h _ _ _ inv

theorem Bd.alt (hr : i.op.isRune = false) (hp : i.op.isPass = false) (ha : i.op.isAlt = true) {a b : Nat}
    (h1 : Bd p i.out 0 a) (h2 : Bd p i.arg 0 b) : Bd p pos r (satAdd r (Nat.max a b)) := by
  intro pre w post hacc
  have inv := hacc.inv hi
  simp only [hr, hp, ha, if_true, Bool.false_eq_true, if_false] at inv
  have := inv.imp (h1 _ _ _) (h2 _ _ _)
  simp only [Nat.zero_add] at this
  exact UB.satAdd r (UB.max this)

theorem Bd.match_ (hr : i.op.isRune = false) (hp : i.op.isPass = false) (ha : i.op.isAlt = false) :
    Bd p pos r r := by
  intro pre w post hacc
  have inv := hacc.inv hi
  simp only [hr, hp, ha, Bool.false_eq_true, if_false] at inv
  rw [inv.2]
  exact Or.inr (Nat.le_refl _)

end

/-- `hpath`: a bound for the rest of the loop is a bound for the call `evaluate(entry, …)`; this is what the
    exits store in the cache. -/
theorem maxGo_sound (p : Prog) :
    ∀ (fuel : Nat) (c : Cache Nat) (entry pos r : Nat) (seen : List Nat) (res : Nat) (c' : Cache Nat),
      maxGo p fuel c entry pos r seen = some (res, c') →
      CacheOK p c → r ≤ MAXU → (∀ v, Bd p pos r v → Bd p entry 0 v) →
      CacheOK p c' ∧ res ≤ MAXU ∧ Bd p pos r res := by
  intro fuel
  induction fuel with
  | zero => intro c entry pos r seen res c' h; simp [maxGo] at h
  | succ fuel ih =>
    intro c entry pos r seen res c' h hc hle hpath
    unfold maxGo at h
    cases hi : p.inst[pos]? with
    | none => simp [hi] at h
    | some i =>
      simp only [hi] at h
      have ret : ∀ {c2 : Cache Nat} {res : Nat}, CacheOK p c2 → res ≤ MAXU → Bd p pos r res →
          CacheOK p (c2.setIfInBounds entry (some res)) ∧ res ≤ MAXU ∧ Bd p pos r res :=
        fun hc2 hres hb => ⟨cacheOK_set hc2 (hpath _ hb), hres, hb⟩
      have unbounded := ret hc (Nat.le_refl _) (Bd.top p pos r)
      rcases i.op.kinds with k | k | k | k | k <;> obtain ⟨hr, hp, ha, hm⟩ := k <;>
        simp only [hr, hp, ha, if_true, if_false, Bool.false_eq_true] at h
      · obtain ⟨h1, h2, h3⟩ := ih _ _ _ _ _ _ _ h hc (inc_le hle) fun v hv => hpath v (Bd.rune hi hr hv)
        exact ⟨h1, h2, Bd.rune hi hr h3⟩
      · obtain ⟨h1, h2, h3⟩ := ih _ _ _ _ _ _ _ h hc hle fun v hv => hpath v (Bd.pass hi hr hp hv)
        exact ⟨h1, h2, Bd.pass hi hr hp h3⟩
      · by_cases hseen : seen.contains pos = true
        · simp only [hseen, if_true] at h
          simp at h
          obtain ⟨rfl, rfl⟩ := h
          exact unbounded
        · simp only [hseen] at h
          simp only [Bool.false_eq_true, if_false] at h
          -- the closure `sub`: a cached value, or a fresh evaluation
          have sub : ∀ (c0 : Cache Nat) (e v : Nat) (c1 : Cache Nat), CacheOK p c0 →
              (match c0[e]? with
                | some (some v) => some (v, c0)
                | some none => maxGo p fuel c0 e e 0 (seen ++ [pos])
                | none => none) = some (v, c1) →
              CacheOK p c1 ∧ Bd p e 0 v := by
            intro c0 e v c1 hc0 hs
            split at hs
            · rename_i hca
              cases hs
              exact ⟨hc0, hc0 _ _ hca⟩
            · obtain ⟨h1, _, h3⟩ := ih _ _ _ _ _ _ _ hs hc0 (Nat.zero_le _) fun _ hv => hv
              exact ⟨h1, h3⟩
            · cases hs
          split at h
          · cases h
          · rename_i r1 c1 h1
            obtain ⟨hc1, hb1⟩ := sub _ _ _ _ hc h1
            split at h
            · cases h
            · rename_i r2 c2 h2
              obtain ⟨hc2, hb2⟩ := sub _ _ _ _ hc1 h2
              simp at h
              obtain ⟨rfl, rfl⟩ := h
              exact ret hc2 (satAdd_le _ _) (Bd.alt hi hr hp ha hb1 hb2)
      · simp [hm] at h
        obtain ⟨rfl, rfl⟩ := h
        exact ret hc hle (Bd.match_ hi hr hp ha)
      · simp [hm] at h
        obtain ⟨rfl, rfl⟩ := h
        exact unbounded

end Pk.RegexProg
