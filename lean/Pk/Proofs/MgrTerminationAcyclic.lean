/-
  Every transition keeps a topological order of the tag graph (`topo_step`, for C09 `acyclic_step`): the API calls
  that edit references add a tag whose references exist, remove or rename a tag nobody references, or have run the
  cycle check; every other event keeps every tag's references (`MgrReach.weq_step`), and a topological order depends
  on the table through the references under each name only (`topo_of_fq`).
-/
import Pk.Proofs.MgrTerminationCycle
import Pk.Proofs.MgrReachGraph
namespace Pk.Proofs.MgrTermination
open Pk.Mgr Pk.Proofs.MgrTags
open Pk.Proofs.MgrReach (F2 WEq)

/-- same names, same references -/
def FQ (L L' : List (String × Tag)) : Prop := ∀ n, (sget L' n).map F2 = (sget L n).map F2

theorem FQ.refl (L) : FQ L L := fun _ => rfl
theorem FQ.trans {A B C} (h1 : FQ A B) (h2 : FQ B C) : FQ A C := fun n => (h2 n).trans (h1 n)
theorem _root_.Pk.Proofs.MgrTags.FrE.fq {g : Prop} {s s' : St} (h : FrE g NT s s') : FQ s.tags s'.tags :=
  fun n => (h.keep n trivial).facts.1
theorem FQ.eq {L} {s s' : St} (q : FQ L s.tags) (h : s'.tags = s.tags) : FQ L s'.tags := h ▸ q
theorem FQ.get {L L'} (h : FQ L L') {n t} (hg : sget L n = some t) : ∃ t', sget L' n = some t' ∧ t'.refs = t.refs := by
  obtain ⟨t', ht', e⟩ := MgrReach.map_eq_some' ((h n).trans (congrArg (Option.map F2) hg))
  simp only [F2, Prod.mk.injEq] at e
  exact ⟨t', ht', refs_congr e.1 e.2⟩

theorem FQ.symm {L L'} (h : FQ L L') : FQ L' L := fun n => (h n).symm

theorem FQ.get' {L L'} (h : FQ L L') {n t'} (hg : sget L' n = some t') : ∃ t, sget L n = some t ∧ t'.refs = t.refs :=
  let ⟨t, h1, h2⟩ := h.symm.get hg
  ⟨t, h1, h2.symm⟩

theorem topo_of_fq {L L'} (hs : Sorted L) (h : FQ L L') (ht : Topo L) : Topo L' := by
  obtain ⟨R, hg, hall⟩ := ht
  refine ⟨R, good_transfer hg ?_, ?_⟩
  · intro n _ t hm
    obtain ⟨t', h1, h2⟩ := h.get (mem_sget_of_sorted _ hs _ _ hm)
    exact ⟨t', Pk.Mgr.sget_mem _ _ _ h1, h2⟩
  · intro k hk
    obtain ⟨t', ht'⟩ := sget_of_mem_keys _ _ hk
    obtain ⟨t, h1, _⟩ := h.get' ht'
    exact hall k (sget_mem_keys _ _ _ h1)

theorem topo_add {L} (hs : Sorted L) (name : String) (nt : Tag) (hnew : sget L name = none)
    (hrefs : ∀ r ∈ nt.refs, (sget L r).isSome = true) (ht : Topo L) : Topo (sins name nt L) := by
  obtain ⟨R, hg, hall⟩ := ht
  have hnk : name ∉ L.map (·.1) := fun hk => by
    obtain ⟨v, hv⟩ := sget_of_mem_keys _ _ hk
    rw [hnew] at hv; cases hv
  refine ⟨name :: R, GoodOrder.cons name nt R ?_ ?_ ?_ (good_transfer hg ?_), ?_⟩
  · exact Pk.Mgr.sget_mem _ _ _ (by rw [sget_sins]; simp)
  · exact fun h => hnk (hg.keys name h)
  · intro r hr
    have := hrefs r hr
    obtain ⟨v, hv⟩ := Option.isSome_iff_exists.mp this
    exact hall r (sget_mem_keys _ _ _ hv)
  · intro n hn t hm
    have hne : name ≠ n := fun e => hnk (e ▸ hg.keys n hn)
    refine ⟨t, Pk.Mgr.sget_mem _ _ _ ?_, rfl⟩
    rw [sget_sins, if_neg hne]
    exact mem_sget_of_sorted _ hs _ _ hm
  · intro k hk
    rw [mem_keys_sins] at hk
    rcases hk with rfl | hk
    · exact List.mem_cons_self
    · exact List.mem_cons_of_mem _ (hall k hk)

theorem topo_del {L} (hs : Sorted L) (name : String) (hno : MgrSettle.NoRef L name) (ht : Topo L) :
    Topo (sdel L name) := by
  obtain ⟨R, hg, hall⟩ := ht
  have hg' : GoodOrder (sdel L name) (R.filter (· != name)) := by
    clear hall
    induction hg with
    | nil => exact GoodOrder.nil
    | cons n t R hm hn hr _ ih =>
      simp only [List.filter_cons]
      split
      · rename_i hne
        have hne' : n ≠ name := by simpa using hne
        refine GoodOrder.cons n t _ ?_ ?_ ?_ ih
        · apply Pk.Mgr.sget_mem
          rw [sget_sdel, if_neg (fun e => hne' e.symm)]
          exact mem_sget_of_sorted _ hs _ _ hm
        · intro h; exact hn (List.mem_filter.mp h).1
        · intro r hr'
          have : r ≠ name := fun e => hno (n, t) hm (e ▸ hr')
          exact List.mem_filter.mpr ⟨hr r hr', by simpa using this⟩
      · exact ih
  refine ⟨_, hg', ?_⟩
  intro k hk
  obtain ⟨v, hv⟩ := sget_of_mem_keys _ _ hk
  rw [sget_sdel] at hv
  split at hv
  · cases hv
  · rename_i hne
    have : k ≠ name := fun e => hne e.symm
    exact List.mem_filter.mpr ⟨hall k (sget_mem_keys _ _ _ hv), by simpa using this⟩

/-- `WEq` bundled with the transport of sortedness; the step proofs use `weq_step` and `FrE.sorted` on their own -/
structure SameW (s s' : St) : Prop where
  w : WEq s.tags s'.tags
  sorted : Sorted s.tags → Sorted s'.tags

theorem topo_atFinish (s : St) (name : String) (nt' : Tag) (isMark : Bool) (st : Started) (hs : Sorted s.tags)
    (hnew : sget s.tags name = none) (hrefs : ∀ r ∈ nt'.refs, (sget s.tags r).isSome = true)
    (ht : Topo s.tags) : Topo (atFinish s name nt' isMark st).tags := by
  unfold atFinish
  have hbase : (if isMark = true then setTag s name nt' else startTagging (setTag s name nt') st.tag).tags
      = sins name nt' s.tags := by
    split
    · rfl
    · rw [MgrSettle.startTagging_tags]; rfl
  have h1 := topo_add hs name nt' hnew hrefs ht
  refine topo_of_fq (sorted_sins _ _ _ hs) ?_ h1
  have := (foldl_frE _ (fun s r => addRefBy_frE s r name) nt'.refs
    (if isMark = true then setTag s name nt' else startTagging (setTag s name nt') st.tag)).fq
  rwa [hbase] at this

theorem sget_replace (L : List (String × Tag)) (name : String) (nt : Tag) (n : String) :
    sget (L.map fun (n, t) => if n == name then (n, nt) else (n, t)) n =
      (sget L n).map (fun t => if n == name then nt else t) := by
  have : (fun (p : String × Tag) => match p with | (n, t) => if n == name then (n, nt) else (n, t)) =
      fun p => (p.1, (fun k t => if k == name then nt else t) p.1 p.2) := by
    funext p
    obtain ⟨k, t⟩ := p
    dsimp only
    split <;> rfl
  rw [this]
  exact sget_map (fun k t => if k == name then nt else t) L n

theorem topo_step (s : St) (e : Ev) (st : Started) (hs : Sorted s.tags)
    (hf : ∀ n snap held ot, s.jTag = some (n, snap, held) → sget s.tags n = some ot → ot.defn = snap.defn →
      ot.mainT = snap.mainT ∧ ot.subT = snap.subT)
    (hrb : MgrSettle.RefByWF s)
    (hre : ∀ nt ∈ s.tags, ∀ r ∈ nt.2.refs, (sget s.tags r).isSome = true)
    (ht : Topo s.tags) : Topo (step s e st).1.tags := by
  cases e with
  | addTag name color defn f =>
    refine step_addTag_cases (P := fun r => Topo r.1.tags) s name color defn f st ht fun ok => ?_
    dsimp only [addTagSt]
    refine topo_atFinish { s with ngen := s.ngen + 1 } name _ _ st hs ok.fresh (fun r hr => ok.refs r ?_) ht
    exact (mem_refs _ r).1 hr
  | delTag name =>
    refine step_delTag_cases (P := fun r => Topo r.1.tags) s name st ht fun t hg he => ?_
    dsimp only [dtApply]
    have hno := MgrSettle.noRef_of_refBy s name t hrb hg he
    have hD := MgrTags.foldl_frE (g := False) _ (fun s c => MgrTags.detachConv_frE s name c st.tag) t.convs s
    generalize t.convs.foldl (fun s c => detachConv s name c st.tag) s = D at hD ⊢
    have hq : FQ s.tags D.tags := hD.fq
    have h2 := topo_del (hD.sorted hs) name (hD.refsOf.noRef hno) (topo_of_fq hs hq ht)
    exact topo_of_fq (sorted_sdel _ _ (hD.sorted hs))
      (foldl_frE _ (fun s r => delRefBy_frE s r name) t.refs { D with tags := sdel D.tags name }).fq h2
  | updName name new =>
    refine step_updName_cases (P := fun r => Topo r.1.tags) s name new st ht (fun _ _ _ => ht) fun t ok => ?_
    show Topo (unApply s name new t).tags
    have hno := MgrSettle.noRef_of_refBy s name t hrb ok.found ok.unref
    unfold unApply
    have h1 := topo_del hs name hno ht
    have h2 : Topo (sins new t (sdel s.tags name)) := by
      apply topo_add (sorted_sdel _ _ hs) new t _ _ h1
      · rw [sget_sdel]; split
        · rfl
        · exact ok.fresh
      · intro r hr
        have hrn : name ≠ r := fun e => hno _ (Pk.Mgr.sget_mem _ _ _ ok.found) (e ▸ hr)
        rw [sget_sdel, if_neg hrn]
        exact hre (name, t) (Pk.Mgr.sget_mem _ _ _ ok.found) r hr
    refine topo_of_fq (sorted_sins _ _ _ (sorted_sdel _ _ hs)) ?_ h2
    exact (foldl_frE _ (fun s r => (delRefBy_frE s r name).trans (addRefBy_frE _ r new)) t.refs
      { s with tags := sins new t (sdel s.tags name) }).fq
  | updQuery name defn f =>
    refine step_updQuery_cases (P := fun r => Topo r.1.tags) s name defn f st ht fun t ok => ?_
    dsimp only [updQuerySt, uqApply, uqInv]
    -- `T` is the table the cycle check looked at
    have hcyc := ok.acyclic
    unfold createsTagCycle at hcyc
    simp only [bne_eq_false_iff_eq] at hcyc
    have hget := sget_replace s.tags name (uqTag defn f)
    have hkeys : (s.tags.map fun (n, t) => if n == name then (n, uqTag defn f) else (n, t)).map (·.1)
        = s.tags.map (·.1) := by
      rw [List.map_map]
      apply List.map_congr_left
      rintro ⟨k, v⟩ _
      simp only [Function.comp]
      split <;> rfl
    generalize (s.tags.map fun (n, t) => if n == name then (n, uqTag defn f) else (n, t)) = T at hcyc hget hkeys
    refine topo_of_fq (sorted_of_keys_eq _ _ hkeys hs) ?_ (topo_of_full T _ hcyc)
    have hA : FQ s.tags (uqRefs s name t.refs (uqNew defn f t s.all).refs).tags := by
      unfold uqRefs
      exact (uqRefs_frE s name _ _).fq
    have hB : FQ T (setTag (uqRefs s name t.refs (uqNew defn f t s.all).refs) name (uqNew defn f t s.all)).tags := by
      intro n
      simp only [setTag]
      rw [sget_sins, hget]
      by_cases hn : name = n
      · subst hn
        simp [ok.found, F2, uqNew]
      · have hn' : (n == name) = false := by simpa using fun e : n = name => hn e.symm
        rw [if_neg hn, hA n]
        simp [hn']
    refine FQ.eq ?_ (startConverter_same _).1
    refine FQ.eq ?_ (MgrSettle.startTagging_tags _ _)
    refine FQ.eq ?_ (invalidatedDuringTaggingJob_frame (·.tags) _ _)
    exact hB.trans (inherit_frE (g := False) _).fq
  | _ => exact topo_of_fq hs (MgrReach.weq_step s _ st hf id).fac ht

end Pk.Proofs.MgrTermination
