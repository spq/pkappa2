/- Evaluating `Mgr.step` on concrete states in the kernel (`decide +kernel`), for the modules that run concrete
   histories: decidable equality of states, and the `addTag` branch of `step` with the parsed name as a parameter
   (`parseTagName` goes through `String.splitOn`, which is defined by well-founded recursion and does not reduce in
   the kernel; the parse of a literal name is supplied as an equation, e.g. `parse_tag_x`). -/
import Pk.Model.Manager
namespace Pk.Mgr

deriving instance DecidableEq for Tag, St, Res

def addTagWith (p : String × String × Bool) (s : St) (name color defn : String) (f : Facts) (st : Started) : St × Res :=
  let (typ, sub, isMark) := p
  if typ == "" || sub == "" then (s, .err)
  else if f.err then (s, .err)
  else
    let nt : Tag := { defn := defn, mainT := f.main, subT := f.sub, mfeat := f.mfeat, sfeat := f.sfeat, color := color, isMarkDef := isMark,
                      gen := s.ngen }
    if nt.refs.contains name then (s, .err)
    else if isMark && !f.idsok then (s, .err)
    else if (sget s.tags name).isSome then (s, .err)
    else if nt.refs.any (fun r => (sget s.tags r).isNone) then (s, .err)
    else
      let (s, nt) :=
        if isMark then (s, { nt with mat := ofList f.ids })
        else (s, { nt with unc := rangeSet s.all })
      let s := setTag { s with ngen := s.ngen + 1 } name nt
      let s := if isMark then s else startTagging s st.tag
      let s := nt.refs.foldl (fun s r => addRefBy s r name) s
      (s, .ok)

theorem step_addTag_with (s : St) (name color defn : String) (f : Facts) (st : Started) (p : String × String × Bool)
    (hp : parseTagName name = p) : step s (.addTag name color defn f) st = addTagWith p s name color defn f st := by
  subst hp; rfl

end Pk.Mgr
