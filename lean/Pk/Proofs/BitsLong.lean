/- C17: LongBitmask, a list of words. -/
import Pk.Model.Bits
import Pk.Proofs.Bits

set_option linter.unusedSimpArgs false

namespace Pk.Proofs.Bits
open Pk.Bits

namespace Long
open Pk.Bits.Long

/-- where a position lies, seen from the second word on -/
theorem pos_ge {b : Nat} (h : 64 ≤ b) : b / 64 = (b - 64) / 64 + 1 ∧ b % 64 = (b - 64) % 64 := by omega
theorem pos_lt {b : Nat} (h : b < 64) : b / 64 = 0 ∧ b % 64 = b := by omega

theorem isSet_eq (l : Long) (x : Nat) : isSet l x = (word l (x / 64)).getLsbD (x % 64) := by
  unfold isSet word
  split
  · rfl
  · simp [List.getD_eq_getElem?_getD, List.getElem?_eq_none (Nat.le_of_not_lt ‹_›)]

theorem word_of_ge (l : Long) (i : Nat) (h : l.length ≤ i) : word l i = 0#64 := by
  simp [word, List.getD_eq_getElem?_getD, List.getElem?_eq_none h]

theorem word_set (l : Long) (i j : Nat) (v : W) :
    word (List.set l i v) j = if i = j ∧ i < l.length then v else word l j := by
  simp only [word, List.getD_eq_getElem?_getD, List.getElem?_set]
  by_cases h : i = j
  · subst h; by_cases h2 : i < l.length <;> simp [h2]
  · simp [h]

theorem word_append_zero (p z : Long) (hz : ∀ w ∈ z, w = 0#64) (i : Nat) :
    word (p ++ z) i = word p i := by
  simp only [word, List.getD_eq_getElem?_getD]
  by_cases h : i < p.length
  · rw [List.getElem?_append_left h]
  · rw [List.getElem?_append_right (by omega), List.getElem?_eq_none (l := p) (by omega)]
    cases hh : z[i - p.length]? with
    | none => rfl
    | some w => simp; exact hz w (List.mem_of_getElem? hh)

theorem word_grow (l : Long) (idx i : Nat) : word (grow l idx) i = word l i := by
  unfold grow; split
  · apply word_append_zero; intro w hw; simp at hw; exact hw.2
  · rfl

theorem length_grow (l : Long) (idx : Nat) : idx < (grow l idx).length := by
  unfold grow; split
  · simp; omega
  · omega

/-- `Set`, `Flip` (and `Unset` inside the list) at once: word `b / 64` changed at bit `b % 64`.  A definition of the
    proofs: the model writes the three out; `Short.modify` IS in the model, and `Short.words_modify` equates the two. -/
def modify (f : W → W → W) (l : Long) (b : Nat) : Long :=
  List.set (grow l (b / 64)) (b / 64) (f (word (grow l (b / 64)) (b / 64)) (bitW (b % 64)))

theorem modify_isSet {f g} (h : BitOp f g) (l : Long) (b x : Nat) :
    isSet (modify f l b) x = g (isSet l x) (decide (x = b)) := by
  simp only [modify, isSet_eq, word_set, word_grow, length_grow, and_true]
  split
  · rw [h.bit _ (Nat.mod_lt _ (by omega)) (Nat.mod_lt _ (by omega)), ‹b / 64 = x / 64›,
      decide_eq_decide.2 (by omega : x % 64 = b % 64 ↔ x = b)]
  · rw [decide_eq_false (by omega), h.keep]

theorem set_isSet (l : Long) (b x : Nat) : isSet (Long.set l b) x = (x == b || isSet l x) :=
  (modify_isSet bitOp_or l b x).trans (Bool.or_comm ..)

theorem flip_isSet (l : Long) (b x : Nat) : isSet (Long.flip l b) x = (if x = b then !isSet l x else isSet l x) := by
  refine (modify_isSet bitOp_xor l b x).trans ?_
  split <;> simp [*]

theorem unset_isSet (l : Long) (b x : Nat) : isSet (Long.unset l b) x = (x != b && isSet l x) := by
  have := modify_isSet bitOp_andNot l b x
  rw [Long.unset]
  split
  · by_cases h : x = b
    · subst h; simp [isSet_eq, word_of_ge _ _ ‹_›]
    · simp [h]
  · rw [modify, grow, if_neg ‹_›] at this
    rw [this, Bool.and_comm]; rfl

theorem word_cons_zero (w : W) (ws : Long) : word (w :: ws) 0 = w := rfl
theorem word_cons_succ (w : W) (ws : Long) (i : Nat) : word (w :: ws) (i + 1) = word ws i := rfl
theorem word_nil (i : Nat) : word [] i = 0#64 := rfl

theorem word_or (a b : Long) : ∀ i, word (Long.or a b) i = word a i ||| word b i := by
  fun_induction Long.or a b with
  | case1 bs => simp only [word_nil, BitVec.zero_or, implies_true]
  | case2 as _ => simp only [word_nil, BitVec.or_zero, implies_true]
  | case3 a as b bs ih => exact Nat.and_forall_add_one.1 ⟨rfl, ih⟩
theorem word_xor (a b : Long) : ∀ i, word (Long.xor a b) i = word a i ^^^ word b i := by
  fun_induction Long.xor a b with
  | case1 bs => simp only [word_nil, BitVec.zero_xor, implies_true]
  | case2 as _ => simp only [word_nil, BitVec.xor_zero, implies_true]
  | case3 a as b bs ih => exact Nat.and_forall_add_one.1 ⟨rfl, ih⟩
theorem word_and (a b : Long) : ∀ i, word (Long.and a b) i = word a i &&& word b i := by
  fun_induction Long.and a b with
  | case1 bs => simp only [word_nil, BitVec.zero_and, implies_true]
  | case2 as _ => simp only [word_nil, BitVec.and_zero, implies_true]
  | case3 a as b bs ih => exact Nat.and_forall_add_one.1 ⟨rfl, ih⟩
theorem word_sub (a b : Long) : ∀ i, word (Long.sub a b) i = word a i &&& ~~~ word b i := by
  fun_induction Long.sub a b with
  | case1 bs => simp only [word_nil, BitVec.zero_and, implies_true]
  | case2 as _ => simp only [word_nil, BitVec.not_zero, BitVec.and_allOnes, implies_true]
  | case3 a as b bs ih => exact Nat.and_forall_add_one.1 ⟨rfl, ih⟩

theorem and_nil (l : Long) : Long.and l [] = [] := by cases l <;> rfl
theorem sub_nil (l : Long) : Long.sub l [] = l := by cases l <;> rfl

theorem or_isSet (a b : Long) (x : Nat) : isSet (Long.or a b) x = (isSet a x || isSet b x) := by
  simp [isSet_eq, word_or]
theorem and_isSet (a b : Long) (x : Nat) : isSet (Long.and a b) x = (isSet a x && isSet b x) := by
  simp [isSet_eq, word_and]
theorem xor_isSet (a b : Long) (x : Nat) : isSet (Long.xor a b) x = (isSet a x != isSet b x) := by
  simp [isSet_eq, word_xor]
theorem sub_isSet (a b : Long) (x : Nat) : isSet (Long.sub a b) x = (isSet a x && !isSet b x) := by
  simp [isSet_eq, word_sub, Nat.mod_lt]

theorem isSet_nil (x : Nat) : isSet [] x = false := by simp [isSet]

theorem isSet_cons (w : W) (ws : Long) (x : Nat) :
    isSet (w :: ws) x = if x < 64 then w.getLsbD x else isSet ws (x - 64) := by
  simp only [isSet_eq]
  split
  · rw [(pos_lt ‹_›).1, (pos_lt ‹_›).2, word_cons_zero]
  · rw [(pos_ge (Nat.le_of_not_lt ‹_›)).1, (pos_ge (Nat.le_of_not_lt ‹_›)).2, word_cons_succ]

theorem isSet_ext_iff (a b : Long) : (∀ x, isSet a x = isSet b x) ↔ ∀ i, word a i = word b i := by
  constructor
  · intro h i
    apply BitVec.eq_of_getLsbD_eq
    intro j hj
    have := h (64 * i + j)
    rw [isSet_eq, isSet_eq] at this
    have h1 : (64 * i + j) / 64 = i := by omega
    have h2 : (64 * i + j) % 64 = j := by omega
    rw [h1, h2] at this; exact this
  · intro h x
    rw [isSet_eq, isSet_eq, h]

theorem mem_takeWhile_imp {p : W → Bool} {l : List W} {w : W} (h : w ∈ l.takeWhile p) : p w = true := by
  induction l with
  | nil => simp at h
  | cons a as ih =>
    rw [List.takeWhile_cons] at h
    split at h
    · rcases List.mem_cons.mp h with h | h
      · subst h; assumption
      · exact ih h
    · simp at h

theorem shrink_append (l : Long) : ∃ z : Long, (∀ w ∈ z, w = 0#64) ∧ l = shrink l ++ z := by
  refine ⟨(l.reverse.takeWhile (· == 0#64)).reverse, ?_, ?_⟩
  · intro w hw
    rw [List.mem_reverse] at hw
    have := mem_takeWhile_imp hw
    simpa using this
  · unfold shrink
    rw [← List.reverse_append, List.takeWhile_append_dropWhile, List.reverse_reverse]

theorem word_shrink (l : Long) (i : Nat) : word (shrink l) i = word l i := by
  obtain ⟨z, hz, hl⟩ := shrink_append l
  conv => rhs; rw [hl]
  rw [word_append_zero _ _ hz]

theorem shrink_isSet (l : Long) (x : Nat) : isSet (shrink l) x = isSet l x := by
  rw [isSet_eq, isSet_eq, word_shrink]

theorem all_zero_iff (l : Long) : l.all (· == 0#64) = true ↔ ∀ i, word l i = 0#64 := by
  induction l with
  | nil => simp [word_nil]
  | cons w ws ih =>
    rw [List.all_cons, Bool.and_eq_true, ih, beq_iff_eq]
    exact Nat.and_forall_add_one (p := fun i => word (w :: ws) i = 0#64)

theorem equal_iff_word (a b : Long) : Long.equal a b = true ↔ ∀ i, word a i = word b i := by
  fun_induction Long.equal a b with
  | case1 bs => rw [all_zero_iff]; simp only [word_nil]; constructor <;> intro h i <;> rw [h i]
  | case2 as _ => rw [all_zero_iff]; simp only [word_nil]
  | case3 a as b bs ih =>
    rw [Bool.and_eq_true, ih, beq_iff_eq]
    exact Nat.and_forall_add_one (p := fun i => word (a :: as) i = word (b :: bs) i)

theorem equal_iff (a b : Long) : Long.equal a b = true ↔ isSet a = isSet b := by
  rw [equal_iff_word, ← isSet_ext_iff, funext_iff]

theorem isZero_iff (l : Long) : isZero l = true ↔ ∀ x, isSet l x = false := by
  unfold isZero
  rw [all_zero_iff]
  have := isSet_ext_iff l []
  simp only [isSet_nil, word_nil] at this
  exact this.symm

theorem lenAux_eq (ws : Long) (idx : Nat) :
    lenAux ws idx = if lenAux ws 0 = 0 then 0 else idx * 64 + lenAux ws 0 := by
  induction ws generalizing idx with
  | nil => rfl
  | cons w ws ih =>
    have hw := len64_eq_zero w
    rw [lenAux, lenAux, ih (idx + 1), ih (0 + 1)]
    by_cases hl : lenAux ws 0 = 0 <;> by_cases h0 : w = 0#64 <;> simp [hl, h0, hw] <;> omega

/-- `Len` word by word, as `ShortBitmask.Len` computes it -/
theorem len_cons (w : W) (ws : Long) : len (w :: ws) = if len ws ≠ 0 then len ws + 64 else len64 w := by
  have hw := len64_eq_zero w
  rw [len, lenAux, lenAux_eq ws (0 + 1)]
  by_cases hl : lenAux ws 0 = 0 <;> by_cases h0 : w = 0#64 <;> simp [len, hl, h0, hw, len64_zero] <;> omega

theorem len_sup (l : Long) :
    (∀ x, len l ≤ x → isSet l x = false) ∧ (0 < len l → isSet l (len l - 1) = true) := by
  induction l with
  | nil => exact ⟨fun x _ => isSet_nil x, fun h => absurd h (Nat.lt_irrefl 0)⟩
  | cons w ws ih =>
    obtain ⟨ih1, ih2⟩ := ih
    have hle := len64_le w
    rw [len_cons]
    by_cases hl : len ws = 0
    · rw [if_neg (by simpa using hl)]
      refine ⟨fun x hx => ?_, fun hpos => ?_⟩
      · rw [isSet_cons]; split
        · exact getLsbD_of_len64_le _ _ hx
        · exact ih1 _ (by omega)
      · rw [isSet_cons, if_pos (by omega)]
        exact getLsbD_len64_pred fun h => by rw [(len64_eq_zero w).2 h] at hpos; omega
    · rw [if_pos hl]
      refine ⟨fun x hx => ?_, fun _ => ?_⟩
      · rw [isSet_cons, if_neg (by omega)]; exact ih1 _ (by omega)
      · rw [isSet_cons, if_neg (by omega), show len ws + 64 - 1 - 64 = len ws - 1 by omega]
        exact ih2 (by omega)
theorem onesCount_cons (w : W) (ws : Long) : onesCount (w :: ws) = popcount w + onesCount ws := by
  simp [onesCount]

theorem onesCount_card (l : Long) :
    onesCount l = (List.range (64 * l.length)).countP (isSet l) := by
  induction l with
  | nil => simp [onesCount]
  | cons w ws ih =>
    have e : 64 * (w :: ws).length = 64 + 64 * ws.length := by simp; omega
    have h1 : popcount w = (List.range 64).countP (isSet (w :: ws)) := by
      unfold popcount
      apply List.countP_congr
      intro x hx
      have : x < 64 := List.mem_range.mp hx
      rw [isSet_cons, if_pos this]
    have h2 : (List.range (64 * ws.length)).countP (isSet ws) =
        (List.range (64 * ws.length)).countP (fun i => isSet (w :: ws) (64 + i)) := by
      apply List.countP_congr
      intro x _
      rw [isSet_cons, if_neg (by omega)]
      have : 64 + x - 64 = x := by omega
      rw [this]
    rw [e, countP_range_add, onesCount_cons, ih, h1, h2]

theorem nextAux_spec (l : Long) (fuel bit : Nat) :
    (∀ n, nextAux l bit fuel = some n →
      bit ≤ n ∧ n < bit + fuel ∧ isSet l n = true ∧ ∀ y, bit ≤ y → y < n → isSet l y = false) ∧
    (nextAux l bit fuel = none → ∀ y, bit ≤ y → y < bit + fuel → isSet l y = false) := by
  induction fuel generalizing bit with
  | zero =>
    unfold nextAux
    refine ⟨fun n h => by simp at h, fun _ y h1 h2 => by omega⟩
  | succ fuel ih =>
    unfold nextAux
    by_cases hb : isSet l bit = true
    · rw [if_pos hb]
      refine ⟨fun n h => ?_, fun h => by simp at h⟩
      have : bit = n := by simpa using h
      subst this
      exact ⟨Nat.le_refl _, by omega, hb, fun y h1 h2 => by omega⟩
    · rw [if_neg hb]
      have hb' : isSet l bit = false := by simpa using hb
      obtain ⟨ih1, ih2⟩ := ih (bit + 1)
      refine ⟨fun n h => ?_, fun h y h1 h2 => ?_⟩
      · obtain ⟨a, b, c, d⟩ := ih1 n h
        refine ⟨by omega, by omega, c, fun y h1 h2 => ?_⟩
        by_cases hy : y = bit
        · subst hy; exact hb'
        · exact d y (by omega) h2
      · by_cases hy : y = bit
        · subst hy; exact hb'
        · exact ih2 h y (by omega) (by omega)

theorem isSet_of_ge (l : Long) (x : Nat) (h : 64 * l.length ≤ x) : isSet l x = false := by
  rw [isSet_eq, word_of_ge l _ (by omega)]; simp

theorem next_least (l : Long) (bit : Nat) :
    (∀ n, next l bit = some n → bit ≤ n ∧ isSet l n = true ∧ ∀ y, bit ≤ y → y < n → isSet l y = false) ∧
    (next l bit = none → ∀ y, bit ≤ y → isSet l y = false) := by
  unfold next
  split
  · refine ⟨fun n h => by simp at h, fun _ y hy => isSet_of_ge l y (by omega)⟩
  · obtain ⟨h1, h2⟩ := nextAux_spec l (l.length * 64 - bit) bit
    refine ⟨fun n h => ?_, fun h y hy => ?_⟩
    · obtain ⟨a, _, c, d⟩ := h1 n h
      exact ⟨a, c, d⟩
    · by_cases hlt : y < l.length * 64
      · exact h2 h y hy (by omega)
      · exact isSet_of_ge l y (by omega)

theorem grow_cons (m : W) (ms : Long) (k : Nat) : grow (m :: ms) (k + 1) = m :: grow ms k := by
  simp only [grow, List.length_cons, ge_iff_le, Nat.add_le_add_iff_right, Nat.add_sub_add_right]
  split <;> rfl

/-! `modify` and `inject` are defined by position (`b / 64`, `take`, `drop`); these equations say that they
    walk the list word by word, which is how `ShortBitmask` is written (and `LongBitmask.Inject` in Go) and
    how the proofs go. -/
theorem modify_cons_ge (f) (m : W) (ms : Long) (b : Nat) (h : 64 ≤ b) :
    modify f (m :: ms) b = m :: modify f ms (b - 64) := by
  simp only [modify, pos_ge h, grow_cons, List.set_cons_succ, word_cons_succ]

theorem modify_cons_lt (f) (m : W) (ms : Long) (b : Nat) (h : b < 64) :
    modify f (m :: ms) b = f m (bitW b) :: ms := by
  simp [modify, pos_lt h, grow, word]

theorem modify_nil (f) (b : Nat) : modify f [] b = modify f [0#64] b := by
  have h : grow [0#64] (b / 64) = grow [] (b / 64) := by
    simp only [grow, List.length_cons, List.length_nil, ge_iff_le, Nat.zero_le, if_true, Nat.sub_zero, List.nil_append,
      List.replicate_succ]
    split <;> simp [List.replicate_succ] <;> omega
  rw [modify, modify, h]

theorem injectWords_zero (ms : Long) (c : Bool) : injectWords ms 0 c = inject ms 0 c := by
  cases ms <;> cases c <;> rfl

theorem inject_cons (m : W) (ms : Long) (bit : Nat) (v : Bool) :
    inject (m :: ms) bit v =
      if 64 ≤ bit then m :: inject ms (bit - 64) v else injectWord m bit v :: inject ms 0 (m.getLsbD 63) := by
  split
  · simp only [inject, pos_ge ‹_›, List.length_cons, ge_iff_le, Nat.add_le_add_iff_right, List.take_succ_cons,
      List.drop_succ_cons, List.cons_append]
    split
    · cases v
      · rfl
      · exact modify_cons_ge _ m ms bit ‹_›
    · rfl
  · simp only [inject, pos_lt (Nat.lt_of_not_le ‹_›), List.length_cons, ge_iff_le, Nat.le_zero_eq, Nat.add_one_ne_zero, if_false,
      List.take_zero, List.drop_zero, List.nil_append, injectWords, injectWords_zero]

/-- By induction on the words with `inject_cons`: `bit` and `x` each lie in the first word or behind it; the
    carry into the next word is an `inject … 0` of the rest. -/
theorem inject_isSet (l : Long) (bit : Nat) (v : Bool) (x : Nat) :
    isSet (inject l bit v) x =
      if x < bit then isSet l x else if x = bit then v else isSet l (x - 1) := by
  induction l generalizing bit v x with
  | nil =>
    cases v
    · simp [inject, isSet_nil]
    · simp only [inject, List.length_nil, ge_iff_le, Nat.zero_le, if_true, set_isSet, isSet_nil, Bool.or_false]
      by_cases h : x = bit <;> simp [h]
  | cons m ms ih =>
    rw [inject_cons]
    by_cases hb : 64 ≤ bit <;> by_cases hx : x < 64 <;>
      simp (disch := omega) only [hb, if_true, if_false, if_pos, if_neg, isSet_cons, ih, injectWord_getLsbD,
        sub64_lt, sub64_eq, Nat.sub_right_comm x 64 1]
    by_cases h64 : x = 64 <;>
      simp (disch := omega) only [h64, if_true, if_pos, if_neg, Nat.reduceSub]

end Long
end Pk.Proofs.Bits
