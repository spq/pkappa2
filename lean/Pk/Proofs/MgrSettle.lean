/-
  C09, single steps.  The job-flag invariant (`JobsWF`) is carried along `Starts` (Pk/Proofs/MgrStarts.lean): a
  change on the tag side writes no job field, a job starter sets flag and record together; a completion clears
  both before the starters run again.

  The "no stuck work" invariant (`NoStuck`): most events end with the job starters, which establish it whatever
  came before (`nostuck_finish`); the tag-table edits keep the eligibility picture (`Sim`) or, for
  `delTag`/`updName`, remove a tag nobody references.  At the end the other lemmas Pk/Props/C09.lean takes from
  here: `tagDone_clears`, `mergeOffset_bound`, `sget_map_nil`.
-/
import Pk.Proofs.MgrFrame
import Pk.Proofs.MgrStarts
import Pk.Proofs.MgrTagsFrame
import Pk.Proofs.MgrSettleFrame

namespace Pk.Proofs.MgrSettle
open Pk.Mgr Pk.Proofs.MgrLocks

/-- `Pk.Props.C09.JobsWF`, restated because Pk/Props/C09.lean imports this module; `C09.jobsWF_step`
    passes from one to the other by unfolding -/
def JobsWF (s : St) : Prop :=
  (s.tag = true ↔ s.jTag.isSome) ∧ (s.merge = true ↔ s.jMerge.isSome) ∧
  (s.convert = true ↔ s.jConv.isSome) ∧ (s.queue ≠ [] ↔ s.jImport.isSome)

@[simp] theorem startImport_jImport_isSome (s : St) : (startImport s).jImport.isSome = true := rfl

theorem jobsWF_startTagging (X : St) (c) (h : JobsWF X) : JobsWF (startTagging X c) :=
  startTagging_cases X c (fun _ => h) fun _ _ _ _ _ _ => ⟨iff_of_true rfl rfl, h.2⟩

theorem jobsWF_startConverter (X : St) (h : JobsWF X) : JobsWF (startConverter X) :=
  startConverter_cases X (fun _ => h) fun _ _ _ _ => ⟨h.1, h.2.1, iff_of_true rfl rfl, h.2.2.2⟩

theorem jobsWF_startMerge (X : St) (h : JobsWF X) : JobsWF (startMerge X) :=
  startMerge_cases X h fun _ _ _ => ⟨h.1, iff_of_true rfl rfl, h.2.2⟩

theorem jobsWF_release (X : St) (fs) (h : JobsWF X) : JobsWF (release X fs) :=
  (release_frame JobsWF X fs).mpr h

theorem jobsWF_getIndexesCopy (s : St) (n) (h : JobsWF s) : JobsWF (getIndexesCopy s n).1 := h

theorem jobsWF_importPcaps (s : St) (names) (st : Started) (h : JobsWF s) :
    JobsWF (step s (.importPcaps names) st).1 :=
  step_importPcaps_cases (P := fun r => JobsWF r.1) s names st h
    (fun _ hq => ⟨h.1, h.2.1, h.2.2.1, iff_of_true (by simp [hq]) (h.2.2.2.1 hq)⟩)
    fun hn _ => ⟨h.1, h.2.1, h.2.2.1, iff_of_true (show s.queue ++ names ≠ [] by simp [hn]) rfl⟩

/-- Between the completion and `idQueue` the import clause of `JobsWF` is broken (record cleared, rest of
    the queue possibly not empty); the hypothesis blanks both fields to speak of the other three clauses. -/
theorem jobsWF_idQueue (X : St) (h : JobsWF { X with queue := [], jImport := none }) (hj : X.jImport = none) :
    JobsWF (idQueue X) := by
  unfold idQueue
  split
  · next hq => exact ⟨h.1, h.2.1, h.2.2.1, by simp [hj, List.isEmpty_iff.1 hq]⟩
  · next hq => exact ⟨h.1, h.2.1, h.2.2.1, iff_of_true (show X.queue ≠ [] by simpa using hq) rfl⟩

theorem _root_.Pk.Proofs.MgrLocks.Starts.jobsWF {s s' : St} (h : Starts s s') (hi : JobsWF s) : JobsWF s' := by
  induction h with
  | refl => exact hi
  | same _ e ih => rw [e]; exact ih
  | tag c _ ih => exact jobsWF_startTagging _ c ih
  | conv _ ih => exact jobsWF_startConverter _ ih
  | merge _ ih => exact jobsWF_startMerge _ ih

theorem jobsWF_step (s : St) (e : Ev) (st : Started) (h : JobsWF s) : JobsWF (step s e st).1 := by
  cases e with
  | importPcaps a => exact jobsWF_importPcaps s a st h
  | importDone a b c d e f =>
    refine step_importDone_starts s a b c d e f st h fun jn held fin _ hs => hs.jobsWF (jobsWF_idQueue _ ?_ ?_)
    · refine (idApply_frame (fun Y => JobsWF { Y with queue := [], jImport := none }) ..).mpr ?_
      exact (release_frame (fun Y => JobsWF { Y with queue := [], jImport := none }) ..).mpr
        ⟨h.1, h.2.1, h.2.2.1, by simp⟩
    · exact (idApply_frame (·.jImport) ..).trans (release_frame (·.jImport) ..)
  | tagDone a b =>
    exact step_tagDone_starts s a b st h h fun _ held _ _ hs => jobsWF_release _ held (hs.jobsWF ⟨by simp, h.2⟩)
  | mergeDone a =>
    refine step_mergeDone_starts s a st h fun off held _ _ hs => jobsWF_release _ held (hs.jobsWF ?_)
    exact (mdApply_frame (fun Y => JobsWF { Y with merge := false }) ..).mpr ⟨h.1, by simp, h.2.2⟩
  | convertDone =>
    exact step_convertDone_starts s st h fun _ held _ _ hs =>
      jobsWF_release _ held (hs.jobsWF ⟨h.1, h.2.1, by simp, h.2.2.2⟩)
  | viewOpen a => exact step_viewOpen_cases (P := fun r => JobsWF r.1) s a st h fun _ _ => h
  | viewRelease a =>
    exact step_viewRelease_cases (P := fun r => JobsWF r.1) s a st h fun _ _ => jobsWF_release _ _ h
  | _ => exact (step_api_starts s _ st rfl).jobsWF h

end Pk.Proofs.MgrSettle

namespace Pk.Proofs.MgrSettle
open Pk.Mgr

theorem sget_nil {α} (k : String) : sget ([] : List (String × α)) k = none := rfl

theorem diff_ne_nil (a b : IdSet) (h : diff a b ≠ []) : a ≠ [] := by
  intro ha; subst ha; exact h rfl
theorem inter_ne_nil (a b : IdSet) (h : inter a b ≠ []) : a ≠ [] := by
  intro ha; subst ha; exact h rfl

def eligT (tags : List (String × Tag)) (t : Tag) : Bool :=
  !t.unc.isEmpty && t.refs.all (fun r => (tagUnc tags r).isEmpty)

theorem eligible_eq (s : St) (t : Tag) : eligible s t = eligT s.tags t := rfl

theorem eligT_iff (tags : List (String × Tag)) (t : Tag) :
    eligT tags t = true ↔ t.unc ≠ [] ∧ ∀ r ∈ t.refs, tagUnc tags r = [] := by
  simp [eligT, List.isEmpty_iff]

def TagFree (tags : List (String × Tag)) (tag : Bool) : Prop :=
  (∃ nt ∈ tags, eligT tags nt.2 = true) → tag = true

def ConvFree (convs : List String) (toconv : List (String × IdSet)) (convert : Bool) : Prop :=
  ∀ c ∈ convs, (sget toconv c).getD [] ≠ [] → convert = true

/-- `Pk.Props.C09.NoStuck` up to unfolding, restated because Pk/Props/C09.lean imports this module -/
def NoStuck (s : St) : Prop := TagFree s.tags s.tag ∧ ConvFree s.convs s.toconv s.convert

theorem tagUnc_sins_same {n : String} {t : Tag} {l : List (String × Tag)} (h : tagUnc l n = t.unc) (r : String) :
    tagUnc (sins n t l) r = tagUnc l r := by
  rw [tagUnc_sins]
  split
  · next hr => rw [← hr, h]
  · rfl

/-- the eligibility picture: `eligT` reads the table through `tagUnc` and an entry through its pending
    set and its references (`eligT_congr`) -/
structure Sim (l l' : List (String × Tag)) : Prop where
  unc : ∀ r, tagUnc l' r = tagUnc l r
  mem : ∀ nt' ∈ l', ∃ nt ∈ l, nt.2.unc = nt'.2.unc ∧ nt.2.refs = nt'.2.refs

theorem Sim.refl (l : List (String × Tag)) : Sim l l :=
  ⟨fun _ => rfl, fun nt h => ⟨nt, h, rfl, rfl⟩⟩

theorem eligT_congr {l l' : List (String × Tag)} {t t' : Tag} (hu : ∀ r, tagUnc l' r = tagUnc l r)
    (e1 : t.unc = t'.unc) (e2 : t.refs = t'.refs) : eligT l' t' = eligT l t := by
  unfold eligT
  rw [e1, e2]
  congr 2
  funext r
  rw [hu]

theorem Sim.tagFree {l l' : List (String × Tag)} {tag : Bool} (h : Sim l l') (hf : TagFree l tag) :
    TagFree l' tag := by
  rintro ⟨nt', hm, he⟩
  obtain ⟨nt, hm1, e1, e2⟩ := h.mem nt' hm
  exact hf ⟨nt, hm1, by rw [← eligT_congr h.unc e1 e2]; exact he⟩

theorem sim_sins (l : List (String × Tag)) (n : String) (t t' : Tag) (h : sget l n = some t)
    (e1 : t.unc = t'.unc) (e2 : t.refs = t'.refs) : Sim l (sins n t' l) := by
  refine ⟨tagUnc_sins_same (by simp [tagUnc, h, e1]), fun nt hm => ?_⟩
  · rcases mem_sins _ _ _ _ hm with hm | hm
    · subst hm
      exact ⟨(n, t), sget_mem _ _ _ h, e1, e2⟩
    · exact ⟨nt, hm, rfl, rfl⟩

theorem tagFree_sins_fresh (l : List (String × Tag)) (n : String) (t : Tag) (tag : Bool)
    (h : sget l n = none) (hu : t.unc = []) (hf : TagFree l tag) : TagFree (sins n t l) tag := by
  have hunc : ∀ r, tagUnc (sins n t l) r = tagUnc l r := tagUnc_sins_same (by simp [tagUnc, h, hu])
  rintro ⟨nt', hm, he⟩
  rcases mem_sins _ _ _ _ hm with hm | hm
  · subst hm
    exact absurd hu ((eligT_iff _ _).1 he).1
  · exact hf ⟨nt', hm, by rw [← eligT_congr hunc rfl rfl]; exact he⟩

def NoRef (l : List (String × Tag)) (name : String) : Prop := ∀ nt ∈ l, name ∉ nt.2.refs

theorem tagFree_sdel (l : List (String × Tag)) (name : String) (tag : Bool)
    (hn : NoRef l name) (hf : TagFree l tag) : TagFree (sdel l name) tag := by
  rintro ⟨nt, hm, he⟩
  have hm' := ((mem_sdel _ _ _).mp hm).1
  refine hf ⟨nt, hm', ?_⟩
  rw [eligT_iff] at he ⊢
  refine ⟨he.1, fun r hr => ?_⟩
  have := he.2 r hr
  rw [tagUnc_sdel] at this
  have hne : name ≠ r := fun e => hn nt hm' (e ▸ hr)
  simpa [hne] using this

theorem tagFree_rename (l : List (String × Tag)) (name new : String) (t : Tag) (tag : Bool)
    (ht : sget l name = some t) (hnew : sget l new = none)
    (hn : NoRef l name) (hf : TagFree l tag) : TagFree (sins new t (sdel l name)) tag := by
  have key : ∀ t0 : Tag, name ∉ t0.refs → eligT (sins new t (sdel l name)) t0 = true → eligT l t0 = true := by
    intro t0 h0 he
    rw [eligT_iff] at he ⊢
    refine ⟨he.1, fun r hr => ?_⟩
    have := he.2 r hr
    rw [tagUnc_sins, tagUnc_sdel] at this
    have hne : name ≠ r := fun e => h0 (e ▸ hr)
    by_cases h1 : new = r
    · subst h1; simp [tagUnc, hnew]
    · simpa [h1, hne] using this
  rintro ⟨nt, hm, he⟩
  rcases mem_sins _ _ _ _ hm with hm | hm
  · subst hm
    have hm' := sget_mem _ _ _ ht
    exact hf ⟨(name, t), hm', key t (hn _ hm') he⟩
  · have hm' := ((mem_sdel _ _ _).mp hm).1
    exact hf ⟨nt, hm', key nt.2 (hn _ hm') he⟩

theorem sim_addRefBy (s : St) (a b : String) : Sim s.tags (addRefBy s a b).tags := by
  unfold addRefBy
  split
  · next h => exact sim_sins _ _ _ _ h rfl rfl
  · exact Sim.refl _

theorem sim_delRefBy (s : St) (a b : String) : Sim s.tags (delRefBy s a b).tags := by
  unfold delRefBy
  split
  · next h => exact sim_sins _ _ _ _ h rfl rfl
  · exact Sim.refl _

theorem sim_attachConv (s : St) (n c : String) : Sim s.tags (attachConv s n c).1.tags :=
  attachConv_cases (P := fun X => Sim s.tags X.tags) s n c (Sim.refl _) fun _ ht _ _ => sim_sins _ _ _ _ ht rfl rfl

theorem NoStuck.of_sim {s X : St} (h : NoStuck s) (hs : Sim s.tags X.tags) (e1 : X.tag = s.tag)
    (e2 : ConvFree X.convs X.toconv X.convert = ConvFree s.convs s.toconv s.convert) : NoStuck X :=
  ⟨e1 ▸ hs.tagFree h.1, e2.mpr h.2⟩

theorem nostuck_addRefBy (s : St) (a b : String) (h : NoStuck s) : NoStuck (addRefBy s a b) :=
  h.of_sim (sim_addRefBy s a b) (addRefBy_frame (·.tag) s a b)
    (addRefBy_frame (fun s => ConvFree s.convs s.toconv s.convert) s a b)

theorem nostuck_delRefBy (s : St) (a b : String) (h : NoStuck s) : NoStuck (delRefBy s a b) :=
  h.of_sim (sim_delRefBy s a b) (delRefBy_frame (·.tag) s a b)
    (delRefBy_frame (fun s => ConvFree s.convs s.toconv s.convert) s a b)

theorem startTagging_free (s : St) (c : Option String) :
    TagFree (startTagging s c).tags (startTagging s c).tag := by
  refine startTagging_cases (P := fun X => TagFree X.tags X.tag) s c (fun h => ?_) fun _ _ _ _ _ _ _ => rfl
  rintro ⟨nt, hm, he⟩
  exact h.elim id fun hn => Bool.noConfusion ((hn nt hm).symm.trans he)

theorem startConverter_free (s : St) :
    ConvFree (startConverter s).convs (startConverter s).toconv (startConverter s).convert := by
  refine startConverter_cases (P := fun X => ConvFree X.convs X.toconv X.convert) s (fun h => ?_)
    fun _ _ _ _ _ _ _ => rfl
  exact fun c hc hp => h.elim id fun hn => absurd (hn c hc) hp

theorem nostuck_finish (X : St) (c : Option String) : NoStuck (startConverter (startTagging X c)) :=
  ⟨(startConverter_frame (fun s => TagFree s.tags s.tag) _).mpr (startTagging_free X c), startConverter_free _⟩

theorem nostuck_startMerge (X : St) (h : NoStuck X) : NoStuck (startMerge X) :=
  (startMerge_frame NoStuck X).mpr h

theorem nostuck_release (X : St) (fs : List Nat) (h : NoStuck X) : NoStuck (release X fs) :=
  (release_frame NoStuck X fs).mpr h

/- `detachConv` does not keep the eligibility picture (`outputDropped` makes payload tags pending).  What
   it keeps: the references of every entry (`RefsOf`), and `TagFree` (`outputDropped` ends with
   `startTagging`). -/

def RefsOf (l l' : List (String × Tag)) : Prop := ∀ nt' ∈ l', ∃ nt ∈ l, nt.2.refs = nt'.2.refs

theorem RefsOf.refl (l : List (String × Tag)) : RefsOf l l := fun nt h => ⟨nt, h, rfl⟩

theorem RefsOf.trans {a b c : List (String × Tag)} (h1 : RefsOf a b) (h2 : RefsOf b c) : RefsOf a c := by
  intro nt h
  obtain ⟨nt1, hm1, e1⟩ := h2 nt h
  obtain ⟨nt2, hm2, e2⟩ := h1 nt1 hm1
  exact ⟨nt2, hm2, e2.trans e1⟩

theorem Sim.refsOf {l l' : List (String × Tag)} (h : Sim l l') : RefsOf l l' := by
  intro nt hm
  obtain ⟨nt1, hm1, _, e2⟩ := h.mem nt hm
  exact ⟨nt1, hm1, e2⟩

theorem RefsOf.noRef {l l' : List (String × Tag)} {name : String} (h : RefsOf l l') (hn : NoRef l name) :
    NoRef l' name := by
  intro nt' hm
  obtain ⟨nt, hm1, e2⟩ := h nt' hm
  rw [← e2]; exact hn nt hm1

theorem Sim.noRef {l l' : List (String × Tag)} {name : String} (h : Sim l l') (hn : NoRef l name) :
    NoRef l' name :=
  h.refsOf.noRef hn

theorem _root_.Pk.Proofs.MgrTags.FrE.refsOf {g : Prop} {s s' : St} (h : MgrTags.FrE g MgrTags.NT s s') :
    RefsOf s.tags s'.tags := fun nt' hm =>
  let ⟨t, h1, h2⟩ := h.mem nt' hm trivial
  ⟨(nt'.1, t), h1, (refs_congr h2.grel.1.2.2.2.2.1 h2.grel.1.2.2.2.2.2.1).symm⟩

theorem tagFree_outputDropped (s : St) (ch : Option String) (h : TagFree s.tags s.tag) :
    TagFree (outputDropped s ch).tags (outputDropped s ch).tag :=
  MgrLocks.outputDropped_cases (P := fun X => TagFree X.tags X.tag) s ch h fun _ _ => startTagging_free _ _

theorem tagFree_detachConv (s : St) (n c : String) (ch : Option String) (h : TagFree s.tags s.tag) :
    TagFree (detachConv s n c ch).tags (detachConv s n c ch).tag :=
  detachConv_cases (P := fun X => TagFree X.tags X.tag) s n c ch (fun _ => h)
    (fun _ _ ht => (sim_sins _ _ _ _ ht (by rfl) (by rfl)).tagFree h)
    fun _ _ ht => tagFree_outputDropped _ _ ((sim_sins _ _ _ _ ht (by rfl) (by rfl)).tagFree h)

theorem detachConv_pending (s : St) (n c c' : String) (ch : Option String)
    (h : (sget (detachConv s n c ch).toconv c').getD [] ≠ []) : (sget s.toconv c').getD [] ≠ [] := by
  have shrink : ∀ d, (sget (sins c (inter ((sget s.toconv c).getD []) d) s.toconv) c').getD [] ≠ [] →
      (sget s.toconv c').getD [] ≠ [] := by
    intro d hp
    rw [sget_sins] at hp
    split at hp
    · next hc => subst hc; exact inter_ne_nil _ _ (by simpa using hp)
    · exact hp
  refine detachConv_cases (P := fun X => (sget X.toconv c').getD [] ≠ [] → _) s n c ch (fun _ => id)
    (fun _ d _ => shrink d) (fun _ d _ h => shrink d ?_) h
  rwa [outputDropped_frame (·.toconv)] at h

theorem convFree_detachConv (s : St) (n c : String) (ch : Option String)
    (h : ConvFree s.convs s.toconv s.convert) :
    ConvFree (detachConv s n c ch).convs (detachConv s n c ch).toconv (detachConv s n c ch).convert := by
  intro c' hc hp
  rw [detachConv_frame (·.convert) _ _ _ ch]
  rw [detachConv_frame (·.convs) _ _ _ ch] at hc
  exact h c' hc (detachConv_pending _ _ _ _ _ hp)

/-- `Pk.Props.C09.RefByWF`, restated likewise; the counterexample without it stands there -/
def RefByWF (s : St) : Prop :=
  ∀ nt ∈ s.tags, ∀ r ∈ nt.2.refs, ∀ tr, sget s.tags r = some tr → nt.1 ∈ tr.refBy

theorem noRef_of_refBy (s : St) (name : String) (t : Tag) (h : RefByWF s) (ht : sget s.tags name = some t)
    (he : t.refBy = []) : NoRef s.tags name := by
  intro nt hm hr
  have := h nt hm name hr t ht
  rw [he] at this
  cases this

theorem nostuck_importPcaps (s : St) (names) (st : Started) (h : NoStuck s) :
    NoStuck (step s (.importPcaps names) st).1 :=
  step_importPcaps_cases (P := fun r => NoStuck r.1) s names st h (fun _ _ => h) fun _ _ =>
    (startImport_frame NoStuck _).mpr h

theorem nostuck_updQuery (s : St) (a b c) (st : Started) (h : NoStuck s) :
    NoStuck (step s (.updQuery a b c) st).1 := by
  refine step_updQuery_cases (P := fun r => NoStuck r.1) s a b c st h fun _ _ => ?_
  dsimp only  -- reduce `(_, _).1` before `updQuerySt` is compared with anything
  exact nostuck_finish _ _

theorem nostuck_updColor (s : St) (a b) (st : Started) (h : NoStuck s) :
    NoStuck (step s (.updColor a b) st).1 :=
  step_updColor_cases (P := fun r => NoStuck r.1) s a b st h h fun _ ht =>
    ⟨(sim_sins _ _ _ _ ht (by rfl) (by rfl)).tagFree h.1, h.2⟩

theorem tagFree_attachConv (s : St) (n c : String) (h : TagFree s.tags s.tag) :
    TagFree (attachConv s n c).1.tags (attachConv s n c).1.tag :=
  attachConv_frame (·.tag) s n c ▸ (sim_attachConv s n c).tagFree h

theorem nostuck_updConv (s : St) (a b) (st : Started) (h : NoStuck s) :
    NoStuck (step s (.updConv a b) st).1 := by
  refine step_updConv_cases (P := fun r => NoStuck r.1) s a b st h fun t _ _ => ?_
  refine ⟨(startConverter_frame (fun s => TagFree s.tags s.tag) _).mpr ?_, startConverter_free _⟩
  refine foldl_inv (fun X => TagFree X.tags X.tag) _ (fun s c => tagFree_attachConv s a c) _ _ ?_
  exact foldl_inv (fun X => TagFree X.tags X.tag) _ (fun s c => tagFree_detachConv s a c _) _ _ h.1

theorem nostuck_addTag (s : St) (a b c d) (st : Started) (h : NoStuck s) :
    NoStuck (step s (.addTag a b c d) st).1 := by
  refine step_addTag_cases (P := fun r => NoStuck r.1) s a b c d st h fun ok => ?_
  refine foldl_inv NoStuck _ (fun s r => nostuck_addRefBy s r a) _ _ ?_
  split
  · next hm =>
    -- a mark is inserted fully decided
    refine ⟨tagFree_sins_fresh _ _ _ _ ok.fresh ?_ h.1, h.2⟩
    exact if_pos hm
  · exact ⟨startTagging_free _ _, (startTagging_frame (fun s => ConvFree s.convs s.toconv s.convert) ..).mpr h.2⟩

theorem nostuck_updName (s : St) (a b) (st : Started) (h : NoStuck s) (hr : RefByWF s) :
    NoStuck (step s (.updName a b) st).1 := by
  refine step_updName_cases (P := fun r => NoStuck r.1) s a b st h (fun _ _ _ => h) fun t ok => ?_
  refine foldl_inv NoStuck _ (fun s r hs => nostuck_addRefBy _ r b (nostuck_delRefBy s r a hs)) _ _ ?_
  exact ⟨tagFree_rename _ _ _ _ _ ok.found ok.fresh (noRef_of_refBy s a t hr ok.found ok.unref) h.1, h.2⟩

theorem nostuck_delTag (s : St) (a) (st : Started) (h : NoStuck s) (hr : RefByWF s) :
    NoStuck (step s (.delTag a) st).1 := by
  refine step_delTag_cases (P := fun r => NoStuck r.1) s a st h fun t ht hrb => ?_
  refine foldl_inv NoStuck _ (fun s r => nostuck_delRefBy s r a) _ _ ⟨?_, ?_⟩
  · refine tagFree_sdel _ _ _ (RefsOf.noRef ?_ (noRef_of_refBy s a t hr ht hrb)) ?_
    · exact foldl_inv (fun X => RefsOf s.tags X.tags) _
        (fun X c hX => hX.trans (MgrTags.detachConv_frE (g := False) X a c _).refsOf) _ _
        (RefsOf.refl _)
    · exact foldl_inv (fun X => TagFree X.tags X.tag) _ (fun X c => tagFree_detachConv X a c _) _ _ h.1
  · exact foldl_inv (fun X => ConvFree X.convs X.toconv X.convert) _ (fun X c => convFree_detachConv X a c _) _ _ h.2

theorem nostuck_step (s : St) (e : Ev) (st : Started) (h : NoStuck s) (hr : RefByWF s) :
    NoStuck (step s e st).1 := by
  cases e with
  | nop => exact h
  | importPcaps a => exact nostuck_importPcaps s a st h
  | importDone a b c d e f =>
    exact step_importDone_cases (P := fun r => NoStuck r.1) s a b c d e f st (fun _ => h) fun _ _ _ =>
      nostuck_startMerge _ (nostuck_finish _ _)
  | tagDone a b =>
    exact step_tagDone_cases (P := fun r => NoStuck r.1) s a b st (fun _ => h) (fun _ _ _ _ _ => h) fun _ _ _ =>
      nostuck_release _ _ (nostuck_startMerge _ (nostuck_finish _ _))
  | mergeDone a =>
    exact step_mergeDone_cases (P := fun r => NoStuck r.1) s a st (fun _ => h) fun _ _ _ =>
      nostuck_release _ _ (nostuck_startMerge _ ((mdApply_frame (fun Y => NoStuck { Y with merge := false }) ..).mpr h))
  | convertDone =>
    exact step_convertDone_cases (P := fun r => NoStuck r.1) s st (fun _ => h) fun _ _ _ =>
      nostuck_release _ _ (nostuck_finish _ _)
  | addTag a b c d => exact nostuck_addTag s a b c d st h
  | updQuery a b c => exact nostuck_updQuery s a b c st h
  | updColor a b => exact nostuck_updColor s a b st h
  | updName a b => exact nostuck_updName s a b st h hr
  | updConv a b => exact nostuck_updConv s a b st h
  | markAdd a b =>
    exact step_markAdd_cases (P := fun r => NoStuck r.1) s a b st h (fun _ _ _ => h) fun _ _ => nostuck_finish _ _
  | markDel a b =>
    exact step_markDel_cases (P := fun r => NoStuck r.1) s a b st h (fun _ _ _ => h) fun _ _ => nostuck_finish _ _
  | delTag a => exact nostuck_delTag s a st h hr
  | viewOpen a => exact step_viewOpen_cases (P := fun r => NoStuck r.1) s a st h fun _ _ => h
  | viewRelease a =>
    exact step_viewRelease_cases (P := fun r => NoStuck r.1) s a st h fun _ _ => nostuck_release _ _ h

/-- nothing was invalidated during the job, so `tdInval` has nothing to re-apply -/
theorem tdPublish_empty (s : St) (name : String) (snap : Tag) (res : IdSet) (hm : (s.upd.isEmpty && s.rst.isEmpty && s.add.isEmpty) = true) :
    tdPublish s name snap res =
      match sget s.tags name with
      | some ot => if ot.defn == snap.defn && ot.gen == snap.gen then
          setTag (qConv s ot.convs (tdTag snap ot res).mat) name (tdTag snap ot res) else s
      | none => s := by
  unfold tdPublish
  cases hg : sget s.tags name with
  | none => rfl
  | some ot =>
    dsimp only
    by_cases hd : (ot.defn == snap.defn && ot.gen == snap.gen) = true
    · rw [if_pos hd, if_pos hd]
      unfold tdInval
      exact if_pos ((qConv_frame (fun z => z.upd.isEmpty && z.rst.isEmpty && z.add.isEmpty) s _ _).trans hm)
    · rw [if_neg hd, if_neg hd]

theorem tagDone_clears (s : St) (st : Started) (name : String) (snap : Tag) (held result : List Nat)
    (ot : Tag)
    (hj : s.jTag = some (name, snap, held)) (ht : sget s.tags name = some ot) (hd : ot.defn = snap.defn)
    (hg : ot.gen = snap.gen)
    (hm : s.upd = [] ∧ s.rst = [] ∧ s.add = []) :
    ∃ t, sget (step s (.tagDone name result) st).1.tags name = some t ∧ t.unc = [] := by
  refine step_tagDone_cases (P := fun r => ∃ t, sget r.1.tags name = some t ∧ t.unc = []) s name result st
    (fun h => by simp [h] at hj) (fun jn _ _ h hn => by simp [h] at hj; exact absurd hj.1 hn) fun sn hl h => ?_
  obtain ⟨rfl, rfl⟩ : snap = sn ∧ held = hl := by
    rw [h] at hj; simp only [Option.some.injEq, Prod.mk.injEq, true_and] at hj; exact ⟨hj.1.symm, hj.2.symm⟩
  dsimp only
  unfold tagDoneSt jobTail
  rw [release_frame (·.tags) _ _, startMerge_frame (·.tags) _, startConverter_frame (·.tags) _, startTagging_tags]
  have hpub := tdPublish_empty { s with jTag := none } name snap (ofList result) (by simp [hm.1, hm.2.1, hm.2.2])
  rw [show sget ({ s with jTag := none } : St).tags name = some ot from ht] at hpub
  dsimp only at hpub
  rw [if_pos (by simp [hd, hg])] at hpub
  simp only [hpub, setTag, qConv_frame (·.tags) ..]
  rw [sget_sins, if_pos rfl]
  exact ⟨_, rfl, rfl⟩

theorem mergeOffsetGo_bound (s : St) (l : List Nat) (i n j : Nat) (h : mergeOffsetGo s l i n = some j) :
    i ≤ j ∧ j < i + l.length ∧ s.unm ≤ j := by
  induction l generalizing i n with
  | nil => simp [mergeOffsetGo] at h
  | cons f fs ih =>
    simp only [mergeOffsetGo] at h
    split at h
    · next hc =>
      simp only [Option.some.injEq] at h
      subst h
      exact ⟨Nat.le_refl _, by simp, hc.1⟩
    · have := ih _ _ h
      simp only [List.length_cons]
      omega

theorem mergeOffset_bound (s : St) (i : Nat) (h : mergeOffset s = some i) : i < s.idx.length := by
  have := mergeOffsetGo_bound s s.idx 0 s.nrec i h
  omega

theorem sget_map_nil (convs : List String) (c : String) :
    (sget (convs.map (fun c => (c, ([] : IdSet)))) c).getD [] = [] := by
  induction convs with
  | nil => rfl
  | cons a l ih =>
    simp only [List.map_cons, sget_cons]
    split
    · rfl
    · exact ih

end Pk.Proofs.MgrSettle
