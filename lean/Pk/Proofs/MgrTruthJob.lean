/-
  C06Reach, the tagging job in flight.  The uncertainty sweep `inherit` only adds JUSTIFIED pending streams
  (`inherit_sound'`).  Only its own completion touches the job record, and the during-job masks only grow (`JK`):
  an event calls `startTagging` at most once and only `Quiet` helpers run after it (`Dec`, `step_dec`).  A job
  found in flight after an event that began without one has the table entry as its snapshot; the one hard case is
  the detach fold of `updConv` / `delTag`, where `outputDropped` may start a job and a later `outputDropped` of the
  same fold runs over it (`JInv`, carried along the fold in `FI`).
-/
import Pk.Proofs.MgrTagsStep
import Pk.Proofs.MgrTruthFrame
import Pk.Proofs.MgrTruthDep

namespace Pk.Proofs.MgrTruth
open Pk.Mgr Pk.Proofs.MgrTags

def Just (A : List (String × Tag)) (t0 tA : Tag) : Prop :=
  ∀ id, id ∈ tA.unc →
    id ∈ t0.unc ∨ (∃ r, r ∈ t0.mainT ∧ id ∈ tagUnc A r) ∨ (∃ r, r ∈ t0.subT ∧ tagUnc A r ≠ [])

theorem Just.congr {A A' : List (String × Tag)} {t0 tA : Tag}
    (h : ∀ r ∈ t0.refs, tagUnc A' r = tagUnc A r) (hj : Just A t0 tA) : Just A' t0 tA := by
  intro id hid
  rcases hj id hid with h1 | ⟨r, hr, h2⟩ | ⟨r, hr, h2⟩
  · exact Or.inl h1
  · exact Or.inr (Or.inl ⟨r, hr, by rw [h r (by simp [hr])]; exact h2⟩)
  · exact Or.inr (Or.inr ⟨r, hr, by rw [h r (by simp [hr])]; exact h2⟩)

theorem inheritOne_just (all : Nat) (A : List (String × Tag)) (t : Tag) : Just A t (inheritOne all A t) := by
  obtain ⟨u, e, hu⟩ := inheritOne_spec all A t
  rw [e]
  intro id hid
  have h := (hu id).1 hid
  split at h
  · next hs => exact .inr (.inr hs)
  · exact h.imp_right .inl

/-- the invariant of the sweep: an unresolved name still has its original entry; a resolved name has all its
    references resolved and an entry that is justified w.r.t. the current table -/
def SInv (T0 : List (String × Tag)) (acc : List (String × Tag) × List String) : Prop :=
  ∀ n t0, sget T0 n = some t0 → ∃ tA, sget acc.1 n = some tA ∧ (n ∉ acc.2 → tA = t0) ∧
    (n ∈ acc.2 → (∀ r ∈ t0.refs, r ∈ acc.2) ∧ Just acc.1 t0 tA)

theorem passStep_sinv (all : Nat) (T0 : List (String × Tag)) (acc) (nt : String × Tag) (h : SInv T0 acc) :
    SInv T0 (passStep all acc nt) := by
  refine passStep_res all (SInv T0) (fun T res n t h hnr ht hall => ?_) acc nt h
  simp only [List.all_eq_true, List.contains_iff_mem] at hall
  simp only [List.contains_iff_mem] at hnr
  intro m t0 h0
  obtain ⟨tA, hA, hu, hr⟩ := h m t0 h0
  -- the sweep rewrites an unresolved name: what is resolved reads the same entries as before
  have hk : ∀ r, r ∈ res → tagUnc (sins n (inheritOne all T t) T) r = tagUnc T r := fun r hr =>
    (tagUnc_sins _ _ _ _).trans (if_neg (by rintro rfl; exact hnr hr))
  by_cases hm : n = m
  · subst hm
    rw [show sget T n = some t from ht] at hA; cases hA
    have e := hu hnr
    subst e
    refine ⟨inheritOne all T t, by simp [sget_sins], fun hn => absurd (List.mem_cons_self) hn, fun _ => ?_⟩
    exact ⟨fun r hr => List.mem_cons_of_mem _ (by simpa using hall r hr),
      (inheritOne_just all T t).congr fun r hr => hk r (by simpa using hall r hr)⟩
  · refine ⟨tA, by simp [sget_sins, hm, hA], fun hn => hu fun hc => hn (List.mem_cons_of_mem _ hc), fun hn => ?_⟩
    have hmr : m ∈ res := by
      rcases List.mem_cons.1 hn with e | e
      · exact absurd e.symm hm
      · exact e
    obtain ⟨h1, h2⟩ := hr hmr
    exact ⟨fun r hr => List.mem_cons_of_mem _ (h1 r hr), h2.congr fun r hr => hk r (h1 r hr)⟩

/-- the referenced tags are looked up in the table AFTER the sweep -/
theorem inherit_sound' (s : St)
    (n : String) (t t' : Tag) (ht : sget s.tags n = some t) (ht' : sget (inherit s).tags n = some t')
    (id : Nat) (hid : id ∈ t'.unc) :
    id ∈ t.unc ∨ (∃ r, r ∈ t.mainT ∧ id ∈ tagUnc (inherit s).tags r) ∨ (∃ r, r ∈ t.subT ∧ tagUnc (inherit s).tags r ≠ []) := by
  obtain ⟨res, h, _⟩ := inheritLoop_inv s.all (SInv s.tags) (passStep_sinv s.all s.tags)
    (s.tags.length + 1) s.tags [] (fun m t0 h0 => ⟨t0, h0, fun _ => rfl, fun hc => by simp at hc⟩)
  rw [inherit_tags] at ht' ⊢
  obtain ⟨tA, hA, hu, hr⟩ := h n t ht
  simp only [] at hA
  rw [ht'] at hA; cases hA
  by_cases hn : n ∈ res
  · exact (hr hn).2 id hid
  · have := hu hn; subst this; exact Or.inl hid

theorem inherit_sound (s : St) (_hw : Sorted s.tags)
    (n : String) (t t' : Tag) (ht : sget s.tags n = some t) (ht' : sget (inherit s).tags n = some t')
    (id : Nat) (hid : id ∈ t'.unc) :
    id ∈ t.unc ∨ (∃ r, r ∈ t.mainT ∧ id ∈ tagUnc (inherit s).tags r) ∨ (∃ r, r ∈ t.subT ∧ tagUnc (inherit s).tags r ≠ []) :=
  inherit_sound' s n t t' ht ht' id hid

/-- the record of the tagging job in flight and the during-job masks: the projection at which the `*_frame`
    lemmas are read in this file -/
def jp (s : St) : Option (String × Tag × List Nat) × Bool × IdSet × IdSet × IdSet :=
  (s.jTag, s.tag, s.upd, s.rst, s.add)

theorem release_jp (s : St) (fs : List Nat) : jp (release s fs) = jp s := release_frame jp s fs
theorem getIndexesCopy_jp (s : St) (n : Nat) : jp (getIndexesCopy s n).1 = jp s := rfl
theorem startImport_jp (s : St) : jp (startImport s) = jp s := rfl
theorem startConverter_jp (s : St) : jp (startConverter s) = jp s :=
  startConverter_frame jp s
theorem inherit_jp (s : St) : jp (inherit s) = jp s := rfl
theorem setTag_jp (s : St) (n : String) (t : Tag) : jp (setTag s n t) = jp s := rfl
theorem addRefBy_jp (s : St) (a b : String) : jp (addRefBy s a b) = jp s := addRefBy_frame jp s a b
theorem delRefBy_jp (s : St) (a b : String) : jp (delRefBy s a b) = jp s := delRefBy_frame jp s a b

theorem startTagging_fresh (s : St) (c : Option String) (hw : Sorted s.tags) :
    startTagging s c = s ∨
    ∃ jn snap held, (startTagging s c).jTag = some (jn, snap, held) ∧ (startTagging s c).tag = true ∧
      sget s.tags jn = some snap :=
  startTagging_cases (P := fun s' => s' = s ∨
      ∃ jn snap held, s'.jTag = some (jn, snap, held) ∧ s'.tag = true ∧ sget s.tags jn = some snap) s c
    (fun _ => .inl rfl) fun n t _ _ hm _ => .inr ⟨n, t, _, rfl, rfl, mem_sget_of_sorted _ hw _ _ hm⟩

structure JK (s s' : St) : Prop where
  jTag : s'.jTag = s.jTag
  tag : s'.tag = s.tag
  upd : ∀ id, id ∈ s.upd → id ∈ s'.upd
  rst : ∀ id, id ∈ s.rst → id ∈ s'.rst
  add : ∀ id, id ∈ s.add → id ∈ s'.add

theorem JK.refl (s : St) : JK s s := ⟨rfl, rfl, fun _ h => h, fun _ h => h, fun _ h => h⟩
theorem JK.trans {a b c : St} (h1 : JK a b) (h2 : JK b c) : JK a c :=
  ⟨h2.jTag.trans h1.jTag, h2.tag.trans h1.tag, fun id h => h2.upd id (h1.upd id h),
   fun id h => h2.rst id (h1.rst id h), fun id h => h2.add id (h1.add id h)⟩
theorem JK.of_jp {s s' : St} (h : jp s' = jp s) : JK s s' := by
  simp only [jp, Prod.mk.injEq] at h
  obtain ⟨h1, h2, h3, h4, h5⟩ := h
  exact ⟨h1, h2, fun _ h => h3 ▸ h, fun _ h => h4 ▸ h, fun _ h => h5 ▸ h⟩
theorem invalidatedDuring_jk (s : St) (ids : IdSet) : JK s (invalidatedDuringTaggingJob s ids) := by
  unfold invalidatedDuringTaggingJob
  split
  · exact ⟨rfl, rfl, fun _ h => h, fun id h => by simp [h], fun _ h => h⟩
  · exact JK.refl _

theorem idCreated_jk (s : St) (n : Nat) (c : List (Nat × List Nat)) (u r a : IdSet) :
    JK s (idCreated s n c u r a) :=
  ⟨rfl, rfl, fun id h => by simp [idCreated, h], fun id h => by simp [idCreated, h],
    fun id h => by simp [idCreated, h]⟩

theorem idSweep_jk (s : St) (n : Nat) (c : List (Nat × List Nat)) (u r a : IdSet) (hc : c ≠ []) :
    JK (idCreated s n c u r a) (idApply s n c u r a) := by
  unfold idApply
  rw [if_neg (by simpa using hc)]
  refine JK.of_jp ?_
  rw [invalidateConverters_frame jp _ _, invalidateConverters_frame jp _ _, invalidateTags_frame jp _ _ _ _]

theorem idApply_jk (s : St) (n : Nat) (c : List (Nat × List Nat)) (u r a : IdSet) :
    JK s (idApply s n c u r a) := by
  by_cases hc : c = []
  · rw [hc, idApply_nil]; exact JK.refl _
  · exact (idCreated_jk s n c u r a).trans (idSweep_jk s n c u r a hc)

theorem cdMark_jk (s : St) (p : String × IdSet) : JK s (cdMark s p) := by
  unfold cdMark
  split
  · exact JK.refl _
  · exact ⟨rfl, rfl, fun id h => by simp [h], fun _ h => h, fun _ h => h⟩

theorem foldl_cdMark_jk (l : List (String × IdSet)) (s : St) : JK s (l.foldl cdMark s) :=
  foldl_rel JK JK.refl (fun _ _ _ => JK.trans) _ _ (fun s p _ => cdMark_jk s p) _

theorem markUpdate_jk (s : St) (name : String) (a d : List Nat) : JK s (markUpdate s name a d).1 := by
  rw [markUpdate_eq]
  split
  · exact JK.refl _
  · refine JK.trans ?_ (JK.of_jp (muFin_frame jp _ _ _))
    refine JK.trans ?_ (invalidatedDuring_jk _ _)
    refine JK.of_jp ?_
    rw [inherit_jp, setTag_jp, muAdd_frame jp _ _ _]

/-- the state in which `updQuery` calls `startTagging` -/
theorem uqPre_jk (s : St) (name : String) (b a : List String) (nt : Tag) :
    JK s (uqInv (inherit (setTag (uqRefs s name b a) name nt))) := by
  unfold uqInv
  refine JK.trans (JK.of_jp ?_) (invalidatedDuring_jk _ _)
  rw [inherit_jp, setTag_jp, uqRefs_frame jp]

/-- equal up to `color`, `convs`, `refBy`: what the helpers that run after `startTagging` within one event
    (`addRefBy`, `startConverter`, `startMerge`, `release`) may change in an entry -/
def Core (t t' : Tag) : Prop :=
  t'.mat = t.mat ∧ t'.unc = t.unc ∧ t'.defn = t.defn ∧ t'.mfeat = t.mfeat ∧ t'.sfeat = t.sfeat ∧
  t'.mainT = t.mainT ∧ t'.subT = t.subT ∧ t'.gen = t.gen

theorem Core.refl (t : Tag) : Core t t := ⟨rfl, rfl, rfl, rfl, rfl, rfl, rfl, rfl⟩
theorem Core.trans {a b c : Tag} (h1 : Core a b) (h2 : Core b c) : Core a c := by
  obtain ⟨a1, a2, a3, a4, a5, a6, a7, a8⟩ := h1
  obtain ⟨b1, b2, b3, b4, b5, b6, b7, b8⟩ := h2
  exact ⟨b1.trans a1, b2.trans a2, b3.trans a3, b4.trans a4, b5.trans a5, b6.trans a6, b7.trans a7,
    b8.trans a8⟩
theorem Fld.symm {a b : Tag} (h : Fld a b) : Fld b a := by
  obtain ⟨a1, a2, a3, a4, a5, a6, a7⟩ := h
  exact ⟨a1.symm, a2.symm, a3.symm, a4.symm, a5.symm, a6.symm, a7.symm⟩

theorem GRel.of_core {A : Nat} {t t' : Tag} (h : Core t t') : GRel A t t' := by
  obtain ⟨c1, c2, c3, c4, c5, c6, c7, c8⟩ := h
  exact ⟨⟨c1, c3, c4, c5, c6, c7, c8⟩, fun id hid _ => c2 ▸ hid⟩

/-- every entry of `T` is still in `T'`, with the same matches, text and attributes and with its pending streams
    below `A` kept (`GRel`): what the detach fold does to the table -/
def G (A : Nat) (T T' : List (String × Tag)) : Prop :=
  ∀ n t, sget T n = some t → ∃ t', sget T' n = some t' ∧ GRel A t t'

theorem G.refl (A : Nat) (T : List (String × Tag)) : G A T T := fun _ t h => ⟨t, h, GRel.refl A t⟩
theorem G.trans {A : Nat} {T1 T2 T3 : List (String × Tag)} (h1 : G A T1 T2) (h2 : G A T2 T3) : G A T1 T3 := by
  intro n t h
  obtain ⟨t1, e1, r1⟩ := h1 n t h
  obtain ⟨t2, e2, r2⟩ := h2 n t1 e1
  exact ⟨t2, e2, r1.trans r2⟩
theorem G.of_eq {A : Nat} {T T' : List (String × Tag)} (h : T' = T) : G A T T' := h ▸ G.refl A T

def TEq (T T' : List (String × Tag)) : Prop :=
  ∀ n, (∀ t, sget T n = some t → ∃ t', sget T' n = some t' ∧ Core t t') ∧ (sget T n = none → sget T' n = none)

theorem TEq.refl (T : List (String × Tag)) : TEq T T := fun n => KeepR.refl Core.refl n T
theorem TEq.trans {T1 T2 T3 : List (String × Tag)} (h1 : TEq T1 T2) (h2 : TEq T2 T3) : TEq T1 T3 :=
  fun n => KeepR.trans Core.trans (h1 n) (h2 n)
theorem TEq.of_eq {T T' : List (String × Tag)} (h : T' = T) : TEq T T' := h ▸ TEq.refl T

theorem teq_sins {m : String} {t t' : Tag} {T : List (String × Tag)} (hm : sget T m = some t) (hc : Core t t') :
    TEq T (sins m t' T) := fun n => keepR_sins_rel Core.refl hm hc n

theorem TEq.g {A : Nat} {T T' : List (String × Tag)} (h : TEq T T') : G A T T' :=
  fun n => (KeepR.mono (R' := GRel A) GRel.of_core (h n)).1

theorem TEq.bounded {A : Nat} {T T' : List (String × Tag)} (h : TEq T T') (hb : Bounded A T) : Bounded A T' := by
  intro n t' ht' id hid
  cases ht : sget T n with
  | none => rw [(h n).2 ht] at ht'; cases ht'
  | some t =>
    obtain ⟨t2, e, c⟩ := (h n).1 t ht
    rw [ht'] at e; cases e
    exact hb n t ht id (c.2.1 ▸ hid)

/-- what the helpers do that run after `startTagging` within one event (`Dec.tagging`): bounds, job record and
    masks stay, an entry changes in `color`, `convs`, `refBy` at most (`Core`) -/
structure Quiet (X Q : St) : Prop where
  all : Q.all = X.all
  jp : jp Q = jp X
  sorted : Sorted X.tags → Sorted Q.tags
  tags : TEq X.tags Q.tags

theorem Quiet.refl (X : St) : Quiet X X := ⟨rfl, rfl, id, TEq.refl _⟩
theorem Quiet.trans {a b c : St} (h1 : Quiet a b) (h2 : Quiet b c) : Quiet a c :=
  ⟨h2.all.trans h1.all, h2.jp.trans h1.jp, fun h => h2.sorted (h1.sorted h), h1.tags.trans h2.tags⟩
theorem foldl_quiet {β} (f : St → β → St) (h : ∀ s b, Quiet s (f s b)) (l : List β) (s : St) :
    Quiet s (l.foldl f s) :=
  foldl_inv (fun s' => Quiet s s') f (fun a b ha => ha.trans (h a b)) l s (Quiet.refl s)
theorem Quiet.of_same {X Q : St} (h : Same X Q) (hj : MgrTruth.jp Q = MgrTruth.jp X) : Quiet X Q :=
  ⟨h.2.1, hj, fun hs => h.1 ▸ hs, TEq.of_eq h.1⟩

theorem setTag_quiet {s : St} {m : String} {t t' : Tag} (hm : sget s.tags m = some t) (hc : Core t t') :
    Quiet s (setTag s m t') := ⟨rfl, rfl, sorted_sins _ _ _, teq_sins hm hc⟩

theorem Quiet.conv {X Q : St} (h : Quiet X Q) (tc ca : List (String × IdSet)) :
    Quiet X { Q with toconv := tc, cached := ca } := ⟨h.all, h.jp, h.sorted, h.tags⟩

theorem delRefBy_quiet (s : St) (a b : String) : Quiet s (delRefBy s a b) := by
  unfold delRefBy
  split
  · rename_i t ht; exact setTag_quiet ht ⟨rfl, rfl, rfl, rfl, rfl, rfl, rfl, rfl⟩
  · exact Quiet.refl _

theorem addRefBy_quiet (s : St) (a b : String) : Quiet s (addRefBy s a b) := by
  unfold addRefBy
  split
  · rename_i t ht; exact setTag_quiet ht ⟨rfl, rfl, rfl, rfl, rfl, rfl, rfl, rfl⟩
  · exact Quiet.refl _

theorem attachConv_quiet (s : St) (n c : String) : Quiet s (attachConv s n c).1 :=
  attachConv_cases (P := fun s' => Quiet s s') s n c (Quiet.refl _) fun t ht _ _ =>
    (setTag_quiet (t' := { t with convs := t.convs ++ [c] }) ht ⟨rfl, rfl, rfl, rfl, rfl, rfl, rfl, rfl⟩).conv _ _

theorem startConverter_quiet (s : St) : Quiet s (startConverter s) :=
  Quiet.of_same (startConverter_same _) (startConverter_jp _)

theorem jobTail_quiet (s : St) : Quiet s (startMerge (startConverter s)) :=
  Quiet.of_same ((startConverter_same _).trans (startMerge_same _)) (by rw [startMerge_frame jp _, startConverter_jp])
theorem release_quiet (s : St) (fs : List Nat) : Quiet s (release s fs) :=
  Quiet.of_same (release_same _ _) (release_jp _ _)

theorem started_of (X fin : St) (c : Option String) (hw : Sorted X.tags) (hj : X.jTag = none)
    (hp : Quiet (startTagging X c) fin) (jn : String) (snap : Tag) (held : List Nat)
    (h : fin.jTag = some (jn, snap, held)) :
    ∃ ot, sget fin.tags jn = some ot ∧ Core snap ot := by
  rw [(JK.of_jp hp.jp).jTag] at h
  rcases startTagging_fresh X c hw with e | ⟨jn', snap', held', hj', _, g⟩
  · rw [e, hj] at h; cases h
  · cases hj'.symm.trans h
    rw [← (startTagging_same X c).1] at g
    exact (hp.tags jn).1 snap g

theorem dropTail_tags (Y : St) (r : IdSet) (c : Option String) :
    (startTagging (invalidatedDuringTaggingJob Y r) c).tags = Y.tags :=
  ((invalidatedDuring_same Y r).trans (startTagging_same _ c)).1

theorem dropTail_jk (s Y : St) (ids : IdSet) (c : Option String) (hj : jp Y = jp s) (ht : s.tag = true) :
    JK s (startTagging (invalidatedDuringTaggingJob Y ids) c) := by
  have h1 : JK s (invalidatedDuringTaggingJob Y ids) := (JK.of_jp hj).trans (invalidatedDuring_jk _ _)
  rw [startTagging_of_tag _ _ (h1.tag.trans ht)]; exact h1

theorem invalidatedDuring_rst (Y : St) (ids : IdSet) (ht : Y.tag = true) (id : Nat) (h : id ∈ ids) :
    id ∈ (invalidatedDuringTaggingJob Y ids).rst := by
  unfold invalidatedDuringTaggingJob
  rw [if_pos ht]
  simp [h]

/-- with a job in flight the tail of `outputDropped` records `ids` in the mask `rst` -/
theorem dropTail_rst (Y : St) (ids : IdSet) (c : Option String) (ht : Y.tag = true) (id : Nat) (h : id ∈ ids) :
    id ∈ (startTagging (invalidatedDuringTaggingJob Y ids) c).rst := by
  rw [startTagging_of_tag _ _ ((invalidatedDuring_jk Y ids).tag.trans ht)]
  exact invalidatedDuring_rst Y ids ht id h

theorem outputDropped_jk (s : St) (c : Option String) (ht : s.tag = true) : JK s (outputDropped s c) := by
  rw [outputDropped_eq]
  split
  · exact dropTail_jk s _ _ c rfl ht
  · exact JK.refl _

-- `ht` cannot be dropped: without a job in flight the `outputDropped` inside the detach may start one
theorem detachConv_jk (s : St) (n c : String) (choice : Option String) (ht : s.tag = true) :
    JK s (detachConv s n c choice) :=
  detachConv_cases (P := JK s) s n c choice (fun _ => JK.refl _) (fun _ _ _ => JK.of_jp rfl)
    fun _ _ _ => JK.trans (JK.of_jp (by rfl)) (outputDropped_jk _ _ (by exact ht))

theorem foldl_detach_jk (s : St) (n : String) (choice : Option String) (l : List String) (ht : s.tag = true) :
    JK s (l.foldl (fun s c => detachConv s n c choice) s) :=
  foldl_inv (fun s' => JK s s') _ (fun a b ha => ha.trans (detachConv_jk a n b choice (ha.tag.trans ht))) l s
    (JK.refl s)

theorem G.of_frE {g : Prop} {s s' : St} (h : FrE g NT s s') : G s.all s.tags s'.tags :=
  fun n => ((h.keep n trivial).mono (R' := GRel s.all) fun r => r.grel).1

theorem inherit_g (s : St) : G s.all s.tags (inherit s).tags := G.of_frE (inherit_frE (g := False) s)

/-- the state of `outputDropped` before its sweep -/
def odMap (s : St) : St := { s with tags := s.tags.map fun p => (p.1, odF s.all p.2) }

theorem outputDropped_eq' (s : St) (choice : Option String) :
    outputDropped s choice =
      if s.tags.any (fun nt => (nt.2.mfeat ||| nt.2.sfeat) &&& fData != 0) then
        startTagging (invalidatedDuringTaggingJob (inherit (odMap s)) (rangeSet s.all)) choice
      else s := outputDropped_eq s choice

theorem odF_grel (A : Nat) (t : Tag) : GRel A t (odF A t) := (ted_odF (g := False) A t).grel

theorem odF_fld (A : Nat) (t : Tag) : Fld t (odF A t) := (odF_grel A t).1

theorem odMap_frE (s : St) : FrE False NT s (odMap s) :=
  map_frE s _ (fun _ t => odF s.all t) rfl rfl rfl fun _ t => ted_odF _ t

theorem odMap_sget (s : St) (n : String) : sget (odMap s).tags n = (sget s.tags n).map (odF s.all) :=
  sget_map (fun _ t => odF s.all t) s.tags n

theorem odMap_bounded (s : St) (hb : Bounded s.all s.tags) : Bounded s.all (odMap s).tags := by
  intro n t' h id hid
  rw [odMap_sget] at h
  cases ht : sget s.tags n with
  | none => rw [ht] at h; cases h
  | some t =>
    rw [ht] at h
    simp only [Option.map_some, Option.some.injEq] at h
    subst h
    unfold odF at hid
    split at hid
    · simpa using hid
    · exact hb n t ht id hid

theorem outputDropped_bounded (s : St) (c : Option String) (hb : Bounded s.all s.tags) :
    Bounded s.all (outputDropped s c).tags := by
  rw [outputDropped_eq']
  split
  · rw [dropTail_tags]
    exact inherit_bounded (odMap s) (odMap_bounded s hb)
  · exact hb

/-- the references of the snapshot justify a late pending stream -/
def LateCov (s' : St) (snap : Tag) (id : Nat) : Prop :=
  (s'.upd ≠ [] ∨ s'.rst ≠ [] ∨ s'.add ≠ []) ∧
  ((∃ r, r ∈ snap.mainT ∧ ∃ tr, sget s'.tags r = some tr ∧ id ∈ tr.unc) ∨
   (∃ r, r ∈ snap.subT ∧ ∃ tr id', sget s'.tags r = some tr ∧ id' ∈ tr.unc))

theorem ne_nil_of_sub {a b : List Nat} (h : ∀ x, x ∈ a → x ∈ b) (ha : a ≠ []) : b ≠ [] :=
  let ⟨x, hx⟩ := List.exists_mem_of_ne_nil a ha
  List.ne_nil_of_mem (h x hx)

theorem LateCov.mono {X X' : St} {snap : Tag} {id : Nat} (hm : JK X X')
    (hg : ∀ r, r ∈ snap.mainT ∨ r ∈ snap.subT → ∀ tr, sget X.tags r = some tr →
      ∃ tr', sget X'.tags r = some tr' ∧ ∀ i, i ∈ tr.unc → i ∈ tr'.unc)
    (h : LateCov X snap id) : LateCov X' snap id := by
  obtain ⟨h1, h2⟩ := h
  refine ⟨?_, ?_⟩
  · rcases h1 with h1 | h1 | h1
    · exact Or.inl (ne_nil_of_sub hm.upd h1)
    · exact Or.inr (Or.inl (ne_nil_of_sub hm.rst h1))
    · exact Or.inr (Or.inr (ne_nil_of_sub hm.add h1))
  · rcases h2 with ⟨r, hr, tr, e, hid⟩ | ⟨r, hr, tr, id', e, hid⟩
    · obtain ⟨tr', e', hs⟩ := hg r (Or.inl hr) tr e
      exact Or.inl ⟨r, hr, tr', e', hs id hid⟩
    · obtain ⟨tr', e', hs⟩ := hg r (Or.inr hr) tr e
      exact Or.inr ⟨r, hr, tr', id', e', hs id' hid⟩

/-- the snapshot of a job started by `outputDropped`: a payload tag is pending for every stream -/
def PayFull (A : Nat) (snap : Tag) : Prop :=
  ((snap.mfeat ||| snap.sfeat) &&& fData != 0) = true → ∀ id, id < A → id ∈ snap.unc

/-- the job record inside the detach fold: no job, or a job whose snapshot is the table entry up to pending
    streams that arrived late, each of them justified -/
def JInv (A : Nat) (X : St) : Prop :=
  (X.tag = false ∧ X.jTag = none) ∨
  (X.tag = true ∧ ∃ jn snap held ot, X.jTag = some (jn, snap, held) ∧ sget X.tags jn = some ot ∧
    GRel A snap ot ∧ PayFull A snap ∧
    ∀ id, id ∈ ot.unc → id ∉ snap.unc → id < A → LateCov X snap id)

theorem JInv.post {A : Nat} {X Q : St} (hp : Quiet X Q) (h : JInv A X) : JInv A Q := by
  have hjp := hp.jp
  simp only [jp, Prod.mk.injEq] at hjp
  obtain ⟨e1, e2, _, _, _⟩ := hjp
  rcases h with ⟨h1, h2⟩ | ⟨h1, jn, snap, held, ot, hj, hot, hg, hpf, hl⟩
  · exact Or.inl ⟨e2.trans h1, e1.trans h2⟩
  · obtain ⟨ot', hot', hc⟩ := (hp.tags jn).1 ot hot
    refine Or.inr ⟨e2.trans h1, jn, snap, held, ot', e1.trans hj, hot', hg.trans (GRel.of_core hc), hpf, ?_⟩
    intro id hid hns hb
    refine (hl id (hc.2.1 ▸ hid) hns hb).mono (JK.of_jp hp.jp) ?_
    intro r _ tr htr
    obtain ⟨tr', e', c'⟩ := (hp.tags r).1 tr htr
    exact ⟨tr', e', fun i hi => c'.2.1.symm ▸ hi⟩

theorem outputDropped_jinv (X : St) (c : Option String) (hw : Sorted X.tags) (hb : Bounded X.all X.tags)
    (h : JInv X.all X) : JInv X.all (outputDropped X c) := by
  rw [outputDropped_eq']
  split
  case isFalse => exact h
  have gM := G.of_frE (odMap_frE X)
  have gY : G X.all (odMap X).tags (inherit (odMap X)).tags := inherit_g (odMap X)
  have hwY : Sorted (inherit (odMap X)).tags := inherit_sorted _ ((odMap_frE X).sorted hw)
  have hY : JK X (inherit (odMap X)) := JK.of_jp (inherit_jp _)
  rcases h with ⟨h1, h2⟩ | ⟨h1, jn, snap, held, ot, hj, hot, hg, hpf, hl⟩
  · -- no job in flight: the mask is not touched, `startTagging` may start a job
    have e : invalidatedDuringTaggingJob (inherit (odMap X)) (rangeSet X.all) = inherit (odMap X) := by
      unfold invalidatedDuringTaggingJob
      rw [if_neg (by rw [hY.tag, h1]; simp)]
    rw [e]
    rcases startTagging_fresh (inherit (odMap X)) c hwY with hc | ⟨jn, snap, held, hj, htg, hs⟩
    · rw [hc]; exact Or.inl ⟨hY.tag.trans h1, hY.jTag.trans h2⟩
    · refine Or.inr ⟨htg, jn, snap, held, snap, hj, ?_, GRel.refl _ _, ?_, fun id hid hns _ => absurd hid hns⟩
      · rw [(startTagging_same _ _).1]; exact hs
      · intro hpay id hid
        cases h0 : sget X.tags jn with
        | none =>
          have : sget (odMap X).tags jn = none := by rw [odMap_sget, h0]; rfl
          rw [(inherit_keep (odMap X) jn).2 this] at hs; cases hs
        | some t0 =>
          have hm : sget (odMap X).tags jn = some (odF X.all t0) := by rw [odMap_sget, h0]; rfl
          obtain ⟨t', e', r'⟩ := gY jn _ hm
          rw [hs] at e'; cases e'
          apply r'.2 id _ hid
          obtain ⟨_, _, f3, f4, _⟩ := r'.1
          rw [f3, f4] at hpay
          unfold odF at hpay ⊢
          split
          · simpa using hid
          · rename_i hnp; rw [if_neg hnp] at hpay; exact absurd hpay hnp
  · -- a job is in flight: `startTagging` is the identity, the mask `rst` covers every stream
    have hjk : JK X (startTagging (invalidatedDuringTaggingJob (inherit (odMap X)) (rangeSet X.all)) c) :=
      dropTail_jk X _ _ c (inherit_jp _) h1
    have hm : sget (odMap X).tags jn = some (odF X.all ot) := by rw [odMap_sget, hot]; rfl
    obtain ⟨oti, hoti, hgi⟩ := gY jn _ hm
    refine Or.inr ⟨hjk.tag.trans h1, jn, snap, held, oti, hjk.jTag.trans hj, ?_,
      hg.trans ((odF_grel _ _).trans hgi), hpf, ?_⟩
    · rw [dropTail_tags]; exact hoti
    · intro id hid hns hlt
      have hmask : (startTagging (invalidatedDuringTaggingJob (inherit (odMap X)) (rangeSet X.all)) c).rst ≠ [] :=
        List.ne_nil_of_mem (dropTail_rst _ _ c (hY.tag.trans h1) id (by simpa using hlt))
      rcases inherit_sound' (odMap X) jn _ oti hm hoti id hid with hu | ⟨r, hr, hu⟩ | ⟨r, hr, hu⟩
      · -- pending before the sweep, and not through `odF`: a payload snapshot is pending everywhere (`PayFull`)
        have hold : id ∈ ot.unc := by
          unfold odF at hu
          split at hu
          · rename_i hpay
            obtain ⟨_, _, f3, f4, _⟩ := hg.1
            rw [f3, f4] at hpay
            exact absurd (hpf hpay id hlt) hns
          · exact hu
        refine (hl id hold hns hlt).mono hjk ?_
        intro r _ tr htr
        obtain ⟨tr', e', r'⟩ := (gM.trans gY) r tr htr
        refine ⟨tr', by rw [dropTail_tags]; exact e', fun i hi => r'.2 i hi (hb r tr htr i hi)⟩
      · obtain ⟨tr, e, hi⟩ := tagUnc_pend hu
        refine ⟨Or.inr (Or.inl hmask), Or.inl ⟨r, ?_, tr, by rw [dropTail_tags]; exact e, hi⟩⟩
        have := (odF_fld X.all ot).2.2.2.2.1
        rw [this] at hr
        exact hg.1.2.2.2.2.1 ▸ hr
      · obtain ⟨id', hi⟩ := List.exists_mem_of_ne_nil _ hu
        obtain ⟨tr, e, hi⟩ := tagUnc_pend hi
        refine ⟨Or.inr (Or.inl hmask), Or.inr ⟨r, ?_, tr, id', by rw [dropTail_tags]; exact e, hi⟩⟩
        have := (odF_fld X.all ot).2.2.2.2.2.1
        rw [this] at hr
        exact hg.1.2.2.2.2.2.1 ▸ hr

/-- the invariant of the detach fold of `updConv` / `delTag`, started in `s` -/
structure FI (s X : St) : Prop where
  all : X.all = s.all
  sorted : Sorted X.tags
  back : ∀ n, sget s.tags n = none → sget X.tags n = none
  bnd : Bounded s.all X.tags
  g : G s.all s.tags X.tags
  jinv : JInv s.all X

theorem FI.quiet {s X Q : St} (hq : Quiet X Q) (h : FI s X) : FI s Q :=
  ⟨hq.all.trans h.all, hq.sorted h.sorted, fun n hn => (hq.tags n).2 (h.back n hn), hq.tags.bounded h.bnd,
    h.g.trans hq.tags.g, h.jinv.post hq⟩

theorem FI.dropped {s X : St} (c : Option String) (h : FI s X) : FI s (outputDropped X c) := by
  have hf := outputDropped_frE (g := False) X c
  refine ⟨hf.all.trans h.all, hf.sorted h.sorted, fun n hn => (hf.keep n trivial).2 (h.back n hn), ?_, ?_, ?_⟩
  · have := outputDropped_bounded X c (h.all ▸ h.bnd)
    rw [h.all] at this; exact this
  · exact h.g.trans (h.all ▸ G.of_frE hf)
  · have := outputDropped_jinv X c h.sorted (h.all ▸ h.bnd) (h.all ▸ h.jinv)
    rw [h.all] at this; exact this

theorem detachConv_fi {s X : St} (n c : String) (choice : Option String) (h : FI s X) :
    FI s (detachConv X n c choice) := by
  have hq : ∀ t, sget X.tags n = some t → ∀ tc ca, FI s { setTag X n { t with convs := t.convs.filter (· != c) } with
      toconv := tc, cached := ca } := fun t ht tc ca =>
    FI.quiet ((setTag_quiet (t' := { t with convs := t.convs.filter (· != c) }) ht
      ⟨rfl, rfl, rfl, rfl, rfl, rfl, rfl, rfl⟩).conv tc ca) h
  exact detachConv_cases (P := FI s) X n c choice (fun _ => h) (fun t _ ht => hq t ht _ _)
    fun t _ ht => FI.dropped _ (hq t ht _ _)

theorem foldl_detach_fi (s : St) (n : String) (choice : Option String) (l : List String) (h : FI s s) :
    FI s (l.foldl (fun s c => detachConv s n c choice) s) :=
  foldl_inv (fun s' => FI s s') _ (fun _ b ha => detachConv_fi n b choice ha) l s h

theorem FI.init (s : St) (hw : Sorted s.tags) (hb : Bounded s.all s.tags) (ht : s.tag = false) (hj : s.jTag = none) :
    FI s s := ⟨rfl, hw, fun _ h => h, hb, G.refl _ _, Or.inl ⟨ht, hj⟩⟩

/-- what an event other than a tagging completion does to the job record: either it is kept (and the
    masks grow), or it is kept up to a call of `startTagging`, after which only helpers run that keep it -/
inductive Dec (s : St) (c : Option String) (fin : St) : Prop
  | plain (h : JK s fin)
  | tagging (X : St) (h1 : JK s X) (h2 : Sorted s.tags → Sorted X.tags) (h3 : Quiet (startTagging X c) fin)

/-- with a job in flight `startTagging` does nothing: the record stays and the masks grow -/
theorem Dec.jk {s fin : St} {c : Option String} (h : Dec s c fin) (ht : s.tag = true) : JK s fin := by
  cases h with
  | plain h => exact h
  | tagging X h1 _ h3 =>
    rw [startTagging_of_tag X c (h1.tag.trans ht)] at h3
    exact h1.trans (JK.of_jp h3.jp)

theorem Dec.pre {s A fin : St} {c : Option String} (h1 : JK s A) (h2 : Sorted s.tags → Sorted A.tags)
    (h : Dec A c fin) : Dec s c fin := by
  cases h with
  | plain h => exact .plain (h1.trans h)
  | tagging X k1 k2 k3 => exact .tagging X (h1.trans k1) (fun hw => k2 (h2 hw)) k3

theorem idTail_dec (A : St) (p : Nat) (st : Started) :
    Dec A st.tag (jobTail (idQueue { A with queue := A.queue.drop p }) st) :=
  .tagging (idQueue { A with queue := A.queue.drop p }) (JK.of_jp (idQueue_frame jp _))
    (fun hw => by rw [(idQueue_same _).1]; exact hw) (jobTail_quiet _)

theorem importDoneSt_dec (s : St) (jnext : Nat) (held : List Nat) (processed usednew : Nat)
    (created : List (Nat × List Nat)) (upd rst add : List Nat) (st : Started) :
    Dec s st.tag (importDoneSt s jnext held processed usednew created upd rst add st) := by
  refine Dec.pre ?_ (fun hw => ?_) (idTail_dec _ processed st)
  · refine JK.trans ?_ (idApply_jk _ _ _ _ _ _)
    exact JK.trans (b := { s with all := jnext + usednew, jImport := none }) (JK.of_jp rfl)
      (JK.of_jp (release_jp _ _))
  · unfold idApply
    split
    · rw [(release_same _ _).1]; exact hw
    · rw [((invalidateConverters_same _ _).trans (invalidateConverters_same _ _)).1]
      refine (invalidateTags_frE (g := False) _ _ _ _).sorted ?_
      show Sorted (release _ _).tags
      rw [(release_same _ _).1]; exact hw

theorem cdTail_dec (Z : St) (held : List Nat) (st : Started) :
    Dec Z st.tag (release (startConverter (startTagging (inherit Z) st.tag)) held) :=
  .tagging (inherit Z) (JK.of_jp (inherit_jp _)) (inherit_frE (g := False) Z).sorted
    ((startConverter_quiet _).trans (release_quiet _ _))

theorem convertDoneSt_dec (s : St) (sets : List (String × IdSet)) (held : List Nat) (st : Started) :
    Dec s st.tag (convertDoneSt s sets held st) :=
  Dec.pre (JK.trans (b := { s with convert := false, jConv := none }) (JK.of_jp rfl) (foldl_cdMark_jk _ _))
    (foldl_frE (g := False) cdMark cdMark_frE _ { s with convert := false, jConv := none }).sorted
    (cdTail_dec _ held st)

theorem addTagSt_dec (s : St) (name color defn : String) (f : Facts) (st : Started) :
    Dec s st.tag (addTagSt s name color defn f st) := by
  unfold addTagSt atFinish
  split
  · refine .plain (JK.of_jp ?_)
    rw [foldl_keep jp _ (fun s r => addRefBy_jp s r name), setTag_jp]
    rfl
  · exact .tagging (setTag { s with ngen := s.ngen + 1 } name _) (JK.of_jp rfl) (sorted_sins _ _ _)
      (foldl_quiet _ (fun s r => addRefBy_quiet s r name) _ _)

theorem uqApply_dec (s : St) (name : String) (t nt : Tag) (st : Started) :
    Dec s st.tag (uqApply s name t nt st) := by
  unfold uqApply
  refine .tagging _ (uqPre_jk _ _ _ _ _) ?_ (startConverter_quiet _)
  exact (uqPre_frE s name t.refs nt.refs nt).sorted

theorem markSt_dec (s : St) (name : String) (a d : List Nat) (st : Started) :
    Dec s st.tag (markSt s name a d st) :=
  .tagging _ (markUpdate_jk s name a d) (markUpdate_frE (g := False) s name a d).sorted (startConverter_quiet _)

-- `updConv` / `delTag` are covered only while a job is in flight (`s.tag = true`); without one
-- the detach fold may start a job (see `step_updConv_jinv`, `step_delTag_jinv`).  A tagging completion is
-- covered only when it finds no job (`hne`), where it does nothing.
theorem step_dec (s : St) (e : Ev) (st : Started) (hne : ∀ n r, e = .tagDone n r → s.jTag = none)
    (hud : s.tag = true ∨ ((∀ n cs, e ≠ .updConv n cs) ∧ ∀ n, e ≠ .delTag n)) :
    Dec s st.tag (step s e st).1 := by
  let P : St × Res → Prop := fun (s', _) => Dec s st.tag s'
  have same : P (s, .err) := .plain (JK.refl _)
  cases e with
  | nop => exact same
  | importPcaps names =>
    exact step_importPcaps_cases (P := P) s names st same (fun _ _ => .plain (JK.of_jp rfl)) fun _ _ => .plain (JK.of_jp rfl)
  | importDone processed usednew created upd rst add =>
    exact step_importDone_cases (P := P) s _ _ _ _ _ _ st (fun _ => same) fun _ _ _ => importDoneSt_dec ..
  | tagDone name result =>
    have hj := hne _ _ rfl
    exact step_tagDone_cases (P := P) s name result st (fun _ => same) (fun _ _ _ h => nomatch hj.symm.trans h)
      fun _ _ h => nomatch hj.symm.trans h
  | mergeDone merged =>
    refine step_mergeDone_cases (P := P) s merged st (fun _ => same) fun off held _ => .plain (JK.of_jp ?_)
    rw [mergeDoneSt, release_jp, startMerge_frame jp _]
    exact mdApply_frame jp { s with jMerge := none } off held merged
  | convertDone => exact step_convertDone_cases (P := P) s st (fun _ => same) fun _ _ _ => convertDoneSt_dec ..
  | addTag name color defn f => exact step_addTag_cases (P := P) s name color defn f st same fun _ => addTagSt_dec ..
  | updQuery name defn f => exact step_updQuery_cases (P := P) s name defn f st same fun _ _ => uqApply_dec ..
  | updColor name color =>
    exact step_updColor_cases (P := P) s name color st same same fun _ _ => .plain (JK.of_jp rfl)
  | updName name new =>
    refine step_updName_cases (P := P) s name new st same (fun _ _ _ => same) fun _ _ => .plain (JK.of_jp ?_)
    unfold unApply
    rw [foldl_keep jp _ (fun s r => (addRefBy_jp _ r new).trans (delRefBy_jp s r name))]
    rfl
  | updConv name convs =>
    have ht := hud.resolve_right fun h => h.1 _ _ rfl
    refine step_updConv_cases (P := P) s name convs st same fun t _ _ => .plain ?_
    unfold updConvSt ucAttach ucDetach
    refine JK.trans (foldl_detach_jk s name st.tag (t.convs.filter (fun c => !convs.contains c)) ht) (JK.of_jp ?_)
    rw [startConverter_jp, foldl_keep jp _ (fun s c => attachConv_frame jp s name c)]
  | markAdd name ids => exact step_markAdd_cases (P := P) s name ids st same (fun _ _ _ => same) fun _ _ => markSt_dec ..
  | markDel name ids => exact step_markDel_cases (P := P) s name ids st same (fun _ _ _ => same) fun _ _ => markSt_dec ..
  | delTag name =>
    have ht := hud.resolve_right fun h => h.2 _ rfl
    refine step_delTag_cases (P := P) s name st same fun t _ _ => .plain ?_
    unfold dtApply
    refine JK.trans (foldl_detach_jk s name st.tag t.convs ht) (JK.of_jp ?_)
    rw [foldl_keep jp _ (fun s r => delRefBy_jp s r name)]
    rfl
  | viewOpen k => exact step_viewOpen_cases (P := P) s k st same fun _ _ => .plain (JK.of_jp rfl)
  | viewRelease k =>
    exact step_viewRelease_cases (P := P) s k st same fun _ _ => .plain (JK.of_jp (release_jp _ _))

theorem job_stable (s : St) (e : Ev) (st : Started) (j : String × Tag × List Nat)
    (hj : s.jTag = some j) (ht : s.tag = true) (hne : ∀ n r, e ≠ .tagDone n r) :
    (step s e st).1.jTag = some j ∧ (step s e st).1.tag = true ∧
    (∀ id, id ∈ s.upd → id ∈ (step s e st).1.upd) ∧ (∀ id, id ∈ s.rst → id ∈ (step s e st).1.rst) ∧
    (∀ id, id ∈ s.add → id ∈ (step s e st).1.add) := by
  have key := (step_dec s e st (fun n r he => absurd he (hne n r)) (Or.inl ht)).jk ht
  exact ⟨key.jTag.trans hj, key.tag.trans ht, key.upd, key.rst, key.add⟩

theorem tagDone_started (s : St) (n : String) (r : List Nat) (st : Started) (jn : String) (snap : Tag)
    (held : List Nat) (hw : Sorted s.tags)
    (hev : ∀ jn' snap' held', s.jTag = some (jn', snap', held') → jn' = n)
    (hj' : (step s (.tagDone n r) st).1.jTag = some (jn, snap, held)) :
    ∃ ot, sget (step s (.tagDone n r) st).1.tags jn = some ot ∧ Core snap ot := by
  revert hj'
  refine step_tagDone_cases (P := fun r => r.1.jTag = some (jn, snap, held) →
      ∃ ot, sget r.1.tags jn = some ot ∧ Core snap ot) s n r st
    (fun hq h => nomatch hq.symm.trans h) (fun jn' _ _ hq hn => absurd (hev _ _ _ hq) hn)
    fun snap' held' _ hj' => ?_
  refine started_of { tdPublish { s with jTag := none } n snap' (ofList r) with tag := false } _ st.tag
    ?_ ?_ ((jobTail_quiet _).trans (release_quiet _ _)) jn snap held hj'
  · exact (tdPublish_frE (g := False) { s with jTag := none } n snap' (ofList r)).sorted hw
  · exact (JK.of_jp (tdPublish_frame jp { s with jTag := none } n snap' (ofList r))).jTag

/-- `refBy` is not in the conclusion: `addTag` extends it after it has started the job -/
theorem job_started_plain (s : St) (e : Ev) (st : Started) (jn : String) (snap : Tag) (held : List Nat)
    (hw : Sorted s.tags)
    (hjw : s.tag = true ↔ s.jTag.isSome = true)
    (hev : ∀ n r, e = .tagDone n r → ∀ jn' snap' held', s.jTag = some (jn', snap', held') → jn' = n)
    (h : s.tag = false ∨ ∃ n r, e = .tagDone n r)
    (hud : (∀ n cs, e ≠ .updConv n cs) ∧ ∀ n, e ≠ .delTag n)
    (hj' : (step s e st).1.jTag = some (jn, snap, held)) :
    ∃ ot, sget (step s e st).1.tags jn = some ot ∧ Core snap ot := by
  rcases h with ht | ⟨n, r, rfl⟩
  · have hjn : s.jTag = none := by
      cases hq : s.jTag with
      | none => rfl
      | some p =>
        have := hjw.2 (by simp [hq])
        rw [ht] at this; cases this
    cases step_dec s e st (fun _ _ _ => hjn) (Or.inr hud) with
    | plain hk => rw [hk.jTag, hjn] at hj'; cases hj'
    | tagging X h1 h2 h3 =>
      exact started_of X _ st.tag (h2 hw) (h1.jTag.trans hjn) h3 jn snap held hj'
  · exact tagDone_started s n r st jn snap held hw (hev n r rfl) hj'

theorem JInv.started {A : Nat} {X : St} {jn : String} {snap : Tag} {held : List Nat} (h : JInv A X)
    (hj : X.jTag = some (jn, snap, held)) :
    ∃ ot, sget X.tags jn = some ot ∧ GRel A snap ot ∧
      ∀ id, id ∈ ot.unc → id ∉ snap.unc → id < A → LateCov X snap id := by
  rcases h with ⟨_, h2⟩ | ⟨_, jn', snap', held', ot, hj2, hot, hg, _, hl⟩
  · rw [h2] at hj; cases hj
  · rw [hj2] at hj; cases hj
    exact ⟨ot, hot, hg, hl⟩

theorem step_updConv_jinv (s : St) (name : String) (convs : List String) (st : Started) (h0 : FI s s) :
    JInv s.all (step s (.updConv name convs) st).1 := by
  refine step_updConv_cases (P := fun r => JInv s.all r.1) s name convs st h0.jinv fun t _ _ => ?_
  unfold updConvSt ucAttach ucDetach
  refine JInv.post ?_ (foldl_detach_fi s name st.tag (t.convs.filter (fun c => !convs.contains c)) h0).jinv
  exact ((foldl_quiet _ (fun s c => attachConv_quiet s name c) _ _).trans (startConverter_quiet _))

/-- second disjunct: the detach fold may start the job of the very tag that `delTag` then removes -/
theorem step_delTag_jinv (s : St) (name : String) (st : Started) (hw : Sorted s.tags) (hb : Bounded s.all s.tags)
    (ht : s.tag = false) (hjn : s.jTag = none)
    (href : ∀ t', sget s.tags name = some t' → t'.refBy = [] → ∀ n t, sget s.tags n = some t → name ∉ t.refs)
    (jn : String) (snap : Tag) (held : List Nat)
    (hj' : (step s (.delTag name) st).1.jTag = some (jn, snap, held)) :
    (jn ≠ name ∧ JInv s.all (step s (.delTag name) st).1) ∨
    (jn = name ∧ sget (step s (.delTag name) st).1.tags jn = none ∧ ∃ t, sget s.tags jn = some t ∧ Fld t snap) := by
  revert hj'
  refine step_delTag_cases (P := fun r => r.1.jTag = some (jn, snap, held) → (jn ≠ name ∧ JInv s.all r.1) ∨
      (jn = name ∧ sget r.1.tags jn = none ∧ ∃ t, sget s.tags jn = some t ∧ Fld t snap)) s name st
    (fun h => nomatch hjn.symm.trans h) fun t ht0 hrb hj' => ?_
  have hF := foldl_detach_fi s name st.tag t.convs (FI.init s hw hb ht hjn)
  have hq : Quiet { (t.convs.foldl (fun s c => detachConv s name c st.tag) s) with
        tags := sdel (t.convs.foldl (fun s c => detachConv s name c st.tag) s).tags name }
      (dtApply s name t st.tag) := foldl_quiet _ (fun s r => delRefBy_quiet s r name) _ _
  generalize t.convs.foldl (fun s c => detachConv s name c st.tag) s = F at hF hq
  have hjF : F.jTag = some (jn, snap, held) := by
    have := (JK.of_jp hq.jp).jTag
    rw [hj'] at this; exact this.symm
  rcases hF.jinv with ⟨_, h2⟩ | ⟨htg, jn', snap', held', ot, hj2, hot, hg, hpf, hl⟩
  · rw [h2] at hjF; cases hjF
  · rw [hj2] at hjF; cases hjF
    by_cases hn : jn = name
    · subst hn
      refine Or.inr ⟨rfl, (hq.tags jn).2 (by simp [sget_sdel]), t, ht0, ?_⟩
      obtain ⟨t', e', r'⟩ := hF.g jn t ht0
      rw [hot] at e'; cases e'
      exact r'.1.trans hg.1.symm
    · refine Or.inl ⟨hn, JInv.post hq (Or.inr ⟨htg, jn, snap, held, ot, hj2, ?_, hg, hpf, ?_⟩)⟩
      · simp [sget_sdel, Ne.symm hn, hot]
      · intro id hid hns hlt
        refine LateCov.mono (X := F) (JK.of_jp rfl) ?_ (hl id hid hns hlt)
        intro r hr tr htr
        refine ⟨tr, ?_, fun _ hi => hi⟩
        have hne : name ≠ r := by
          rintro rfl
          cases hs : sget s.tags jn with
          | none => rw [hF.back jn hs] at hot; cases hot
          | some tj =>
            obtain ⟨t', e', r'⟩ := hF.g jn tj hs
            rw [hot] at e'; cases e'
            apply href t ht0 hrb jn tj hs
            obtain ⟨_, _, _, _, a5, a6, _⟩ := r'.1
            obtain ⟨_, _, _, _, b5, b6, _⟩ := hg.1
            rw [mem_refs, ← a5, ← a6, b5, b6]
            exact hr
        simp [sget_sdel, hne, htr]

end Pk.Proofs.MgrTruth
