/-
  Flow locality of the reference reassembler within one inactivity-timeout window: the streams of a
  flow-closed selection of the packets are exactly the streams that the selected packets produce alone
  (`reasm_filter_window`); the first stream belongs to the first packet (`reasm_head_window`); every
  stream belongs to the conversation of some packet (`reasm_stream_key_window`).

  Inside the window `reasm` is a run of the abstract machine of ImportReasmMachine (`reasm_abs`), whose
  state is a list of entries without stream numbers.  A packet keeps the endpoints of every entry
  (`entryBody_key`, from `tcpBody_key` / `udpBody_key` of ImportReasmFlush) and `EntryInv` (through
  `aStep_all`).  An entry answers exactly the packets of its conversation, self-addressed UDP datagrams
  apart (`entryDir_isSome`), so filtering by conversations commutes with the machine (`aStep_filter`).
-/
import Pk.Proofs.ImportReasmMachine
import Pk.Proofs.ImportReasmFlush

namespace Pk.Proofs.ImportReasm
open Pk.Import

/-- the endpoints that `tcpDir` tests, as a packet client → server like `Stream.keyPkt` -/
def connKey (c : TcpConn) : Pkt :=
  { ts := 0, file := "", idx := 0, udp := false, src := c.src, dst := c.dst, sport := c.sport, dport := c.dport }

/-- `tcpDir` tests the endpoints kept in the connection, `Stream.keyPkt` those kept in the stream: they
    are the same -/
def EntryInv : Entry → Prop
  | .tcp c st => connKey c = Stream.keyPkt st
  | .udp _ st => st.udp = true

theorem pkt_fields {p q : Pkt} (h : p = q) :
    p.src = q.src ∧ p.dst = q.dst ∧ p.sport = q.sport ∧ p.dport = q.dport ∧ p.udp = q.udp :=
  h ▸ ⟨rfl, rfl, rfl, rfl, rfl⟩

theorem entryBody_key (p : Pkt) (d : Bool) (e : Entry) : Stream.keyPkt (entryBody p d e).st = Stream.keyPkt e.st := by
  cases e with
  | tcp c st => exact tcpBody_key c st p d
  | udp act st => exact udpBody_key st p d

theorem entryBody_inv (p : Pkt) (d : Bool) (e : Entry) (hi : EntryInv e) : EntryInv (entryBody p d e) := by
  cases e with
  | tcp c st =>
    have hc : connKey (tcpBody c st p d).1 = connKey c := by unfold tcpBody; cases d <;> rfl
    exact hc.trans (Eq.trans hi (tcpBody_key c st p d).symm)
  | udp act st => exact (pkt_fields (udpBody_key st p d)).2.2.2.2.trans hi

theorem openEntry_inv (p : Pkt) : EntryInv (openEntry p) := by
  unfold openEntry
  split <;> exact rfl

theorem entryDir_isSome (p : Pkt) (e : Entry) (hi : EntryInv e) :
    (entryDir p e).isSome ↔ sameConv (Stream.keyPkt e.st) p ∧ ¬ SelfUdp p := by
  rw [sameConv_key]
  cases e with
  | tcp c st =>
    obtain ⟨i1, i2, i3, i4, i5⟩ : c.src = st.caddr ∧ c.dst = st.saddr ∧ c.sport = st.cport ∧ c.dport = st.sport ∧ false = st.udp :=
      pkt_fields hi
    have hd : tcpDir p c = if Proofs.Import.fwd st p then some false else if Proofs.Import.bwd st p then some true else none := by
      unfold tcpDir Proofs.Import.fwd Proofs.Import.bwd; rw [i1, i2, i3, i4]
    cases hp : p.udp <;> simp only [entryDir, Entry.st, hp, hd, i5.symm, SelfUdp] <;> grind
  | udp act st =>
    have hu : st.udp = true := hi
    cases hp : p.udp
    · simp [entryDir, Entry.st, hp, hu]
    · simp only [entryDir, Entry.st, hp, hu, if_true, Proofs.Import.udpMatch_eq, SelfUdp, true_and]
      by_cases h : Proofs.Import.fwd st p ∨ Proofs.Import.bwd st p
      · have := Proofs.Import.fwd_bwd_self h
        grind
      · grind

theorem openEntry_same (p : Pkt) : sameConv (Stream.keyPkt (openEntry p).st) p := by
  unfold openEntry
  split
  · rename_i hp
    exact ⟨hp.symm, Or.inl ⟨rfl, rfl, rfl, rfl⟩⟩
  · rename_i hp
    exact ⟨(Bool.eq_false_iff.mpr hp).symm, Or.inl ⟨rfl, rfl, rfl, rfl⟩⟩

theorem newEntry_same (p : Pkt) : sameConv (Stream.keyPkt (newEntry p).st) p :=
  (entryBody_key p false _).symm ▸ openEntry_same p

theorem aStep_filter (F : Pkt → Bool) (hF : FlowClosed F) (p : Pkt) : ∀ (a : List Entry), (∀ e ∈ a, EntryInv e) →
    (aStep a p).filter (fun e => F (Stream.keyPkt e.st)) =
      if F p then aStep (a.filter (fun e => F (Stream.keyPkt e.st))) p else a.filter (fun e => F (Stream.keyPkt e.st)) := by
  intro a
  induction a with
  | nil =>
    intro _
    have hn : F (Stream.keyPkt (newEntry p).st) = F p := hF _ _ (newEntry_same p)
    cases hb : F p <;> simp [aStep, hn, hb]
  | cons e es ih =>
    intro hi
    have ih' := ih (fun x hm => hi x (List.mem_cons_of_mem _ hm))
    rw [aStep]
    cases hd : entryDir p e with
    | some d =>
      -- the entry that takes `p` is of `p`'s conversation, before and after
      have h1 : F (Stream.keyPkt e.st) = F p := hF _ _ ((entryDir_isSome p e (hi e (List.mem_cons_self ..))).mp (hd ▸ rfl)).1
      cases hb : F p <;> simp [aStep, hd, entryBody_key, h1, hb]
    | none =>
      simp only [List.filter_cons, ih']
      cases F (Stream.keyPkt e.st) <;> cases F p <;> simp [aStep, hd]

theorem aRun_filter (F : Pkt → Bool) (hF : FlowClosed F) : ∀ (ps : List Pkt) (a : List Entry), (∀ e ∈ a, EntryInv e) →
    (aRun a ps).filter (fun e => F (Stream.keyPkt e.st)) = aRun (a.filter (fun e => F (Stream.keyPkt e.st))) (ps.filter F) := by
  intro ps
  induction ps with
  | nil => intro a _; rfl
  | cons p ps ih =>
    intro a hi
    have h := ih (aStep a p) (aStep_all EntryInv a p (entryBody_inv p) (openEntry_inv p) hi)
    simp only [aRun, List.foldl_cons] at h ⊢
    rw [h, aStep_filter F hF p a hi, List.filter_cons]
    cases F p
    · simp only [Bool.false_eq_true, if_false]
    · simp only [if_true, List.foldl_cons]

theorem InWindow.filter {t0 : Nat} {ps : List Pkt} (hw : InWindow t0 ps) (F : Pkt → Bool) : InWindow t0 (ps.filter F) :=
  fun p hm => hw p (List.mem_filter.mp hm).1

theorem reasm_filter_window (t0 : Nat) (ps : List Pkt) (F : Pkt → Bool) (hw : InWindow t0 ps) (hF : FlowClosed F) :
    (reasm ps).toList.filter (fun s => F (Stream.keyPkt s)) = (reasm (ps.filter F)).toList := by
  rw [reasm_abs t0 ps hw, reasm_abs t0 _ (hw.filter F), List.filter_map]
  have := aRun_filter F hF ps [] (by intro e hm; cases hm)
  simp only [List.filter_nil] at this
  rw [← this]
  rfl

theorem aStep_head (e : Entry) (a : List Entry) (p : Pkt) :
    ∃ e' l, aStep (e :: a) p = e' :: l ∧ Stream.keyPkt e'.st = Stream.keyPkt e.st := by
  rw [aStep]
  cases entryDir p e with
  | some d => exact ⟨_, a, rfl, entryBody_key p d e⟩
  | none => exact ⟨e, _, rfl, rfl⟩

theorem aRun_head : ∀ (ps : List Pkt) (e : Entry) (a : List Entry),
    ∃ e' l, aRun (e :: a) ps = e' :: l ∧ Stream.keyPkt e'.st = Stream.keyPkt e.st := by
  intro ps
  induction ps with
  | nil => intro e a; exact ⟨e, a, rfl, rfl⟩
  | cons p ps ih =>
    intro e a
    obtain ⟨e1, l1, h1, k1⟩ := aStep_head e a p
    obtain ⟨e2, l2, h2, k2⟩ := ih e1 l1
    refine ⟨e2, l2, ?_, k2.trans k1⟩
    simp only [aRun, List.foldl_cons] at h2 ⊢
    rw [h1, h2]

theorem reasm_head_window (t0 : Nat) (p : Pkt) (ps : List Pkt) (hw : InWindow t0 (p :: ps)) :
    ∃ s l, (reasm (p :: ps)).toList = s :: l ∧ sameConv (Stream.keyPkt s) p := by
  rw [reasm_abs t0 _ hw]
  have h0 : aRun [] (p :: ps) = aRun [newEntry p] ps := rfl
  obtain ⟨e, l, h1, k1⟩ := aRun_head ps (newEntry p) []
  refine ⟨e.st, l.map Entry.st, by rw [h0, h1]; rfl, ?_⟩
  rw [k1]
  exact newEntry_same p

theorem aRun_all (P : Entry → Prop) : ∀ (ps : List Pkt) (a : List Entry), (∀ p ∈ ps, ∀ d e, P e → P (entryBody p d e)) →
    (∀ p ∈ ps, P (openEntry p)) → (∀ e ∈ a, P e) → ∀ e ∈ aRun a ps, P e := by
  intro ps
  induction ps with
  | nil => intro a _ _ ha; exact ha
  | cons p ps ih =>
    intro a hb ho ha
    exact ih (aStep a p) (fun q hq => hb q (List.mem_cons_of_mem _ hq)) (fun q hq => ho q (List.mem_cons_of_mem _ hq))
      (aStep_all P a p (hb p (List.mem_cons_self ..)) (ho p (List.mem_cons_self ..)) ha)

theorem reasm_stream_key_window (t0 : Nat) (ps : List Pkt) (hw : InWindow t0 ps) :
    ∀ s ∈ (reasm ps).toList, ∃ p ∈ ps, sameConv (Stream.keyPkt s) p := by
  rw [reasm_abs t0 ps hw]
  intro s hm
  obtain ⟨e, me, rfl⟩ := List.mem_map.mp hm
  exact aRun_all (fun e => ∃ p ∈ ps, sameConv (Stream.keyPkt e.st) p) ps []
    (fun p _ d e h => by rw [entryBody_key]; exact h)
    (fun p hp => ⟨p, hp, openEntry_same p⟩) (fun e hm => nomatch hm) e me

end Pk.Proofs.ImportReasm
