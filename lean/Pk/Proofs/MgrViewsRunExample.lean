/-
  The history of the non-vacuity examples of Pk/Props/C10Reach.lean (`held_view_example`, `splice_example`): the
  states as literals, the steps, and the payload contract (`PayloadOK`) of every event.

    importPcaps ["a.pcap"]; importDone creating file 0 = streams {0,1}; importPcaps ["b.pcap"]; importDone creating
    file 1 = stream {2}; viewOpen 7 (captures [0,1]); importPcaps ["c.pcap"]; importDone creating file 2 = streams
    {1,3} (stream 1 updated, stream 3 new; a merge job over [0,1,2] starts inside the step); mergeDone writing
    file 3 = streams {0,1,2,3} (the service list becomes [3]; files 0 and 1 stay open for the view, file 2 is closed)
-/
import Pk.Proofs.MgrConcrete
namespace Pk.Proofs.MgrViewsRunExample
open Pk.Mgr Pk.Props.MgrReach

def s0 : St := { convs := [], toconv := [], cached := [] }
def s1 : St := { s0 with queue := ["a.pcap"], pcaps := ["a.pcap"], jImport := some (0, []) }
def s2 : St :=
  { idx := [0], files := [(0, [0, 1])], used := [(0, 1)], next := 2, all := 2, nrec := 2, add := [0, 1],
    pcaps := ["a.pcap"] }
def s3 : St :=
  { s2 with used := [(0, 2)], queue := ["b.pcap"], pcaps := ["a.pcap", "b.pcap"], jImport := some (2, [0]) }
def s4 : St :=
  { idx := [0, 1], files := [(0, [0, 1]), (1, [2])], used := [(0, 1), (1, 1)], next := 3, all := 3, nrec := 3,
    add := [0, 1, 2], pcaps := ["a.pcap", "b.pcap"] }
def s5 : St := { s4 with used := [(0, 2), (1, 2)], views := [(7, [0, 1])] }
def s6 : St :=
  { s5 with used := [(0, 3), (1, 3)], queue := ["c.pcap"], pcaps := ["a.pcap", "b.pcap", "c.pcap"],
            jImport := some (3, [0, 1]) }
def s7 : St :=
  { idx := [0, 1, 2], files := [(0, [0, 1]), (1, [2]), (2, [1, 3])], used := [(0, 3), (1, 3), (2, 2)], next := 4,
    all := 4, nrec := 5, upd := [1], add := [0, 1, 2, 3], pcaps := ["a.pcap", "b.pcap", "c.pcap"],
    views := [(7, [0, 1])], merge := true, jMerge := some (0, [0, 1, 2]) }
def s8 : St :=
  { idx := [3], files := [(0, [0, 1]), (1, [2]), (3, [0, 1, 2, 3])], used := [(0, 1), (1, 1), (3, 1)], next := 4,
    all := 4, nrec := 4, upd := [1], add := [0, 1, 2, 3], pcaps := ["a.pcap", "b.pcap", "c.pcap"],
    views := [(7, [0, 1])] }

def e1 : Ev := .importPcaps ["a.pcap"]
def e2 : Ev := .importDone 1 2 [(0, [0, 1])] [] [] [0, 1]
def e3 : Ev := .importPcaps ["b.pcap"]
def e4 : Ev := .importDone 1 1 [(1, [2])] [] [] [2]
def e5 : Ev := .viewOpen 7
def e6 : Ev := .importPcaps ["c.pcap"]
def e7 : Ev := .importDone 1 1 [(2, [1, 3])] [1] [] [3]
def e8 : Ev := .mergeDone [(3, [0, 1, 2, 3])]

theorem step1 : step s0 e1 {} = (s1, .none) := by decide +kernel
theorem step2 : step s1 e2 {} = (s2, .none) := by decide +kernel
theorem step3 : step s2 e3 {} = (s3, .none) := by decide +kernel
theorem step4 : step s3 e4 {} = (s4, .none) := by decide +kernel
theorem step5 : step s4 e5 {} = (s5, .none) := by decide +kernel
theorem step6 : step s5 e6 {} = (s6, .none) := by decide +kernel
theorem step7 : step s6 e7 {} = (s7, .none) := by decide +kernel
theorem step8 : step s7 e8 {} = (s8, .none) := by decide +kernel

theorem ok1 : PayloadOK s0 e1 := payloadOK_of_check (by decide +kernel)
theorem ok2 : PayloadOK s1 e2 := payloadOK_of_check (by decide +kernel)
theorem ok3 : PayloadOK s2 e3 := payloadOK_of_check (by decide +kernel)
theorem ok4 : PayloadOK s3 e4 := payloadOK_of_check (by decide +kernel)
theorem ok5 : PayloadOK s4 e5 := payloadOK_of_check (by decide +kernel)
theorem ok6 : PayloadOK s5 e6 := payloadOK_of_check (by decide +kernel)
theorem ok7 : PayloadOK s6 e7 := payloadOK_of_check (by decide +kernel)
theorem ok8 : PayloadOK s7 e8 := payloadOK_of_check (by decide +kernel)

/-! ## a second continuation after `e7`: an import completes while the merge job is in flight

    importPcaps ["d.pcap"]; importDone creating file 4 = stream {0} (stream 0 updated) — appended AFTER the run
    [0,1,2] the merge job holds; mergeDone writing file 3 = streams {0,1,2,3}: the service list becomes [3,4], the
    merged file is spliced in BEFORE file 4 -/

def t8 : St :=
  { s7 with used := [(0, 4), (1, 4), (2, 3)], queue := ["d.pcap"],
            pcaps := ["a.pcap", "b.pcap", "c.pcap", "d.pcap"], jImport := some (4, [0, 1, 2]) }
def t9 : St :=
  { idx := [0, 1, 2, 4], files := [(0, [0, 1]), (1, [2]), (2, [1, 3]), (4, [0])],
    used := [(0, 3), (1, 3), (2, 2), (4, 1)], next := 4, all := 4, nrec := 6, upd := [0, 1], add := [0, 1, 2, 3],
    pcaps := ["a.pcap", "b.pcap", "c.pcap", "d.pcap"], views := [(7, [0, 1])], merge := true,
    jMerge := some (0, [0, 1, 2]) }
def t10 : St :=
  { idx := [3, 4], files := [(0, [0, 1]), (1, [2]), (3, [0, 1, 2, 3]), (4, [0])],
    used := [(0, 1), (1, 1), (3, 1), (4, 1)], next := 4, all := 4, nrec := 5, upd := [0, 1], add := [0, 1, 2, 3],
    pcaps := ["a.pcap", "b.pcap", "c.pcap", "d.pcap"], views := [(7, [0, 1])] }

def g8 : Ev := .importPcaps ["d.pcap"]
def g9 : Ev := .importDone 1 0 [(4, [0])] [0] [] []
def g10 : Ev := .mergeDone [(3, [0, 1, 2, 3])]

theorem gstep8 : step s7 g8 {} = (t8, .none) := by decide +kernel
theorem gstep9 : step t8 g9 {} = (t9, .none) := by decide +kernel
theorem gstep10 : step t9 g10 {} = (t10, .none) := by decide +kernel

theorem gok8 : PayloadOK s7 g8 := payloadOK_of_check (by decide +kernel)
theorem gok9 : PayloadOK t8 g9 := payloadOK_of_check (by decide +kernel)
theorem gok10 : PayloadOK t9 g10 := payloadOK_of_check (by decide +kernel)

end Pk.Proofs.MgrViewsRunExample
