/-
  Chronological arrival (for Pk/Props/C08Chrono.lean): the feeding order.  If every packet of `ps` sorts
  strictly before every packet of `qs` (`Before`: `comparePackets`, i.e. timestamp, then file name, then
  index) and packets are identified by (file, index), then `sortPkts (ps ++ qs) = sortPkts ps ++ sortPkts qs`: the feed of a
  chronological import is the feed of the previous import followed by the new packets.  The hypotheses
  on a history, `ChronoHist` of ImportSpec, are decidable (`chronoHist_iff`).
-/
import Pk.Props.ImportSpec
import Pk.Proofs.Import

namespace Pk.Proofs.ImportChrono
open Pk.Import Pk.Proofs.Import

theorem Pkt.ref_key (p : Pkt) : PRef.key p.ref = Pkt.key p := rfl

theorem Before.nil_left (qs : List Pkt) : Before [] qs := by intro p hp; cases hp

theorem Before.append_left {ps ps' qs : List Pkt} (h1 : Before ps qs) (h2 : Before ps' qs) : Before (ps ++ ps') qs := by
  intro p hp q hq
  rcases List.mem_append.mp hp with hp | hp
  · exact h1 p hp q hq
  · exact h2 p hp q hq

theorem mem_sortPkts {l : List Pkt} {a : Pkt} : a ∈ sortPkts l ↔ a ∈ l := (sortPkts_perm l).mem_iff

theorem sortPkts_append (ps qs : List Pkt) (hk : ((ps ++ qs).map Pkt.key).Nodup) (hb : Before ps qs) :
    sortPkts (ps ++ qs) = sortPkts ps ++ sortPkts qs := by
  apply List.Perm.eq_of_pairwise (le := fun a b => pktLe a b = true)
  · intro a b ha hb' h1 h2
    have ha' : a ∈ ps ++ qs := mem_sortPkts.mp ha
    have hb'' : b ∈ ps ++ qs := by
      rcases List.mem_append.mp hb' with h | h
      · exact List.mem_append_left _ (mem_sortPkts.mp h)
      · exact List.mem_append_right _ (mem_sortPkts.mp h)
    have e1 : pktLt b a = false := by simpa [pktLe] using h1
    have e2 : pktLt a b = false := by simpa [pktLe] using h2
    obtain ⟨_, hf, hi⟩ := pktLt_trichotomy e2 e1
    exact Lib.nodup_map_inj Pkt.key _ hk a ha' b hb'' (by unfold Pkt.key; rw [hf, hi])
  · exact sortPkts_sorted _
  · rw [List.pairwise_append]
    refine ⟨sortPkts_sorted ps, sortPkts_sorted qs, ?_⟩
    intro a ha b hb'
    exact pktLe_of_lt (hb a (mem_sortPkts.mp ha) b (mem_sortPkts.mp hb'))
  · exact (sortPkts_perm _).trans ((sortPkts_perm ps).append (sortPkts_perm qs)).symm

theorem allPkts_cons (b : Batch) (bs : List Batch) : allPkts (b :: bs) = b.2 ++ allPkts bs := rfl

theorem mem_allPkts {bs : List Batch} {p : Pkt} : p ∈ allPkts bs ↔ ∃ b ∈ bs, p ∈ b.2 := by
  induction bs with
  | nil => simp [allPkts]
  | cons b bs ih =>
    rw [allPkts_cons, List.mem_append, ih]
    constructor
    · rintro (h | ⟨b', hb', hp⟩)
      · exact ⟨b, List.mem_cons_self .., h⟩
      · exact ⟨b', List.mem_cons_of_mem _ hb', hp⟩
    · rintro ⟨b', hb', hp⟩
      rcases List.mem_cons.mp hb' with rfl | hb'
      · exact Or.inl hp
      · exact Or.inr ⟨b', hb', hp⟩

theorem chronoHist_iff (bs : List Batch) : ChronoHist bs ↔
    bs.Pairwise (fun bi bj => Before bi.2 bj.2) ∧ ((allPkts bs).map Pkt.key).Nodup ∧
    (∀ b ∈ bs, ∀ p ∈ b.2, p.file ∈ b.1) ∧ bs.Pairwise (fun bi bj => ∀ p ∈ bi.2, p.file ∉ bj.1) :=
  ⟨fun h => ⟨h.strict, h.keys, h.names, h.fresh⟩, fun h => ⟨h.1, h.2.1, h.2.2.1, h.2.2.2⟩⟩

instance (bs : List Batch) : Decidable (ChronoHist bs) := decidable_of_iff _ (chronoHist_iff bs).symm

end Pk.Proofs.ImportChrono
