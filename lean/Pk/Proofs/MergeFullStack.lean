/-
  Lookup by id is "the last record with the id" (`lastWith`, `streamByID_spec` of IndexFormatLookup), in a stream table
  and in a stack of files: what stands behind is asked first (`lastWith_append`, `stackView_append`), so a file put
  under a stack is asked last (`stackView_cons`; `stackView_cons_lastWith` when its id range brackets its ids).
-/
import Pk.Model.Merge
import Pk.Proofs.IndexFormatLookup
import Pk.Proofs.Lib

namespace Pk.Index
open Pk Pk.Bytes

theorem lastWith_append (a b : List StreamRec) (id : Nat) :
    lastWith (a ++ b) id = (lastWith b id).or (lastWith a id) := by
  simp only [lastWith_eq, List.reverse_append, List.find?_append]

theorem lastWith_filter (l : List StreamRec) (p : StreamRec → Bool) (id : Nat) (hp : ∀ s ∈ l, s.id = id → p s = true) :
    lastWith (l.filter p) id = lastWith l id := by
  rw [lastWith_eq, lastWith_eq, ← List.getLast?_filter, ← List.getLast?_filter, List.filter_filter]
  refine congrArg _ (List.filter_congr fun s hs => ?_)
  cases h : s.id == id
  · rfl
  · exact hp s hs (beq_iff_eq.mp h)

theorem lastWith_new (old l : List StreamRec) (id : Nat) :
    lastWith (l.filter fun s => !(old.map (·.id)).contains s.id) id =
      if lastWith old id = none then lastWith l id else none := by
  split
  · rename_i h
    refine lastWith_filter _ _ _ fun s _ hs => ?_
    simp only [Bool.not_eq_eq_eq_not, Bool.not_true, List.contains_eq_mem, List.mem_map, decide_eq_false_iff_not,
      not_exists, not_and]
    exact fun x hx heq => lastWith_none.mp h x hx (heq.trans hs)
  · rename_i h
    obtain ⟨s, hs⟩ := Option.ne_none_iff_exists'.mp h
    obtain ⟨hmem, hid⟩ := lastWith_some hs
    refine lastWith_none.mpr fun x hx heq => ?_
    have := (List.mem_filter.mp hx).2
    simp only [Bool.not_eq_eq_eq_not, Bool.not_true, List.contains_eq_mem, List.mem_map, decide_eq_false_iff_not,
      not_exists, not_and] at this
    exact this s hmem (hid.trans heq.symm)

theorem All₂.lastWith {R : StreamRec → StreamRec → Prop} {as bs : List StreamRec} (h : All₂ R as bs)
    (hid : ∀ a b, R a b → b.id = a.id) (id : Nat) : Option.Rel R (Pk.Index.lastWith as id) (Pk.Index.lastWith bs id) := by
  induction h with
  | nil => exact .none
  | @cons a b as bs hr _ ih =>
    simp only [Pk.Index.lastWith]
    generalize Pk.Index.lastWith as id = x at ih
    generalize Pk.Index.lastWith bs id = y at ih
    cases ih with
    | some h => exact .some h
    | none =>
      simp only [hid a b hr]
      split
      · exact .some hr
      · exact .none

theorem stackView_cons (r : Reader) (rs : List Reader) (id : Nat) :
    stackView (r :: rs) id = (stackView rs id).or ((r.streamByID id).map fun x => r.view x.2) := by
  unfold stackView
  simp only [stackLookup]
  cases stackLookup rs id with
  | some x => rfl
  | none => simp only [Option.map_none, Option.none_or, Option.map_map]; rfl

theorem stackView_cons_lastWith (r : Reader) (hr : ∀ s ∈ r.f.streams, r.idMin ≤ s.id ∧ s.id ≤ r.idMax) (rs : List Reader) (id : Nat) :
    stackView (r :: rs) id = (stackView rs id).or ((lastWith r.f.streams id).map r.view) := by
  obtain ⟨h1, h2⟩ := streamByID_spec r hr id
  rw [stackView_cons]
  cases h : lastWith r.f.streams id with
  | none => rw [h1 h]; rfl
  | some s => obtain ⟨j, hj, _⟩ := h2 s h; rw [hj]; rfl

theorem stackView_append (pre X : List Reader) (id : Nat) :
    stackView (pre ++ X) id = (stackView X id).or (stackView pre id) := by
  induction pre with
  | nil => exact Option.or_none.symm
  | cons r rs ih => rw [List.cons_append, stackView_cons, stackView_cons, ih, Option.or_assoc]

end Pk.Index
