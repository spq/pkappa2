/-
  What `inheritTagUncertainty` does to the table: it changes nothing but the `uncertain` sets (`UncOnly`), and an
  existing stream that is pending at a tag is pending afterwards at every tag that (transitively) references it
  (`inherit_pending`; one step of the walk: `inheritOne_pending`), the tag itself included (`inherit_grow`).
-/
import Pk.Model.TagGraph
import Pk.Proofs.TagGraph
import Pk.Proofs.TagGraphSets

namespace Pk.Proofs.TagGraphMore
open Pk.TagGraph Pk.Proofs.TagGraph

def clearU (t : Tag) : Tag := { t with uncertain := [] }

def UncOnly (m m' : TagMap) : Prop := ∀ k, (tget m' k).map clearU = (tget m k).map clearU

theorem UncOnly.refl (m : TagMap) : UncOnly m m := fun _ => rfl
theorem UncOnly.trans {a b c : TagMap} (h1 : UncOnly a b) (h2 : UncOnly b c) : UncOnly a c :=
  fun k => (h2 k).trans (h1 k)

theorem UncOnly.get {m m' : TagMap} (h : UncOnly m m') {k : Name} {u : Tag} (hu : tget m k = some u) :
    ∃ u', tget m' k = some u' ∧ clearU u' = clearU u :=
  Option.map_eq_some_iff.mp ((h k).trans (congrArg (Option.map clearU) hu))

theorem UncOnly.get' {m m' : TagMap} (h : UncOnly m m') {k : Name} {u' : Tag} (hu : tget m' k = some u') :
    ∃ u, tget m k = some u ∧ clearU u' = clearU u :=
  let ⟨u, h1, h2⟩ := UncOnly.get (m := m') (m' := m) (fun k => (h k).symm) hu
  ⟨u, h1, h2.symm⟩

theorem clearU_eq {a b : Tag} (h : clearU a = clearU b) :
    a.definition = b.definition ∧ a.mainTags = b.mainTags ∧ a.subTags = b.subTags ∧
    a.mainFeat = b.mainFeat ∧ a.subFeat = b.subFeat ∧ a.cond = b.cond ∧ a.matched = b.matched ∧
    a.known = b.known ∧ a.color = b.color ∧ a.converters = b.converters ∧
    a.referencedBy = b.referencedBy := by
  cases a; cases b
  simp only [clearU, Tag.mk.injEq] at h
  simp_all

theorem uncOnly_tmod (m : TagMap) (n : Name) (f : Tag → Tag) (hf : ∀ t, clearU (f t) = clearU t) :
    UncOnly m (tmod m n f) := by
  intro k
  rw [get_mod]
  by_cases hk : n = k
  · subst hk
    simp only [if_true]
    cases tget m n with
    | none => rfl
    | some t => simp [hf t]
  · simp [hk]

theorem uncOnly_inheritOne (all : List Nat) (m : TagMap) (n : Name) : UncOnly m (inheritOne all m n) := by
  unfold inheritOne
  apply uncOnly_tmod
  intro t
  split
  · rfl
  · split <;> rfl

theorem uncOnly_inheritApply (all : List Nat) (order : List Name) (m : TagMap) :
    UncOnly m (inheritApply all m order) :=
  Lib.foldl_rel UncOnly UncOnly.refl (fun _ _ _ => UncOnly.trans) (inheritOne all) order
    (fun m n _ => uncOnly_inheritOne all m n) m

theorem tkeys_inheritApply (all : List Nat) (order : List Name) (m : TagMap) :
    tkeys (inheritApply all m order) = tkeys m :=
  Lib.foldl_keep tkeys (inheritOne all) (fun _ _ => tkeys_tmod _ _ _) order m

theorem uncOnly_inherit (st st' : State) (h : inherit st = some st') :
    UncOnly st.tags st'.tags ∧ st'.nextStreamID = st.nextStreamID ∧ st'.convs = st.convs := by
  obtain ⟨_, _, rfl⟩ := inherit_some h
  exact ⟨uncOnly_inheritApply _ _ _, rfl, rfl⟩

theorem tkeys_inherit (st st' : State) (h : inherit st = some st') : tkeys st'.tags = tkeys st.tags := by
  obtain ⟨_, _, rfl⟩ := inherit_some h
  exact tkeys_inheritApply _ _ _

theorem gview_of_uncOnly {m m' : TagMap} (h : UncOnly m m') (k : Name) : gview m' k = gview m k := by
  have := congrArg (Option.map fun t => (t.refs, t.referencedBy)) (h k)
  rwa [Option.map_map, Option.map_map] at this

/-- `k` is `target` or references (through any chain of main/sub references) `target` -/
inductive RefersTo (m : TagMap) (target : Name) : Name → Prop
  | self : RefersTo m target target
  | step {k r : Name} : r ∈ refsOf m k → RefersTo m target r → RefersTo m target k

theorem mem_foldl_unionNat (U : Name → List Nat) (l : List Name) (a : List Nat) (x : Nat) :
    x ∈ l.foldl (fun acc r => unionNat acc (U r)) a ↔ x ∈ a ∨ ∃ r ∈ l, x ∈ U r := by
  induction l generalizing a with
  | nil => simp
  | cons r l ih =>
    simp only [List.foldl_cons, ih, mem_unionNat, List.mem_cons]
    constructor
    · rintro ((h | h) | ⟨r', hr', h⟩)
      · exact Or.inl h
      · exact Or.inr ⟨r, Or.inl rfl, h⟩
      · exact Or.inr ⟨r', Or.inr hr', h⟩
    · rintro (h | ⟨r', hr' | hr', h⟩)
      · exact Or.inl (Or.inl h)
      · exact Or.inl (Or.inr (hr' ▸ h))
      · exact Or.inr ⟨r', hr', h⟩

theorem inheritOne_pending {all : List Nat} {x : Nat} (hx : x ∈ all) (m : TagMap) (n k : Name)
    (h : x ∈ uncertainOf m k ∨ k = n ∧ ∃ r ∈ refsOf m n, x ∈ uncertainOf m r) :
    x ∈ uncertainOf (inheritOne all m n) k := by
  unfold inheritOne
  rw [uncertainOf, get_mod]
  by_cases hk : n = k
  · subst hk
    rw [if_pos rfl]
    cases ht : tget m n with
    | none =>
      rw [uncertainOf, refsOf, ht] at h
      rcases h with h | ⟨_, _, h, _⟩ <;> cases h
    | some ti =>
      rw [uncertainOf, refsOf, ht] at h
      simp only [Option.map_some]
      have hrefs : ∀ r ∈ ti.refs, r ∈ ti.mainTags ∨ r ∈ ti.subTags := fun r hr => List.mem_append.mp hr
      split
      · rename_i he
        simp only [Bool.and_eq_true, List.isEmpty_iff] at he
        rcases h with h | ⟨_, r, hr, _⟩
        · exact h
        · rcases hrefs r hr with h' | h'
          · rw [he.1] at h'; cases h'
          · rw [he.2] at h'; cases h'
      · split
        -- a pending sub-query reference replaces the pending set by `all`: hence `hx`
        · exact hx
        · rename_i hany
          rw [mem_foldl_unionNat]
          rcases h with h | ⟨_, r, hr, hxr⟩
          · exact Or.inl h
          · rcases hrefs r hr with h' | h'
            · exact Or.inr ⟨r, h', hxr⟩
            · refine absurd (List.any_eq_true.mpr ⟨r, h', ?_⟩) hany
              cases hu : uncertainOf m r with
              | nil => rw [hu] at hxr; cases hxr
              | cons a l => rfl
  · rw [if_neg hk]
    rcases h with h | ⟨rfl, _⟩
    · exact h
    · exact absurd rfl hk

theorem inheritApply_snoc (all : List Nat) (m : TagMap) (l : List Name) (n : Name) :
    inheritApply all m (l ++ [n]) = inheritOne all (inheritApply all m l) n := by
  simp [inheritApply, List.foldl_append]

theorem inheritApply_pending {all : List Nat} {x : Nat} (hx : x ∈ all) (m : TagMap) {target : Name}
    (ht : x ∈ uncertainOf m target) (l : List Name) (hord : DepOrder (refsOf m) l) :
    ∀ k, k = target ∨ k ∈ l → RefersTo m target k → x ∈ uncertainOf (inheritApply all m l.reverse) k := by
  induction l with
  | nil =>
    rintro k (rfl | hk) _
    · exact ht
    · cases hk
  | cons n older ih =>
    intro k hk hreach
    rw [List.reverse_cons, inheritApply_snoc]
    by_cases hko : k = target ∨ k ∈ older
    · exact inheritOne_pending hx _ n k (Or.inl (ih hord.2 k hko hreach))
    · have hkn : k = n := by
        rcases hk with h | h
        · exact absurd (Or.inl h) hko
        · exact (List.mem_cons.mp h).resolve_right fun h' => hko (Or.inr h')
      subst hkn
      cases hreach with
      | self => exact absurd (Or.inl rfl) hko
      | step hr hrt =>
        rename_i r
        refine inheritOne_pending hx _ k k (Or.inr ⟨rfl, r, ?_, ih hord.2 r (Or.inr (hord.1 r hr)) hrt⟩)
        rw [refsOf_of_gview (gview_of_uncOnly (uncOnly_inheritApply all older.reverse m))]
        exact hr

theorem resolveOrder_spec (m : TagMap) (order : List Name) (h : resolveOrder m = some order) :
    DepOrder (refsOf m) order.reverse ∧ ∀ n ∈ tkeys m, n ∈ order.reverse := by
  unfold resolveOrder at h
  cases he : elim (refsOf m) (tkeys m) ((tkeys m).length + 1) [] with
  | none => rw [he] at h; cases h
  | some out =>
    rw [he] at h
    simp only [Option.map_some, Option.some.injEq] at h
    subst h
    obtain ⟨h1, h2, _⟩ := elim_some _ _ _ _ _ he trivial
    simp only [List.reverse_reverse]
    exact ⟨h1, h2⟩

theorem inherit_pending {st st' : State} (h : inherit st = some st') {x : Nat} (hx : x < st.nextStreamID)
    {target k : Name} (ht : x ∈ uncertainOf st.tags target) (hk : (tget st.tags k).isSome)
    (hr : RefersTo st.tags target k) : x ∈ uncertainOf st'.tags k := by
  obtain ⟨order, ho, rfl⟩ := inherit_some h
  obtain ⟨hord, hkeys⟩ := resolveOrder_spec _ _ ho
  have := inheritApply_pending (List.mem_range.mpr hx) st.tags ht order.reverse hord k
    (Or.inr (hkeys k ((mem_keys _ _).mpr hk))) hr
  rwa [List.reverse_reverse] at this

theorem inherit_grow {st st' : State} (h : inherit st = some st') (k : Name) (u' : Tag)
    (hu' : tget st'.tags k = some u') :
    ∃ u, tget st.tags k = some u ∧ clearU u' = clearU u ∧
      ∀ x, x < st.nextStreamID → x ∈ u.uncertain → x ∈ u'.uncertain := by
  obtain ⟨u, hu, he⟩ := (uncOnly_inherit st st' h).1.get' hu'
  refine ⟨u, hu, he, fun x hx hxu => ?_⟩
  have := inherit_pending h hx (target := k) (by rw [uncertainOf, hu]; exact hxu) (by rw [hu]; rfl) .self
  rwa [uncertainOf, hu'] at this

theorem setU_of_clearU {a b : Tag} (h : clearU a = clearU b) (U : List Nat) :
    { a with uncertain := U } = { b with uncertain := U } :=
  congrArg (fun t : Tag => { t with uncertain := U }) h

end Pk.Proofs.TagGraphMore
