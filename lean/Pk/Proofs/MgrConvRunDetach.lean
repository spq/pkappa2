/-
  A converter that is attached to no tag.  `UQ c a b`: on the way from `a` to `b`, if `c` is attached to no tag of `a`
  then it is attached to no tag of `b` and nothing was added to what is cached-or-queued for `c` (`Held`; entries only
  move between the cache and the queue, or disappear).  Every event that does not attach `c` is a `UQ c` (`step_uq`:
  `Body.uq` along `step_walk` of MgrConvRun), and the event that detaches `c` from its last tag leaves nothing held
  for it (`detach_fold_clean`).
-/
import Pk.Proofs.MgrConvRun
import Pk.Proofs.MgrTagsAll
namespace Pk.Proofs.MgrConvRun
open Pk.Mgr Pk.Proofs.MgrConv

/- `C16Reach.Unattached` and `C16Reach.Held` (Pk/Props/C16Reach.lean, which imports this module) unfold to these. -/
def Unatt (s : St) (c : String) : Prop := ∀ n t, sget s.tags n = some t → c ∉ t.convs

def Held (s : St) (c : String) (id : Nat) : Prop := id ∈ cOf s c ∨ id ∈ qOf s c

structure UQ (c : String) (a b : St) : Prop where
  tags : Unatt a c → Unatt b c
  held : Unatt a c → ∀ id, Held b c id → Held a c id

theorem UQ.refl (c : String) (a : St) : UQ c a a := ⟨id, fun _ _ h => h⟩
theorem UQ.trans {c : String} {a b d : St} (h1 : UQ c a b) (h2 : UQ c b d) : UQ c a d :=
  ⟨fun h => h2.tags (h1.tags h), fun h id hh => h1.held h id (h2.held (h1.tags h) id hh)⟩
theorem UQ.trans' {c : String} {a b d : St} (h2 : UQ c b d) (h1 : UQ c a b) : UQ c a d := h1.trans h2

theorem unatt_of_le {a b : St} {c : String} (h : TagsLe b.tags a.tags) (hu : Unatt a c) : Unatt b c := by
  intro n t' ht' hc
  rcases h n t' ht' with h0 | ⟨n0, t, ht, hcs, _⟩
  · simp [h0] at hc
  · exact hu n0 t ht (hcs c hc)

theorem UQ.of_sameK {c : String} {a b : St} (h : SameK a b) : UQ c a b :=
  ⟨unatt_of_le h.tags, fun _ id hh => by simpa only [Held, cOf, qOf, h.cached, h.toconv] using hh⟩
theorem UQ.of_same {c : String} {a b : St} (h : Same a b) : UQ c a b := UQ.of_sameK h.1

theorem uq_foldl {β} {c : String} (f : St → β → St) (l : List β) (hf : ∀ s x, x ∈ l → UQ c s (f s x)) (s : St) :
    UQ c s (l.foldl f s) :=
  foldl_rel (UQ c) (UQ.refl c) (fun _ _ _ => UQ.trans) f l hf s

theorem UQ.of_eq {c : String} {a b : St} (h1 : b.tags = a.tags) (h2 : b.cached = a.cached) (h3 : b.toconv = a.toconv) :
    UQ c a b :=
  ⟨fun h n t ht => h n t (h1 ▸ ht), fun _ id hh => by simpa only [Held, cOf, qOf, h2, h3] using hh⟩

theorem uq_startConverter (c : String) (s : St) : UQ c s (startConverter s) := by
  rcases startConverter_spec s with e | j
  · rw [e]; exact UQ.refl _ _
  · refine ⟨fun h n t ht => h n t (by rw [j.rest] at ht; exact ht), fun _ id hh => ?_⟩
    rcases hh with h | h
    · exact ((j.cached c id).1 h).imp (fun h => h) fun h => h.2.1
    · rw [j.queue] at h
      split at h
      · cases h
      · exact .inr h

theorem uq_ic1 (c : String) (u : IdSet) (s : St) (c' : String) : UQ c s (ic1 u s c') := by
  refine ⟨fun h => h, fun _ id hh => ?_⟩
  rcases hh with h1 | h1
  · rw [cOf_ic1] at h1; exact Or.inl h1.1
  · rw [qOf_ic1] at h1
    rcases h1 with h2 | ⟨e, _, h2⟩
    · exact Or.inr h2
    · exact Or.inl (e ▸ h2)

theorem uq_invalidateConverters (c : String) (s : St) (u : IdSet) : UQ c s (invalidateConverters s u) :=
  uq_foldl (ic1 u) s.convs (fun s c' _ => uq_ic1 c u s c') s

theorem uq_detachConv (c : String) (s : St) (n c' : String) (choice : Option String := none) :
    UQ c s (detachConv s n c' choice) := by
  rw [detachConv_eq]
  split
  · exact UQ.refl _ _
  · next t ht =>
    have hs := (Same_dc3 s n c' t choice).1
    refine ⟨unatt_of_le ((dc2_le s n c' t ht).trans hs.tags), fun _ id hh => ?_⟩
    · have hh' : Held (dc2 s n c' t) c id := by simpa only [Held, cOf, qOf, hs.cached, hs.toconv] using hh
      rcases hh' with h | h
      · rw [dc2_c] at h
        split at h
        · cases h
        · exact Or.inl h
      · rw [dc2_q] at h
        split at h
        · next e => subst e; exact Or.inr ((mem_inter _ _ _).1 h).1
        · exact Or.inr h

/-- nothing is queued for a converter that is neither attached by the store nor on a tag -/
theorem _root_.Pk.Proofs.MgrConv.Store.uq (c : String) {A : String → Prop} {s s' : St} (st : Store A s s') (hc : ¬ A c) :
    UQ c s s' := by
  cases st with
  | @mk s1 name n0 ot t' cs X ht hcs h1 hq hm =>
  simp only [NQ, Prod.mk.injEq] at h1
  have hno : Unatt s c → c ∉ cs := fun hu h => (hcs c h).elim hc (hu n0 ot ht)
  refine ⟨fun hu m u hu' hcu => ?_, fun hu id hh => ?_⟩
  · simp only [setTag, sget_sins, h1.1] at hu'
    split at hu'
    · cases hu'; exact (hm c hcu).1.elim (hno hu) (hu n0 ot ht)
    · exact hu m u hu' hcu
  · rcases hh with h | h
    · left; simpa only [cOf, setTag, h1.2.2.2.2.2.1] using h
    · exact Or.inr (((hq c id).1 h).resolve_right fun h => hno hu h.1)

section walk
variable {A : String → Prop} {s m : St}

theorem Body.uq (c : String) (h : Body A s m) (hc : ¬ A c) : UQ c s m := by
  induction h with
  | refl => exact UQ.refl c s
  | same _ e _ ih => exact ih.trans (.of_same e)
  | detach n c' ch _ ih => exact ih.trans (uq_detachConv c _ n c' ch)
  | store _ st ih => exact ih.trans (st.uq c hc)

theorem step_uq (c : String) (s : St) (e : Ev) (st : Started) (h : ∀ n cs, e = .updConv n cs → c ∉ cs) :
    UQ c s (step s e st).1 := by
  obtain ⟨h0, m, x, hd, hb, hx, hj⟩ := step_walk s e st
  have hc : ¬ Sel s e c := by
    cases e with
    | updConv n cs => exact fun hs => h n cs rfl hs.1
    | _ => exact id
  have hh : UQ c s h0 := by
    cases hd with
    | keep => exact UQ.refl _ _
    | tag _ => exact .of_eq rfl rfl rfl
    | conv _ => exact .of_eq rfl rfl rfl
    | @imp p u cr a b d jn held _ =>
      refine UQ.trans (b := release { s with all := jn + u, jImport := none } held)
        (UQ.trans (b := { s with all := jn + u, jImport := none }) (UQ.of_eq rfl rfl rfl) (.of_sameK (release_sameK _ _).1)) ?_
      unfold idApply
      split
      · exact UQ.refl _ _
      · refine UQ.trans ?_ (uq_invalidateConverters c _ _)
        refine UQ.trans ?_ (uq_invalidateConverters c _ _)
        refine UQ.trans ?_ (UQ.of_same (Same_invalidateTags _ _ _ _))
        exact UQ.of_eq rfl rfl rfl
  refine (hh.trans ((hb.uq c hc).trans ?_)).trans (UQ.of_sameK (.of_jb hj))
  rcases hx with rfl | rfl
  · exact UQ.refl _ _
  · exact uq_startConverter c m


end walk

theorem detach_last (s : St) (n c : String) (t : Tag) (choice : Option String)
    (hw : (s.tags.map (·.1)).Pairwise (· < ·))
    (ht : sget s.tags n = some t) (hoth : ∀ n2 t2, sget s.tags n2 = some t2 → n2 ≠ n → c ∉ t2.convs) :
    Unatt (detachConv s n c choice) c ∧ cOf (detachConv s n c choice) c = [] ∧
      qOf (detachConv s n c choice) c = [] := by
  have hot : othersOf (sins n { t with convs := t.convs.filter (· != c) } s.tags) n c = [] := by
    refine List.eq_nil_iff_forall_not_mem.2 fun id hm => ?_
    obtain ⟨n2, t2, h0, h1, h2, _⟩ := (mem_others_detach s n c _ hw id).1 hm
    exact hoth n2 t2 h0 h1 h2
  rw [detachConv_eq, ht]
  simp only []
  refine ⟨unatt_of_le (Same_dc3 s n c t choice).1.tags fun m u hm hc => ?_, ?_, ?_⟩
  · rw [(dc2_frame s n c t).1, sget_sins] at hm
    split at hm
    · cases hm
      simp at hc
    · next hne => exact hoth m u hm (fun e => hne e.symm) hc
  · rw [dc3_c, hot]; simp
  · rw [dc3_q, hot, if_pos rfl]
    exact List.eq_nil_iff_forall_not_mem.2 fun id hid => nomatch ((mem_inter _ _ _).1 hid).2

theorem UQ.clean {c : String} {a b : St} (h : UQ c a b) (h1 : Unatt a c) (h2 : ∀ id, ¬ Held a c id) :
    Unatt b c ∧ ∀ id, ¬ Held b c id :=
  ⟨h.tags h1, fun id hh => h2 id (h.held h1 id hh)⟩

/-- `c` is on no tag other than `name`: a predicate on the entries of the table that every helper keeps -/
def OnlyOn (name c n : String) (t : Tag) : Prop := n ≠ name → c ∉ t.convs

theorem OnlyOn.closed (name c : String) : TagClosed (OnlyOn name c) :=
  ⟨fun _ _ _ h => h, fun _ _ _ h => h, fun _ _ _ h => h, fun _ _ _ h hn hc => h hn (List.mem_filter.1 hc).1⟩

theorem detach_fold_clean (c name : String) (choice : Option String) (L : List String) (hL : c ∈ L) (s : St) (t : Tag)
    (hw : (s.tags.map (·.1)).Pairwise (· < ·)) (ht : sget s.tags name = some t)
    (hoth : ∀ n2 t2, sget s.tags n2 = some t2 → n2 ≠ name → c ∉ t2.convs) :
    Unatt (L.foldl (fun s c' => detachConv s name c' choice) s) c ∧
    ∀ id, ¬ Held (L.foldl (fun s c' => detachConv s name c' choice) s) c id := by
  -- the detaches before that of `c` keep the table sorted and `name` in it (`FrE`) and `c` off the other tags (`TJ`);
  -- the detach of `c` leaves nothing held, and the detaches after it add nothing (`UQ`)
  obtain ⟨L1, L2, rfl⟩ := List.append_of_mem hL
  rw [List.foldl_append, List.foldl_cons]
  have fr := MgrTags.foldl_frE (g := False) _ (fun s c' => MgrTags.detachConv_frE s name c' choice) L1 s
  obtain ⟨t', ht', _⟩ := (fr.keep name trivial).1 t ht
  have hT : TJ (OnlyOn name c) (fun _ _ => True) s :=
    ⟨fun nt hnt => hoth nt.1 nt.2 (mem_sget_of_sorted _ hw _ _ hnt), fun _ _ _ _ => trivial⟩
  replace hT := tj_foldl hT _ (fun _ c' h => tj_detachConv (OnlyOn.closed name c) (fun _ _ _ => trivial) h name c' choice) L1
  obtain ⟨h1, h2, h3⟩ := detach_last _ name c t' choice (fr.sorted hw) ht' fun _ _ h => hT.get h
  refine (uq_foldl (fun s c' => detachConv s name c' choice) L2 (fun s c' _ => uq_detachConv c s name c' choice) _).clean h1
    fun id hh => ?_
  rcases hh with h | h
  · rw [h2] at h; cases h
  · rw [h3] at h; cases h

theorem updConv_detach_clean (c : String) (s : St) (st : Started) (name : String) (cs : List String) (t : Tag)
    (hw : (s.tags.map (·.1)).Pairwise (· < ·)) (ht : sget s.tags name = some t) (hc : c ∈ t.convs) (hcs : c ∉ cs)
    (hoth : ∀ n2 t2, sget s.tags n2 = some t2 → n2 ≠ name → c ∉ t2.convs)
    (hacc : (step s (.updConv name cs) st).2 ≠ Res.err) :
    Unatt (step s (.updConv name cs) st).1 c ∧ ∀ id, ¬ Held (step s (.updConv name cs) st).1 c id := by
  revert hacc
  refine step_updConv_cases (P := fun r => r.2 ≠ Res.err → Unatt r.1 c ∧ ∀ id, ¬ Held r.1 c id) _ _ _ _
    (fun h => absurd rfl h) fun t' ht' _ _ => ?_
  obtain rfl : t' = t := Option.some.inj (ht'.symm.trans ht)
  unfold updConvSt ucAttach ucDetach
  have hin : c ∈ t'.convs.filter (fun c' => !cs.contains c') := List.mem_filter.2 ⟨hc, by simpa using hcs⟩
  obtain ⟨h1, h2⟩ := detach_fold_clean c name st.tag _ hin s t' hw ht hoth
  refine UQ.clean (UQ.trans (Body.uq (A := (· ∈ cs)) c ?_ hcs) (uq_startConverter c _)) h1 h2
  exact Body.foldl .refl fun x c' hc' hx => hx.attach name (List.mem_filter.1 hc').1

theorem delTag_detach_clean (c : String) (s : St) (st : Started) (name : String) (t : Tag)
    (hw : (s.tags.map (·.1)).Pairwise (· < ·)) (ht : sget s.tags name = some t) (hc : c ∈ t.convs)
    (hoth : ∀ n2 t2, sget s.tags n2 = some t2 → n2 ≠ name → c ∉ t2.convs)
    (hacc : (step s (.delTag name) st).2 ≠ Res.err) :
    Unatt (step s (.delTag name) st).1 c ∧ ∀ id, ¬ Held (step s (.delTag name) st).1 c id := by
  revert hacc
  refine step_delTag_cases (P := fun r => r.2 ≠ Res.err → Unatt r.1 c ∧ ∀ id, ¬ Held r.1 c id) _ _ _
    (fun h => absurd rfl h) fun t' ht' _ _ => ?_
  obtain rfl : t' = t := Option.some.inj (ht'.symm.trans ht)
  obtain ⟨h1, h2⟩ := detach_fold_clean c name st.tag _ hc s t' hw ht hoth
  exact (UQ.of_same (Same_sdelRefs _ name t'.refs)).clean h1 h2

end Pk.Proofs.MgrConvRun
