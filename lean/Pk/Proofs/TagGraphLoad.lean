/-
  The start-up validation `loadTags`, cut into its passes — table construction (`buildStep`), self / missing
  reference check (`refCheck`), `referencedBy` pass (`refFold`), cycle check (`loadTags_def` is `rfl`) — and
  characterised: `loadTags_eq_some_iff`.  Each pass is a chain of refusals (`Option.ite_none_left_eq_some` turns
  it into a conjunction), and the table that comes out has the reference graph of the saved list
  (`loaded_forall_refs`), so what the passes test on the table are conditions on the list.
-/
import Pk.Model.TagGraph
import Pk.Proofs.TagGraph

namespace Pk.Proofs.TagGraphMore
open Pk.TagGraph Pk.Proofs.TagGraph

def buildStep (all : List Nat) (acc : Option TagMap) (s : Saved) : Option TagMap :=
  match acc with
  | none => none
  | some m =>
    if s.facts.parseErr then none
    else if thas m s.name then none
    else if markPrefix s.name && !s.facts.idsOk then none
    else some (tset m s.name (loadTag all s))

def refCheck (m : TagMap) : Bool :=
  m.any (fun x => x.2.refs.contains x.1 || x.2.refs.any (fun r => !thas m r))

def refFold (l : TagMap) (acc : TagMap) : TagMap :=
  l.foldl (fun acc x => addReferrer x.1 acc x.2.refs) acc

theorem loadTags_def (next : Nat) (convs : List Name) (saved : List Saved) :
    loadTags next convs saved =
      match saved.foldl (buildStep (List.range next)) (some []) with
      | none => none
      | some m =>
        if refCheck m then none else
        if (elim (refsOf (refFold m m)) (tkeys (refFold m m)) ((tkeys (refFold m m)).length + 1) []).isNone then none
        else some { tags := refFold m m, nextStreamID := next, convs := convs } := rfl

def entry (all : List Nat) (s : Saved) : Name × Tag := (s.name, loadTag all s)

def loadedTags (all : List Nat) (saved : List Saved) : TagMap :=
  refFold (saved.map (entry all)) (saved.map (entry all))

def EntryOK (s : Saved) : Prop :=
  s.facts.parseErr = false ∧ ¬ (markPrefix s.name = true ∧ s.facts.idsOk = false)

theorem build_none (all : List Nat) (saved : List Saved) : saved.foldl (buildStep all) none = none := by
  induction saved with
  | nil => rfl
  | cons s saved ih => exact ih

/-- one saved tag: refused, or put at the end of the table -/
theorem buildStep_eq_some {all : List Nat} {m0 m : TagMap} {s : Saved} :
    buildStep all (some m0) s = some m ↔ (EntryOK s ∧ s.name ∉ tkeys m0) ∧ m = m0 ++ [entry all s] := by
  show (if s.facts.parseErr = true then none else if thas m0 s.name = true then none
    else if (markPrefix s.name && !s.facts.idsOk) = true then none else some _) = some m ↔ _
  rw [Option.ite_none_left_eq_some, Option.ite_none_left_eq_some, Option.ite_none_left_eq_some, Option.some.injEq,
    Bool.not_eq_true, Bool.and_eq_true, Bool.not_eq_eq_eq_not, Bool.not_true]
  constructor
  · rintro ⟨h1, h2, h3, rfl⟩
    have hg := none_of_not_has _ _ h2
    exact ⟨⟨⟨h1, h3⟩, (tget_none_iff _ _).mp hg⟩, tset_new _ _ _ hg⟩
  · rintro ⟨⟨⟨h1, h3⟩, hn⟩, rfl⟩
    have hg := (tget_none_iff _ _).mpr hn
    exact ⟨h1, by rw [thas, hg]; nofun, h3, tset_new _ _ _ hg⟩

/-- on a table with distinct keys the construction pass goes through iff every tag passes its own tests
    and the keys stay distinct; the tags are appended in order -/
theorem build_some_iff (all : List Nat) (saved : List Saved) (m0 m : TagMap) (h0 : (tkeys m0).Nodup) :
    saved.foldl (buildStep all) (some m0) = some m ↔
      ((∀ s ∈ saved, EntryOK s) ∧ (tkeys m0 ++ saved.map (·.name)).Nodup ∧ m = m0 ++ saved.map (entry all)) := by
  induction saved generalizing m0 with
  | nil => simp [h0, eq_comm]
  | cons s saved ih =>
    rw [List.foldl_cons, List.forall_mem_cons]
    by_cases h : EntryOK s ∧ s.name ∉ tkeys m0
    · have h0' : (tkeys (m0 ++ [entry all s])).Nodup := by
        rw [tkeys_append, List.nodup_append]
        exact ⟨h0, List.nodup_cons.mpr ⟨List.not_mem_nil, List.nodup_nil⟩, fun a ha b hb => by
          rw [List.mem_singleton.mp hb]; rintro rfl; exact h.2 ha⟩
      rw [buildStep_eq_some.mpr ⟨h, rfl⟩, ih _ h0', tkeys_append, List.append_assoc, List.append_assoc]
      exact ⟨fun ⟨a, b⟩ => ⟨⟨h.1, a⟩, b⟩, fun ⟨a, b⟩ => ⟨a.2, b⟩⟩
    · constructor
      · intro hf
        cases hb : buildStep all (some m0) s with
        | none => rw [hb, build_none] at hf; cases hf
        | some m1 => exact absurd (buildStep_eq_some.mp hb).1 h
      · rintro ⟨hok, hnd, _⟩
        exact absurd ⟨hok.1, fun hm => (List.nodup_append.mp hnd).2.2 _ hm _ List.mem_cons_self rfl⟩ h

def BuildOK (saved : List Saved) : Prop :=
  (∀ s ∈ saved, EntryOK s) ∧ (saved.map (·.name)).Nodup

theorem build_iff (all : List Nat) (saved : List Saved) (m : TagMap) :
    saved.foldl (buildStep all) (some []) = some m ↔ (BuildOK saved ∧ m = saved.map (entry all)) := by
  rw [build_some_iff all saved [] m List.nodup_nil]
  simp [BuildOK, tkeys, and_assoc]

theorem tkeys_entries (all : List Nat) (saved : List Saved) :
    tkeys (saved.map (entry all)) = saved.map (·.name) := by
  simp [tkeys, entry, Function.comp_def]

theorem loadTag_eq (all : List Nat) (s : Saved) : loadTag all s =
    { mkTag s.color s.definition s.facts with
      matched := if markPrefix s.name then s.facts.ids else [],
      uncertain := if markPrefix s.name then [] else all } := by
  unfold loadTag
  split <;> rfl

theorem loadTag_refs (all : List Nat) (s : Saved) : (loadTag all s).refs = s.facts.refs := by
  rw [loadTag_eq]; rfl

theorem loadTag_refs_rb (all : List Nat) (s : Saved) (rb : List Name) :
    ({ loadTag all s with referencedBy := rb } : Tag).refs = s.facts.refs := by
  rw [loadTag_eq]; rfl

theorem loadTag_rb (all : List Nat) (s : Saved) : (loadTag all s).referencedBy = [] := by
  rw [loadTag_eq]; rfl

theorem get_refFold (l : TagMap) (acc : TagMap) (k : Name) :
    ∃ g : List Name → List Name,
      tget (refFold l acc) k = (tget acc k).map (liftRB g) ∧
      ∀ lst x, x ∈ g lst ↔ (x ∈ lst ∨ ∃ e ∈ l, k ∈ e.2.refs ∧ x = e.1) := by
  induction l generalizing acc with
  | nil =>
    refine ⟨id, ?_, by simp⟩
    simp only [refFold, List.foldl_nil]
    cases tget acc k <;> rfl
  | cons e l ih =>
    obtain ⟨g2, h21, h22⟩ := ih (addReferrer e.1 acc e.2.refs)
    obtain ⟨g1, h11, h12⟩ := get_addReferrer e.1 acc e.2.refs k
    refine ⟨g2 ∘ g1, ?_, ?_⟩
    · show tget (refFold l (addReferrer e.1 acc e.2.refs)) k = _
      rw [h21, h11]
      cases tget acc k <;> rfl
    · intro lst x
      simp only [Function.comp, h22, h12, List.mem_cons, or_and_right, exists_or, exists_eq_left, or_assoc]

def RefsClosed (saved : List Saved) : Prop :=
  ∀ s ∈ saved, ∀ r ∈ s.facts.refs, r ∈ saved.map (·.name)

def NoSelfRef (saved : List Saved) : Prop := ∀ s ∈ saved, s.name ∉ s.facts.refs

def RefsAcyclic (saved : List Saved) : Prop :=
  ∃ rank : Name → Nat, ∀ s ∈ saved, ∀ r ∈ s.facts.refs, rank r < rank s.name

theorem noSelfRef_of_acyclic (saved : List Saved) (h : RefsAcyclic saved) : NoSelfRef saved := by
  obtain ⟨rank, hr⟩ := h
  intro s hs hself
  have := hr s hs s.name hself
  omega

theorem thas_entries (all : List Nat) (saved : List Saved) (r : Name) :
    thas (saved.map (entry all)) r = true ↔ r ∈ saved.map (·.name) := by
  unfold thas
  rw [← mem_keys, tkeys_entries]

theorem refCheck_false (all : List Nat) (saved : List Saved) (hself : NoSelfRef saved) (hcl : RefsClosed saved) :
    refCheck (saved.map (entry all)) = false := by
  unfold refCheck
  rw [List.any_eq_false]
  intro e he
  obtain ⟨s, hs, rfl⟩ := List.mem_map.mp he
  simp only [entry, loadTag_refs, Bool.or_eq_true, not_or, Bool.not_eq_true, List.any_eq_false]
  refine ⟨by simpa using hself s hs, fun r hr => ?_⟩
  have := (thas_entries all saved r).mpr (hcl s hs r hr)
  simp [this]

/-- the referrer pass keeps the names -/
theorem loaded_isSome (all : List Nat) (saved : List Saved) (n : Name) :
    (tget (loadedTags all saved) n).isSome ↔ n ∈ saved.map (·.name) := by
  obtain ⟨g, h1, _⟩ := get_refFold (saved.map (entry all)) (saved.map (entry all)) n
  rw [loadedTags, h1, Option.isSome_map, ← mem_keys, tkeys_entries]

section distinctNames
variable (all : List Nat) (saved : List Saved) (hnd : (saved.map (·.name)).Nodup)
include hnd

theorem tget_entries (n : Name) (t : Tag) :
    tget (saved.map (entry all)) n = some t ↔ ∃ s ∈ saved, s.name = n ∧ t = loadTag all s := by
  constructor
  · intro h
    obtain ⟨s, hs, he⟩ := List.mem_map.mp (mem_of_tget _ _ _ h)
    simp only [entry, Prod.mk.injEq] at he
    exact ⟨s, hs, he.1, he.2.symm⟩
  · rintro ⟨s, hs, rfl, rfl⟩
    apply tget_of_mem _ (by rw [tkeys_entries]; exact hnd)
    exact List.mem_map.mpr ⟨s, hs, rfl⟩

theorem tget_loaded_of_mem (s : Saved) (hs : s ∈ saved) :
    ∃ rb, tget (loadedTags all saved) s.name =
        some { loadTag all s with referencedBy := rb } ∧
      ∀ x, x ∈ rb ↔ ∃ s' ∈ saved, s'.name = x ∧ s.name ∈ s'.facts.refs := by
  obtain ⟨g, h1, h2⟩ := get_refFold (saved.map (entry all)) (saved.map (entry all)) s.name
  have hm := (tget_entries all saved hnd s.name _).mpr ⟨s, hs, rfl, rfl⟩
  refine ⟨g (loadTag all s).referencedBy, ?_, ?_⟩
  · rw [loadedTags, h1, hm]; rfl
  · intro x
    rw [h2, loadTag_rb]
    simp only [List.not_mem_nil, false_or]
    constructor
    · rintro ⟨e, he, hn, hx⟩
      obtain ⟨s', hs', rfl⟩ := List.mem_map.mp he
      exact ⟨s', hs', hx.symm, by simpa [entry, loadTag_refs] using hn⟩
    · rintro ⟨s', hs', hx, hn⟩
      exact ⟨entry all s', List.mem_map.mpr ⟨s', hs', rfl⟩, by simpa [entry, loadTag_refs] using hn, hx.symm⟩

/-- the loaded table holds exactly the saved tags, each with its referrers -/
theorem loaded_get (n : Name) (t' : Tag) (h : tget (loadedTags all saved) n = some t') :
    ∃ s ∈ saved, s.name = n ∧ t'.refs = s.facts.refs ∧
      ∀ x, x ∈ t'.referencedBy ↔ ∃ s' ∈ saved, s'.name = x ∧ n ∈ s'.facts.refs := by
  obtain ⟨s, hs, rfl⟩ := List.mem_map.mp ((loaded_isSome all saved n).mp (by rw [h]; rfl))
  obtain ⟨rb, h1, h2⟩ := tget_loaded_of_mem all saved hnd s hs
  cases h1.symm.trans h
  exact ⟨s, hs, rfl, loadTag_refs_rb all s rb, h2⟩

/-- the reference graph of the loaded table is that of the saved list: a statement about every tag's
    name and references holds of the one iff it holds of the other -/
theorem loaded_forall_refs (P : Name → List Name → Prop) :
    (∀ n t, tget (loadedTags all saved) n = some t → P n t.refs) ↔ ∀ s ∈ saved, P s.name s.facts.refs := by
  constructor
  · intro h s hs
    obtain ⟨rb, h1, _⟩ := tget_loaded_of_mem all saved hnd s hs
    exact loadTag_refs_rb all s rb ▸ h _ _ h1
  · intro h n t ht
    obtain ⟨s, hs, rfl, hrefs, _⟩ := loaded_get all saved hnd n t ht
    exact hrefs ▸ h s hs

theorem loaded_closed_iff :
    (∀ n t, tget (loadedTags all saved) n = some t → ∀ r ∈ t.refs, (tget (loadedTags all saved) r).isSome) ↔
      RefsClosed saved := by
  rw [loaded_forall_refs all saved hnd fun _ rs => ∀ r ∈ rs, (tget (loadedTags all saved) r).isSome]
  simp only [loaded_isSome]
  rfl

theorem loaded_acyclic_iff :
    (∃ rank : Name → Nat, ∀ n t, tget (loadedTags all saved) n = some t → ∀ r ∈ t.refs, rank r < rank n) ↔
      RefsAcyclic saved :=
  exists_congr fun rank => loaded_forall_refs all saved hnd fun n rs => ∀ r ∈ rs, rank r < rank n

theorem loadedTags_wf (hcl : RefsClosed saved) (hac : RefsAcyclic saved) :
    GraphWF (loadedTags all saved) := by
  refine ⟨(loaded_closed_iff all saved hnd).mpr hcl, (loaded_acyclic_iff all saved hnd).mpr hac, ?_⟩
  intro n t' ht' x
  obtain ⟨_, _, _, _, hrb⟩ := loaded_get all saved hnd n t' ht'
  rw [hrb x]
  constructor
  · rintro ⟨s', hs', hx, hn⟩
    obtain ⟨rb, h1, _⟩ := tget_loaded_of_mem all saved hnd s' hs'
    exact ⟨_, hx ▸ h1, loadTag_refs_rb all s' rb ▸ hn⟩
  · rintro ⟨u, hu, hn⟩
    obtain ⟨s', hs', hsn', hrefs', _⟩ := loaded_get all saved hnd x u hu
    exact ⟨s', hs', hsn', hrefs' ▸ hn⟩

theorem loaded_elim_iff :
    (elim (refsOf (loadedTags all saved))
      (tkeys (loadedTags all saved))
      ((tkeys (loadedTags all saved)).length + 1) []).isSome ↔
      (RefsClosed saved ∧ RefsAcyclic saved) := by
  have := resolveOrder_isSome_iff (loadedTags all saved)
  unfold resolveOrder at this
  rw [Option.isSome_map] at this
  rw [this, loaded_closed_iff all saved hnd, loaded_acyclic_iff all saved hnd]

end distinctNames

theorem loadTags_eq_some_iff (next : Nat) (convs : List Name) (saved : List Saved) (st : State) :
    loadTags next convs saved = some st ↔
      (BuildOK saved ∧ RefsClosed saved ∧ RefsAcyclic saved ∧
        st = { tags := loadedTags (List.range next) saved, nextStreamID := next, convs := convs }) := by
  rw [loadTags_def]
  cases hb : saved.foldl (buildStep (List.range next)) (some []) with
  | none =>
    refine ⟨nofun, fun h => ?_⟩
    cases hb.symm.trans ((build_iff _ saved _).mpr ⟨h.1, rfl⟩)
  | some m =>
    obtain ⟨hok, rfl⟩ := (build_iff _ saved m).mp hb
    have hel := loaded_elim_iff (List.range next) saved hok.2
    show (if refCheck _ = true then none else
      if (elim (refsOf (loadedTags (List.range next) saved)) (tkeys (loadedTags (List.range next) saved))
        ((tkeys (loadedTags (List.range next) saved)).length + 1) []).isNone = true
      then none else some _) = some st ↔ _
    rw [Option.ite_none_left_eq_some, Option.ite_none_left_eq_some, Option.some.injEq, Bool.not_eq_true,
      Bool.not_eq_true, Option.isNone_eq_false_iff, hel]
    exact ⟨fun h => ⟨hok, h.2.1.1, h.2.1.2, h.2.2.symm⟩, fun h =>
      ⟨refCheck_false _ saved (noSelfRef_of_acyclic saved h.2.2.1) h.2.1, ⟨h.2.1, h.2.2.1⟩, h.2.2.2.symm⟩⟩

end Pk.Proofs.TagGraphMore
