/-
  One TCP packet through `tcpPacket`: the flush, then "find the connection or open one, apply the
  body" (`tcpNoFlush`, `tcpBody`).  What the body leaves alone (`tcpBody_frame`, `tcpBody_refs`) and its
  two forms: the packet is accepted and fed to the sender's half (`tcpBody_accept`), or only recorded
  (`tcpBody_inert`).  `ConnOf e c`: `c` is the connection between the endpoints `e`, with stream number 0.
-/
import Pk.Proofs.ImportReasmRun

namespace Pk.Proofs.ImportReasm
open Pk.Import

/-- the `lastSeen` update at the head of `AssembleWithContext` -/
def touch (h : Half) (ts : Nat) : Half := if h.lastSeen < ts then { h with lastSeen := ts } else h

/-- `Stream.Accept` followed by the assembler, on the half of the sender -/
def acceptHalf (st : Import.Stream) (half : Half) (p : Pkt) (dir : Bool) : Import.Stream × Half :=
  let st := st.addPkt p.ref dir
  let (fsm, ok) := st.fsm.check p dir
  let st := { st with fsm := fsm }
  if ok then assembleHalf st half p else (st, half)

def tcpBody (c : TcpConn) (st : Import.Stream) (p : Pkt) (dir : Bool) : TcpConn × Import.Stream :=
  let half := touch (if dir then c.s2c else c.c2s) p.ts
  let (st, half) := acceptHalf st half p dir
  let c := if dir then { c with s2c := half } else { c with c2s := half }
  let st := if c.c2s.closed ∧ c.s2c.closed then { st with complete := true } else st
  (c, st)

/-- the connection that `getConnection` opens for `p`; `newTcpStream` is its `StreamFactory.New` -/
def newConn (p : Pkt) (i : Nat) : TcpConn :=
  { k := assemblerIndex p, src := p.src, dst := p.dst, sport := p.sport, dport := p.dport,
    c2s := { lastSeen := p.ts }, s2c := { lastSeen := p.ts }, stream := i }

def newTcpStream (p : Pkt) : Import.Stream :=
  { caddr := p.src, saddr := p.dst, cport := p.sport, sport := p.dport, udp := false }

def tcpApply (r : RState) (p : Pkt) (i : Nat) (dir : Bool) : RState :=
  match r.tcp[i]? with
  | none => r
  | some c =>
    { r with streams := r.streams.set! c.stream (tcpBody c r.streams[c.stream]! p dir).2,
             tcp := r.tcp.set i (tcpBody c r.streams[c.stream]! p dir).1 }

def tcpNoFlush (r : RState) (p : Pkt) : RState :=
  match tcpFind p r.tcp 0 with
  | some (i, dir) => tcpApply { r with unmodelled := r.unmodelled || decide (p.payload.length > 1900) } p i dir
  | none =>
    tcpApply { r with streams := r.streams.push (newTcpStream p), tcp := r.tcp ++ [newConn p r.streams.size],
                      unmodelled := r.unmodelled || decide (p.payload.length > 1900) } p r.tcp.length false

theorem tcpPacket_flush (r : RState) (p : Pkt) :
    tcpPacket r p = tcpNoFlush
      { r with tcp := (tcpFlush (assemblerIndex p) p.ts r.tcp r.streams r.unmodelled).1,
               streams := (tcpFlush (assemblerIndex p) p.ts r.tcp r.streams r.unmodelled).2.1,
               unmodelled := (tcpFlush (assemblerIndex p) p.ts r.tcp r.streams r.unmodelled).2.2 } p := by
  generalize hF : tcpFlush (assemblerIndex p) p.ts r.tcp r.streams r.unmodelled = F
  obtain ⟨F1, F2, F3⟩ := F
  cases hf : tcpFind p F1 0 with
  | some x =>
    obtain ⟨i, dir⟩ := x
    cases hc : F1[i]? with
    | none =>
      unfold tcpPacket tcpNoFlush tcpApply
      simp only [hF, hf, hc]
    | some c =>
      unfold tcpPacket tcpNoFlush tcpApply
      simp only [hF, hf, hc]
      unfold tcpBody
      cases dir <;> rfl
  | none =>
    have hc : (F1 ++ [newConn p F2.size])[F1.length]? = some (newConn p F2.size) := by simp
    unfold tcpPacket tcpNoFlush tcpApply
    simp only [hF, hf, hc]
    unfold newConn at hc
    simp only [hc]
    unfold tcpBody
    rfl

theorem tcpNoFlush_old (r : RState) (p : Pkt) (i : Nat) (dir : Bool) (c : TcpConn)
    (hf : tcpFind p r.tcp 0 = some (i, dir)) (hc : r.tcp[i]? = some c) :
    tcpNoFlush r p =
      { streams := r.streams.set! c.stream (tcpBody c r.streams[c.stream]! p dir).2,
        tcp := r.tcp.set i (tcpBody c r.streams[c.stream]! p dir).1,
        udp := r.udp, unmodelled := r.unmodelled || decide (p.payload.length > 1900) } := by
  unfold tcpNoFlush tcpApply
  simp only [hf, hc]

theorem tcpNoFlush_new (r : RState) (p : Pkt) (hf : tcpFind p r.tcp 0 = none) :
    tcpNoFlush r p =
      { streams := r.streams.push (tcpBody (newConn p r.streams.size) (newTcpStream p) p false).2,
        tcp := r.tcp ++ [(tcpBody (newConn p r.streams.size) (newTcpStream p) p false).1],
        udp := r.udp, unmodelled := r.unmodelled || decide (p.payload.length > 1900) } := by
  unfold tcpNoFlush tcpApply
  have h1 : (r.tcp ++ [newConn p r.streams.size])[r.tcp.length]? = some (newConn p r.streams.size) := by simp
  have h2 : (newConn p r.streams.size).stream = r.streams.size := rfl
  have h3 : (r.streams.push (newTcpStream p))[r.streams.size]! = newTcpStream p := by simp
  simp only [hf, h1, h2, h3, array_push_set!]
  congr 1
  simp

theorem tcpPacket_keeps (r : RState) (p : Pkt) (hw : ∀ c ∈ r.tcp, FlushKeeps (assemblerIndex p) p.ts c) :
    tcpPacket r p = tcpNoFlush r p := by
  rw [tcpPacket_flush, tcpFlush_keepsAll _ _ r.tcp r.streams r.unmodelled hw]

def setHalf (c : TcpConn) (d : Bool) (h : Half) : TcpConn := if d then { c with s2c := h } else { c with c2s := h }

theorem touch_frame (h : Half) (ts : Nat) :
    (touch h ts).queue = h.queue ∧ (touch h ts).closed = h.closed ∧ (touch h ts).nextSeq = h.nextSeq ∧
    h.lastSeen ≤ (touch h ts).lastSeen := by
  unfold touch
  split
  · exact ⟨rfl, rfl, rfl, by simp only; omega⟩
  · exact ⟨rfl, rfl, rfl, Nat.le_refl _⟩

theorem acceptHalf_refs (P : PRef → Prop) (st : Import.Stream) (h : Half) (p : Pkt) (dir : Bool)
    (hq : ∀ pg ∈ h.queue, P pg.ref) (hp : P p.ref) :
    (∀ pg ∈ (acceptHalf st h p dir).2.queue, P pg.ref) ∧ (acceptHalf st h p dir).2.lastSeen = h.lastSeen := by
  unfold acceptHalf
  simp only
  split
  · exact assembleHalf_refs P _ h p hq hp
  · exact ⟨hq, rfl⟩

theorem tcpBody_frame (c : TcpConn) (st : Import.Stream) (p : Pkt) (dir : Bool) :
    (tcpBody c st p dir).1.src = c.src ∧ (tcpBody c st p dir).1.dst = c.dst ∧
    (tcpBody c st p dir).1.sport = c.sport ∧ (tcpBody c st p dir).1.dport = c.dport ∧
    (tcpBody c st p dir).1.stream = c.stream := by
  unfold tcpBody
  cases dir <;> exact ⟨rfl, rfl, rfl, rfl, rfl⟩

theorem tcpBody_refs (P : PRef → Prop) (c : TcpConn) (st : Import.Stream) (p : Pkt) (dir : Bool) (hp : P p.ref) (d : Bool) :
    ((∀ pg ∈ (halfOf c d).queue, P pg.ref) → ∀ pg ∈ (halfOf (tcpBody c st p dir).1 d).queue, P pg.ref) ∧
    (halfOf c d).lastSeen ≤ (halfOf (tcpBody c st p dir).1 d).lastSeen := by
  have key : ∀ h : Half, ((∀ pg ∈ h.queue, P pg.ref) → ∀ pg ∈ (acceptHalf st (touch h p.ts) p dir).2.queue, P pg.ref) ∧
      h.lastSeen ≤ (acceptHalf st (touch h p.ts) p dir).2.lastSeen := by
    intro h
    obtain ⟨t1, _, _, t4⟩ := touch_frame h p.ts
    refine ⟨fun hq => (acceptHalf_refs P st _ p dir (t1 ▸ hq) hp).1, ?_⟩
    rw [(acceptHalf_refs (fun _ => True) st _ p dir (fun _ _ => trivial) trivial).2]
    exact t4
  unfold tcpBody
  cases dir <;> cases d
  · exact key c.c2s
  · exact ⟨id, Nat.le_refl _⟩
  · exact ⟨id, Nat.le_refl _⟩
  · exact key c.s2c

theorem halfOf_setHalf (c : TcpConn) (d : Bool) (h : Half) : halfOf (setHalf c d h) d = h := by
  cases d <;> rfl
theorem halfOf_setHalf_ne (c : TcpConn) (d : Bool) (h : Half) : halfOf (setHalf c d h) (!d) = halfOf c (!d) := by
  cases d <;> rfl
theorem halfOf_setHalf_ne' (c : TcpConn) (d : Bool) (h : Half) : halfOf (setHalf c (!d) h) d = halfOf c d := by
  cases d <;> rfl

theorem setHalf_closed (c : TcpConn) (d : Bool) (h : Half) :
    ((setHalf c d h).c2s.closed = true ∧ (setHalf c d h).s2c.closed = true) ↔
      (h.closed = true ∧ (halfOf c (!d)).closed = true) := by
  cases d <;> simp [setHalf, halfOf, and_comm]

theorem addData_fsm (st : Import.Stream) (f : Fsm) (r : PRef) (b : Bytes) :
    ({ st with fsm := f } : Import.Stream).addData r b = { st.addData r b with fsm := f } := by
  unfold Stream.addData
  simp only
  split <;> rfl

theorem deliver_fsm (st : Import.Stream) (f : Fsm) (d : Option (PRef × Bytes)) :
    Stream.deliver { st with fsm := f } d = { Stream.deliver st d with fsm := f } := by
  cases d with
  | none => rfl
  | some d => exact addData_fsm ..

theorem assembleHalf_fsm (st : Import.Stream) (f : Fsm) (h : Half) (p : Pkt) :
    assembleHalf { st with fsm := f } h p =
      ({ (assembleHalf st h p).1 with fsm := f }, (assembleHalf st h p).2) := by
  obtain ⟨d, h', hu, _⟩ := assembleHalf_frame h p
  rw [hu, hu, deliver_fsm]

theorem tcpBody_accept (st : Import.Stream) (c : TcpConn) (p : Pkt) (dir : Bool) (f' : Fsm)
    (h : st.fsm.check p dir = (f', true)) :
    tcpBody c st p dir =
      (let res := feed dir (st, touch (halfOf c dir) p.ts) p
       let c' := setHalf c dir res.2
       (c', if c'.c2s.closed ∧ c'.s2c.closed then { res.1 with fsm := f', complete := true } else { res.1 with fsm := f' })) := by
  have hf : (st.addPkt p.ref dir).fsm = st.fsm := rfl
  unfold tcpBody acceptHalf
  simp only [hf, h, if_true, assembleHalf_fsm]
  rfl

theorem tcpBody_inert (st : Import.Stream) (c : TcpConn) (p : Pkt) (dir : Bool)
    (h : (st.fsm.check p dir).2 = false ∨ (halfOf c dir).closed = true) :
    tcpBody c st p dir =
      (let st2 : Import.Stream := { st.addPkt p.ref dir with fsm := (st.fsm.check p dir).1 }
       let c' : TcpConn := setHalf c dir (touch (halfOf c dir) p.ts)
       (c', if c'.c2s.closed ∧ c'.s2c.closed then { st2 with complete := true } else st2)) := by
  have hacc : acceptHalf st (touch (halfOf c dir) p.ts) p dir =
      ({ st.addPkt p.ref dir with fsm := (st.fsm.check p dir).1 }, touch (halfOf c dir) p.ts) := by
    have hf : (st.addPkt p.ref dir).fsm = st.fsm := rfl
    unfold acceptHalf
    simp only [hf]
    rcases h with h | h
    · rw [h]; rfl
    · split
      · exact assembleHalf_closed _ _ _ (by rw [(touch_frame _ _).2.1]; exact h)
      · rfl
  unfold tcpBody
  simp only [show (if dir = true then c.s2c else c.c2s) = halfOf c dir from rfl, hacc]
  rfl

instance (e : Endpoints) : Decidable e.Distinct := by unfold Endpoints.Distinct; infer_instance

def ConnOf (e : Endpoints) (c : TcpConn) : Prop :=
  c.src = e.cip ∧ c.dst = e.sip ∧ c.sport = e.cport ∧ c.dport = e.sport ∧ c.stream = 0

theorem DirPkt.udp {e : Endpoints} {p : Pkt} {dir : Bool} (h : DirPkt e p dir) : p.udp = false := by
  rcases h with ⟨_, h⟩ | ⟨_, h⟩ <;> exact h.1

end Pk.Proofs.ImportReasm
