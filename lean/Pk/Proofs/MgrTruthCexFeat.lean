/-
  MgrTruthCexFeat — the facts contract `EvFeatOK` (Pk/Props/C06ReachSpec.lean: a definition that references a tag
  reports the feature bit `fTags = 64`) cannot be dropped.

  Witness: the state `cex2S0`, which is the one reached from the initial state by `importPcaps ["a.pcap"]`,
  `importDone 1 2 [(0,[0,1])] [] [] [0,1]`, `addTag mark/m "id:0"` except that the during-job mask `add` is empty:
  mark/m = "id:0" matches exactly stream 0, no job in flight.  History:
    1. `addTag tag/x "tag:m"` with facts `main = [mark/m]`, `mfeat = 0` (VIOLATES `FeatRefOK`: the reference
       is not reported in the features); the tagging job for tag/x starts;
    2. `markDel mark/m [0]` (mark/m is now empty, so tag/x matches nothing; the touched stream is recorded in
       `rst`);
    3. `tagDone tag/x [0]` (the search result is the truth at job start).
  Every other contract holds for all three events (`Good` of the start state, `PayloadOK`, `ImportAddsNew`,
  `TruthStep`, `ResultOK`, `JobTextOK`), but `rst` is not applied to tag/x at the completion (its definition
  claims to look at ids only), so afterwards tag/x has `mat = [0]`, `unc = []` although stream 0 does not
  match.
-/
import Pk.Proofs.MgrTruthRun
import Pk.Proofs.MgrConcrete

namespace Pk.Props.C06Reach
open Pk.Mgr Pk.Props.MgrReach Pk.Proofs.MgrTruth Pk.Proofs.MgrTags

/-- `StepOK` without the facts contract `EvFeatOK` -/
structure StepOK' (s : St) (T g : Truth) (e : Ev) (st : Started) (T' : Truth) : Prop where
  payload : PayloadOK s e
  addsNew : ImportAddsNew s e
  truth : TruthStep s e T T'
  result : ResultOK s e g
  jobText : JobTextOK s e st T T'

/-- `RunOK` without `EvFeatOK` -/
def RunOK' (s : St) (T g : Truth) : Hist → Prop
  | [] => True
  | (e, st, T') :: rest => StepOK' s T g e st T' ∧ RunOK' (step s e st).1 T' (ghostNext s e T' g) rest

theorem runOK'_step {s s' : St} {e : Ev} {st : Started} {r : Res} {T g T' g' : Truth} {rest : Hist}
    (h : step s e st = (s', r)) (hg : ghostNext s e T' g = g') (ok : StepOK' s T g e st T')
    (hr : RunOK' s' T' g' rest) : RunOK' s T g ((e, st, T') :: rest) := by
  subst hg
  refine ⟨ok, ?_⟩
  rw [h]
  exact hr

/-- mark/m in the start state -/
def cex2M0 : Tag :=
  { defn := "id:0", mainT := [], subT := [], mfeat := 1, sfeat := 0, isMarkDef := true, mat := [0],
    refBy := [], gen := 0 }
/-- mark/m once tag/x references it -/
def cex2M : Tag :=
  { defn := "id:0", mainT := [], subT := [], mfeat := 1, sfeat := 0, isMarkDef := true, mat := [0],
    refBy := ["tag/x"], gen := 0 }
/-- mark/m after the mark update -/
def cex2M1 : Tag :=
  { defn := "id:-1", mainT := [], subT := [], mfeat := 1, sfeat := 0, isMarkDef := true, mat := [],
    refBy := ["tag/x"], gen := 0 }
/-- tag/x while its job is in flight (also the job's snapshot): the reference is NOT reported in `mfeat` -/
def cex2X : Tag :=
  { defn := "tag:m", mainT := ["mark/m"], subT := [], mfeat := 0, sfeat := 0, unc := [0, 1], gen := 1 }
/-- tag/x after the completion -/
def cex2X2 : Tag :=
  { defn := "tag:m", mainT := ["mark/m"], subT := [], mfeat := 0, sfeat := 0, mat := [0], unc := [], gen := 1 }

/-- the start state -/
def cex2S0 : St :=
  { tags := [("mark/m", cex2M0)], idx := [0], files := [(0, [0, 1])], used := [(0, 1)],
    next := 2, all := 2, nrec := 2, pcaps := ["a.pcap"], ngen := 1 }
/-- after `addTag tag/x "tag:m"` (the job for tag/x is in flight) -/
def cex2S1 : St :=
  { tags := [("mark/m", cex2M), ("tag/x", cex2X)], idx := [0], files := [(0, [0, 1])], used := [(0, 2)],
    next := 2, all := 2, nrec := 2, pcaps := ["a.pcap"], ngen := 2, tag := true,
    jTag := some ("tag/x", cex2X, [0]) }
/-- after `markDel mark/m [0]` -/
def cex2S2 : St :=
  { tags := [("mark/m", cex2M1), ("tag/x", cex2X)], idx := [0], files := [(0, [0, 1])], used := [(0, 2)],
    next := 2, all := 2, nrec := 2, pcaps := ["a.pcap"], ngen := 2, tag := true, rst := [0],
    jTag := some ("tag/x", cex2X, [0]) }
/-- after `tagDone tag/x [0]` -/
def cex2S3 : St :=
  { tags := [("mark/m", cex2M1), ("tag/x", cex2X2)], idx := [0], files := [(0, [0, 1])], used := [(0, 1)],
    next := 2, all := 2, nrec := 2, pcaps := ["a.pcap"], ngen := 2, tag := false, rst := [0], jTag := none }

/-- the facts of event 1: a reference to mark/m, but no feature bit -/
def cex2F : Facts := {err := false, main := ["mark/m"], sub := [], mfeat := 0, sfeat := 0, idsok := false, ids := []}

def cex2E1 : Ev := .addTag "tag/x" "" "tag:m" cex2F
def cex2E2 : Ev := .markDel "mark/m" [0]
def cex2E3 : Ev := .tagDone "tag/x" [0]

def cex2St1 : Started := { tag := some "tag/x" }

/-- the truth before event 2 (and the ghost: the truth when the job for tag/x started): stream 0 -/
def cex2T : Truth := fun _ id => decide (id = 0)
/-- the truth after event 2: mark/m is empty, so nothing matches -/
def cex2T1 : Truth := fun _ _ => false

def cex2H : Hist := [(cex2E1, cex2St1, cex2T), (cex2E2, {}, cex2T1), (cex2E3, {}, cex2T1)]

theorem cex2_step1 : step cex2S0 cex2E1 cex2St1 = (cex2S1, .ok) :=
  (step_addTag_with _ _ _ _ _ _ _ parse_tag_x).trans (by decide +kernel)

/-- the result code of event 1 (`TruthStep` looks at the result code with the default tagging choice) -/
theorem cex2_res1 : (step cex2S0 cex2E1 {}).2 = .ok :=
  (step_res_indep _ _ _ _).trans (congrArg Prod.snd cex2_step1)

theorem cex2_step2 : step cex2S1 cex2E2 {} = (cex2S2, .ok) := by decide +kernel

theorem cex2_step3 : step cex2S2 cex2E3 {} = (cex2S3, .none) := by decide +kernel

theorem cex2_sgetM1 : sget cex2S1.tags "mark/m" = some cex2M := by decide +kernel
theorem cex2_sgetX1 : sget cex2S1.tags "tag/x" = some cex2X := by decide +kernel

theorem cex2_good : Good cex2S0 cex2T cex2T := good_of_check (by decide +kernel)

theorem cex2_truth1 : TruthStep cex2S0 cex2E1 cex2T cex2T := by
  refine ⟨fun h => ?_, fun _ => ?_⟩
  · rw [cex2_res1] at h; cases h
  · show (∀ n, n ≠ "tag/x" → SameAt cex2S0 cex2T cex2T n) ∧
      ((parseTagName "tag/x").2.2 = true → ∀ id, id < cex2S0.next → (cex2T "tag/x" id = true ↔ id ∈ cex2F.ids))
    refine ⟨fun n _ t _ id _ => rfl, fun h => ?_⟩
    rw [parse_tag_x] at h; cases h

theorem cex2_stepOK1 : StepOK' cex2S0 cex2T cex2T cex2E1 cex2St1 cex2T :=
  ⟨payloadOK_of_check (by decide +kernel), trivial, cex2_truth1, trivial, fun _ _ _ hj => by cases hj⟩

/-- the witness does violate the contract that is being dropped -/
theorem cex2_not_featOK : ¬ EvFeatOK cex2E1 := by
  intro h
  have h' : FeatRefOK cex2F := h
  exact h'.1 (by intro h; cases h) (by decide)

theorem cex2_truth2 : TruthStep cex2S1 cex2E2 cex2T cex2T1 := by
  refine ⟨fun h => ?_, fun _ => ?_⟩
  · rw [cex2_step2] at h; cases h
  · show if [0] = [] then SameOn cex2S1 cex2T cex2T1 else
      ∀ t, sget cex2S1.tags "mark/m" = some t →
        (∀ id, id < cex2S1.next → (cex2T1 "mark/m" id = true ↔ (id ∈ t.mat ∧ id ∉ [0]))) ∧
        ChangesIn cex2S1 cex2S1.next
          (fun n id => n = "mark/m" ∧ id < cex2S1.next ∧ cex2T1 "mark/m" id ≠ cex2T "mark/m" id) cex2T cex2T1
    rw [if_neg (by simp)]
    intro t ht
    rw [cex2_sgetM1] at ht
    cases ht
    refine ⟨fun id _ => ?_, ?_⟩
    · show false = true ↔ id ∈ [0] ∧ id ∉ [0]
      constructor
      · intro h; cases h
      · intro h; exact absurd h.1 h.2
    · intro n t ht id hid hne
      have h0 : id = 0 := by
        have : false ≠ decide (id = 0) := hne
        simpa using this
      subst h0
      have hb : Dep cex2S1.tags cex2S1.next
          (fun n id => n = "mark/m" ∧ id < cex2S1.next ∧ cex2T1 "mark/m" id ≠ cex2T "mark/m" id) "mark/m" 0 :=
        Dep.base ⟨rfl, hid, by decide⟩
      rcases sget_two (v1 := cex2M) (v2 := cex2X) ht with ⟨rfl, _⟩ | ⟨rfl, _⟩
      · exact hb
      · exact Dep.main cex2_sgetX1 (List.mem_singleton.2 rfl) hb

/-- the mark tag is not the incarnation the job was started for (identity 0 against 1) -/
theorem cex2_jobText2 : JobTextOK cex2S1 cex2E2 {} cex2T cex2T1 := by
  intro jn snap held hj
  obtain ⟨_, rfl, _⟩ := job_eq (b := cex2X) hj
  show ∀ t, sget cex2S1.tags "mark/m" = some t → t.gen = cex2X.gen → _
  intro t ht hg
  rw [cex2_sgetM1] at ht
  cases ht
  exact absurd hg (by decide)

theorem cex2_stepOK2 : StepOK' cex2S1 cex2T cex2T cex2E2 {} cex2T1 :=
  ⟨payloadOK_of_check (by decide +kernel), trivial, cex2_truth2, trivial, cex2_jobText2⟩

theorem cex2_stepOK3 : StepOK' cex2S2 cex2T1 cex2T cex2E3 {} cex2T1 :=
  ⟨payloadOK_of_check (by decide +kernel), trivial, ⟨fun _ _ _ _ _ _ => rfl, fun _ _ _ _ _ _ => rfl⟩,
    resultOK_of_check (by decide +kernel), fun _ _ _ _ => trivial⟩

/-- the job stays in flight through event 2, so the ghost stays the truth at its start (`rfl`) -/
theorem cex2_runOK : RunOK' cex2S0 cex2T cex2T cex2H :=
  runOK'_step cex2_step1 rfl cex2_stepOK1 <| runOK'_step cex2_step2 rfl cex2_stepOK2 <|
  runOK'_step cex2_step3 rfl cex2_stepOK3 trivial

theorem cex2_runSt : runSt cex2S0 cex2H = cex2S3 :=
  (runSt_step cex2_step1).trans ((runSt_step cex2_step2).trans (runSt_step cex2_step3))

theorem cex2_runT : runT cex2T cex2H = cex2T1 := rfl

theorem cex2_not_inv : ¬ C06.Inv cex2S3 cex2T1 := by
  intro h
  have h1 : sget cex2S3.tags "tag/x" = some cex2X2 := rfl
  have h2 : (0 : Nat) < cex2S3.next := by decide
  have := (h "tag/x" cex2X2 h1 0 h2 (by intro h; cases h)).1 (List.mem_singleton.2 rfl)
  cases this

/-- `good_run` without the facts contract `EvFeatOK` is false -/
theorem featRefOK_counterexample :
    ¬ (∀ (s : St) (T g : Truth) (h : Hist), Good s T g → RunOK' s T g h → C06.Inv (runSt s h) (runT T h)) := by
  intro h
  have := h cex2S0 cex2T cex2T cex2H cex2_good cex2_runOK
  rw [cex2_runSt, cex2_runT] at this
  exact cex2_not_inv this

end Pk.Props.C06Reach
