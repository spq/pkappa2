/-
  The records appended for a stream are a has-next chain with sound skip counters (`streamRecs_shape`).  Payload sizes:
  what they add up to per direction, against the content blocks (`dirBytes_le_dirSum`) and the segmentation runs the
  writer stores (helper lemmas for C01Full `roundtrip_payload'`; `Stream.Data` on a written stream is in
  IndexFormatFullPieces).
-/
import Pk.Proofs.IndexFormatFullPackets
import Pk.Proofs.IndexFormatFullRuns
import Pk.Proofs.IndexFormatChunks
namespace Pk.Index
open Pk Pk.Bytes

def strip (r : PacketRec) : PacketRec := { r with skip := 0 }

theorem recSize_strip (d : Nat) (r : PacketRec) : recSize d (strip r) = recSize d r := rfl

theorem setSkips_ne (l : List PacketRec) (h : l ≠ []) : (setSkips l).1 ≠ [] := fun hh => h (setSkips_eq_nil l hh)

theorem dirSum_congr (d : Nat) {l l' : List PacketRec} (h : l.map core = l'.map core) : dirSum d l = dirSum d l' := by
  have := congrArg (fun m => (m.map fun c => if c.2.2.2.1 = d then c.2.2.2.2 else 0).sum) h
  simp only [List.map_map] at this
  exact this

theorem clearLast_chain (l : List PacketRec) (hne : l ≠ []) (h : OddFlags l) :
    chainOf (clearLastHasNext l) = some (clearLastHasNext l) := by
  induction l with
  | nil => exact absurd rfl hne
  | cons p t ih =>
    cases t with
    | nil =>
      apply chainOf_last
      rcases h p (by simp) with hf | hf <;> simp [hf]
    | cons q r =>
      have hp : p.flags % 2 = 1 := by rcases h p (by simp) with hf | hf <;> omega
      show chainOf (p :: clearLastHasNext (q :: r)) = _
      rw [chainOf_next hp, ih (by simp) (fun x hx => h x (by simp [hx]))]; rfl

theorem streamRecs_shape (imps : List ImportKey) (s : StreamIn) (hne : streamRaw imps s ≠ []) :
    chainOf (streamRecs imps s) = some (streamRecs imps s) ∧ SkipSound (streamRecs imps s) :=
  ⟨clearLast_chain _ (setSkips_ne _ hne) (setSkips_odd _ (fun r hr => (streamRaw_mem imps s r hr).1)),
    clearLast_sound _ (setSkips_spec _).1⟩

theorem splitSizes_sum (n : Nat) : (splitSizes n).sum = n := (splitAux_spec n n (by omega)).1

theorem dirSum_append (d : Nat) (a b : List PacketRec) : dirSum d (a ++ b) = dirSum d a + dirSum d b := by
  simp [dirSum]

theorem dirSum_mk (d i x ρ fl : Nat) (szs : List Nat) :
    dirSum d (szs.map (mkRec i x ρ fl)) = if fl / 2 % 2 = d then szs.sum else 0 := by
  induction szs with
  | nil => simp [dirSum]
  | cons a t ih =>
    simp only [dirSum, List.map_cons, List.sum_cons] at ih ⊢
    rw [ih]
    simp only [recSize, mkRec]
    by_cases h : fl / 2 % 2 = d <;> simp [h]

def tripSum (d : Nat) (T : List Trip) : Nat := (T.map fun t => if t.1.dir = d then t.2.2 else 0).sum

theorem dirSum_trips (imps : List ImportKey) (ts0 : Int) (d : Nat) (T : List Trip) (h : ∀ t ∈ T, t.1.dir < 2) :
    dirSum d ((T.map (grp imps ts0)).flatten) = tripSum d T := by
  induction T with
  | nil => rfl
  | cons t T ih =>
    simp only [List.map_cons, List.flatten_cons, dirSum_append, tripSum, List.sum_cons]
    have := ih (fun x hx => h x (by simp [hx]))
    simp only [tripSum] at this
    rw [this]
    congr 1
    simp only [grp, dirSum_mk, splitSizes_sum, Trip.fl]
    have hdir := h t (by simp)
    by_cases h0 : t.1.dir = 0
    · simp [h0]
    · have h1 : t.1.dir = 1 := by omega
      simp [h1]

def pktSum (d : Nat) (data : List ChunkIn) : Nat → List PacketIn → Nat
  | _, [] => 0
  | k, p :: ps => (if p.dir = d then chunkSize data k else 0) + pktSum d data (k + 1) ps

theorem tripSum_append (d : Nat) (a b : List Trip) : tripSum d (a ++ b) = tripSum d a + tripSum d b := by
  simp [tripSum]

theorem tripSum_ge (d : Nat) (data : List ChunkIn) (ps : List PacketIn) : ∀ (k : Nat), (∀ p ∈ ps, p.refs ≠ []) →
    pktSum d data k ps ≤ tripSum d (trips data k ps) := by
  induction ps with
  | nil => intro k _; simp [pktSum]
  | cons p ps ih =>
    intro k h
    simp only [pktSum, trips, tripSum_append]
    have h1 := ih (k + 1) (fun q hq => h q (by simp [hq]))
    have h2 : (if p.dir = d then chunkSize data k else 0) ≤ tripSum d (p.pmds.map (fun r => (p, r, chunkSize data k))) := by
      have hne : p.pmds ≠ [] := by have := h p (by simp); simpa [PacketIn.pmds] using this
      cases hp : p.pmds with
      | nil => exact absurd hp hne
      | cons a l => simp [tripSum]
    omega

theorem chunkSize_snoc (init : List ChunkIn) (c : ChunkIn) (i : Nat) :
    chunkSize (init ++ [c]) i = if c.pos = i then c.bytes.length else chunkSize init i := by
  unfold chunkSize
  simp only [List.reverse_append, List.reverse_cons, List.reverse_nil, List.nil_append, List.cons_append, List.find?_cons]
  by_cases h : c.pos = i
  · have hb : (c.pos == i) = true := by simp [h]
    simp only [hb]; simp only [h, if_true]
  · have hb : (c.pos == i) = false := by simp [h]
    simp only [hb, h, if_false]

theorem chunkSize_absent (data : List ChunkIn) (i : Nat) (h : ∀ a ∈ data, a.pos ≠ i) : chunkSize data i = 0 := by
  unfold chunkSize
  have : data.reverse.find? (fun d => d.pos == i) = none := by
    rw [List.find?_eq_none]
    intro a ha
    simp at ha
    simp [h a ha]
  rw [this]

theorem pktSum_past (d : Nat) (init : List ChunkIn) (c : ChunkIn) (ps : List PacketIn) : ∀ (k : Nat), c.pos < k →
    pktSum d (init ++ [c]) k ps = pktSum d init k ps := by
  induction ps with
  | nil => intro k _; rfl
  | cons p ps ih =>
    intro k hk
    simp only [pktSum, chunkSize_snoc]
    have : ¬ (c.pos = k) := by omega
    simp only [this, if_false]
    rw [ih (k + 1) (by omega)]

theorem pktSum_snoc (d : Nat) (init : List ChunkIn) (c : ChunkIn) (hab : ∀ a ∈ init, a.pos ≠ c.pos) (ps : List PacketIn) :
    ∀ (k : Nat), k ≤ c.pos → c.pos < k + ps.length →
    pktSum d (init ++ [c]) k ps = pktSum d init k ps +
      (if (ps[c.pos - k]?).map (·.dir) = some d then c.bytes.length else 0) := by
  induction ps with
  | nil => intro k h1 h2; simp at h2; omega
  | cons p ps ih =>
    intro k h1 h2
    simp only [pktSum, chunkSize_snoc]
    by_cases hk : c.pos = k
    · subst hk
      simp only [if_true, Nat.sub_self, List.getElem?_cons_zero, Option.map_some, Option.some.injEq]
      rw [pktSum_past d init c ps (c.pos + 1) (by omega), chunkSize_absent init c.pos hab]
      split <;> omega
    · simp only [hk, if_false]
      have h3 : c.pos - k = (c.pos - (k + 1)) + 1 := by omega
      rw [ih (k + 1) (by omega) (by simp at h2; omega), h3, List.getElem?_cons_succ]
      omega

theorem pktSum_nil (d : Nat) (ps : List PacketIn) : ∀ (k : Nat), pktSum d [] k ps = 0 := by
  induction ps with
  | nil => intro k; rfl
  | cons p ps ih => intro k; simp [pktSum, ih, chunkSize]

theorem pktSum_eq_chSum_rev (d : Nat) (packets : List PacketIn) (l : List ChunkIn) :
    (l.reverse.map (·.pos)).Pairwise (· < ·) → (∀ c ∈ l, c.pos < packets.length) →
    pktSum d l.reverse 0 packets = chSum d packets l.reverse := by
  induction l with
  | nil => intro _ _; simp [pktSum_nil, chSum]
  | cons c l ih =>
    intro hpw hlt
    simp only [List.reverse_cons, List.map_append, List.map_cons, List.map_nil] at hpw ⊢
    rw [List.pairwise_append] at hpw
    obtain ⟨hp1, _, hp3⟩ := hpw
    have hab : ∀ a ∈ l.reverse, a.pos ≠ c.pos := by
      intro a ha
      have := hp3 a.pos (List.mem_map.mpr ⟨a, ha, rfl⟩) c.pos (by simp)
      omega
    rw [pktSum_snoc d l.reverse c hab packets 0 (Nat.zero_le _) (by have := hlt c (by simp); omega),
      ih hp1 (fun x hx => hlt x (by simp [hx]))]
    simp [chSum, dirOf]

theorem pktSum_eq_chSum (d : Nat) (packets : List PacketIn) (data : List ChunkIn)
    (hpw : (data.map (·.pos)).Pairwise (· < ·)) (hlt : ∀ c ∈ data, c.pos < packets.length) :
    pktSum d data 0 packets = chSum d packets data := by
  have := pktSum_eq_chSum_rev d packets data.reverse (by simpa using hpw) (by simpa using hlt)
  simpa using this

/-- records → raw records → groups → packets → chunks.  Only ≥: a packet with several source references has its size in
    the records of each of them, and `dataRuns` needs no more than enough packet time for every byte -/
theorem dirBytes_le_dirSum (imps : List ImportKey) (s : StreamIn) (cds : List (Nat × Bytes))
    (hcd : chunkDirs s.packets s.data = some cds) (hrefs : ∀ p ∈ s.packets, p.refs ≠ [] ∧ p.dir < 2)
    (hpos : (s.data.map (·.pos)).Pairwise (· < ·)) (d : Nat) :
    (dirBytes d cds).length ≤ dirSum d (streamRecs imps s) := by
  obtain ⟨hlt, _, hlen, _⟩ := chunkDirs_spec s.packets s.data cds hcd
  rw [dirSum_congr d (streamRecs_core imps s), hlen d, ← pktSum_eq_chSum d s.packets s.data hpos hlt]
  unfold streamRaw
  rw [allRecords_trips, dirSum_trips imps _ d _ (fun t ht => (hrefs _ (mem_trips _ _ _ _ ht).1).2)]
  exact tripSum_ge d s.data s.packets 0 (fun p hp => (hrefs p hp).1)

theorem runSum_cds (d : Nat) (cds : List (Nat × Bytes)) :
    runSum d (cds.map fun c => (c.1, c.2.length)) = (dirBytes d cds).length := by
  induction cds with
  | nil => simp [runSum, dirBytes]
  | cons c t ih =>
    rw [dirBytes_cons, List.map_cons, runSum_cons, ih]
    simp only [List.length_append]
    split <;> simp

theorem runSum_segRuns (d : Nat) (l : List (Nat × Nat)) : runSum d (segRuns l) = runSum d l :=
  segRuns_sum (fun e n => if e = d then n else 0) (fun e a b => by split <;> rfl) l

theorem segRuns_dirs (l : List (Nat × Nat)) : ∀ x ∈ segRuns l, ∃ y ∈ l, y.1 = x.1 := by
  induction l with
  | nil => intro x hx; cases hx
  | cons a rest ih =>
    obtain ⟨e, n⟩ := a
    intro x hx
    have h0 : ∃ y ∈ (e, n) :: rest, y.1 = e := ⟨(e, n), List.mem_cons_self, rfl⟩
    have ih' : x ∈ segRuns rest → ∃ y ∈ (e, n) :: rest, y.1 = x.1 := fun hx =>
      (ih x hx).imp fun y hy => ⟨List.mem_cons_of_mem _ hy.1, hy.2⟩
    simp only [segRuns] at hx
    split at hx
    · rename_i d' n' rs hs
      rw [hs] at ih'
      split at hx
      · rcases List.mem_cons.mp hx with rfl | hx
        · exact h0
        · exact ih' (List.mem_cons_of_mem _ hx)
      · rcases List.mem_cons.mp hx with rfl | hx
        · exact h0
        · exact ih' hx
    · cases List.mem_singleton.mp hx
      exact h0

theorem segRuns_total (cds : List (Nat × Bytes)) :
    ((segRuns (cds.map fun c => (c.1, c.2.length))).map (·.2)).sum = (cds.map (·.2.length)).sum := by
  rw [segRuns_sum (fun _ n => n) (fun _ _ _ => rfl), List.map_map]
  rfl

theorem ptSum_reverse (l : List (Int × Nat)) : ptSum l.reverse = ptSum l := by
  unfold ptSum
  rw [List.map_reverse, List.sum_reverse]

end Pk.Index
