/-
  Vocabulary of the full C07 statement (`MergeViewEq'`): the pieces of a stream as they sit in an index
  file (`Comp`), where a stream record points to them (`Located`), what the reader accessors make of them
  (`compView`).  Definitions only; the well-formedness conditions on readers and writers are in MergeFullWF.lean.
-/
import Pk.Model.Merge

namespace Pk.Index
open Pk Pk.Bytes

/-- the has-next chain at the head of a record list: the records up to and including the first one whose
    `flagsPacketHasNext` bit is clear (`none`: the list ends before) -/
def chainOf : List PacketRec → Option (List PacketRec)
  | [] => none
  | p :: ps => if p.flags % 2 = 0 then some [p] else (chainOf ps).map (p :: ·)

/-- `AddIndex` rewrites the import id of a copied record -/
def reimp (remap : List Nat) (p : PacketRec) : PacketRec := { p with imp := remap.getD p.imp 0 }

/-- following a skip counter from a record that has a successor lands on a record of the list -/
def SkipsOk : List PacketRec → Prop
  | [] => True
  | p :: ps => (p.flags % 2 = 1 → p.skip < ps.length) ∧ SkipsOk ps

/-- `pre` is exactly a run of segmentation varints that accounts for `count` payload bytes -/
def SegCovers (count : Nat) (pre : Bytes) : Prop := ∃ fuel, copySeg fuel count pre = .ok pre

structure Comp where
  client : Bytes
  server : Bytes
  chain : List PacketRec   -- its packet records
  c : Bytes                -- client payload followed by server payload
  seg : Bytes              -- segmentation varints

def Comp.Ok (k : Comp) (s : StreamRec) : Prop :=
  SkipsOk k.chain ∧ SegCovers (s.cb + s.sb) k.seg ∧ s.cb + s.sb < 2 ^ 64

/-- the record `s` resolves, in the tables given, to the pieces `k` -/
def Located (nimports : Nat) (packets : List PacketRec) (data : Bytes) (rgs : List RHostGroup)
    (s : StreamRec) (k : Comp) : Prop :=
  (∃ g, rgs[s.hg]? = some g ∧ g.hostSize * s.ch + g.hostSize ≤ g.hosts.length ∧
        g.hostSize * s.sh + g.hostSize ≤ g.hosts.length ∧ g.get s.ch = k.client ∧ g.get s.sh = k.server) ∧
  chainOf (packets.drop s.pstart) = some k.chain ∧ (∀ p ∈ k.chain, p.imp < nimports) ∧
  (∃ rest, data.drop s.dataStart = k.c ++ k.seg ++ rest) ∧ k.c.length = s.cb + s.sb

def expWraps (s : StreamRec) : Int := (i64 (sub64 s.last s.first) + 1000).tdiv wrapNs

/-- `Stream.Data` on the pieces -/
def dataOf (fp ew : Int) (cb sb : Nat) (k : Comp) : Except Fail (List DataOut) :=
  match dataWalk (k.chain.length + 1)
      { refTime := fp, expectWraps := ew, lastRel := 0, prevTs := 0, prevDir := 0, pt0 := [], pt1 := [] } k.chain with
  | .error e => .error e
  | .ok st => dataRuns (k.seg.length + 1) 0 (k.c.take cb) ((k.c.drop cb).take sb) k.seg st.pt0.reverse st.pt1.reverse

/-- what the reader accessors return for a stream with pieces `k`, absolute first/last packet time `fp`/`lp`
    and wrap budget `ew` -/
def compView (imports : List (Bytes × Nat)) (fp lp ew : Int) (s : StreamRec) (k : Comp) : StreamView :=
  { client := k.client, cport := s.cp, server := k.server, sport := s.sp, proto := protoName s.flags,
    first := fp, last := lp, cb := s.cb, sb := s.sb,
    packets := packetsWalk imports fp none 0 k.chain, data := dataOf fp ew s.cb s.sb k }

/-- relative times are uint64 and the absolute times are non-negative int64 nanoseconds -/
def TimeOk (ref : Nat) (s : StreamRec) : Prop :=
  s.first < 2 ^ 64 ∧ s.last < 2 ^ 64 ∧
  0 ≤ (ref : Int) * 1000000000 + i64 s.first ∧ (ref : Int) * 1000000000 + i64 s.first < 2 ^ 63 ∧
  0 ≤ (ref : Int) * 1000000000 + i64 s.last ∧ (ref : Int) * 1000000000 + i64 s.last < 2 ^ 63

end Pk.Index
