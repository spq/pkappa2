/-
  The tag table through the helpers of `step`.  The table operations keep it sorted (`Sorted`, which is
  `C06.TagsWF` on a state).  `KeepR R n T T'`: `n` is in both tables or in neither, and its entries are related
  by `R`.  `TEd g all`: the most a helper does to a tag it does not rewrite — the pending set grows below `all`,
  converters and colour may change, `refBy` only where the reference graph is edited (`g`); every other per-tag
  relation of the service-loop proofs (`TRel`, `GRel`, equality of some attributes) is a weakening of it.  The
  inherit sweep is a run of `sins` at keys that are present (`inherit_inv`), each writing the pending set that
  `inheritOne_spec` describes; where it resolves every tag of a sorted table with bounded pending sets, each entry
  is closed under its references afterwards (`inherit_closed`).
-/
import Pk.Proofs.MgrBase
import Pk.Proofs.MgrFrame

namespace Pk.Proofs.MgrTags
open Pk.Mgr

@[simp] theorem sget_nil {α} (k : String) : sget ([] : List (String × α)) k = none := rfl

/-- strict, so no key twice: the Go `map[string]*tag` as a list -/
def Sorted {α} (l : List (String × α)) : Prop := (l.map (·.1)).Pairwise (· < ·)

theorem sorted_sins {α} (k : String) (v : α) (l : List (String × α)) (h : Sorted l) :
    Sorted (sins k v l) := by
  unfold Sorted at *
  induction l with
  | nil => exact List.pairwise_singleton _ _
  | cons p r ih =>
    obtain ⟨k2, v2⟩ := p
    rw [List.map_cons, List.pairwise_cons] at h
    rw [sins]
    by_cases h1 : k < k2
    · rw [if_pos h1]
      refine List.pairwise_cons.2 ⟨fun a ha => ?_, List.pairwise_cons.2 h⟩
      rcases List.mem_cons.1 ha with rfl | ha
      · exact h1
      · exact String.lt_trans h1 (h.1 a ha)
    rw [if_neg h1]
    by_cases h2 : k = k2
    · rw [if_pos h2]; subst h2; exact List.pairwise_cons.2 h
    · rw [if_neg h2]
      refine List.pairwise_cons.2 ⟨fun a ha => ?_, ih h.2⟩
      rcases (mem_keys_sins k v r a).1 ha with rfl | ha
      · exact Std.lt_of_le_of_ne (String.not_lt.mp h1) (Ne.symm h2)
      · exact h.1 a ha

theorem sorted_sdel {α} (l : List (String × α)) (k : String) (h : Sorted l) : Sorted (sdel l k) := by
  unfold Sorted at *
  rw [List.pairwise_map] at *
  exact h.filter _

theorem sorted_of_keys_eq {α β} (l : List (String × α)) (l' : List (String × β))
    (hk : l'.map (·.1) = l.map (·.1)) (h : Sorted l) : Sorted l' := by
  unfold Sorted at *; rw [hk]; exact h

end Pk.Proofs.MgrTags

namespace Pk.Proofs.MgrTruth
open Pk.Mgr

/-- what nothing but a rewrite of the tag changes -/
def Fld (t t' : Tag) : Prop :=
  t'.mat = t.mat ∧ t'.defn = t.defn ∧ t'.mfeat = t.mfeat ∧ t'.sfeat = t.sfeat ∧ t'.mainT = t.mainT ∧
  t'.subT = t.subT ∧ t'.gen = t.gen

theorem Fld.refl (t : Tag) : Fld t t := ⟨rfl, rfl, rfl, rfl, rfl, rfl, rfl⟩
theorem Fld.trans {a b c : Tag} (h1 : Fld a b) (h2 : Fld b c) : Fld a c := by
  obtain ⟨a1, a2, a3, a4, a5, a6, a7⟩ := h1
  obtain ⟨b1, b2, b3, b4, b5, b6, b7⟩ := h2
  exact ⟨b1.trans a1, b2.trans a2, b3.trans a3, b4.trans a4, b5.trans a5, b6.trans a6, b7.trans a7⟩

def GRel (A : Nat) (t t' : Tag) : Prop := Fld t t' ∧ ∀ id, id ∈ t.unc → id < A → id ∈ t'.unc

theorem GRel.refl (A : Nat) (t : Tag) : GRel A t t := ⟨Fld.refl t, fun _ h _ => h⟩
theorem GRel.trans {A : Nat} {a b c : Tag} (h1 : GRel A a b) (h2 : GRel A b c) : GRel A a c :=
  ⟨h1.1.trans h2.1, fun id h hb => h2.2 id (h1.2 id h hb) hb⟩
theorem GRel.ofUnc {A : Nat} {t : Tag} {u : IdSet} (h : ∀ id, id ∈ t.unc → id < A → id ∈ u) :
    GRel A t { t with unc := u } := ⟨Fld.refl t, h⟩

end Pk.Proofs.MgrTruth

namespace Pk.Proofs.MgrTags
open Pk.Mgr Pk.Proofs.MgrTruth

def TRel (all : Nat) (t t' : Tag) : Prop :=
  t'.mat = t.mat ∧ t'.defn = t.defn ∧ ∀ id, id ∈ t.unc → id < all → id ∈ t'.unc

theorem _root_.Pk.Proofs.MgrTruth.GRel.trel {all : Nat} {t t' : Tag} (h : GRel all t t') : TRel all t t' :=
  ⟨h.1.1, h.1.2.1, h.2⟩

structure TEd (g : Prop) (all : Nat) (t t' : Tag) : Prop where
  grel : GRel all t t'
  refBy : ¬ g → t'.refBy = t.refBy

variable {g : Prop}

theorem TEd.refl (all : Nat) (t : Tag) : TEd g all t t := ⟨GRel.refl _ _, fun _ => rfl⟩
theorem TEd.trans {all : Nat} {a b c : Tag} (h1 : TEd g all a b) (h2 : TEd g all b c) : TEd g all a c :=
  ⟨h1.grel.trans h2.grel, fun hg => (h2.refBy hg).trans (h1.refBy hg)⟩
theorem TEd.ofUnc {all : Nat} {t : Tag} {u : IdSet} (h : ∀ id, id ∈ t.unc → id < all → id ∈ u) :
    TEd g all t { t with unc := u } := ⟨.ofUnc h, fun _ => rfl⟩

def KeepR (R : Tag → Tag → Prop) (n : String) (T T' : List (String × Tag)) : Prop :=
  (∀ t, sget T n = some t → ∃ t', sget T' n = some t' ∧ R t t') ∧
  (sget T n = none → sget T' n = none)

section KeepR
variable {R R' : Tag → Tag → Prop} {n m : String} {T T' A B C : List (String × Tag)}

theorem KeepR.refl (hr : ∀ t, R t t) (n : String) (T : List (String × Tag)) : KeepR R n T T :=
  ⟨fun t h => ⟨t, h, hr t⟩, id⟩
theorem KeepR.of_eq (hr : ∀ t, R t t) (h : T' = T) : KeepR R n T T' := h ▸ KeepR.refl hr _ _
theorem KeepR.trans (ht : ∀ {a b c}, R a b → R b c → R a c) (h1 : KeepR R n A B) (h2 : KeepR R n B C) :
    KeepR R n A C := by
  refine ⟨fun t h => ?_, fun h => h2.2 (h1.2 h)⟩
  obtain ⟨t', h', r'⟩ := h1.1 t h
  obtain ⟨t'', h'', r''⟩ := h2.1 t' h'
  exact ⟨t'', h'', ht r' r''⟩
theorem KeepR.mono (hm : ∀ {t t'}, R t t' → R' t t') (h : KeepR R n T T') : KeepR R' n T T' :=
  ⟨fun t ht => let ⟨t', e, r⟩ := h.1 t ht; ⟨t', e, hm r⟩, h.2⟩

/-- the passage to the relations that are stated as an equation of `Option.map` -/
theorem KeepR.map_eq {α} {f : Tag → α} (h : KeepR R n T T') (hf : ∀ {t t'}, R t t' → f t' = f t) :
    (sget T' n).map f = (sget T n).map f := by
  cases e : sget T n with
  | none => rw [h.2 e]
  | some t => obtain ⟨t', e', r⟩ := h.1 t e; rw [e']; exact congrArg some (hf r)

theorem keepR_sins_ne (hr : ∀ t, R t t) (t' : Tag) (T : List (String × Tag)) (h : m ≠ n) :
    KeepR R n T (sins m t' T) := by
  rw [KeepR, sget_sins, if_neg h]; exact KeepR.refl hr _ _

theorem keepR_sins_rel (hr : ∀ t, R t t) {t t' : Tag} (hm : sget T m = some t) (hR : R t t') (n : String) :
    KeepR R n T (sins m t' T) := by
  by_cases h : m = n
  · subst h
    rw [KeepR, sget_sins, if_pos rfl, hm]
    exact ⟨fun t2 ht => (by cases ht; exact ⟨t', rfl, hR⟩), fun ht => nomatch ht⟩
  · exact keepR_sins_ne hr _ _ h

theorem keepR_sdel_ne (hr : ∀ t, R t t) (T : List (String × Tag)) (h : m ≠ n) : KeepR R n T (sdel T m) := by
  rw [KeepR, sget_sdel, if_neg h]; exact KeepR.refl hr _ _

theorem keepR_map (f : String → Tag → Tag) (hf : ∀ k t, R t (f k t)) (n : String) (T : List (String × Tag)) :
    KeepR R n T (T.map fun p => (p.1, f p.1 p.2)) := by
  rw [KeepR, sget_map]
  cases sget T n with
  | none => exact ⟨fun _ h => (nomatch h), id⟩
  | some t => exact ⟨fun t2 ht => (by cases ht; exact ⟨_, rfl, hf _ _⟩), fun h => nomatch h⟩

end KeepR

def Keep (all : Nat) (n : String) (T T' : List (String × Tag)) : Prop :=
  (∀ t, sget T n = some t → ∃ t', sget T' n = some t' ∧ TRel all t t') ∧
  (sget T n = none → sget T' n = none)

theorem KeepR.keep {all : Nat} {n : String} {T T' : List (String × Tag)} (h : KeepR (TEd g all) n T T') :
    Keep all n T T' := h.mono (R' := TRel all) fun r => r.grel.trel

def passStep (all : Nat) (acc : List (String × Tag) × List String) (nt : String × Tag) :
    List (String × Tag) × List String :=
  if acc.2.contains nt.1 then acc
  else match sget acc.1 nt.1 with
    | none => acc
    | some t =>
      if t.refs.all (fun r => acc.2.contains r) then
        (sins nt.1 (inheritOne all acc.1 t) acc.1, nt.1 :: acc.2)
      else acc

theorem inheritPass_eq (all : Nat) (tags : List (String × Tag)) (resolved : List String) :
    inheritPass all tags resolved = tags.foldl (passStep all) (tags, resolved) := rfl

theorem inheritLoop_inv (all : Nat) (Q : List (String × Tag) × List String → Prop)
    (hstep : ∀ acc nt, Q acc → Q (passStep all acc nt)) :
    ∀ fuel tags resolved, Q (tags, resolved) →
      ∃ res, Q ((inheritLoop all fuel tags resolved).1, res) ∧
        (inheritLoop all fuel tags resolved).2 = (res.length == (inheritLoop all fuel tags resolved).1.length) := by
  intro fuel
  induction fuel with
  | zero => intro tags resolved h; exact ⟨resolved, by simpa [inheritLoop] using h, by simp [inheritLoop]⟩
  | succ fuel ih =>
    intro tags resolved h
    simp only [inheritLoop]
    split
    · rename_i heq; exact ⟨resolved, h, by simp [heq]⟩
    · have := foldl_inv Q (passStep all) hstep tags (tags, resolved) h
      rw [← inheritPass_eq] at this
      exact ih _ _ this

theorem passStep_cases (all : Nat) {P : List (String × Tag) × List String → Prop} (acc) (nt : String × Tag)
    (skip : (acc.2.contains nt.1 = true ∨ sget acc.1 nt.1 = none ∨
      ∃ t, sget acc.1 nt.1 = some t ∧ ¬ (t.refs.all fun r => acc.2.contains r) = true) → P acc)
    (res : ∀ t, ¬ acc.2.contains nt.1 = true → sget acc.1 nt.1 = some t →
      (t.refs.all fun r => acc.2.contains r) = true → P (sins nt.1 (inheritOne all acc.1 t) acc.1, nt.1 :: acc.2)) :
    P (passStep all acc nt) := by
  unfold passStep
  split
  · next hc => exact skip (.inl hc)
  · next hn =>
    split
    · next hg => exact skip (.inr (.inl hg))
    · next t ht =>
      split
      · next ha => exact res t hn ht ha
      · next ha => exact skip (.inr (.inr ⟨t, ht, ha⟩))

theorem passStep_res (all : Nat) (Q : List (String × Tag) × List String → Prop)
    (hQ : ∀ T res n t, Q (T, res) → ¬ res.contains n = true → sget T n = some t →
      (t.refs.all fun r => res.contains r) = true → Q (sins n (inheritOne all T t) T, n :: res))
    (acc) (nt : String × Tag) (h : Q acc) : Q (passStep all acc nt) :=
  passStep_cases all acc nt (fun _ => h) fun t hn ht ha => hQ _ _ _ t h hn ht ha

theorem passStep_inv (all : Nat) (Q : List (String × Tag) → Prop)
    (hQ : ∀ T n t, Q T → sget T n = some t → Q (sins n (inheritOne all T t) T))
    (acc) (nt : String × Tag) (h : Q acc.1) : Q (passStep all acc nt).1 :=
  passStep_res all (fun a => Q a.1) (fun _ _ _ _ h _ ht _ => hQ _ _ _ h ht) acc nt h

/-- for a property of the table alone the sweep is a run of `sins n (inheritOne …)` at keys `n` that are present -/
theorem inherit_inv (s : St) (Q : List (String × Tag) → Prop)
    (hQ : ∀ T n t, Q T → sget T n = some t → Q (sins n (inheritOne s.all T t) T))
    (h0 : Q s.tags) : Q (inherit s).tags := by
  obtain ⟨res, h, _⟩ := inheritLoop_inv s.all (fun acc => Q acc.1)
    (passStep_inv s.all Q hQ) (s.tags.length + 1) s.tags [] h0
  exact h

@[simp] theorem inherit_tags (s : St) : (inherit s).tags = (inheritLoop s.all (s.tags.length + 1) s.tags []).1 := rfl
@[simp] theorem inherit_all (s : St) : (inherit s).all = s.all := rfl
@[simp] theorem inherit_next (s : St) : (inherit s).next = s.next := rfl
theorem inherit_diverged (s : St) :
    (inherit s).diverged = (s.diverged || !(inheritLoop s.all (s.tags.length + 1) s.tags []).2) := rfl

theorem inheritOne_spec (all : Nat) (T : List (String × Tag)) (t : Tag) :
    ∃ u, inheritOne all T t = { t with unc := u } ∧ ∀ id, id ∈ u ↔
      if ∃ r ∈ t.subT, tagUnc T r ≠ [] then id < all else id ∈ t.unc ∨ ∃ r ∈ t.mainT, id ∈ tagUnc T r := by
  have hany : (t.subT.any fun r => !(tagUnc T r).isEmpty) = true ↔ ∃ r ∈ t.subT, tagUnc T r ≠ [] := by
    simp only [List.any_eq_true, Bool.not_eq_true', List.isEmpty_eq_false_iff]
  unfold inheritOne
  split
  · next h =>
    have h : t.mainT = [] ∧ t.subT = [] := by simpa using h
    exact ⟨t.unc, rfl, fun id => by simp [h.1, h.2]⟩
  · split
    · next h => exact ⟨_, rfl, fun id => by rw [if_pos (hany.1 h), mem_rangeSet]⟩
    · next h => exact ⟨_, rfl, fun id => by rw [if_neg (mt hany.2 h), mem_foldl_union]⟩

theorem inheritOne_convs_mat (all : Nat) (T : List (String × Tag)) (t : Tag) :
    (inheritOne all T t).convs = t.convs ∧ (inheritOne all T t).mat = t.mat := by
  obtain ⟨u, e, _⟩ := inheritOne_spec all T t
  rw [e]; exact ⟨rfl, rfl⟩

theorem ted_inheritOne (all : Nat) (T : List (String × Tag)) (t : Tag) : TEd g all t (inheritOne all T t) := by
  obtain ⟨u, e, hu⟩ := inheritOne_spec all T t
  rw [e]
  refine .ofUnc fun id h hb => (hu id).2 ?_
  split
  · exact hb
  · exact .inl h

theorem inherit_keepR (s : St) (n : String) : KeepR (TEd g s.all) n s.tags (inherit s).tags :=
  inherit_inv s (fun T => ∀ n, KeepR (TEd g s.all) n s.tags T)
    (fun _ _ _ h hm n => (h n).trans TEd.trans (keepR_sins_rel (TEd.refl _) hm (ted_inheritOne _ _ _) n))
    (fun n => .refl (TEd.refl _) n _) n

theorem inherit_keep (s : St) (n : String) : Keep s.all n s.tags (inherit s).tags :=
  (inherit_keepR (g := False) s n).keep

theorem passStep_sorted (all : Nat) (acc) (nt : String × Tag) (h : Sorted acc.1) : Sorted (passStep all acc nt).1 :=
  passStep_inv all Sorted (fun _ _ _ h _ => sorted_sins _ _ _ h) acc nt h

theorem inherit_sorted (s : St) (h : Sorted s.tags) : Sorted (inherit s).tags :=
  inherit_inv s Sorted (fun _ _ _ h _ => sorted_sins _ _ _ h) h

def Closed (all : Nat) (T : List (String × Tag)) (t : Tag) : Prop :=
  (∀ r ∈ t.mainT, ∀ id, id ∈ tagUnc T r → id ∈ t.unc) ∧
  ((∃ r ∈ t.subT, tagUnc T r ≠ []) → ∀ id, id < all → id ∈ t.unc)

theorem Closed.congr {all : Nat} {T T' : List (String × Tag)} {t : Tag}
    (h : ∀ r ∈ t.refs, tagUnc T' r = tagUnc T r) (hc : Closed all T t) : Closed all T' t := by
  constructor
  · intro r hr id hid
    rw [h r (by simp [hr])] at hid
    exact hc.1 r hr id hid
  · rintro ⟨r, hr, hne⟩
    rw [h r (by simp [hr])] at hne
    exact hc.2 ⟨r, hr, hne⟩

def Bounded (all : Nat) (T : List (String × Tag)) : Prop :=
  ∀ n t, sget T n = some t → ∀ id, id ∈ t.unc → id < all

theorem tagUnc_bounded {all : Nat} {T : List (String × Tag)} (hb : Bounded all T) (r : String) (id : Nat)
    (h : id ∈ tagUnc T r) : id < all := by
  unfold tagUnc at h
  cases hr : sget T r with
  | none => simp [hr] at h
  | some t => simp [hr] at h; exact hb r t hr id h

theorem inheritOne_refs (all : Nat) (T : List (String × Tag)) (t : Tag) : (inheritOne all T t).refs = t.refs := by
  obtain ⟨u, e, _⟩ := inheritOne_spec all T t
  rw [e]; rfl

theorem inheritOne_closed {all : Nat} {T : List (String × Tag)} (hb : Bounded all T) (t : Tag) :
    Closed all T (inheritOne all T t) := by
  obtain ⟨u, e, hu⟩ := inheritOne_spec all T t
  rw [e]
  refine ⟨fun r hr id hid => (hu id).2 ?_, fun h id hid => (hu id).2 (by rw [if_pos h]; exact hid)⟩
  split
  · exact tagUnc_bounded hb r id hid
  · exact .inr ⟨r, hr, hid⟩

theorem inheritOne_bounded {all : Nat} {T : List (String × Tag)} (hb : Bounded all T) (t : Tag)
    (ht : ∀ id, id ∈ t.unc → id < all) : ∀ id, id ∈ (inheritOne all T t).unc → id < all := by
  obtain ⟨u, e, hu⟩ := inheritOne_spec all T t
  rw [e]
  intro id hid
  have h := (hu id).1 hid
  split at h
  · exact h
  · exact h.elim (ht id) fun ⟨r, _, hr⟩ => tagUnc_bounded hb r id hr

structure PInv (all : Nat) (acc : List (String × Tag) × List String) : Prop where
  nodup : acc.2.Nodup
  res : ∀ n ∈ acc.2, ∃ t, sget acc.1 n = some t ∧ (∀ r ∈ t.refs, r ∈ acc.2) ∧ Closed all acc.1 t
  bnd : Bounded all acc.1

theorem passStep_pinv (all : Nat) (acc) (nt : String × Tag) (h : PInv all acc) :
    PInv all (passStep all acc nt) := by
  refine passStep_res all (PInv all) (fun T res n t h hnr ht hall => ?_) acc nt h
  simp only [List.all_eq_true, List.contains_iff_mem] at hall
  simp only [List.contains_iff_mem] at hnr
  have hne : ∀ r ∈ res, n ≠ r := by rintro r hr rfl; exact hnr hr
  refine ⟨List.nodup_cons.mpr ⟨hnr, h.nodup⟩, ?_, ?_⟩
  · intro m hm
    simp only [List.mem_cons] at hm
    rcases hm with rfl | hm
    · refine ⟨inheritOne all T t, by simp [sget_sins], ?_, ?_⟩
      · intro r hr
        rw [inheritOne_refs] at hr
        simp [hall r hr]
      · apply (inheritOne_closed h.bnd t).congr
        intro r hr
        rw [inheritOne_refs] at hr
        exact (tagUnc_sins _ _ _ _).trans (if_neg (hne r (hall r hr)))
    · obtain ⟨t2, h2, hr2, hc2⟩ := h.res m hm
      refine ⟨t2, by simp [sget_sins, hne m hm, h2], fun r hr => by simp [hr2 r hr], ?_⟩
      apply hc2.congr
      intro r hr
      exact (tagUnc_sins _ _ _ _).trans (if_neg (hne r (hr2 r hr)))
  · intro m t2 h2
    rw [sget_sins] at h2
    split at h2
    · cases h2; exact inheritOne_bounded h.bnd t (h.bnd _ _ ht)
    · exact h.bnd m t2 h2

theorem sorted_nodup_keys {α} {l : List (String × α)} (h : Sorted l) : (l.map (·.1)).Nodup := by
  unfold Sorted at h
  exact h.imp (fun hab => String.ne_of_lt hab)

theorem inherit_closed (s : St) (hw : Sorted s.tags) (hb : Bounded s.all s.tags)
    (hok : (inheritLoop s.all (s.tags.length + 1) s.tags []).2 = true)
    (n : String) (t' : Tag) (ht : sget (inherit s).tags n = some t') :
    Closed s.all (inherit s).tags t' := by
  obtain ⟨res, ⟨hs, hp⟩, hlen⟩ := inheritLoop_inv s.all (fun acc => Sorted acc.1 ∧ PInv s.all acc)
    (fun acc nt h => ⟨passStep_sorted _ _ _ h.1, passStep_pinv _ _ _ h.2⟩)
    (s.tags.length + 1) s.tags [] ⟨hw, ⟨by simp, by simp, hb⟩⟩
  rw [hok] at hlen
  simp only [inherit_tags] at ht ⊢
  generalize (inheritLoop s.all (s.tags.length + 1) s.tags []).1 = T at *
  have hlen : res.length = T.length := by simpa using hlen.symm
  have hkeys := nodup_subset_length (l := res) (m := T.map (·.1)) hp.nodup
    (fun x hx => by obtain ⟨t, h, _⟩ := hp.res x hx; exact sget_mem_keys _ _ _ h) (by simp [hlen])
  obtain ⟨t2, h2, _, hc⟩ := hp.res n (hkeys n (sget_mem_keys _ _ _ ht))
  rw [ht] at h2; cases h2; exact hc

/-- the part of the state the tag theorems look at -/
def Same (s s' : St) : Prop := s'.tags = s.tags ∧ s'.all = s.all ∧ s'.next = s.next

theorem Same.refl (s : St) : Same s s := ⟨rfl, rfl, rfl⟩
theorem Same.trans {a b c : St} (h1 : Same a b) (h2 : Same b c) : Same a c :=
  ⟨h2.1.trans h1.1, h2.2.1.trans h1.2.1, h2.2.2.trans h1.2.2⟩

/-- the view for the frame lemmas of Pk/Proofs/MgrFrame.lean -/
def Same.view (s : St) := (s.tags, s.all, s.next)
theorem Same.of_keep {s s' : St} (h : Same.view s' = Same.view s) : Same s s' :=
  ⟨congrArg (·.1) h, congrArg (·.2.1) h, congrArg (·.2.2) h⟩

theorem release_same (s : St) (fs : List Nat) : Same s (release s fs) :=
  .of_keep (release_frame Same.view s fs)

theorem getIndexesCopy_same (s : St) (i : Nat) : Same s (getIndexesCopy s i).1 := ⟨rfl, rfl, rfl⟩

theorem startMerge_same (s : St) : Same s (startMerge s) :=
  .of_keep (startMerge_frame Same.view s)

theorem startTagging_same (s : St) (c : Option String) : Same s (startTagging s c) :=
.of_keep (startTagging_frame Same.view s c)

theorem startConverter_same (s : St) : Same s (startConverter s) :=
  .of_keep (startConverter_frame Same.view s)

theorem invalidateConverters_same (s : St) (u : IdSet) : Same s (invalidateConverters s u) :=
  .of_keep (invalidateConverters_frame Same.view s u)

theorem invalidatedDuring_same (s : St) (u : IdSet) : Same s (invalidatedDuringTaggingJob s u) :=
  .of_keep (invalidatedDuringTaggingJob_frame Same.view s u)

end Pk.Proofs.MgrTags
