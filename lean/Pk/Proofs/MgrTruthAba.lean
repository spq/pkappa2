/-
  MgrTruthAba — the "ABA" trace of F54 (delete + re-add of the job's tag and of the tag it references while the
  job is in flight) is SAFE on the model with tag identities.

  A completion that compares only the definition TEXT of the tag with the text of its snapshot publishes, after
    1. `delTag tag/x`, 2. `delTag mark/m`, 3. `addTag mark/m "id:1"`, 4. `addTag tag/x "tag:m"`,
    5. `tagDone tag/x [0]` (the search result is the truth at job start),
  the answer computed from the deleted mark/m for the NEW tag/x (`mat = [0]`, `unc = []` although the new tag/x
  matches exactly stream 1): that is F54.  In the model, as in the repaired service, a tag carries the identity
  `gen` of the `AddTag` call that created it and the completion publishes only if text AND identity agree with the
  snapshot.

  On this trace (start state `abaS`: mark/m = "id:0" matches exactly stream 0, tag/x = "tag:m" with
  mainT = [mark/m], mfeat = 64 (`fTags`) has both streams pending and its job in flight):
   * `aba_now_safe`: after the completion the new tag/x (identity 3) still has every stream pending and no
     recorded match;
   * `aba_good`, `aba_runOK`: the trace satisfies the hypotheses of `good_run` (Pk/Props/C06Reach.lean) —
     `JobTextOK` says nothing about deletion and creation —, so "decided ⇒ correct" holds at its end by the theorem.
-/
import Pk.Proofs.MgrTruthRun
import Pk.Proofs.MgrConcrete

namespace Pk.Props.C06Reach
open Pk.Mgr Pk.Props.MgrReach Pk.Proofs.MgrTruth Pk.Proofs.MgrTags

/-- mark/m at the start (identity 0) -/
def abaM : Tag :=
  { defn := "id:0", mainT := [], subT := [], mfeat := 1, sfeat := 0, isMarkDef := true, mat := [0],
    refBy := ["tag/x"], gen := 0 }
/-- tag/x while its job is in flight (identity 1; also the job's snapshot) -/
def abaX : Tag :=
  { defn := "tag:m", mainT := ["mark/m"], subT := [], mfeat := 64, sfeat := 0, unc := [0, 1], gen := 1 }
/-- mark/m after tag/x was deleted -/
def abaM1 : Tag :=
  { defn := "id:0", mainT := [], subT := [], mfeat := 1, sfeat := 0, isMarkDef := true, mat := [0], refBy := [],
    gen := 0 }
/-- the new mark/m (identity 2) -/
def abaM3 : Tag :=
  { defn := "id:1", mainT := [], subT := [], mfeat := 1, sfeat := 0, isMarkDef := true, mat := [1], refBy := [],
    gen := 2 }
/-- the new mark/m, referenced by the new tag/x -/
def abaM4 : Tag :=
  { defn := "id:1", mainT := [], subT := [], mfeat := 1, sfeat := 0, isMarkDef := true, mat := [1],
    refBy := ["tag/x"], gen := 2 }
/-- the new tag/x (identity 3): same text and facts as the snapshot, another identity -/
def abaX4 : Tag :=
  { defn := "tag:m", mainT := ["mark/m"], subT := [], mfeat := 64, sfeat := 0, unc := [0, 1], gen := 3 }

/-- the start state -/
def abaS : St :=
  { tags := [("mark/m", abaM), ("tag/x", abaX)], idx := [0], files := [(0, [0, 1])], used := [(0, 2)],
    next := 2, all := 2, nrec := 2, pcaps := ["a.pcap"], ngen := 2, tag := true,
    jTag := some ("tag/x", abaX, [0]) }
/-- after `delTag tag/x` -/
def abaS1 : St :=
  { tags := [("mark/m", abaM1)], idx := [0], files := [(0, [0, 1])], used := [(0, 2)],
    next := 2, all := 2, nrec := 2, pcaps := ["a.pcap"], ngen := 2, tag := true,
    jTag := some ("tag/x", abaX, [0]) }
/-- after `delTag mark/m` -/
def abaS2 : St :=
  { tags := [], idx := [0], files := [(0, [0, 1])], used := [(0, 2)],
    next := 2, all := 2, nrec := 2, pcaps := ["a.pcap"], ngen := 2, tag := true,
    jTag := some ("tag/x", abaX, [0]) }
/-- after `addTag mark/m "id:1"` -/
def abaS3 : St :=
  { tags := [("mark/m", abaM3)], idx := [0], files := [(0, [0, 1])], used := [(0, 2)],
    next := 2, all := 2, nrec := 2, pcaps := ["a.pcap"], ngen := 3, tag := true,
    jTag := some ("tag/x", abaX, [0]) }
/-- after `addTag tag/x "tag:m"`: the new tag/x carries the text of the job's snapshot, but not its identity -/
def abaS4 : St :=
  { tags := [("mark/m", abaM4), ("tag/x", abaX4)], idx := [0], files := [(0, [0, 1])], used := [(0, 2)],
    next := 2, all := 2, nrec := 2, pcaps := ["a.pcap"], ngen := 4, tag := true,
    jTag := some ("tag/x", abaX, [0]) }
/-- after `tagDone tag/x [0]`: the result is discarded, the tag table is unchanged, and a new job is started for
    the new tag/x (no tagging choice was reported with the event, so the model falls back to the first eligible
    tag and flags it) -/
def abaS5 : St :=
  { tags := [("mark/m", abaM4), ("tag/x", abaX4)], idx := [0], files := [(0, [0, 1])], used := [(0, 2)],
    next := 2, all := 2, nrec := 2, pcaps := ["a.pcap"], ngen := 4, tag := true,
    jTag := some ("tag/x", abaX4, [0]), badChoice := true }

def abaF3 : Facts := {err := false, main := [], sub := [], mfeat := 1, sfeat := 0, idsok := true, ids := [1]}
def abaF4 : Facts :=
  {err := false, main := ["mark/m"], sub := [], mfeat := 64, sfeat := 0, idsok := false, ids := []}

def abaE1 : Ev := .delTag "tag/x"
def abaE2 : Ev := .delTag "mark/m"
def abaE3 : Ev := .addTag "mark/m" "" "id:1" abaF3
def abaE4 : Ev := .addTag "tag/x" "" "tag:m" abaF4
def abaE5 : Ev := .tagDone "tag/x" [0]

/-- the truth at the start (and the ghost: the truth when the job for tag/x started): stream 0 -/
def abaT : Truth := fun _ id => decide (id = 0)
/-- the truth after event 3: the new mark/m matches exactly stream 1 -/
def abaT3 : Truth := fun n id => if n = "mark/m" then decide (id = 1) else decide (id = 0)
/-- the truth after event 4: the new tag/x = "tag:m" matches exactly stream 1, too -/
def abaT4 : Truth := fun _ id => decide (id = 1)

def abaH : Hist :=
  [(abaE1, {}, abaT), (abaE2, {}, abaT), (abaE3, {}, abaT3), (abaE4, {}, abaT4), (abaE5, {}, abaT4)]

theorem aba_step1 : step abaS abaE1 {} = (abaS1, .ok) := by decide +kernel
theorem aba_step2 : step abaS1 abaE2 {} = (abaS2, .ok) := by decide +kernel
theorem aba_step3 : step abaS2 abaE3 {} = (abaS3, .ok) :=
  (step_addTag_with _ _ _ _ _ _ _ parse_mark_m).trans (by decide +kernel)
theorem aba_step4 : step abaS3 abaE4 {} = (abaS4, .ok) :=
  (step_addTag_with _ _ _ _ _ _ _ parse_tag_x).trans (by decide +kernel)
theorem aba_step5 : step abaS4 abaE5 {} = (abaS5, .none) := by decide +kernel

theorem aba_sgetX : sget abaS.tags "tag/x" = some abaX := by decide +kernel

theorem aba_good : Good abaS abaT abaT := good_of_check (by decide +kernel)

theorem truthStep_delTag_refl {s s' : St} {n : String} (h : step s (.delTag n) {} = (s', .ok)) (T : Truth) :
    TruthStep s (.delTag n) T T :=
  ⟨fun he => (by rw [h] at he; cases he), fun _ => ⟨fun _ _ _ _ _ _ _ => rfl, fun _ _ _ _ _ _ _ hT => absurd rfl hT⟩⟩

/-- `JobTextOK` says nothing about deletions -/
theorem aba_stepOK1 : StepOK abaS abaT abaT abaE1 {} abaT :=
  ⟨payloadOK_of_check (by decide +kernel), trivial, trivial, truthStep_delTag_refl aba_step1 _, trivial, fun _ _ _ _ => trivial⟩
theorem aba_stepOK2 : StepOK abaS1 abaT abaT abaE2 {} abaT :=
  ⟨payloadOK_of_check (by decide +kernel), trivial, trivial, truthStep_delTag_refl aba_step2 _, trivial, fun _ _ _ _ => trivial⟩

theorem aba_truth3 : TruthStep abaS2 abaE3 abaT abaT3 := by
  refine ⟨fun h => ?_, fun _ => ?_⟩
  · rw [aba_step3] at h; cases h
  · show (∀ n, n ≠ "mark/m" → SameAt abaS2 abaT abaT3 n) ∧
      ((parseTagName "mark/m").2.2 = true → ∀ id, id < abaS2.next → (abaT3 "mark/m" id = true ↔ id ∈ abaF3.ids))
    refine ⟨fun n hn t _ id _ => ?_, fun _ id _ => ?_⟩
    · show (if n = "mark/m" then decide (id = 1) else decide (id = 0)) = decide (id = 0)
      rw [if_neg hn]
    · show (if "mark/m" = "mark/m" then decide (id = 1) else decide (id = 0)) = true ↔ id ∈ [1]
      simp

/-- … nor about the creation of a tag -/
theorem aba_stepOK3 : StepOK abaS2 abaT abaT abaE3 {} abaT3 :=
  ⟨payloadOK_of_check (by decide +kernel), ⟨fun h => absurd rfl h, fun h => absurd rfl h⟩, trivial, aba_truth3, trivial,
    fun _ _ _ _ => trivial⟩

theorem aba_truth4 : TruthStep abaS3 abaE4 abaT3 abaT4 := by
  refine ⟨fun h => ?_, fun _ => ?_⟩
  · rw [aba_step4] at h; cases h
  · show (∀ n, n ≠ "tag/x" → SameAt abaS3 abaT3 abaT4 n) ∧
      ((parseTagName "tag/x").2.2 = true → ∀ id, id < abaS3.next → (abaT4 "tag/x" id = true ↔ id ∈ abaF4.ids))
    refine ⟨fun n _ t ht id _ => ?_, fun h => ?_⟩
    · obtain ⟨rfl, _⟩ := sget_one (v := abaM3) ht
      rfl
    · rw [parse_tag_x] at h; cases h

/-- the facts of "tag:m" report the tag-reference feature (`64 &&& fTags ≠ 0`); the snapshot's text is back under
    the job's name, on another incarnation: `JobTextOK` asks nothing of an `addTag` -/
theorem aba_stepOK4 : StepOK abaS3 abaT3 abaT abaE4 {} abaT4 :=
  ⟨payloadOK_of_check (by decide +kernel), ⟨fun _ => by decide, fun h => absurd rfl h⟩, trivial, aba_truth4, trivial,
    fun _ _ _ _ => trivial⟩

/-- the ghost is still `abaT`, the truth at job start -/
theorem aba_stepOK5 : StepOK abaS4 abaT4 abaT abaE5 {} abaT4 :=
  ⟨payloadOK_of_check (by decide +kernel), trivial, trivial, ⟨fun _ _ _ _ _ _ => rfl, fun _ _ _ _ _ _ => rfl⟩,
    resultOK_of_check (by decide +kernel), fun _ _ _ _ => trivial⟩

/-- the job stays in flight through events 1–4, so the ghost stays the truth at its start (`rfl`) -/
theorem aba_runOK : RunOK abaS abaT abaT abaH :=
  runOK_step aba_step1 rfl aba_stepOK1 <| runOK_step aba_step2 rfl aba_stepOK2 <|
  runOK_step aba_step3 rfl aba_stepOK3 <| runOK_step aba_step4 rfl aba_stepOK4 <|
  runOK_step aba_step5 rfl aba_stepOK5 trivial

theorem aba_runSt : runSt abaS abaH = abaS5 :=
  (runSt_step aba_step1).trans ((runSt_step aba_step2).trans ((runSt_step aba_step3).trans
    ((runSt_step aba_step4).trans (runSt_step aba_step5))))

theorem aba_runT : runT abaT abaH = abaT4 := rfl

/-- the completion does not publish: after it tag/x (the NEW incarnation, gen 3) still has every stream pending
    and no recorded match -/
theorem aba_now_safe :
    ∃ t, sget (runSt abaS abaH).tags "tag/x" = some t ∧ t.mat = [] ∧ t.unc = [0, 1] ∧ t.gen = 3 := by
  rw [aba_runSt]
  exact ⟨abaX4, rfl, rfl, rfl, rfl⟩

/-- … and "decided ⇒ correct" holds in the final state (directly; `good_run` gives the same from
    `aba_good` and `aba_runOK`: `aba_decided_correct`): mark/m decides both streams (exactly stream 1 matches), tag/x decides none -/
theorem aba_final_inv : C06.Inv (runSt abaS abaH) (runT abaT abaH) := by
  rw [aba_runSt, aba_runT]
  exact inv_of_check (by decide +kernel)

end Pk.Props.C06Reach
