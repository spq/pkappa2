/- The frame `FrE g N s s'` for each helper of `step` (`N`: the names the helper does not rewrite).  A helper
   that maps over the table or rebuilds one tag is first rewritten with named per-tag functions
   (`invalidateTags_eq`, `outputDropped_eq`, `markUpdate_eq`). -/
import Pk.Proofs.MgrTagsInherit
namespace Pk.Proofs.MgrTags
open Pk.Mgr Pk.Proofs.MgrTruth

structure Fr (N : String → Prop) (s s' : St) : Prop where
  all : s'.all = s.all
  next : s'.next = s.next
  sorted : Sorted s.tags → Sorted s'.tags
  keep : ∀ n, N n → Keep s.all n s.tags s'.tags

/-- the frame of a helper or of a whole event: `all` and `next` stay, the table stays sorted, and a tag whose name
    is in `N` changes by `TEd` at most.  `mem` says the same by membership, for the invariants that quantify over
    the entries of a table that need not be sorted. -/
structure FrE (g : Prop) (N : String → Prop) (s s' : St) : Prop where
  all : s'.all = s.all
  next : s'.next = s.next
  sorted : Sorted s.tags → Sorted s'.tags
  keep : ∀ n, N n → KeepR (TEd g s.all) n s.tags s'.tags
  mem : ∀ nt' ∈ s'.tags, N nt'.1 → ∃ t, (nt'.1, t) ∈ s.tags ∧ TEd g s.all t nt'.2

section
variable {g : Prop}

theorem FrE.fr {N} {s s' : St} (h : FrE g N s s') : Fr N s s' :=
  ⟨h.all, h.next, h.sorted, fun n hn => (h.keep n hn).keep⟩
theorem FrE.refl (N) (s : St) : FrE g N s s :=
  ⟨rfl, rfl, id, fun _ _ => .refl (TEd.refl _) _ _, fun nt h _ => ⟨nt.2, h, TEd.refl _ _⟩⟩
theorem FrE.trans {N} {a b c : St} (h1 : FrE g N a b) (h2 : FrE g N b c) : FrE g N a c :=
  ⟨h2.all.trans h1.all, h2.next.trans h1.next, fun h => h2.sorted (h1.sorted h),
   fun n hn => (h1.keep n hn).trans TEd.trans (h1.all ▸ h2.keep n hn), fun nt hm hn =>
    let ⟨t, h3, h4⟩ := h2.mem nt hm hn
    let ⟨t0, h5, h6⟩ := h1.mem (nt.1, t) h3 hn
    ⟨t0, h5, h6.trans (h1.all ▸ h4)⟩⟩
theorem FrE.mono {N N' : String → Prop} {a b : St} (h : FrE g N a b) (hN : ∀ n, N' n → N n) : FrE g N' a b :=
  ⟨h.all, h.next, h.sorted, fun n hn => h.keep n (hN n hn), fun nt hm hn => h.mem nt hm (hN _ hn)⟩

abbrev NT : String → Prop := fun _ => True

theorem FrE.nt {N : String → Prop} {a b : St} (h : FrE g NT a b) : FrE g N a b := h.mono fun _ _ => trivial
theorem FrE.of_same {N} {a b : St} (h : Same a b) : FrE g N a b :=
  ⟨h.2.1, h.2.2, fun hs => h.1 ▸ hs, fun _ _ => .of_eq (TEd.refl _) h.1,
   fun nt hm _ => ⟨nt.2, h.1 ▸ hm, TEd.refl _ _⟩⟩
theorem foldl_frE {N} {β} (f : St → β → St) (h : ∀ s b, FrE g N s (f s b)) (l : List β) (s : St) :
    FrE g N s (l.foldl f s) :=
  foldl_inv (fun s' => FrE g N s s') f (fun a b ha => ha.trans (h a b)) l s (FrE.refl N s)

theorem setTag_frE_ne (s : St) (m : String) (t' : Tag) : FrE g (· ≠ m) s (setTag s m t') :=
  ⟨rfl, rfl, sorted_sins _ _ _, fun _ hn => keepR_sins_ne (TEd.refl _) _ _ (Ne.symm hn), fun nt hm hn =>
    (mem_sins _ _ _ _ hm).elim (fun e => absurd (congrArg (·.1) e) hn) fun h => ⟨nt.2, h, TEd.refl _ _⟩⟩

theorem setTag_frE_rel {s : St} {m : String} {t t' : Tag} (hm : sget s.tags m = some t)
    (hr : TEd g s.all t t') : FrE g NT s (setTag s m t') :=
  ⟨rfl, rfl, sorted_sins _ _ _, fun n _ => keepR_sins_rel (TEd.refl _) hm hr n, fun nt hx _ =>
    (mem_sins _ _ _ _ hx).elim (fun e => e ▸ ⟨t, sget_mem _ _ _ hm, hr⟩) fun h => ⟨nt.2, h, TEd.refl _ _⟩⟩

theorem addRefBy_frE (s : St) (a b : String) : FrE True NT s (addRefBy s a b) := by
  unfold addRefBy; split
  · next t ht => exact setTag_frE_rel ht ⟨GRel.refl _ _, fun h => absurd trivial h⟩
  · exact FrE.refl _ _
theorem delRefBy_frE (s : St) (a b : String) : FrE True NT s (delRefBy s a b) := by
  unfold delRefBy; split
  · next t ht => exact setTag_frE_rel ht ⟨GRel.refl _ _, fun h => absurd trivial h⟩
  · exact FrE.refl _ _

theorem inherit_frE (s : St) : FrE g NT s (inherit s) :=
  ⟨rfl, rfl, inherit_sorted s, fun n _ => inherit_keepR s n, fun nt hm _ =>
    inherit_inv s (fun T => ∀ nt' ∈ T, ∃ t, (nt'.1, t) ∈ s.tags ∧ TEd g s.all t nt'.2)
      (fun _ n t h ht nt' hm => (mem_sins _ _ _ _ hm).elim
        (fun e => let ⟨t0, h1, h2⟩ := h (n, t) (sget_mem _ _ _ ht); e ▸ ⟨t0, h1, h2.trans (ted_inheritOne _ _ _)⟩)
        (h nt'))
      (fun nt h => ⟨nt.2, h, TEd.refl _ _⟩) nt hm⟩

theorem map_frE (s s' : St) (f : String → Tag → Tag) (hall : s'.all = s.all) (hnext : s'.next = s.next)
    (ht : s'.tags = s.tags.map fun p => (p.1, f p.1 p.2)) (hf : ∀ k t, TEd g s.all t (f k t)) :
    FrE g NT s s' := by
  refine ⟨hall, hnext, fun h => ?_, fun n _ => ht ▸ keepR_map f hf n _, fun nt hm _ => ?_⟩
  · apply sorted_of_keys_eq _ _ _ h
    rw [ht]; simp [Function.comp_def]
  · rw [ht] at hm
    obtain ⟨p, hp, rfl⟩ := List.mem_map.1 hm
    exact ⟨p.2, hp, hf _ _⟩

end

def invF (all : Nat) (upd rst add : IdSet) (t : Tag) : Tag :=
    if t.sfeat ≠ 0 then { t with unc := rangeSet all }
    else if t.mfeat &&& (255 - fID) == 0 then
      (if add.isEmpty then t else { t with unc := union t.unc add })
    else
      let u := union (union t.unc add) rst
      let u := if t.mfeat &&& (fData ||| fTimeAbs ||| fTimeRel) ≠ 0 then union u upd else u
      { t with unc := u }

theorem invalidateTags_eq (s : St) (upd rst add : IdSet) :
    invalidateTags s upd rst add =
      inherit { s with tags := s.tags.map fun p => (p.1, invF s.all upd rst add p.2) } := by
  unfold invalidateTags
  dsimp only
  congr 2
  apply List.map_congr_left
  rintro ⟨n, t⟩ _
  simp only [invF, apply_ite (Prod.mk n)]

/-- the new pending set: everything for a tag with a sub-query; otherwise the old one with the added
    ids, the reset ids unless the tag only looks at ids, the updated ids if it looks at data or time -/
theorem invF_spec (all : Nat) (upd rst add : IdSet) (t : Tag) :
    ∃ u, invF all upd rst add t = { t with unc := u } ∧ ∀ id, id ∈ u ↔
      if t.sfeat ≠ 0 then id < all else
        id ∈ t.unc ∨ id ∈ add ∨ (t.mfeat &&& (255 - fID) ≠ 0 ∧
          (id ∈ rst ∨ (t.mfeat &&& (fData ||| fTimeAbs ||| fTimeRel) ≠ 0 ∧ id ∈ upd))) := by
  unfold invF
  by_cases h1 : t.sfeat ≠ 0
  · rw [if_pos h1]; exact ⟨_, rfl, fun id => by rw [if_pos h1, mem_rangeSet]⟩
  rw [if_neg h1]
  by_cases h2 : (t.mfeat &&& (255 - fID) == 0) = true
  · rw [if_pos h2]
    have h2' : ¬ t.mfeat &&& (255 - fID) ≠ 0 := by simpa using h2
    by_cases h3 : add.isEmpty = true
    · rw [if_pos h3]
      refine ⟨t.unc, rfl, fun id => ?_⟩
      rw [if_neg h1, List.isEmpty_iff.1 h3]; simp [h2']
    · rw [if_neg h3]
      refine ⟨_, rfl, fun id => ?_⟩
      rw [if_neg h1, mem_union]; simp [h2']
  · rw [if_neg h2]
    have h2' : t.mfeat &&& (255 - fID) ≠ 0 := by simpa using h2
    dsimp only
    by_cases h4 : t.mfeat &&& (fData ||| fTimeAbs ||| fTimeRel) ≠ 0
    · rw [if_pos h4]
      refine ⟨_, rfl, fun id => ?_⟩
      rw [if_neg h1]; simp only [mem_union, h2', h4, true_and, ne_eq, not_false_eq_true, or_assoc]
    · rw [if_neg h4]
      refine ⟨_, rfl, fun id => ?_⟩
      rw [if_neg h1]; simp only [mem_union, h2', h4, true_and, false_and, or_false, ne_eq, not_false_eq_true, or_assoc]

theorem ted_invF {g : Prop} (all : Nat) (upd rst add : IdSet) (t : Tag) : TEd g all t (invF all upd rst add t) := by
  obtain ⟨u, e, hu⟩ := invF_spec all upd rst add t
  rw [e]
  refine .ofUnc fun id h hb => (hu id).2 ?_
  split
  · exact hb
  · exact .inl h

theorem trel_invF (all : Nat) (upd rst add : IdSet) (t : Tag) : TRel all t (invF all upd rst add t) :=
  (ted_invF (g := False) all upd rst add t).grel.trel

theorem invalidateTags_frE {g : Prop} (s : St) (upd rst add : IdSet) : FrE g NT s (invalidateTags s upd rst add) := by
  rw [invalidateTags_eq]
  refine FrE.trans (b := { s with tags := s.tags.map fun p => (p.1, invF s.all upd rst add p.2) }) ?_ (inherit_frE _)
  exact map_frE s _ (fun _ t => invF s.all upd rst add t) rfl rfl rfl (fun _ t => ted_invF _ _ _ _ t)

theorem attachConv_frE {g : Prop} (s : St) (n c : String) : FrE g NT s (attachConv s n c).1 :=
  attachConv_cases s n c (FrE.refl _ _) fun t ht _ _ =>
    -- the attached state is the `setTag` with another `toconv`, which no field of `FrE` reads
    have h := setTag_frE_rel (g := g) (t' := { t with convs := t.convs ++ [c] }) ht ⟨GRel.refl _ _, fun _ => rfl⟩
    ⟨h.all, h.next, h.sorted, h.keep, h.mem⟩

/-- `outputDropped` on one tag: a tag that looks at payload becomes pending everywhere -/
def odF (all : Nat) (t : Tag) : Tag :=
  if (t.mfeat ||| t.sfeat) &&& fData != 0 then { t with unc := rangeSet all } else t

theorem outputDropped_eq (s : St) (choice : Option String) :
    outputDropped s choice =
      if s.tags.any (fun nt => (nt.2.mfeat ||| nt.2.sfeat) &&& fData != 0) then
        startTagging (invalidatedDuringTaggingJob
          (inherit { s with tags := s.tags.map fun p => (p.1, odF s.all p.2) }) (rangeSet s.all)) choice
      else s := by
  have hmap : (s.tags.map fun p => (p.1, odF s.all p.2)) =
      s.tags.map (fun (x : String × Tag) =>
        if (x.2.mfeat ||| x.2.sfeat) &&& fData != 0 then (x.1, { x.2 with unc := rangeSet s.all }) else (x.1, x.2)) := by
    apply List.map_congr_left
    rintro ⟨n, t⟩ _
    simp only [odF]
    split <;> rfl
  rw [hmap]
  rfl

theorem ted_odF {g : Prop} (all : Nat) (t : Tag) : TEd g all t (odF all t) := by
  unfold odF
  split
  · exact .ofUnc fun id _ hb => by simpa using hb
  · exact TEd.refl _ _

/-- `outputDropped` up to its final `startTagging` -/
theorem odPre_frE {g : Prop} (s : St) : FrE g NT s (invalidatedDuringTaggingJob
    (inherit { s with tags := s.tags.map fun p => (p.1, odF s.all p.2) }) (rangeSet s.all)) := by
  refine FrE.trans ?_ (FrE.of_same (invalidatedDuring_same _ _))
  refine FrE.trans (b := { s with tags := s.tags.map fun p => (p.1, odF s.all p.2) }) ?_ (inherit_frE _)
  exact map_frE s _ (fun _ t => odF s.all t) rfl rfl rfl (fun _ t => ted_odF _ t)

theorem outputDropped_frE {g : Prop} (s : St) (choice : Option String) : FrE g NT s (outputDropped s choice) := by
  rw [outputDropped_eq]
  split
  · exact (odPre_frE s).trans (FrE.of_same (startTagging_same _ _))
  · exact FrE.refl _ _

theorem detachConv_frE {g : Prop} (s : St) (n c : String) (choice : Option String := none) :
    FrE g NT s (detachConv s n c choice) := by
  have h : ∀ t, sget s.tags n = some t → FrE g NT s (setTag s n { t with convs := t.convs.filter (· != c) }) :=
    fun t ht => setTag_frE_rel ht ⟨GRel.refl _ _, fun _ => rfl⟩
  refine detachConv_cases s n c choice (fun _ => FrE.refl _ _) (fun t _ ht => ?_) fun t _ ht => ?_
  · exact ⟨(h t ht).all, (h t ht).next, (h t ht).sorted, (h t ht).keep, (h t ht).mem⟩
  · refine FrE.trans ?_ (outputDropped_frE _ _)
    exact ⟨(h t ht).all, (h t ht).next, (h t ht).sorted, (h t ht).keep, (h t ht).mem⟩

def muFresh (t : Tag) (addIds : List Nat) : List Nat :=
  addIds.foldl (fun (acc : List Nat) x => if t.mat.contains x || acc.contains x then acc else acc ++ [x]) []

def muAdd (t : Tag) (s : St) (addIds : List Nat) : Tag × St :=
  if addIds.isEmpty then (t, s) else
    let fresh := muFresh t addIds
    let t1 := { t with mat := union t.mat fresh, unc := union t.unc fresh }
    let s := t.convs.foldl (fun s c => { s with toconv := sins c (union ((sget s.toconv c).getD []) fresh) s.toconv }) s
    if fresh.isEmpty then (t1, s)
    else
      let mq := mkQuery fresh
      let d := if t1.defn == "id:-1" then mq
               else if isPlainIdList t1.defn then t1.defn ++ "," ++ (mq.drop 3)
               else "(" ++ t1.defn ++ ") or " ++ mq
      ({ t1 with defn := d }, s)

def muDel (t : Tag) (delIds : List Nat) : Tag :=
  if delIds.isEmpty then t else
    let gone := delIds.filter (fun x => t.mat.contains x)
    let t1 := { t with mat := diff t.mat gone, unc := union t.unc gone }
    if t1.mat.isEmpty then { t1 with defn := "id:-1" } else { t1 with defn := mkQuery t1.mat }

def muFin (s : St) (name : String) (prevU : IdSet) : St :=
  match sget s.tags name with
  | some t' => setTag s name { t' with unc := prevU }
  | none => s

theorem markUpdate_eq (s : St) (name : String) (a d : List Nat) :
    markUpdate s name a d =
      match sget s.tags name with
      | none => (s, .err)
      | some t =>
        (muFin (invalidatedDuringTaggingJob (inherit (setTag (muAdd t s a).2 name (muDel (muAdd t s a).1 d)))
          (muDel (muAdd t s a).1 d).unc) name t.unc, .ok) := by
  unfold markUpdate
  generalize sget s.tags name = o
  cases o <;> rfl

theorem qConv_same (s : St) (cs : List String) (ids : IdSet) : Same s (qConv s cs ids) :=
  .of_keep (qConv_frame Same.view s cs ids)

theorem mem_muFresh (t : Tag) (a : List Nat) (x : Nat) : x ∈ muFresh t a ↔ x ∈ a ∧ x ∉ t.mat := by
  unfold muFresh
  suffices h : ∀ acc : List Nat,
      x ∈ a.foldl (fun (acc : List Nat) x => if t.mat.contains x || acc.contains x then acc else acc ++ [x]) acc ↔
        x ∈ acc ∨ (x ∈ a ∧ x ∉ t.mat) by simpa using h []
  induction a with
  | nil => intro acc; simp
  | cons y ys ih =>
    intro acc
    have hstep : x ∈ (if t.mat.contains y || acc.contains y then acc else acc ++ [y]) ↔ x ∈ acc ∨ (x = y ∧ x ∉ t.mat) := by
      by_cases hc : (t.mat.contains y || acc.contains y) = true
      · rw [if_pos hc]
        refine ⟨.inl, fun h => h.elim id fun ⟨e, hm⟩ => ?_⟩
        subst e
        simpa [hm] using hc
      · rw [if_neg hc]
        have : y ∉ t.mat := fun h => hc (by simp [h])
        simp only [List.mem_append, List.mem_singleton]
        exact ⟨fun h => h.imp_right fun e => ⟨e, e ▸ this⟩, fun h => h.imp_right (·.1)⟩
    simp only [List.foldl_cons, ih, hstep, List.mem_cons, or_and_right, or_assoc]

theorem muAdd_fst (t : Tag) (s : St) (a : List Nat) :
    ∃ d, (muAdd t s a).1 = { t with mat := union t.mat (muFresh t a), unc := union t.unc (muFresh t a), defn := d } := by
  unfold muAdd
  by_cases ha : a.isEmpty = true
  · rw [if_pos ha, List.isEmpty_iff.1 ha]; exact ⟨t.defn, rfl⟩
  rw [if_neg ha]
  dsimp only
  by_cases hf : (muFresh t a).isEmpty = true
  · rw [if_pos hf]; exact ⟨t.defn, rfl⟩
  · rw [if_neg hf]; exact ⟨_, rfl⟩

theorem muAdd_snd (t : Tag) (s : St) (a : List Nat) :
    (muAdd t s a).2 = if a.isEmpty then s else qConv s t.convs (muFresh t a) := by
  unfold muAdd
  by_cases ha : a.isEmpty = true
  · rw [if_pos ha, if_pos ha]
  rw [if_neg ha, if_neg ha]
  dsimp only
  by_cases hf : (muFresh t a).isEmpty = true
  · rw [if_pos hf]; rfl
  · rw [if_neg hf]; rfl

theorem muAdd_frame {γ} (g : St → γ) (t : Tag) (s : St) (a : List Nat)
    (h : ∀ s v, g { s with toconv := v } = g s := by intros; rfl) : g (muAdd t s a).2 = g s := by
  rw [muAdd_snd]
  split
  · rfl
  · exact qConv_frame g _ _ _ h

theorem muFin_frame {γ} (g : St → γ) (s : St) (name : String) (u : IdSet)
    (h : ∀ s v, g { s with tags := v } = g s := by intros; rfl) : g (muFin s name u) = g s := by
  unfold muFin
  split
  · exact h s ..
  · rfl

theorem muAdd_same (t : Tag) (s : St) (a : List Nat) : Same s (muAdd t s a).2 :=
  .of_keep (muAdd_frame Same.view t s a)

theorem muAdd_mat (t : Tag) (s : St) (a : List Nat) (x : Nat) :
    x ∈ (muAdd t s a).1.mat ↔ x ∈ t.mat ∨ x ∈ a := by
  obtain ⟨d, e⟩ := muAdd_fst t s a
  rw [e]
  show x ∈ union t.mat (muFresh t a) ↔ _
  rw [mem_union, mem_muFresh]
  by_cases h : x ∈ t.mat <;> simp [h]

theorem muDel_spec (t : Tag) (d : List Nat) :
    ∃ m u df, muDel t d = { t with mat := m, unc := u, defn := df } ∧ (∀ x, x ∈ m ↔ x ∈ t.mat ∧ x ∉ d) ∧
      ∀ x, x ∈ u ↔ x ∈ t.unc ∨ (x ∈ d ∧ x ∈ t.mat) := by
  unfold muDel
  by_cases hd : d.isEmpty = true
  · rw [if_pos hd, List.isEmpty_iff.1 hd]; exact ⟨t.mat, t.unc, t.defn, rfl, by simp, by simp⟩
  rw [if_neg hd]
  have hm : ∀ x, x ∈ diff t.mat (d.filter fun x => t.mat.contains x) ↔ x ∈ t.mat ∧ x ∉ d := by
    intro x; rw [mem_diff, List.mem_filter]; by_cases h : x ∈ t.mat <;> simp [h]
  have hu : ∀ x, x ∈ union t.unc (d.filter fun x => t.mat.contains x) ↔ x ∈ t.unc ∨ (x ∈ d ∧ x ∈ t.mat) := by
    intro x; rw [mem_union, List.mem_filter, List.contains_iff_mem]
  dsimp only
  by_cases he : (diff t.mat (d.filter fun x => t.mat.contains x)).isEmpty = true
  · rw [if_pos he]; exact ⟨_, _, _, rfl, hm, hu⟩
  · rw [if_neg he]; exact ⟨_, _, _, rfl, hm, hu⟩

theorem muDel_mat (t : Tag) (d : List Nat) (x : Nat) : x ∈ (muDel t d).mat ↔ x ∈ t.mat ∧ x ∉ d := by
  obtain ⟨m, u, df, e, hm, _⟩ := muDel_spec t d
  rw [e]; exact hm x

theorem muFin_frE {g : Prop} (s : St) (name : String) (u : IdSet) : FrE g (· ≠ name) s (muFin s name u) := by
  unfold muFin
  split
  · exact setTag_frE_ne _ _ _
  · exact FrE.refl _ _

theorem markUpdate_frE {g : Prop} (s : St) (name : String) (a d : List Nat) :
    FrE g (· ≠ name) s (markUpdate s name a d).1 := by
  rw [markUpdate_eq]
  split
  · exact FrE.refl _ _
  · next t ht =>
    refine FrE.trans ?_ (muFin_frE _ _ _)
    refine FrE.trans ?_ (FrE.of_same (invalidatedDuring_same _ _))
    refine FrE.trans ?_ (inherit_frE _).nt
    exact (FrE.of_same (muAdd_same t s a)).trans (setTag_frE_ne _ _ _)

end Pk.Proofs.MgrTags
