/- C17: ConnectedBitmask, a sorted list of runs `[lo, hi]`.  The loops that walk the two operands forwards are proved
   by induction along the function over `RInv`/`LB`.  The two loops that walk the list from the back (`Inject`,
   `Extract`) are specified in their own orientation: `DInv` is `RInv` read backwards, `anyR` is membership whatever
   the order; `dinv_reverse`, `isSet_eq_anyR` lead there and `rev_append` leads back. -/
import Pk.Model.Bits
import Pk.Proofs.Bits
set_option linter.unusedSimpArgs false
namespace Pk.Proofs.Bits
open Pk.Bits
namespace Conn
open Pk.Bits.Conn

/-- copy of `Pk.Props.C17.Conn.RInv` (Props imports Proofs) -/
def RInv : Pk.Bits.Conn → Prop
  | [] => True
  | [e] => e.lo ≤ e.hi
  | e :: e2 :: es => e.lo ≤ e.hi ∧ e.hi + 1 < e2.lo ∧ RInv (e2 :: es)

/-- a lower bound on every run; on sorted lists only the head matters -/
def LB (k : Nat) : Pk.Bits.Conn → Prop
  | [] => True
  | e :: _ => k ≤ e.lo

theorem rinv_cons (e : Run) (es : Pk.Bits.Conn) :
    RInv (e :: es) ↔ e.lo ≤ e.hi ∧ LB (e.hi + 2) es ∧ RInv es := by
  cases es <;> simp [RInv, LB]; omega

@[simp] theorem rinv_nil : RInv [] := trivial
@[simp] theorem lb_nil (k) : LB k [] := trivial
@[simp] theorem lb_cons (k e es) : LB k (e :: es) ↔ k ≤ e.lo := Iff.rfl

/-- `isSet` on a non-empty list without the nested `if`: the form `grind` reasons with -/
theorem isSet_cons_eq (e : Run) (es : Pk.Bits.Conn) (x : Nat) :
    isSet (e :: es) x = (decide (e.lo ≤ x) && (decide (x ≤ e.hi) || isSet es x)) := by
  simp only [isSet]
  by_cases h1 : x < e.lo
  · simp [h1]; omega
  · have h1' : e.lo ≤ x := Nat.le_of_not_lt h1
    by_cases h2 : x ≤ e.hi <;> simp [h1, h1', h2]
theorem isSet_nil (x : Nat) : isSet [] x = false := rfl

theorem LB.mono {k k' : Nat} {c : Pk.Bits.Conn} (h : LB k c) (hk : k' ≤ k) : LB k' c := by
  cases c <;> simp_all [LB]; omega

theorem isSet_of_lb {k : Nat} {c : Pk.Bits.Conn} (h : LB k c) {x : Nat} (hx : x < k) : isSet c x = false := by
  cases c with
  | nil => rfl
  | cons e es => simp [LB] at h; simp [isSet]; omega

grind_pattern LB.mono => LB k c, LB k' c
grind_pattern isSet_of_lb => LB k c, isSet c x

theorem isSet_cons_of_lb {e : Run} {es : Pk.Bits.Conn} (h : LB e.lo es) (x : Nat) :
    isSet (e :: es) x = (decide (e.lo ≤ x) && decide (x ≤ e.hi) || isSet es x) := by
  simp only [isSet]
  by_cases h1 : x < e.lo
  · simp [h1, isSet_of_lb h h1]; omega
  · by_cases h2 : x ≤ e.hi <;> simp [h1, h2]
    omega

theorem isSet_cons_of_rinv {e : Run} {es : Pk.Bits.Conn} (h : RInv (e :: es)) (x : Nat) :
    isSet (e :: es) x = (decide (e.lo ≤ x) && decide (x ≤ e.hi) || isSet es x) := by
  rw [rinv_cons] at h
  exact isSet_cons_of_lb (h.2.1.mono (by omega)) x


theorem set_inv_lb (c : Pk.Bits.Conn) (b : Nat) (h : RInv c) :
    RInv (Conn.set c b) ∧ ∀ k, LB k c → k ≤ b → LB k (Conn.set c b) := by
  fun_induction Conn.set c b <;> grind [= rinv_cons, = lb_cons, rinv_nil, lb_nil]


theorem set_isSet (c : Pk.Bits.Conn) (b : Nat) (h : RInv c) (x : Nat) :
    isSet (Conn.set c b) x = (x == b || isSet c x) := by
  fun_induction Conn.set c b <;> grind [= rinv_cons, = lb_cons, = isSet_cons_eq, = isSet_nil]

theorem unset_inv_lb (c : Pk.Bits.Conn) (b : Nat) (h : RInv c) :
    RInv (Conn.unset c b) ∧ ∀ k, LB k c → LB k (Conn.unset c b) := by
  fun_induction Conn.unset c b <;> grind [= rinv_cons, = lb_cons, rinv_nil, lb_nil]

theorem unset_isSet (c : Pk.Bits.Conn) (b : Nat) (h : RInv c) (x : Nat) :
    isSet (Conn.unset c b) x = (x != b && isSet c x) := by
  fun_induction Conn.unset c b <;> grind [= rinv_cons, = lb_cons, = isSet_cons_eq, = isSet_nil]


theorem and_inv_lb (a b : Pk.Bits.Conn) (ha : RInv a) (hb : RInv b) :
    RInv (Conn.and a b) ∧ (∀ k, LB k a → LB k (Conn.and a b)) ∧ (∀ k, LB k b → LB k (Conn.and a b)) := by
  fun_induction Conn.and a b <;> grind [= rinv_cons, = lb_cons, rinv_nil, lb_nil]

theorem and_isSet (a b : Pk.Bits.Conn) (ha : RInv a) (hb : RInv b) (x : Nat) :
    isSet (Conn.and a b) x = (isSet a x && isSet b x) := by
  fun_induction Conn.and a b <;> grind [= rinv_cons, = lb_cons, = isSet_cons_eq, = isSet_nil]


/-- `orGo`'s pending run `cur` (not yet emitted, it may still be widened): it is non-empty and starts no later than
    what is left of both operands; `curLB k`: it lies at or above `k`; `curSet`: its members -/
def curOk (cur : Option Run) (as bs : Pk.Bits.Conn) : Prop :=
  match cur with
  | none => True
  | some n => n.lo ≤ n.hi ∧ LB n.lo as ∧ LB n.lo bs

def curLB (k : Nat) (cur : Option Run) : Prop :=
  match cur with
  | none => True
  | some n => k ≤ n.lo

def curSet (cur : Option Run) (x : Nat) : Bool :=
  match cur with
  | none => false
  | some n => decide (n.lo ≤ x) && decide (x ≤ n.hi)

theorem orGo_inv_lb (cur : Option Run) (a b : Pk.Bits.Conn) (ha : RInv a) (hb : RInv b)
    (hc : curOk cur a b) :
    RInv (Conn.orGo cur a b) ∧ ∀ k, LB k a → LB k b → curLB k cur → LB k (Conn.orGo cur a b) := by
  fun_induction Conn.orGo cur a b <;> grind [= rinv_cons, = lb_cons, rinv_nil, lb_nil, curOk, curLB]

theorem orGo_isSet (cur : Option Run) (a b : Pk.Bits.Conn) (ha : RInv a) (hb : RInv b)
    (hc : curOk cur a b) (x : Nat) :
    isSet (Conn.orGo cur a b) x = (curSet cur x || isSet a x || isSet b x) := by
  fun_induction Conn.orGo cur a b <;> grind [= rinv_cons, = lb_cons, curOk, curSet, = isSet_cons_eq, = isSet_nil]


/-- weak invariant: sorted, non-empty, disjoint runs that may touch (output of `xorGo`) -/
def WInv : Pk.Bits.Conn → Prop
  | [] => True
  | [e] => e.lo ≤ e.hi
  | e :: e2 :: es => e.lo ≤ e.hi ∧ e.hi < e2.lo ∧ WInv (e2 :: es)

theorem winv_cons (e : Run) (es : Pk.Bits.Conn) :
    WInv (e :: es) ↔ e.lo ≤ e.hi ∧ LB (e.hi + 1) es ∧ WInv es := by
  cases es <;> simp [WInv, LB]; omega
@[simp] theorem winv_nil : WInv [] := trivial

theorem rinv_winv (c : Pk.Bits.Conn) (h : RInv c) : WInv c := by
  induction c with
  | nil => trivial
  | cons e es ih => rw [rinv_cons] at h; rw [winv_cons]; exact ⟨h.1, h.2.1.mono (by omega), ih h.2.2⟩

theorem xorGo_inv_lb (a b : Pk.Bits.Conn) (ha : RInv a) (hb : RInv b) :
    WInv (Conn.xorGo a b) ∧ ∀ k, LB k a → LB k b → LB k (Conn.xorGo a b) := by
  fun_induction Conn.xorGo a b <;> grind [= rinv_cons, = winv_cons, = lb_cons, rinv_nil, winv_nil, lb_nil, rinv_winv]


theorem xorGo_isSet (a b : Pk.Bits.Conn) (ha : RInv a) (hb : RInv b) (x : Nat) :
    isSet (Conn.xorGo a b) x = (isSet a x != isSet b x) := by
  fun_induction Conn.xorGo a b <;> grind [= rinv_cons, = lb_cons, = isSet_cons_eq, = isSet_nil]

theorem mergeTouching_inv_lb (c : Pk.Bits.Conn) (h : WInv c) :
    RInv (Conn.mergeTouching c) ∧ ∀ k, LB k c → LB k (Conn.mergeTouching c) := by
  fun_induction Conn.mergeTouching c <;> grind [= rinv_cons, = winv_cons, = lb_cons, rinv_nil, winv_nil, lb_nil]

theorem mergeTouching_isSet (c : Pk.Bits.Conn) (h : WInv c) (x : Nat) :
    isSet (Conn.mergeTouching c) x = isSet c x := by
  fun_induction Conn.mergeTouching c <;> grind [= winv_cons, = lb_cons, = isSet_cons_eq, = isSet_nil]


/-- every run ends at or below `k`: of ALL runs (what `p ++ q` needs of `p`), where `LB` and `HB` only look at the head -/
def UB (k : Nat) : Pk.Bits.Conn → Prop
  | [] => True
  | e :: es => e.hi ≤ k ∧ UB k es
@[simp] theorem ub_nil (k) : UB k [] := trivial
theorem ub_cons (k e es) : UB k (e :: es) ↔ e.hi ≤ k ∧ UB k es := Iff.rfl

theorem lb_append (k : Nat) (p q : Pk.Bits.Conn) (hp : LB k p) (hq : LB k q) : LB k (p ++ q) := by
  cases p <;> simp_all [LB]

theorem rinv_append (k : Nat) (p q : Pk.Bits.Conn) (hp : RInv p) (hq : RInv q) (hu : UB k p)
    (hl : LB (k + 2) q) : RInv (p ++ q) := by
  induction p with
  | nil => simpa using hq
  | cons e es ih =>
    rw [rinv_cons] at hp; rw [ub_cons] at hu
    rw [List.cons_append, rinv_cons]
    refine ⟨hp.1, ?_, ih hp.2.2 hu.2⟩
    exact lb_append _ _ _ hp.2.1 (hl.mono (by omega))

theorem isSet_append (p q : Pk.Bits.Conn) (h : RInv (p ++ q)) (x : Nat) :
    isSet (p ++ q) x = (isSet p x || isSet q x) := by
  induction p with
  | nil => simp [isSet]
  | cons e es ih =>
    rw [List.cons_append] at h ⊢
    have h' := h
    rw [rinv_cons] at h'
    rw [isSet_cons_of_rinv h, ih h'.2.2]
    have : LB e.lo es := by
      have := h'.2.1
      cases es <;> simp_all [LB]; omega
    rw [isSet_cons_of_lb this, Bool.or_assoc]

theorem subInner_spec (a : Run) (bs : Pk.Bits.Conn) (ha : a.lo ≤ a.hi) (hb : RInv bs) :
    (RInv (subInner a bs).1 ∧ LB a.lo (subInner a bs).1 ∧ UB a.hi (subInner a bs).1) ∧
    (RInv (subInner a bs).2 ∧ ∀ k, LB k bs → LB k (subInner a bs).2) := by
  fun_induction subInner a bs <;> grind [= rinv_cons, = lb_cons, = ub_cons, rinv_nil, lb_nil, ub_nil]

theorem subInner_isSet (a : Run) (bs : Pk.Bits.Conn) (ha : a.lo ≤ a.hi) (hb : RInv bs) (x : Nat) :
    isSet (subInner a bs).1 x = (decide (a.lo ≤ x) && decide (x ≤ a.hi) && !isSet bs x) ∧
    (a.hi ≤ x → isSet (subInner a bs).2 x = isSet bs x) := by
  fun_induction subInner a bs <;> grind [= rinv_cons, = lb_cons, = isSet_cons_eq, = isSet_nil]


theorem sub_inv_lb (a b : Pk.Bits.Conn) (ha : RInv a) (hb : RInv b) :
    RInv (Conn.sub a b) ∧ ∀ k, LB k a → LB k (Conn.sub a b) := by
  fun_induction Conn.sub a b with
  | case1 => simp [LB]
  | case2 a as' bs r ih =>
    rw [rinv_cons] at ha
    have h1 := subInner_spec a bs ha.1 hb
    have ih' := ih ha.2.2 h1.2.1
    constructor
    · exact rinv_append a.hi _ _ h1.1.1 ih'.1 h1.1.2.2 (ih'.2 _ ha.2.1)
    · intro k hk
      simp at hk
      exact lb_append _ _ _ (h1.1.2.1.mono hk) (ih'.2 _ (ha.2.1.mono (by omega)))

theorem sub_isSet (a b : Pk.Bits.Conn) (ha : RInv a) (hb : RInv b) (x : Nat) :
    isSet (Conn.sub a b) x = (isSet a x && !isSet b x) := by
  fun_induction Conn.sub a b with
  | case1 => simp [isSet]
  | case2 a as' bs r ih =>
    have hr := (sub_inv_lb (a :: as') bs ha hb).1
    rw [Conn.sub] at hr
    rw [isSet_append _ _ hr, isSet_cons_of_rinv ha]
    rw [rinv_cons] at ha
    have h1 := subInner_spec a bs ha.1 hb
    have h2 := subInner_isSet a bs ha.1 hb x
    rw [ih ha.2.2 h1.2.1, h2.1]
    grind

def inRun (e : Run) (y : Nat) : Bool := decide (e.lo ≤ y) && decide (y ≤ e.hi)

/-- every run of a list visited from the back ends two below `k`; as for `LB`, only the head matters -/
def HB (k : Nat) : List Run → Prop
  | [] => True
  | r :: _ => r.hi + 2 ≤ k

/-- a run list in the order in which `Extract` visits it: descending -/
def DInv : List Run → Prop
  | [] => True
  | e :: rest => e.lo ≤ e.hi ∧ HB e.lo rest ∧ DInv rest

/-- membership that does not depend on the order of the runs; `isSet` on a list that satisfies `RInv` (`isSet_eq_anyR`) -/
def anyR (rev : List Run) (x : Nat) : Bool := rev.any (inRun · x)

theorem hb_cons (k r rest) : HB k (r :: rest) ↔ r.hi + 2 ≤ k := Iff.rfl
theorem anyR_nil (x) : anyR [] x = false := rfl
theorem anyR_cons (e rest x) : anyR (e :: rest) x = (decide (e.lo ≤ x) && decide (x ≤ e.hi) || anyR rest x) := by
  simp [anyR, inRun]

theorem anyR_append (a b : List Run) (x : Nat) : anyR (a ++ b) x = (anyR a x || anyR b x) := by
  simp [anyR]

theorem anyR_above {k rev} (hd : DInv rev) (h : HB k rev) {x} (hx : k ≤ x + 1) : anyR rev x = false := by
  induction rev generalizing k with
  | nil => rfl
  | cons e rest ih =>
    have h : e.hi + 2 ≤ k := h
    rw [anyR_cons, ih hd.2.2 hd.2.1 (by have := hd.1; omega), Bool.or_false]
    simp only [Bool.and_eq_false_iff, decide_eq_false_iff_not]; omega

theorem rev_append {rev q : List Run} {k : Nat} (hd : DInv rev) (hq : RInv q) (hk : HB k rev) (hl : LB k q) :
    RInv (rev.reverse ++ q) ∧ ∀ x, isSet (rev.reverse ++ q) x = (anyR rev x || isSet q x) := by
  induction rev generalizing q k with
  | nil => simp [anyR]; exact hq
  | cons e rest ih =>
    have he : RInv (e :: q) := (rinv_cons _ _).2 ⟨hd.1, hl.mono hk, hq⟩
    have ⟨i1, i2⟩ := ih hd.2.2 he hd.2.1 (Nat.le_refl _)
    rw [List.reverse_cons, List.append_assoc, List.singleton_append]
    refine ⟨i1, fun x => ?_⟩
    rw [i2, isSet_cons_of_rinv he, anyR_cons]; ac_rfl

theorem isSet_eq_anyR (c : Pk.Bits.Conn) (h : RInv c) (x : Nat) : isSet c x = anyR c.reverse x := by
  induction c with
  | nil => rfl
  | cons e es ih =>
    rw [isSet_cons_of_rinv h, ih ((rinv_cons _ _).1 h).2.2]
    simp only [anyR, List.any_reverse, List.any_cons]; rfl

theorem dinv_reverse (c done : List Run) (h : RInv c) (hd : DInv done) (hl : ∀ e es, c = e :: es → HB e.lo done) :
    DInv (c.reverse ++ done) := by
  induction c generalizing done with
  | nil => exact hd
  | cons e es ih =>
    obtain ⟨h1, h2, h3⟩ := (rinv_cons _ _).1 h
    rw [List.reverse_cons, List.append_assoc]
    exact ih _ h3 ⟨h1, hl e es rfl, hd⟩ fun e2 es2 h => by subst h; exact h2

/-- the per-run action of `Inject`'s shifting loop -/
def injF (bit : Nat) (e : Run) : Run :=
  if bit > e.hi then e else if bit ≤ e.lo then ⟨e.lo + 1, e.hi + 1⟩ else ⟨e.lo, e.hi + 1⟩

theorem map_injF_below {bit k : Nat} {rev : List Run} (hd : DInv rev) (hk : HB k rev) (hb : k ≤ bit + 1) :
    rev.map (injF bit) = rev := by
  induction rev generalizing k with
  | nil => rfl
  | cons r rs ih =>
    have : r.hi + 2 ≤ k := hk
    rw [List.map_cons, ih hd.2.2 hd.2.1 (by have := hd.1; omega)]
    simp [injF]; omega

/-- `Inject`'s loop stops at the first run below `bit`: the runs behind it are below as well -/
theorem injectRev_eq_map (rev : List Run) (bit : Nat) (h : DInv rev) : injectRev rev bit = rev.map (injF bit) := by
  induction rev with
  | nil => rfl
  | cons e rest ih =>
    simp only [injectRev, List.map_cons]
    split
    · rw [map_injF_below h.2.2 h.2.1 (by have := h.1; omega)]; simp [injF, *]
    · rw [ih h.2.2]; simp [injF, *]

theorem injectShift_eq_map (c : Pk.Bits.Conn) (bit : Nat) (h : RInv c) : injectShift c bit = c.map (injF bit) := by
  unfold injectShift
  rw [injectRev_eq_map _ _ (by simpa using dinv_reverse c [] h trivial fun _ _ _ => trivial)]
  simp

theorem injF_bounds (bit : Nat) {e : Run} (h : e.lo ≤ e.hi) :
    (injF bit e).lo ≤ (injF bit e).hi ∧ e.lo ≤ (injF bit e).lo ∧ (bit ≤ e.lo → (injF bit e).lo = e.lo + 1) ∧
    (injF bit e).hi ≤ e.hi + 1 ∧ (e.hi < bit → (injF bit e).hi = e.hi) := by
  unfold injF
  by_cases h1 : bit > e.hi
  · rw [if_pos h1]; omega
  · by_cases h2 : bit ≤ e.lo
    · rw [if_neg h1, if_pos h2]; dsimp only; omega
    · rw [if_neg h1, if_neg h2]; dsimp only; omega

theorem map_injF_inv_lb (c : Pk.Bits.Conn) (bit : Nat) (h : RInv c) :
    RInv (c.map (injF bit)) ∧ (∀ k, LB k c → LB k (c.map (injF bit))) ∧
      (∀ k, bit ≤ k → LB k c → LB (k + 1) (c.map (injF bit))) := by
  induction c with
  | nil => simp
  | cons e es ih =>
    rw [rinv_cons] at h
    obtain ⟨ih1, ih2, ih3⟩ := ih h.2.2
    obtain ⟨b1, b2, b3, b4, b5⟩ := injF_bounds bit h.1
    refine ⟨(rinv_cons _ _).2 ⟨b1, ?_, ih1⟩, fun k hk => Nat.le_trans hk b2, fun k hb hk => ?_⟩
    · by_cases hb : bit ≤ e.hi + 2
      · exact (ih3 _ hb h.2.1).mono (by omega)
      · exact (ih2 _ h.2.1).mono (by have := b5 (by omega); omega)
    · have hk : k ≤ e.lo := hk
      have := b3 (Nat.le_trans hb hk); simp only [List.map_cons, lb_cons]; omega

theorem map_injF_isSet (c : Pk.Bits.Conn) (bit : Nat) (h : RInv c) (x : Nat) (hx : x ≠ bit) :
    isSet (c.map (injF bit)) x = if x < bit then isSet c x else isSet c (x - 1) := by
  induction c with
  | nil => simp [isSet]
  | cons e es ih => grind [= rinv_cons, = lb_cons, injF, = isSet_cons_eq, = isSet_nil]


theorem inject_inv (c : Pk.Bits.Conn) (bit : Nat) (v : Bool) (h : RInv c) : RInv (inject c bit v) := by
  unfold inject
  simp only [injectShift_eq_map c bit h]
  have := (map_injF_inv_lb c bit h).1
  split
  · exact (set_inv_lb _ _ this).1
  · exact (unset_inv_lb _ _ this).1

theorem inject_isSet (c : Pk.Bits.Conn) (bit : Nat) (v : Bool) (h : RInv c) (x : Nat) :
    isSet (inject c bit v) x = if x < bit then isSet c x else if x = bit then v else isSet c (x - 1) := by
  unfold inject
  simp only [injectShift_eq_map c bit h]
  have h1 := (map_injF_inv_lb c bit h).1
  by_cases hx : x = bit
  · subst hx
    cases v <;> simp [set_isSet _ _ h1, unset_isSet _ _ h1]
  · have := map_injF_isSet c bit h x hx
    cases v <;> simp [set_isSet _ _ h1, unset_isSet _ _ h1, hx, this]

theorem make_inv (lo hi : Nat) (h : lo ≤ hi) : RInv (make lo hi) := by simp [make, RInv, h]
theorem flip_inv (c : Pk.Bits.Conn) (b : Nat) (h : RInv c) : RInv (Conn.flip c b) := by
  unfold Conn.flip; split
  · exact (unset_inv_lb c b h).1
  · exact (set_inv_lb c b h).1

theorem flip_isSet (c : Pk.Bits.Conn) (b : Nat) (h : RInv c) (x : Nat) :
    isSet (Conn.flip c b) x = if x = b then !isSet c x else isSet c x := by
  unfold Conn.flip; split
  · rw [unset_isSet c b h]; by_cases hx : x = b <;> simp_all
  · rw [set_isSet c b h]; by_cases hx : x = b <;> simp_all

theorem isZero_iff (c : Pk.Bits.Conn) (h : RInv c) : c.isZero = true ↔ ∀ x, c.isSet x = false := by
  cases c with
  | nil => simp [isZero, isSet]
  | cons e es =>
    rw [rinv_cons] at h
    simp [isZero]
    refine ⟨e.lo, ?_⟩
    simp [isSet]; omega

theorem isSet_true_ge {c : Pk.Bits.Conn} {k x : Nat} (h : LB k c) (hx : isSet c x = true) : k ≤ x := by
  by_cases hk : x < k
  · rw [isSet_of_lb h hk] at hx; cases hx
  · omega


theorem len_single (e : Run) : len [e] = e.hi + 1 := by simp [len]
theorem len_cons2 (e e2 : Run) (es : Pk.Bits.Conn) : len (e :: e2 :: es) = len (e2 :: es) := by
  simp [len, List.getLast?_cons_cons]

theorem len_spec (c : Pk.Bits.Conn) (h : RInv c) :
    (∀ x, len c ≤ x → isSet c x = false) ∧
    (∀ e es, c = e :: es → e.hi < len c ∧ isSet c (len c - 1) = true) := by
  induction c with
  | nil => simp [isSet]
  | cons e es ih =>
    cases es with
    | nil => 
      simp [RInv] at h
      simp [len_single, isSet]
      exact ⟨fun x h1 _ => by omega, h⟩
    | cons e2 es =>
      have h' := h
      rw [rinv_cons] at h'
      have ih' := ih h'.2.2
      have h2 := ih'.2 e2 es rfl
      have hlb : e.hi + 2 ≤ e2.lo := h'.2.1
      have h3 := h'.2.2; rw [rinv_cons] at h3
      rw [len_cons2]
      refine ⟨fun x hx => ?_, ?_⟩
      · rw [isSet_cons_of_rinv h, ih'.1 x hx]; simp; omega
      · intro e' es' heq
        simp at heq
        rw [← heq.1]
        refine ⟨by omega, ?_⟩
        rw [isSet_cons_of_rinv h, h2.2]; simp

theorem len_sup (c : Pk.Bits.Conn) (h : RInv c) :
    (∀ x, c.len ≤ x → c.isSet x = false) ∧ (0 < c.len → c.isSet (c.len - 1) = true) := by
  refine ⟨(len_spec c h).1, ?_⟩
  cases c with
  | nil => simp [len]
  | cons e es => intro _; exact ((len_spec _ h).2 e es rfl).2


/-- a run that ends below `n` is counted in full: cut `range n` at `lo` and behind `hi` -/
theorem countP_run (e : Run) (n : Nat) (h : e.lo ≤ e.hi) (hn : e.hi < n) :
    (List.range n).countP (inRun e) = 1 + e.hi - e.lo := by
  obtain ⟨k, rfl⟩ : ∃ k, n = e.lo + ((1 + e.hi - e.lo) + k) := ⟨n - e.hi - 1, by omega⟩
  rw [countP_range_add, countP_range_add, List.countP_eq_zero.2, List.countP_eq_length.2, List.countP_eq_zero.2,
    List.length_range, Nat.zero_add, Nat.add_zero]
  all_goals intro x hx; have := List.mem_range.1 hx; simp only [inRun, Bool.and_eq_true, decide_eq_true_eq]; omega

theorem countP_or_disjoint (l : List Nat) (p q : Nat → Bool) (h : ∀ x, p x = true → q x = false) :
    l.countP (fun x => p x || q x) = l.countP p + l.countP q := by
  induction l with
  | nil => simp
  | cons a l ih =>
    simp only [List.countP_cons, ih]
    have := h a
    cases hp : p a <;> cases hq : q a <;> simp_all <;> omega

theorem onesCount_card_ge (c : Pk.Bits.Conn) (h : RInv c) (n : Nat) (hn : len c ≤ n) :
    (List.range n).countP c.isSet = c.onesCount := by
  induction c with
  | nil => simp [onesCount]; intro x _; rfl
  | cons e es ih =>
    have h' := h
    rw [rinv_cons] at h'
    have hl := (len_spec _ h).2 e es rfl
    have hles : len es ≤ n := by
      cases es with
      | nil => simp [len]
      | cons e2 es => rw [len_cons2] at hn; exact hn
    have : (isSet (e :: es)) = fun x => inRun e x || isSet es x := by
      funext x; exact isSet_cons_of_rinv h x
    rw [this, countP_or_disjoint, countP_run e n h'.1 (by omega), ih h'.2.2 hles, onesCount]
    intro x hx
    simp [inRun] at hx
    exact isSet_of_lb h'.2.1 (by omega)

theorem onesCount_card (c : Pk.Bits.Conn) (h : RInv c) :
    c.onesCount = (List.range c.len).countP c.isSet :=
  (onesCount_card_ge c h _ (Nat.le_refl _)).symm


theorem isSet_head {e : Run} {es : Pk.Bits.Conn} (h : RInv (e :: es)) : isSet (e :: es) e.lo = true := by
  rw [rinv_cons] at h; simp [isSet]; omega

theorem eq_of_isSet_eq (a b : Pk.Bits.Conn) (ha : RInv a) (hb : RInv b)
    (h : ∀ x, isSet a x = isSet b x) : a = b := by
  induction a generalizing b with
  | nil =>
    cases b with
    | nil => rfl
    | cons f fs => have := h f.lo; rw [isSet_head hb] at this; simp [isSet] at this
  | cons e es ih =>
    cases b with
    | nil => have := h e.lo; rw [isSet_head ha] at this; simp [isSet] at this
    | cons f fs =>
      have ha' := ha; have hb' := hb
      rw [rinv_cons] at ha' hb'
      have hlo : e.lo = f.lo := by
        have h1 := h e.lo; rw [isSet_head ha] at h1
        have h2 := h f.lo; rw [isSet_head hb] at h2
        have := isSet_true_ge (c := f :: fs) (k := f.lo) (by simp) h1.symm
        have := isSet_true_ge (c := e :: es) (k := e.lo) (by simp) h2
        omega
      have hhi : e.hi = f.hi := by
        have h1 := h (e.hi + 1); have h2 := h (f.hi + 1)
        rw [isSet_cons_of_rinv ha, isSet_cons_of_rinv hb] at h1 h2
        have := isSet_of_lb ha'.2.1 (x := e.hi + 1) (by omega)
        have := isSet_of_lb hb'.2.1 (x := f.hi + 1) (by omega)
        grind
      have hef : e = f := by cases e; cases f; simp_all
      subst hef
      congr 1
      apply ih _ ha'.2.2 hb'.2.2
      intro x
      have h1 := h x
      rw [isSet_cons_of_rinv ha, isSet_cons_of_rinv hb] at h1
      by_cases hx : x < e.hi + 2
      · rw [isSet_of_lb ha'.2.1 hx, isSet_of_lb hb'.2.1 hx]
      · grind

theorem equal_iff (a b : Pk.Bits.Conn) (ha : RInv a) (hb : RInv b) :
    Conn.equal a b = true ↔ a.isSet = b.isSet := by
  simp only [Conn.equal, decide_eq_true_eq]
  constructor
  · intro h; rw [h]
  · intro h; exact eq_of_isSet_eq a b ha hb (fun x => congrFun h x)

/-- `r` is a correct outcome of `Extract` at `bit`: `rev` is what the loop has still to visit, `acc` the visited
    part, already moved down by one -/
def ExtractOk (rev acc : Pk.Bits.Conn) (bit : Nat) (r : Pk.Bits.Conn × Bool) : Prop :=
  RInv r.1 ∧ (∀ x, isSet r.1 x = ((if x < bit then anyR rev x else anyR rev (x + 1)) || isSet acc x)) ∧
  r.2 = anyR rev bit

/-- every exit of the loop: the runs `cons` at the front of the visiting order are consumed and `q` stands for
    them and `acc`; the rest `rev'` lies below `bit` and is put back unchanged -/
theorem extractOk_emit {rev' cons q acc : List Run} {bit k : Nat} {flag : Bool}
    (hd : DInv rev') (hk : HB k rev') (hkb : k ≤ bit + 1) (hq : RInv q) (hl : LB k q)
    (hpt : ∀ x, isSet q x = ((if x < bit then anyR cons x else anyR cons (x + 1)) || isSet acc x))
    (hf : flag = anyR cons bit) : ExtractOk (cons ++ rev') acc bit (rev'.reverse ++ q, flag) := by
  have A := fun x => anyR_above (x := x) hd hk
  have ⟨r1, r2⟩ := rev_append hd hq hk hl
  refine ⟨r1, fun x => ?_, ?_⟩
  · rw [r2, hpt, anyR_append, anyR_append]
    split
    · ac_rfl
    · rw [A x (by omega), A (x + 1) (by omega)]; simp
  · show flag = _
    rw [hf, anyR_append, A bit hkb, Bool.or_false]

theorem extractGo_spec (rev acc : Pk.Bits.Conn) (bit : Nat) (h1 : DInv rev) (h2 : RInv acc)
    (h3 : LB (bit + 1) acc) (h4 : ∀ e rest, rev = e :: rest → LB (e.hi + 1) acc) :
    ExtractOk rev acc bit (extractGo rev acc bit) := by
  fun_induction extractGo rev acc bit
  case case1 => exact ⟨h2, fun x => by simp [anyR], rfl⟩
  -- the run ends below `bit`: nothing is consumed
  case case2 e rev acc bit c1 =>
    exact extractOk_emit (cons := []) (k := e.hi + 2) h1 (Nat.le_refl _) (by omega) h2 (h3.mono (by omega))
      (fun x => by simp [anyR]) rfl
  -- the run is `bit` alone: it goes
  case case3 e rev acc bit c1 c2 =>
    exact extractOk_emit (cons := [e]) h1.2.2 h1.2.1 (by omega) h2 (h3.mono (by omega))
      (fun x => by grind [= anyR_cons, = anyR_nil]) (by grind [= anyR_cons, = anyR_nil])
  -- the run contains `bit` and more: it loses one position at its upper end
  case case4 e rev acc bit c1 c2 e1 c3 =>
    have h4 := h4 _ _ rfl
    have hle := h1.1
    simp only [e1] at *
    exact extractOk_emit (cons := [e]) (q := ⟨e.lo, e.hi - 1⟩ :: acc) h1.2.2 h1.2.1 (by omega)
      ((rinv_cons _ _).2 ⟨by simp only; omega, h4.mono (by simp only; omega), h2⟩) (Nat.le_refl _)
      (fun x => by grind [= anyR_cons, = anyR_nil, = isSet_cons_eq]) (by grind [= anyR_cons, = anyR_nil])
  -- the run starts just above `bit`: it moves down; it is the last one,
  case case5 e acc e1 e2 c1 c2 c3 =>
    have h4 := h4 _ _ rfl
    have hle := h1.1
    simp only [e1, e2] at *
    exact extractOk_emit (rev' := []) (cons := [e]) (q := ⟨e.lo - 1, e.hi - 1⟩ :: acc) (k := 0) trivial trivial
      (Nat.zero_le _) ((rinv_cons _ _).2 ⟨by simp only; omega, h4.mono (by simp only; omega), h2⟩) (Nat.zero_le _)
      (fun x => by grind [= anyR_cons, = anyR_nil, = isSet_cons_eq]) (by grind [= anyR_cons, = anyR_nil])
  -- or does not come to touch its predecessor `pp`,
  case case6 e acc e1 e2 pp rev c5 c1 c2 c3 =>
    have h4 := h4 _ _ rfl
    have hle := h1.1
    have hpp : pp.hi + 2 ≤ e.lo := h1.2.1
    simp only [e1, e2] at *
    exact extractOk_emit (cons := [e]) (q := ⟨e.lo - 1, e.hi - 1⟩ :: acc) (k := e.lo - 1) h1.2.2
      (by simp only [hb_cons]; omega) (by omega)
      ((rinv_cons _ _).2 ⟨by simp only; omega, h4.mono (by simp only; omega), h2⟩) (Nat.le_refl _)
      (fun x => by grind [= anyR_cons, = anyR_nil, = isSet_cons_eq]) (by grind [= anyR_cons, = anyR_nil])
  -- or `pp` ends just below `bit` and the two become one run
  case case7 e acc e1 e2 pp rev c5 c1 c2 c3 =>
    have h4 := h4 _ _ rfl
    have hle := h1.1
    have hpp : pp.hi + 2 ≤ e.lo := h1.2.1
    have hpl := h1.2.2.1
    simp only [e1, e2] at *
    exact extractOk_emit (cons := [e, pp]) (q := ⟨pp.lo, e.hi - 1⟩ :: acc) h1.2.2.2.2 h1.2.2.2.1 (by omega)
      ((rinv_cons _ _).2 ⟨by simp only; omega, h4.mono (by simp only; omega), h2⟩) (Nat.le_refl _)
      (fun x => by grind [= anyR_cons, = anyR_nil, = isSet_cons_eq]) (by grind [= anyR_cons, = anyR_nil])
  -- the run lies wholly above `bit`: it moves down onto `acc` and the loop goes on
  case case8 e rev acc bit c1 c2 e1 c3 e2 c4 ih =>
    have h4 := h4 _ _ rfl
    have hle := h1.1
    simp only [e1, e2] at *
    have ⟨i1, i2, i3⟩ := ih h1.2.2 ((rinv_cons _ _).2 ⟨by simp only; omega, h4.mono (by simp only; omega), h2⟩)
      (by simp only [lb_cons]; omega) (fun e' rest h => by subst h; have : e'.hi + 2 ≤ e.lo := h1.2.1; simp only [lb_cons]; omega)
    refine ⟨i1, fun x => ?_, ?_⟩
    -- a quantified hypothesis left in the context makes `grind` several times dearer here
    · rw [i2]; simp only [anyR_cons e]; clear i2 ih; grind [= isSet_cons_eq]
    · rw [i3, anyR_cons e]; grind

theorem extract_spec (c : Pk.Bits.Conn) (bit : Nat) (h : RInv c) :
    RInv (extract c bit).1 ∧
    (∀ x, isSet (extract c bit).1 x = (if x < bit then isSet c x else isSet c (x + 1))) ∧
    (extract c bit).2 = isSet c bit := by
  have := extractGo_spec c.reverse [] bit (by simpa using dinv_reverse c [] h trivial fun _ _ _ => trivial)
    trivial trivial fun _ _ _ => trivial
  simpa only [ExtractOk, isSet_eq_anyR c h, isSet_nil, Bool.or_false, extract] using this

theorem or_inv (a b : Pk.Bits.Conn) (ha : RInv a) (hb : RInv b) : RInv (Conn.or a b) :=
  (orGo_inv_lb none a b ha hb trivial).1

theorem or_isSet (a b : Pk.Bits.Conn) (ha : RInv a) (hb : RInv b) (x : Nat) :
    isSet (Conn.or a b) x = (isSet a x || isSet b x) := by
  have := orGo_isSet none a b ha hb trivial x
  simpa [curSet, Conn.or] using this

theorem xor_inv (a b : Pk.Bits.Conn) (ha : RInv a) (hb : RInv b) : RInv (Conn.xor a b) :=
  (mergeTouching_inv_lb _ (xorGo_inv_lb a b ha hb).1).1

theorem xor_isSet (a b : Pk.Bits.Conn) (ha : RInv a) (hb : RInv b) (x : Nat) :
    isSet (Conn.xor a b) x = (isSet a x != isSet b x) := by
  unfold Conn.xor
  rw [mergeTouching_isSet _ (xorGo_inv_lb a b ha hb).1, xorGo_isSet a b ha hb]

end Conn
end Pk.Proofs.Bits
