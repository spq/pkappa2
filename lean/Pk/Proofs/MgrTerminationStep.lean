/-
  Every job completion lowers `mu`.  The completions end alike: start the jobs that are needed, then `release`
  the files the finished job held.  That tail does not undo a decrease in the first six components
  (`TailOK.lexLt`), so the tagging and converter completions are compared with `s` just before their tail.  The
  import completion lowers `m1`, which nothing else in it touches; the merge completion changes `m7` only.

  `ConvPlain` as a predicate on every tag (`OK3`).  It is preserved by every transition (`C09.convPlain_step`, an
  instance of `Pk.Mgr.tj_step`): the API calls keep it by refusing; the one step that writes references without asking
  is the tagging completion, which stores those of the job's snapshot, and they are the table's as long as the
  definition is the snapshot's (`Reach.factsOK`).
-/
import Pk.Proofs.MgrTermination
import Pk.Proofs.MgrTagsStep
import Pk.Proofs.MgrTagsAll

namespace Pk.Proofs.MgrTermination
open Pk.Mgr Pk.Proofs.MgrTags
open Pk.Proofs.MgrConv (cOf qOf)

theorem step_importDone_run {s : St} {jn : Nat} {held : List Nat} (hj : s.jImport = some (jn, held))
    (processed usednew : Nat) (created : List (Nat × List Nat)) (upd rst add : List Nat) (st : Started) :
    (step s (.importDone processed usednew created upd rst add) st).1 =
      importDoneSt s jn held processed usednew created upd rst add st := by
  rw [step_importDone_eq, hj]; rfl

theorem step_tagDone_run {s : St} {name : String} {snap : Tag} {held : List Nat}
    (hj : s.jTag = some (name, snap, held)) (result : List Nat) (st : Started) :
    (step s (.tagDone name result) st).1 = tagDoneSt s name snap held result st := by
  rw [step_tagDone_eq, hj]; exact congrArg Prod.fst (if_neg (by simp))

theorem step_mergeDone_run {s : St} {off : Nat} {held : List Nat} (hj : s.jMerge = some (off, held))
    (merged : List (Nat × List Nat)) (st : Started) :
    (step s (.mergeDone merged) st).1 = mergeDoneSt s off held merged := by
  rw [step_mergeDone_eq, hj]; rfl

theorem step_convertDone_run {s : St} {sets : List (String × IdSet)} {held : List Nat}
    (hj : s.jConv = some (sets, held)) (st : Started) :
    (step s .convertDone st).1 = convertDoneSt s sets held st := by
  rw [step_convertDone_eq, hj]; rfl

/-- `Y` is `X` after the tail of a completion.  `m3` may go up, but then `m2` goes down (`startConverter_meas`). -/
structure TailOK (X Y : St) : Prop where
  h1 : m1 Y = m1 X
  h2 : m2 Y ≤ m2 X
  h3 : m3 Y ≤ m3 X ∨ m2 Y < m2 X
  h4 : m4 Y ≤ m4 X
  h5 : m5 Y ≤ m5 X
  h6 : m6 Y = m6 X

theorem lex_step {y x s : Nat} {P Q : Prop} (hyx : y ≤ x) (hx : x < s ∨ x = s ∧ Q)
    (hq : y = s → x = s → Q → P) : y < s ∨ y = s ∧ P := by
  rcases hx with h | ⟨e, q⟩
  · exact Or.inl (Nat.lt_of_le_of_lt hyx h)
  · rcases Nat.lt_or_eq_of_le hyx with h | h
    · exact Or.inl (e ▸ h)
    · exact Or.inr ⟨h.trans e, hq (h.trans e) e q⟩

theorem TailOK.lexLt {s X Y : St} (h : TailOK X Y)
    (hx : m1 X < m1 s ∨ m1 X = m1 s ∧ (m2 X < m2 s ∨ m2 X = m2 s ∧ (m3 X < m3 s ∨ m3 X = m3 s ∧
      (m4 X < m4 s ∨ m4 X = m4 s ∧ (m5 X < m5 s ∨ m5 X = m5 s ∧ m6 X < m6 s))))) :
    LexLt (mu Y) (mu s) :=
  lex7 <| lex_step (Nat.le_of_eq h.h1) hx fun _ _ hx => lex_step h.h2 hx fun e2 e2' hx =>
    lex_step (h.h3.resolve_right (by omega)) hx fun _ _ hx => lex_step h.h4 hx fun _ _ hx =>
    lex_step h.h5 hx fun _ _ hx => Or.inl (h.h6 ▸ hx)

/-- stated up to `core6` because the completions go on with `startMerge` and `release`, which the first six
    components do not see -/
theorem tail_ok {X Y : St} {c : Option String} (hk : core6 Y = core6 (startConverter (startTagging X c)))
    (hs : Sorted Y.tags)
    (hb : JConvLt Y) : TailOK X Y := by
  simp only [core6, Prod.mk.injEq] at hk
  obtain ⟨hq, hc, ht⟩ := hk
  obtain ⟨c2, c3, c5⟩ := mC_congr hc
  obtain ⟨t4, t6⟩ := mT_congr (ht.trans (startConverter_frame coreT _))
  obtain ⟨d2, d3, d5⟩ := mC_congr (startTagging_frame coreC X c)
  simp only [coreC, coreT, Prod.mk.injEq] at hc ht
  obtain ⟨e2, e3, e5⟩ := startConverter_meas (startTagging X c) (by
    unfold JConvLt; rw [← hc.2.2.2.1, ← hc.2.1]; exact hb)
  have hsX : Sorted X.tags := by
    rw [← MgrSettle.startTagging_tags X c, ← startConverter_frame (·.tags) _, ← ht.1]; exact hs
  obtain ⟨hjb, hsur⟩ := startTagging_meas X c hsX
  rw [startConverter_frame (·.queue) _, startTagging_frame (·.queue) _ _] at hq
  refine ⟨congrArg List.length hq, ?_, ?_, ?_, ?_, ?_⟩
  · rw [c2, ← d2]; exact e2
  · rw [c2, c3, ← d2, ← d3]; exact e3
  · rw [t4]; unfold m4; rw [MgrSettle.startTagging_tags]
    exact Nat.add_le_add (Nat.add_le_add_left hjb _) hsur
  · rw [c5, ← d5]; exact e5
  · rw [t6]; unfold m6; rw [MgrSettle.startTagging_tags]

theorem importDone_lt (s : St) (jn : Nat) (held : List Nat) (processed usednew : Nat)
    (created : List (Nat × List Nat)) (upd rst add : List Nat) (st : Started)
    (hp : 0 < processed ∧ processed ≤ s.queue.length) :
    LexLt (mu (importDoneSt s jn held processed usednew created upd rst add st)) (mu s) := by
  apply lex7
  left
  simp only [importDoneSt, m1, jobTail_frame (·.queue) _ _, idQueue_frame (·.queue) _,
    idApply_frame (·.queue) _ _ _ _ _ _, release_frame (·.queue) _ _, List.length_drop]
  omega

theorem startMerge_m7 (Z : St) (hm : Z.merge = false) :
    (startMerge Z).idx = Z.idx ∧ (startMerge Z).unm = Z.unm ∧
    ((startMerge Z).merge = true → Z.unm < Z.idx.length) := by
  refine startMerge_cases (P := fun Z' => Z'.idx = Z.idx ∧ Z'.unm = Z.unm ∧ (Z'.merge = true → Z.unm < Z.idx.length))
    Z ⟨rfl, rfl, fun h => by rw [hm] at h; cases h⟩ fun i _ hi => ⟨rfl, rfl, fun _ => ?_⟩
  · have := MgrSettle.mergeOffsetGo_bound Z Z.idx 0 Z.nrec i hi
    omega

/-- a merge gives up on one more file, or replaces at least two files (`h2`, from `MergeOK`) by files of which it
    gives up on all but one: either way `idx.length - unm` drops -/
theorem mdApply_gap (s : St) (off : Nat) (held : List Nat) (merged : List (Nat × List Nat))
    (h2 : merged ≠ [] → 2 ≤ held.length) (hl : held.length ≤ s.idx.length - off) :
    (mdApply s off held merged).idx.length + s.unm + 1 ≤ s.idx.length + (mdApply s off held merged).unm := by
  cases merged with
  | nil => exact Nat.le_of_eq (Nat.add_assoc _ _ _)
  | cons a l =>
    have := h2 (List.cons_ne_nil a l)
    simp only [mdApply, List.isEmpty_cons, Bool.false_eq_true, if_false, List.length_append, List.length_take,
      List.length_drop, List.length_map, List.length_cons, MgrLocks.release_idx, release_frame (·.unm) _ _]
    omega

theorem mergeDoneSt_fr {γ : Type _} (g : St → γ)
    (h : ∀ s u f i m n mg j,
      g { s with used := u, files := f, idx := i, unm := m, nrec := n, merge := mg, jMerge := j } = g s)
    (s : St) (off : Nat) (held : List Nat) (merged : List (Nat × List Nat)) :
    g (mergeDoneSt s off held merged) = g s := by
  unfold mergeDoneSt
  refine (release_frame g _ _ fun _ _ _ => h ..).trans ((startMerge_frame g _ fun _ _ _ _ => h ..).trans ?_)
  exact (h (mdApply ..) ..).trans ((mdApply_frame g _ _ _ _ fun _ _ _ _ _ _ => h ..).trans (h s ..))

theorem m7_drop {L u L' u' b : Nat} (h : L' + u + 1 ≤ L + u') (hb : b = 0 ∨ (b = 1 ∧ u' < L')) :
    2 * (L' - u') + b < 2 * (L - u) + 1 := by
  omega

theorem mergeDone_lt (s : St) (off : Nat) (held : List Nat) (merged : List (Nat × List Nat))
    (hm : s.merge = true) (h2 : merged ≠ [] → 2 ≤ held.length)
    (hh : held = (s.idx.drop off).take held.length) :
    LexLt (mu (mergeDoneSt s off held merged)) (mu s) := by
  have h6 := mergeDoneSt_fr core6 (fun _ _ _ _ _ _ _ _ => rfl) s off held merged
  simp only [core6, Prod.mk.injEq] at h6
  obtain ⟨hq, hc, ht⟩ := h6
  obtain ⟨c2, c3, c5⟩ := mC_congr hc
  obtain ⟨t4, t6⟩ := mT_congr ht
  refine lex7 (Or.inr ⟨congrArg List.length hq, Or.inr ⟨c2, Or.inr ⟨c3, Or.inr ⟨t4, Or.inr ⟨c5, Or.inr ⟨t6, ?_⟩⟩⟩⟩⟩⟩)
  have hl : held.length ≤ s.idx.length - off := by
    have := congrArg List.length hh
    simp only [List.length_take, List.length_drop] at this
    omega
  have hgap := mdApply_gap { s with jMerge := none } off held merged h2 hl
  unfold mergeDoneSt
  rw [m7_congr (release_frame coreM _ _)]
  obtain ⟨e1, e2, e3⟩ := startMerge_m7 { mdApply { s with jMerge := none } off held merged with merge := false } rfl
  have hs7 : m7 s = 2 * (s.idx.length - s.unm) + 1 := by simp only [m7, hm, if_true]
  rw [hs7]
  unfold m7
  rw [e1, e2]
  cases hmg : (startMerge { mdApply { s with jMerge := none } off held merged with merge := false }).merge with
  | false => exact m7_drop hgap (Or.inl rfl)
  | true => exact m7_drop hgap (Or.inr ⟨rfl, e3 hmg⟩)

theorem m3_congr {a b : St} (h1 : a.convs = b.convs) (h4 : a.jConv = b.jConv) : m3 a = m3 b := by
  simp only [m3, h1, h4]

theorem m2_congr {a b : St} (h1 : a.convs = b.convs) (h2 : a.all = b.all) (h3 : a.cached = b.cached) :
    m2 a = m2 b := by
  simp only [m2, cOf, h1, h2, h3]

theorem cdMark_noop (s : St) (p : String × IdSet) (h : ¬ (p.1 ∈ s.convs ∧ p.2 ≠ [])) : cdMark s p = s := by
  unfold cdMark
  split
  · rfl
  · next hc =>
    have hp : p.2 = [] := Classical.byContradiction fun hp => h ⟨by simpa using hc, hp⟩
    have hF : ∀ t, cdF s.all [] t = t := fun t => ite_same id rfl (ite_same id rfl rfl)
    rw [hp, show s.tags.map (fun q => (q.1, cdF s.all [] q.2)) = s.tags by simp only [hF]; exact List.map_id' _]
    rfl

theorem cdFold_noop (sets : List (String × IdSet)) (s : St)
    (h : ∀ p ∈ sets, ¬ (p.1 ∈ s.convs ∧ p.2 ≠ [])) : sets.foldl cdMark s = s :=
  foldl_inv_mem (· = s) cdMark sets (fun _ p hp e => e ▸ cdMark_noop s p (h p hp)) s rfl

theorem jb_inherit (s : St) (hub : ∀ n t, sget s.tags n = some t → ∀ id, id ∈ t.unc → id < s.all) :
    jb (inherit s) ≤ jb s := by
  unfold jb
  by_cases hb : jobBad s = true
  · simp only [hb, if_true]; split <;> omega
  · have hb' : jobBad s = false := by simpa using hb
    suffices h : jobBad (inherit s) = false by simp [h]
    unfold jobBad at hb' ⊢
    have hjt : (inherit s).jTag = s.jTag := rfl
    rw [hjt]
    cases hj : s.jTag with
    | none => rfl
    | some q =>
      obtain ⟨n, snap, hh⟩ := q
      rw [hj] at hb'
      dsimp only at hb' ⊢
      cases hg : sget s.tags n with
      | none => rw [hg] at hb'; cases hb'
      | some ot =>
        rw [hg] at hb'
        dsimp only at hb'
        obtain ⟨t', ht', hrel⟩ := (MgrTags.inherit_keepR (g := False) s n).1 ot hg
        rw [ht']
        dsimp only
        simp only [Bool.not_eq_false', Bool.and_eq_true, beq_iff_eq, Bool.not_eq_true',
          List.isEmpty_eq_false_iff] at hb' ⊢
        obtain ⟨⟨_, r2, _, _, _, _, r7⟩, r8⟩ := hrel.grel
        refine ⟨⟨r2.trans hb'.1.1, r7.trans hb'.1.2⟩, ?_⟩
        obtain ⟨x, hx⟩ := List.exists_mem_of_ne_nil _ hb'.2
        exact List.ne_nil_of_mem (r8 x hx (hub n ot hg x hx))

theorem m4_inherit (s : St) (hs : Sorted s.tags)
    (hub : ∀ n t, sget s.tags n = some t → ∀ id, id ∈ t.unc → id < s.all) : m4 (inherit s) ≤ m4 s := by
  have e1 := tcount_mono (inherit_sweep s hs).1 (inherit_sweep s hs).2.tainted
  have e2 := jb_inherit s hub
  have e3 : sur (inherit s) = sur s := by
    unfold sur masksEmpty
    rw [length_of_keys (inherit_sweep s hs).1]
    rfl
  exact Nat.add_le_add (Nat.add_le_add (Nat.mul_le_mul_left 2 e1) e2) (Nat.le_of_eq e3)

theorem inherit_queue (s : St) : (inherit s).queue = s.queue := rfl

theorem convertDone_lt (s : St) (st : Started) (sets : List (String × IdSet)) (held : List Nat)
    (hj : s.jConv = some (sets, held)) (hcv : s.convert = true) (hs : Sorted s.tags)
    (hs' : Sorted (convertDoneSt s sets held st).tags)
    (hub : ∀ n t, sget s.tags n = some t → ∀ id, id ∈ t.unc → id < s.all)
    (hb' : JConvLt (convertDoneSt s sets held st)) :
    LexLt (mu (convertDoneSt s sets held st)) (mu s) := by
  unfold convertDoneSt at hs' hb' ⊢
  generalize hF : sets.foldl cdMark { s with convert := false, jConv := none } = F at hs' hb' ⊢
  have hFq : F.queue = s.queue := by
    rw [← hF]; exact foldl_keep (fun s : St => s.queue) _ (fun s p => cdMark_frame (·.queue) s p) _ _
  have hFc : coreC F = coreC { s with convert := false, jConv := none } := by
    rw [← hF]; exact foldl_keep coreC _ (fun s p => cdMark_frame coreC s p) _ _
  have hm5F : m5 (inherit F) = m5 { s with convert := false, jConv := none } := (mC_congr hFc).2.2
  simp only [coreC, Prod.mk.injEq] at hFc
  obtain ⟨c1, c2, c3, c4, -, -⟩ := hFc
  have htl := tail_ok (release_frame core6 _ held) hs' hb'
  have hm1 : m1 (inherit F) = m1 s := congrArg List.length hFq
  have hm2 : m2 (inherit F) = m2 s := m2_congr (a := inherit F) c1 c2 c3
  have hm3 : m3 (inherit F) = 0 := by simp only [m3, show (inherit F).jConv = F.jConv from rfl, c4]
  by_cases h3 : m3 s = 0
  · -- nothing is handed back: the tags are only swept, and `m5` pays with the finished job
    have hnoop : F = { s with convert := false, jConv := none } := by
      rw [← hF]
      refine cdFold_noop _ _ fun p hp hpp => ?_
      simp only [m3, hj] at h3
      split at h3
      · cases h3
      · next hany => exact hany (List.any_eq_true.mpr ⟨p, hp, by simp [hpp.1, hpp.2]⟩)
    have hm4 : m4 (inherit F) ≤ m4 s := by
      rw [hnoop]
      exact Nat.le_trans (m4_inherit { s with convert := false, jConv := none } hs hub) (Nat.le_of_eq (mT_congr rfl).1)
    have hm5 : m5 (inherit F) < m5 s := by
      rw [hm5F]
      simp only [m5, qOf, hcv, if_true, Bool.false_eq_true, if_false]
      omega
    exact htl.lexLt (Or.inr ⟨hm1, Or.inr ⟨hm2, Or.inr ⟨hm3.trans h3.symm, by omega⟩⟩⟩)
  · exact htl.lexLt (Or.inr ⟨hm1, Or.inr ⟨hm2, Or.inl (by omega)⟩⟩)

/-- `Pk.Props.C09.ConvPlain` (Pk/Props/MgrSpec.lean) unfolds to this -/
def ConvPlain (s : St) : Prop := ∀ n t, sget s.tags n = some t → t.convs ≠ [] → t.mainT = [] ∧ t.subT = []

theorem invalidateTags_keys (Y : St) (hs : Sorted Y.tags) (u r a : IdSet) :
    (invalidateTags Y u r a).tags.map (·.1) = Y.tags.map (·.1) := by
  rw [invalidateTags_eq]
  have hk : (Y.tags.map fun p => (p.1, invF Y.all u r a p.2)).map (·.1) = Y.tags.map (·.1) := by
    simp [List.map_map, Function.comp_def]
  exact (inherit_sweep { Y with tags := Y.tags.map fun p => (p.1, invF Y.all u r a p.2) }
    (sorted_of_keys_eq _ _ hk hs)).1.trans hk

theorem tdPublish_keys (s : St) (hs : Sorted s.tags) (name : String) (snap : Tag) (res : IdSet) :
    (tdPublish s name snap res).tags.map (·.1) = s.tags.map (·.1) := by
  refine tdPublish_cases (P := fun X => X.tags.map (·.1) = s.tags.map (·.1)) s name snap res rfl
    (fun ot hg _ _ => ?_) fun X hX => ?_
  · simp only [setTag, qConv_frame (·.tags) _ _ _]
    exact keys_sins_of_sget _ hs _ _ _ hg
  · exact (invalidateTags_keys X (sorted_of_keys_eq _ _ hX hs) _ _ _).trans hX

theorem sins_decided {L : List (String × Tag)} (hs : Sorted L) {n : String} {ot t : Tag} (hg : sget L n = some ot)
    (hr : t.refs = ot.refs) (hu : t.unc = []) :
    tcount (sins n t L) ≤ tcount L ∧ (ot.unc ≠ [] →
      ((sins n t L).filter fun nt => !nt.2.unc.isEmpty).length + 1 = (L.filter fun nt => !nt.2.unc.isEmpty).length ∧
      (ot.refs = [] → tcount (sins n t L) < tcount L)) := by
  have hbelow : Below L (sins n t L) := (Below.refl _).sins hg hr fun h => absurd hu h
  have hkeys := keys_sins_of_sget L hs n t ot hg
  refine ⟨tcount_mono hkeys hbelow.tainted, fun hou => ⟨?_, fun hr0 => ?_⟩⟩
  · obtain ⟨l1, l2, e1, e2⟩ := sins_of_sget hs t hg
    rw [e2, e1]
    simp [hu, hou]
    omega
  · exact tcount_lt hkeys hbelow.tainted n (sget_mem_keys _ _ _ hg) (Tainted.self n ot hg hou)
      (not_tainted (by rw [sget_sins, if_pos rfl]) hu (hr.trans hr0))

theorem tagDone_lt (s : St) (st : Started) (name : String) (result : List Nat) (snap : Tag) (held : List Nat)
    (hj : s.jTag = some (name, snap, held)) (htag : s.tag = true) (hs : Sorted s.tags)
    (hs' : Sorted (tagDoneSt s name snap held result st).tags)
    (hfacts : ∀ ot, sget s.tags name = some ot → ot.defn = snap.defn → ot.mainT = snap.mainT ∧ ot.subT = snap.subT)
    (hcp : ConvPlain s)
    (hb' : JConvLt (tagDoneSt s name snap held result st)) :
    LexLt (mu (tagDoneSt s name snap held result st)) (mu s) := by
  unfold tagDoneSt jobTail at hs' hb' ⊢
  have fA := tdPublish_frame (fun z => (z.queue, z.convs, z.all, z.cached, z.jConv, z.convert, z.jTag))
    { s with jTag := none } name snap (ofList result)
  have fk := tdPublish_keys { s with jTag := none } hs name snap (ofList result)
  have hPe := MgrSettle.tdPublish_empty { s with jTag := none } name snap (ofList result)
  generalize tdPublish { s with jTag := none } name snap (ofList result) = P at hs' hb' fA fk hPe ⊢
  generalize hX : ({ P with tag := false } : St) = X at hs' hb' ⊢
  have fX : (X.queue, X.convs, X.all, X.cached, X.jConv, X.convert, X.jTag) =
      (s.queue, s.convs, s.all, s.cached, s.jConv, s.convert, none) := by rw [← hX]; exact fA
  have gX : (X.tag, X.tags, X.toconv) = (false, P.tags, P.toconv) := by rw [← hX]
  simp only [Prod.mk.injEq] at fX gX
  obtain ⟨xq, xconvs, xall, xcached, xjConv, xconvert, xjTag⟩ := fX
  obtain ⟨xtag, xtags, xtoconv⟩ := gX
  have htl := tail_ok ((release_frame core6 _ held).trans (startMerge_frame core6 _)) hs' hb'
  have hm1 : m1 X = m1 s := congrArg List.length xq
  have hm2 : m2 X = m2 s := m2_congr xconvs xall xcached
  have hm3 : m3 X = m3 s := m3_congr xconvs xjConv
  have hm4 : m4 X = 2 * tcount P.tags := by
    have e1 : jb X = 0 := by simp [jb, jobBad, xjTag]
    have e2 : sur X = 0 := by simp [sur, xtag]
    unfold m4; rw [e1, e2, xtags]; rfl
  have dec4 : 2 * tcount P.tags < 2 * tcount s.tags + jb s + sur s →
      LexLt (mu (release (startMerge (startConverter (startTagging X st.tag))) held)) (mu s) :=
    fun h => htl.lexLt (Or.inr ⟨hm1, Or.inr ⟨hm2, Or.inr ⟨hm3, Or.inl (by rw [hm4]; exact h)⟩⟩⟩)
  have hm4s : m4 s = 2 * tcount s.tags + jb s + sur s := rfl
  by_cases hme : masksEmpty s = true
  · -- the job counted as bad, or it takes its tag out of the pending ones
    have bad : jb s = 1 → tcount P.tags ≤ tcount s.tags →
        LexLt (mu (release (startMerge (startConverter (startTagging X st.tag))) held)) (mu s) :=
      fun h1 h2 => dec4 (by omega)
    have hPeq := hPe hme
    cases hg : sget s.tags name with
    | none =>
      rw [show sget ({ s with jTag := none } : St).tags name = none from hg] at hPeq
      exact bad (by simp [jb, jobBad, hj, hg]) (by rw [hPeq]; exact Nat.le_refl _)
    | some ot =>
      rw [show sget ({ s with jTag := none } : St).tags name = some ot from hg] at hPeq
      dsimp only at hPeq
      by_cases hd : (ot.defn == snap.defn && ot.gen == snap.gen) = true
      · rw [if_pos hd] at hPeq
        have hf := hfacts ot hg (by simpa using hd : _ ∧ ot.gen = snap.gen).1
        have hPt : P.tags = sins name (tdTag snap ot (ofList result)) s.tags := by
          rw [hPeq]
          simp only [setTag]
          rw [qConv_frame (·.tags) _ _ _]
        obtain ⟨htc, hpend⟩ := sins_decided hs hg (t := tdTag snap ot (ofList result))
          (refs_congr hf.1.symm hf.2.symm) rfl
        rw [← hPt] at htc hpend
        by_cases hou : ot.unc = []
        · exact bad (by simp [jb, jobBad, hj, hg, hou]) htc
        obtain ⟨hpd, hlt⟩ := hpend hou
        by_cases hoc : ot.convs = []
        · -- no converter: nothing is queued, one tag fewer is pending
          have hPc : P.toconv = s.toconv := by rw [hPeq, hoc]; rfl
          have hm5 : m5 X = m5 s := by
            refine (mC_congr ?_).2.2
            simp only [coreC, Prod.mk.injEq]
            exact ⟨xconvs, xall, xcached, xjConv, xtoconv.trans hPc, xconvert⟩
          have hm6 : m6 X + 1 = m6 s := by unfold m6; rw [xtags]; exact hpd
          exact htl.lexLt (Or.inr ⟨hm1, Or.inr ⟨hm2, Or.inr ⟨hm3, by omega⟩⟩⟩)
        · -- a converter is attached: streams are queued for it and `m5` may go up, so `m4` has to drop;
          -- by `ConvPlain` the tag has no references, and with nothing pending it is not tainted
          have hpl := hcp name ot hg hoc
          have := hlt (by unfold Tag.refs; rw [hpl.1, hpl.2]; rfl)
          exact dec4 (by omega)
      · rw [if_neg hd] at hPeq
        exact bad (by simp [jb, jobBad, hj, hg, hd]) (by rw [hPeq]; exact Nat.le_refl _)
  · -- something was invalidated while the job ran: the surcharge pays for all tags
    have hsur : sur s = 2 * s.tags.length + 2 := by simp [sur, htag, hme]
    have : P.tags.length = s.tags.length := length_of_keys fk
    have := tcount_le_length P.tags
    exact dec4 (by omega)

def OK3 (t : Tag) : Prop := t.convs ≠ [] → t.mainT = [] ∧ t.subT = []
def CP (L : List (String × Tag)) : Prop := ∀ n t, sget L n = some t → OK3 t

theorem convPlain_iff (s : St) : ConvPlain s ↔ CP s.tags := Iff.rfl

theorem ok3_closed : TagClosed fun _ => OK3 :=
  ⟨fun _ _ _ h => h, fun _ _ _ h => h, fun _ _ _ h => h, fun _ t c h hc => h fun e => hc (by simp [e])⟩

end Pk.Proofs.MgrTermination
