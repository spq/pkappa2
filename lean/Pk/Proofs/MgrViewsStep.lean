/-
  C10: the events walked once for the side of files and views.  `step_vwalk`: every event is a base (`VBase`), a
  `Frame`, and the release of files that somebody else still holds (`Holds`, from the lock invariant of C13), so it
  serves what its base serves (`Serves`); the import-job invariant, the held views, coverage and `Newest` then need
  their fact about the bases only.
-/
import Pk.Proofs.MgrViewsFrame
import Pk.Props.MgrSpec
import Pk.Proofs.MgrLocksStep

namespace Pk.Proofs.MgrViews
open Pk.Mgr Pk.Proofs.MgrLocks
open Pk.Props.C10 (ImportJobInv)

theorem jinv_frame {s s' : St} (h : Frame s s') (hi : ImportJobInv s) : ImportJobInv s' := by
  intro jn held hj
  rcases h.jImport with h' | ⟨fs, h'⟩
  · rw [h'] at hj; rw [h.next]; exact hi jn held hj
  · rw [h'] at hj; rw [h.next]; cases hj; rfl

theorem jinv_release {s : St} (fs : List Nat) (hi : ImportJobInv s) : ImportJobInv (release s fs) :=
  (release_frame ImportJobInv s fs).symm ▸ hi

theorem jinv_importBase (s : St) (jn : Nat) (held : List Nat) (un : Nat) (cr : List (Nat × List Nat))
    (u r a : IdSet) : ImportJobInv (importBase s jn held un cr u r a) := by
  intro jn' held' hj
  rw [jImport_importBase] at hj; cases hj

theorem jinv_mergeBase {s : St} (off : Nat) (held : List Nat) (m : List (Nat × List Nat))
    (hi : ImportJobInv s) : ImportJobInv (mergeBase s off held m) :=
  (mdApply_frame ImportJobInv { s with jMerge := none } off held m).symm ▸ hi

/-- what `release s held` needs in order to close no served file (`Holds.lt`) -/
def Holds (s : St) (held : List Nat) : Prop :=
  ∀ f, s.idx.count f + held.count f ≤ (nget s.used f).getD 0

theorem Holds.lt {s : St} {held : List Nat} (h : Holds s held) :
    ∀ f ∈ s.idx, held.count f < (nget s.used f).getD 0 := by
  intro f hf
  have := h f
  have : 0 < s.idx.count f := List.count_pos_iff.mpr hf
  omega

/-- for each holder: make its locks pending (`CInvK.done_…`, `CInvK.close_view`), then read the count equation -/
theorem holds_of_CInv {p held : List Nat} {s : St} (h : CInv (held ++ p) s) : Holds s held := by
  intro f
  have h1 : (nget s.used f).getD 0 =
      s.idx.count f + (s.views.flatMap (·.2)).count f + (proj s).held.count f + (held ++ p).count f := h.1 f
  rw [h1, List.count_append]; omega

section
open Pk.Props

theorem holds_jImport {s : St} (hl : C13.CountInv s) {jn : Nat} {held : List Nat}
    (hj : s.jImport = some (jn, held)) : Holds s held :=
  holds_of_CInv (s := { s with jImport := none })
    (CInvK.done_import (k := proj s) ((countInv_iff_cinv s).1 hl) (by simp [proj, hj]))

theorem holds_jTag {s : St} (hl : C13.CountInv s) {jn : String} {snap : Tag} {held : List Nat}
    (hj : s.jTag = some (jn, snap, held)) : Holds s held :=
  holds_of_CInv (s := { s with jTag := none })
    (CInvK.done_tag (k := proj s) ((countInv_iff_cinv s).1 hl) (by simp [proj, hj]))

theorem holds_jConv {s : St} (hl : C13.CountInv s) {sets : List (String × IdSet)} {held : List Nat}
    (hj : s.jConv = some (sets, held)) : Holds s held :=
  holds_of_CInv (s := { s with jConv := none })
    (CInvK.done_conv (k := proj s) ((countInv_iff_cinv s).1 hl) (by simp [proj, hj]))

theorem holds_view {s : St} (hl : C13.CountInv s) {k : Nat} {fs : List Nat}
    (hv : nget s.views k = some fs) : Holds s fs :=
  holds_of_CInv (s := { s with views := ndel s.views k })
    (CInvK.close_view (k := proj s) ((countInv_iff_cinv s).1 hl) hv)

/-- also in `mergeBase`: the job's files are released only after it (`step_vwalk`) -/
theorem holds_jMerge {s : St} (hl : C13.CountInv s) {off : Nat} {held : List Nat}
    (hj : s.jMerge = some (off, held)) (mg : List (Nat × List Nat)) :
    Holds s held ∧ Holds (mergeBase s off held mg) held := by
  have h1 : CInv (held ++ []) { s with jMerge := none } :=
    CInvK.done_merge (k := proj s) ((countInv_iff_cinv s).1 hl) (by simp [proj, hj])
  exact ⟨holds_of_CInv (s := { s with jMerge := none }) h1, holds_of_CInv (CInv_mdApply off held mg h1)⟩

end

end Pk.Proofs.MgrViews
namespace Pk.Proofs.MgrViewsRun
open Pk.Mgr
/-- `step` ignores a completion event with no such job in flight: it reports nothing -/
def reported (s : St) : Ev → List (Nat × List Nat)
  | .importDone _ _ created _ _ _ => if s.jImport.isSome then created else []
  | .mergeDone merged => if s.jMerge.isSome then merged else []
  | _ => []

theorem reported_importDone {s : St} {jn : Nat} {held : List Nat} (hj : s.jImport = some (jn, held)) {p u c a b d} :
    reported s (.importDone p u c a b d) = c := by
  simp only [reported, hj, Option.isSome_some, if_true]

theorem reported_mergeDone {s : St} {off : Nat} {held : List Nat} (hj : s.jMerge = some (off, held)) {m} :
    reported s (.mergeDone m) = m := by
  simp only [reported, hj, Option.isSome_some, if_true]

end Pk.Proofs.MgrViewsRun
namespace Pk.Proofs.MgrViews
open Pk.Mgr Pk.Proofs.MgrLocks
open Pk.Props.C10 (Covered content)
open Pk.Proofs.MgrViewsRun (reported reported_importDone reported_mergeDone)

/-- where the frame part of an event starts: the state itself, the state with an import's files appended or a
    merge's outputs spliced in, or the state without the released view -/
inductive VBase (s : St) : Ev → St → Prop
  | same (e : Ev) : reported s e = [] → VBase s e s
  | imp {p u c a b d jn held} : s.jImport = some (jn, held) →
      VBase s (.importDone p u c a b d) (importBase s jn held u c (ofList a) (ofList b) (ofList d))
  | mrg {m off held} : s.jMerge = some (off, held) → VBase s (.mergeDone m) (mergeBase s off held m)
  | vrel {k fs} : nget s.views k = some fs → VBase s (.viewRelease k) { s with views := ndel s.views k }

/-- every event on the side of files and views: a base, a `Frame`, and the release of the files of the job or view that
    ends; somebody else still holds those (`Holds`, under the lock invariant of C13) -/
def VWalk (s : St) (e : Ev) (x : St) : Prop :=
  ∃ b mid held, VBase s e b ∧ Frame b mid ∧ x = release mid held ∧ (Pk.Props.C13.CountInv s → Holds b held ∨ held = [])

theorem step_vwalk (s : St) (e : Ev) (st : Started) : VWalk s e (step s e st).1 := by
  have idle : ∀ {x}, reported s e = [] → Frame s x → VWalk s e x :=
    fun hr hf => ⟨s, _, [], .same _ hr, hf, rfl, fun _ => .inr rfl⟩
  cases e with
  | importDone p u c a b d =>
    exact step_importDone_cases (P := fun r => VWalk s _ r.1) s p u c a b d st
      (fun hj => idle (by simp [reported, hj]) (.refl s))
      fun jn held hj => ⟨_, _, [], .imp hj, frame_importDone s st p u c a b d jn held, rfl, fun _ => .inr rfl⟩
  | tagDone n r =>
    exact step_tagDone_starts s n r st (idle rfl (.refl s)) (idle rfl ((Frame.refl s).with rfl))
      fun snap held _ hj hs => ⟨s, _, held, .same _ rfl, .trans ((Frame.refl s).with rfl) hs.frame, rfl,
        fun hl => .inl (holds_jTag hl hj)⟩
  | mergeDone m =>
    exact step_mergeDone_cases (P := fun r => VWalk s _ r.1) s m st (fun hj => idle (by simp [reported, hj]) (.refl s))
      fun off held hj => ⟨_, _, held, .mrg hj,
        .trans ((Frame.refl (mergeBase s off held m)).with rfl) (frame_startMerge _), rfl,
        fun hl => .inl (holds_jMerge hl hj m).2⟩
  | convertDone =>
    exact step_convertDone_starts s st (idle rfl (.refl s))
      fun sets held _ hj hs => ⟨s, _, held, .same _ rfl, .trans ((Frame.refl s).with rfl) hs.frame, rfl,
        fun hl => .inl (holds_jConv hl hj)⟩
  | viewRelease k =>
    rw [step_viewRelease_eq]
    split
    · exact idle rfl (.refl s)
    · next fs hv => exact ⟨_, _, fs, .vrel hv, .refl _, rfl, fun hl => .inl (holds_view hl hv)⟩
  | importPcaps names => exact idle rfl (frame_importPcaps s names st)
  | viewOpen k => exact idle rfl (frame_viewOpen s k st)
  | _ => exact idle rfl (step_api_starts s _ st rfl).frame

/-- `s'` serves what `b` serves: same list, same `next`, same content of the listed files -/
structure Serves (b s' : St) : Prop where
  idx : s'.idx = b.idx
  next : s'.next = b.next
  files : ∀ f ∈ b.idx, nget s'.files f = nget b.files f

theorem serves_walk {b mid : St} {held : List Nat} (hf : Frame b mid) (hh : Holds b held ∨ held = []) :
    Serves b (release mid held) := by
  refine ⟨(release_idx _ _).trans hf.idx, (release_next _ _).trans hf.next, fun f hm => ?_⟩
  rcases hh with hh | rfl
  · rw [release_nget_files_of_pos _ _ _ (Nat.lt_of_lt_of_le (hh.lt f hm) (hf.used f)), hf.files]
  · exact congrArg (nget · f) hf.files

theorem cov_serves {b s' : St} (h : Serves b s') (hc : Covered b) : Covered s' := by
  intro id hid
  rw [h.next] at hid
  obtain ⟨f, hf, hm⟩ := hc id hid
  exact ⟨f, h.idx ▸ hf, by unfold content at hm ⊢; rw [h.files f hf]; exact hm⟩

open Pk.Props in
theorem view_files_open {s : St} (hl : C13.CountInv s) {k : Nat} {fs : List Nat}
    (hv : nget s.views k = some fs) {f : Nat} (hf : f ∈ fs) : (nget s.files f).isSome = true := by
  have h1 := holds_view hl hv f
  have h2 : 0 < fs.count f := List.count_pos_iff.mpr hf
  rw [hl.2.2.1 f]
  cases h : nget s.used f with
  | none => rw [h] at h1; simp at h1; omega
  | some n => rfl
end Pk.Proofs.MgrViews
