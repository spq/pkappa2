/-
  The legacy `String.splitOn` for the separator `/`, derived from its definition with the position lemmas of
  Batteries: `splitOn_slash`.  Used for `parseTagName` of the tag-API model and of the service-loop model.
-/
import Batteries.Data.String.Lemmas

namespace Pk.Proofs.TagGraphMore
open String

theorem size_slash : '/'.utf8Size = 1 := by decide

theorem get_slash : (0 : Pos.Raw).get "/" = '/' := by
  have := get_of_valid [] ['/']
  simpa using this

theorem next_slash : (0 : Pos.Raw).next "/" = ⟨1⟩ := by
  have := next_of_valid [] '/' []
  simpa [size_slash] using this

theorem atEnd_slash : (⟨1⟩ : Pos.Raw).atEnd "/" = true := by
  simp [atEnd_iff]
  decide

-- `l`: before the piece under way, `m`: that piece, `r`: the rest; the position inside the one-character separator stays `0`
theorem splitOnAux_slash (r : List Char) : ∀ (l m : List Char) (acc : List String),
    splitOnAux (ofList (l ++ m ++ r)) "/" ⟨utf8Len l⟩ ⟨utf8Len l + utf8Len m⟩ 0 acc =
      acc.reverse ++ (List.splitOnPPrepend (· == '/') r m.reverse).map ofList := by
  induction r with
  | nil =>
    intro l m acc
    unfold splitOnAux
    have hend : (⟨utf8Len l + utf8Len m⟩ : Pos.Raw).atEnd (ofList (l ++ m ++ [])) = true := by
      simp [-ofList_append, atEnd_iff, rawEndPos_ofList, utf8Len_append]
    rw [if_pos hend]
    simpa using extract_of_valid l m []
  | cons c r ih =>
    intro l m acc
    unfold splitOnAux
    have hend : ¬ (⟨utf8Len l + utf8Len m⟩ : Pos.Raw).atEnd (ofList (l ++ m ++ c :: r)) = true := by
      simp only [atEnd_iff, rawEndPos_ofList, utf8Len_append, utf8Len_cons, Pos.Raw.mk_le_mk]
      have := Char.utf8Size_pos c
      omega
    rw [if_neg hend]
    have hget : (⟨utf8Len l + utf8Len m⟩ : Pos.Raw).get (ofList (l ++ m ++ c :: r)) = c := by
      simpa [-ofList_append] using get_of_valid (l ++ m) (c :: r)
    have hnext : (⟨utf8Len l + utf8Len m⟩ : Pos.Raw).next (ofList (l ++ m ++ c :: r)) =
        ⟨utf8Len l + utf8Len m + c.utf8Size⟩ := by
      simpa [-ofList_append] using next_of_valid (l ++ m) c r
    rw [hget, get_slash]
    by_cases hc : (c == '/') = true
    · rw [if_pos hc]
      simp only [next_slash, atEnd_slash, if_true, hnext]
      have hc' : c = '/' := by simpa using hc
      subst hc'
      have hun : (⟨utf8Len l + utf8Len m + '/'.utf8Size⟩ : Pos.Raw).unoffsetBy ⟨1⟩ = ⟨utf8Len l + utf8Len m⟩ := by
        simp [Pos.Raw.unoffsetBy, size_slash]
      rw [hun]
      have hex := extract_of_valid l m ('/' :: r)
      rw [hex]
      have := ih (l ++ m ++ ['/']) [] (ofList m :: acc)
      simp only [List.append_assoc, List.cons_append, List.nil_append, utf8Len_append, utf8Len_cons, utf8Len_nil,
        Nat.add_zero, List.append_nil, Nat.zero_add] at this
      simp only [Nat.add_assoc, List.append_assoc] at this ⊢
      rw [this]
      simp [List.splitOnPPrepend_cons_eq_if]
    · rw [if_neg hc]
      have hun : (⟨utf8Len l + utf8Len m⟩ : Pos.Raw).unoffsetBy 0 = ⟨utf8Len l + utf8Len m⟩ := by
        simp [Pos.Raw.unoffsetBy]
      rw [hun, hnext]
      have := ih l (m ++ [c]) acc
      simp only [List.append_assoc, List.cons_append, List.nil_append, utf8Len_append, utf8Len_cons,
        utf8Len_nil] at this
      simp only [Nat.add_assoc, List.append_assoc, Nat.zero_add] at this ⊢
      rw [this]
      simp [List.splitOnPPrepend_cons_eq_if, hc]

theorem splitOn_slash (s : String) : s.splitOn "/" = (List.splitOnP (· == '/') s.toList).map ofList := by
  unfold splitOn
  have : ("/" == "") = false := by decide
  rw [this]
  simpa using splitOnAux_slash s.toList [] [] []

end Pk.Proofs.TagGraphMore
