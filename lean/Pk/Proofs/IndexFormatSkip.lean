/-
  The pieces a chunk is split into (`splitAux_spec`) and the skip counters of the packet records: `Gap d t` is what a
  counter `d` promises about the records `t` behind it; the distance the skip pass carries along has it, so does the
  saturated value it stores (`setSkips_spec`), and clearing the last has-next bit changes nothing `Gap` reads
  (C01 `skip_counters_sound`).
-/
import Pk.Model.IndexFormat
namespace Pk.Index
open Pk Pk.Bytes

theorem splitAux_spec (fuel n : Nat) (h : n ≤ fuel + 65535) :
    (splitAux fuel n).sum = n ∧ ∀ x ∈ splitAux fuel n, x ≤ 65535 := by
  induction fuel generalizing n with
  | zero => simpa [splitAux] using h
  | succ f ih =>
    simp only [splitAux]
    split
    · simpa
    · obtain ⟨h1, h2⟩ := ih (n - 65535) (by omega)
      simp only [List.sum_cons, List.forall_mem_cons, h1]
      exact ⟨by omega, Nat.le_refl _, h2⟩

/-- following the skip counter from a record never passes a record with payload and always lands on a
    record of the same stream (at the latest the last one) -/
def SkipSound : List PacketRec → Prop
  | [] => True
  | p :: rest => (rest = [] ∨ ((rest.take p.skip).all (fun q => q.size == 0) = true ∧ p.skip < rest.length)) ∧ SkipSound rest

theorem setSkips_map {β : Type} (f : PacketRec → β) (hf : ∀ p k, f { p with skip := k } = f p) (l : List PacketRec) :
    (setSkips l).1.map f = l.map f := by
  induction l with
  | nil => rfl
  | cons p t ih =>
    cases t with
    | nil => rfl
    | cons q rest =>
      simp only [setSkips, List.map_cons] at ih ⊢
      rw [ih, hf]

theorem clearLast_map {β : Type} (f : PacketRec → β) (hf : ∀ p k, f { p with flags := k } = f p) (l : List PacketRec) :
    (clearLastHasNext l).map f = l.map f := by
  induction l with
  | nil => rfl
  | cons p t ih =>
    cases t with
    | nil => simp only [clearLastHasNext, List.map_cons, hf]
    | cons q rest =>
      simp only [clearLastHasNext, List.map_cons] at ih ⊢
      rw [ih]

theorem forall_mem_of_map_eq {α β : Type} {f : α → β} {l l' : List α} (h : l.map f = l'.map f) {P : β → Prop}
    (hP : ∀ p ∈ l', P (f p)) : ∀ q ∈ l, P (f q) := by
  intro q hq
  obtain ⟨p, hp, e⟩ := List.mem_map.mp (h ▸ List.mem_map_of_mem hq : f q ∈ l'.map f)
  exact e ▸ hP p hp

/-- the `d` records after the head carry no payload, and there is a record after them -/
def Gap (d : Nat) (t : List PacketRec) : Prop := (t.take d).all (fun q => q.size == 0) = true ∧ d < t.length

/-- the counter is one byte: `skip = min d 255`, a prefix of the distance -/
theorem Gap.sat {d : Nat} {t : List PacketRec} (h : Gap d t) : Gap (if d < 255 then d else 255) t := by
  split
  · exact h
  · have : t.take 255 = (t.take d).take 255 := by rw [List.take_take]; congr 1; omega
    exact ⟨by rw [this]; exact List.all_eq_true.mpr (fun x hx => List.all_eq_true.mp h.1 x (List.mem_of_mem_take hx)),
      by have := h.2; omega⟩

theorem Gap.congr {d : Nat} {t t' : List PacketRec} (h : t.map (·.size) = t'.map (·.size)) (hg : Gap d t) : Gap d t' := by
  have hall := congrArg (fun m => (m.take d).all (· == 0)) h
  simp only [← List.map_take, List.all_map, Function.comp_def] at hall
  have hlen := congrArg List.length h
  rw [List.length_map, List.length_map] at hlen
  exact ⟨hall ▸ hg.1, hlen ▸ hg.2⟩

/-- the induction carries `Gap` for `(setSkips ps).2`, the unsaturated distance of the head -/
theorem setSkips_spec (ps : List PacketRec) :
    SkipSound (setSkips ps).1 ∧ ∀ h t, (setSkips ps).1 = h :: t → t ≠ [] → Gap (setSkips ps).2 t := by
  induction ps with
  | nil => simp [setSkips, SkipSound]
  | cons p t ih =>
    cases t with
    | nil => simp [setSkips, SkipSound]
    | cons q rest =>
      obtain ⟨hsound, hd⟩ := ih
      have hsz := setSkips_map (·.size) (fun _ _ => rfl) (q :: rest)
      simp only [setSkips]
      generalize setSkips (q :: rest) = r at hsz hsound hd
      obtain ⟨qs, dq⟩ := r
      cases qs with
      | nil => simp at hsz
      | cons q' rest' =>
        simp only [List.map_cons, List.cons.injEq] at hsz
        have key : Gap (if q.size ≠ 0 then 0 else if rest.isEmpty then 0 else dq + 1) (q' :: rest') := by
          split
          · exact ⟨rfl, Nat.zero_lt_succ _⟩
          · split
            · exact ⟨rfl, Nat.zero_lt_succ _⟩
            · rename_i h1 h2
              obtain ⟨ha, hb⟩ := hd q' rest' rfl (fun h => h2 (by rw [h] at hsz; rw [List.map_eq_nil_iff.mp hsz.2.symm]; rfl))
              exact ⟨by simp [List.take_succ_cons, hsz.1, Classical.not_not.mp h1, ha], Nat.succ_lt_succ hb⟩
        exact ⟨⟨.inr key.sat, hsound⟩, fun h t heq _ => by cases heq; exact key⟩

theorem clearLast_sound (l : List PacketRec) (h : SkipSound l) : SkipSound (clearLastHasNext l) := by
  induction l with
  | nil => exact h
  | cons a t ih =>
    cases t with
    | nil => simp [clearLastHasNext, SkipSound]
    | cons b r =>
      exact ⟨h.1.imp (fun h => nomatch h) (Gap.congr (clearLast_map (·.size) (fun _ _ => rfl) _).symm), ih h.2⟩

end Pk.Index
