/-
  The lock table (`lock`, `release`) of the service-loop model; the lock invariant `CInv p`, where `p` lists locks
  still to be released inside the current event (`CInv []` is the invariant of Pk/Props/C13.lean).  It reads the
  state through the projection `proj`, which no helper on the tag side changes (`SameCore.proj`).
-/
import Pk.Proofs.MgrStarts
import Pk.Props.MgrSpec

namespace Pk.Proofs.MgrLocks
open Pk.Mgr

theorem nget_nil {α} (k : Nat) : nget ([] : List (Nat × α)) k = none := rfl

theorem nget_eq_none_iff {α} (l : List (Nat × α)) (k : Nat) :
    nget l k = none ↔ k ∉ l.map (·.1) := by
  induction l with
  | nil => simp
  | cons a r ih =>
    obtain ⟨a, b⟩ := a
    simp only [nget_cons, List.map_cons, List.mem_cons, not_or]
    by_cases h : a = k
    · simp [h]
    · simp [h, ih]; omega

@[simp] theorem lock_nil (u : List (Nat × Nat)) : lock u [] = u := rfl
theorem lock_cons (u : List (Nat × Nat)) (g : Nat) (fs : List Nat) :
    lock u (g :: fs) = lock (nins g ((nget u g).getD 0 + 1) u) fs := rfl

theorem lock_getD (u : List (Nat × Nat)) (fs : List Nat) (f : Nat) :
    (nget (lock u fs) f).getD 0 = (nget u f).getD 0 + fs.count f := by
  induction fs generalizing u with
  | nil => simp
  | cons g fs ih =>
    rw [lock_cons, ih, nget_nins, List.count_cons]
    by_cases h : g = f
    · subst h; simp; omega
    · simp [h]

theorem lock_ne_zero (u : List (Nat × Nat)) (fs : List Nat) (h : ∀ f, nget u f ≠ some 0) :
    ∀ f, nget (lock u fs) f ≠ some 0 := by
  induction fs generalizing u with
  | nil => simpa using h
  | cons g fs ih =>
    rw [lock_cons]
    apply ih
    intro f
    rw [nget_nins]
    split
    · simp
    · exact h f

theorem lock_isSome (u : List (Nat × Nat)) (fs : List Nat) (f : Nat) :
    (nget (lock u fs) f).isSome = ((nget u f).isSome || decide (f ∈ fs)) := by
  induction fs generalizing u with
  | nil => simp
  | cons g fs ih =>
    rw [lock_cons, ih, nget_nins]
    by_cases h : g = f
    · subst h; simp
    · have : ¬ f = g := fun e => h e.symm
      simp [h, this]

theorem nget_insFiles_isSome (cr : List (Nat × List Nat)) (files : List (Nat × List Nat)) (f : Nat) :
    (nget (cr.foldl (fun fs (x : Nat × List Nat) => nins x.1 x.2 fs) files) f).isSome
      = ((nget files f).isSome || decide (f ∈ cr.map (·.1))) := by
  induction cr generalizing files with
  | nil => simp
  | cons a cr ih =>
    rw [List.foldl_cons, ih, nget_nins]
    by_cases h : a.1 = f
    · subst h; simp
    · have : ¬ f = a.1 := fun e => h e.symm
      simp only [List.map_cons, List.mem_cons, this, false_or, if_neg h]

def release1 (s : St) (f : Nat) : St :=
  match nget s.used f with
  | none => s
  | some n => if n ≤ 1 then { s with used := ndel s.used f, files := ndel s.files f }
              else { s with used := nins f (n - 1) s.used }

@[simp] theorem release_nil (s : St) : release s [] = s := rfl
theorem release_cons (s : St) (g : Nat) (fs : List Nat) :
    release s (g :: fs) = release (release1 s g) fs := rfl

theorem release1_getD (s : St) (g f : Nat) :
    (nget (release1 s g).used f).getD 0 = (nget s.used f).getD 0 - (if g = f then 1 else 0) := by
  unfold release1
  split
  · next h =>
    by_cases e : g = f
    · subst e; simp [h]
    · simp [e]
  · next n h =>
    split
    · simp only [nget_ndel]
      by_cases e : g = f
      · subst e; simp [h]; omega
      · simp [e]
    · simp only [nget_nins]
      by_cases e : g = f
      · subst e; simp [h]
      · simp [e]

theorem release_getD (s : St) (fs : List Nat) (f : Nat) :
    (nget (release s fs).used f).getD 0 = (nget s.used f).getD 0 - fs.count f := by
  induction fs generalizing s with
  | nil => simp
  | cons g fs ih =>
    rw [release_cons, ih, release1_getD, List.count_cons]
    simp only [beq_iff_eq]
    omega

theorem release1_ne_zero (s : St) (g : Nat) (h : ∀ f, nget s.used f ≠ some 0) :
    ∀ f, nget (release1 s g).used f ≠ some 0 := by
  intro f
  unfold release1
  split
  · exact h f
  · next n hn =>
    split
    · simp only [nget_ndel]; split
      · simp
      · exact h f
    · simp only [nget_nins]; split
      · simp; omega
      · exact h f

theorem release_ne_zero (s : St) (fs : List Nat) (h : ∀ f, nget s.used f ≠ some 0) :
    ∀ f, nget (release s fs).used f ≠ some 0 := by
  induction fs generalizing s with
  | nil => simpa using h
  | cons g fs ih => rw [release_cons]; exact ih _ (release1_ne_zero s g h)

theorem release1_sync (s : St) (g : Nat)
    (h : ∀ f, (nget s.files f).isSome = (nget s.used f).isSome) :
    ∀ f, (nget (release1 s g).files f).isSome = (nget (release1 s g).used f).isSome := by
  intro f
  unfold release1
  split
  · exact h f
  · next n hn =>
    split
    · simp only [nget_ndel]; split
      · rfl
      · exact h f
    · simp only [nget_nins]; split
      · next e => subst e; simp [h, hn]
      · exact h f

theorem release_sync (s : St) (fs : List Nat)
    (h : ∀ f, (nget s.files f).isSome = (nget s.used f).isSome) :
    ∀ f, (nget (release s fs).files f).isSome = (nget (release s fs).used f).isSome := by
  induction fs generalizing s with
  | nil => simpa using h
  | cons g fs ih => rw [release_cons]; exact ih _ (release1_sync s g h)

theorem release1_files (s : St) (g : Nat) :
    (release1 s g).files = s.files ∨ ((release1 s g).files = ndel s.files g ∧ (nget s.used g).getD 0 ≤ 1) := by
  unfold release1
  split
  · exact .inl rfl
  · next n hn =>
    split
    · next hle => exact .inr ⟨rfl, by simpa [hn] using hle⟩
    · exact .inl rfl

theorem release_files_of_pos (s : St) (fs : List Nat)
    (h : ∀ f ∈ fs, fs.count f < (nget s.used f).getD 0) :
    (release s fs).files = s.files := by
  induction fs generalizing s with
  | nil => rfl
  | cons g fs ih =>
    rw [release_cons, ih]
    · refine (release1_files s g).resolve_right fun hc => ?_
      have := h g (by simp)
      simp at this; omega
    · intro f hf
      rw [release1_getD]
      have := h f (by simp [hf])
      simp only [List.count_cons, beq_iff_eq] at this
      omega

theorem release_files_closed (s : St) (fs : List Nat) (f : Nat) :
    nget (release s fs).files f = nget s.files f ∨
      (nget (release s fs).files f = none ∧ (nget s.used f).getD 0 ≤ fs.count f) := by
  induction fs generalizing s with
  | nil => exact .inl rfl
  | cons g fs ih =>
    rw [release_cons]
    rcases ih (release1 s g) with h | ⟨h, hc⟩
    · rcases release1_files s g with e | ⟨e, hc⟩
      · exact .inl (h.trans (by rw [e]))
      · rw [h, e, nget_ndel]
        split
        · next e' => subst e'; exact .inr ⟨rfl, by simp; omega⟩
        · exact .inl rfl
    · refine .inr ⟨h, ?_⟩
      rw [release1_getD] at hc
      simp only [List.count_cons, beq_iff_eq]
      omega

theorem release_nget_files_of_pos (s : St) (fs : List Nat) (f : Nat)
    (h : fs.count f < (nget s.used f).getD 0) :
    nget (release s fs).files f = nget s.files f :=
  (release_files_closed s fs f).resolve_right fun hc => by omega

theorem release_files_cases (s : St) (fs : List Nat) (f : Nat) :
    nget (release s fs).files f = nget s.files f ∨ nget (release s fs).files f = none :=
  (release_files_closed s fs f).imp_right And.left

theorem release_files_none (s : St) (fs : List Nat) (f : Nat) (h : nget s.files f = none) :
    nget (release s fs).files f = none :=
  (release_files_cases s fs f).elim (·.trans h) id

theorem release_open {s : St} {fs : List Nat} {f : Nat} {ids : List Nat} (h : nget (release s fs).files f = some ids) :
    nget s.files f = some ids := by
  rcases release_files_cases s fs f with h' | h'
  · exact h' ▸ h
  · rw [h'] at h; cases h

theorem nins_perm {α} (k : Nat) (v : α) (l : List (Nat × α)) (h : nget l k = none) :
    (nins k v l).Perm ((k, v) :: l) := by
  induction l with
  | nil => simp [nins]
  | cons a r ih =>
    obtain ⟨a, b⟩ := a
    rw [nget_cons] at h
    have hak : ¬ a = k := by intro e; simp [e] at h
    simp only [hak, if_false] at h
    simp only [nins]
    split
    · exact List.Perm.refl _
    · split
      · next e => exact absurd e.symm hak
      · exact ((ih h).cons (a, b)).trans (List.Perm.swap _ _ _)

theorem count_flatMap_nins (k : Nat) (v : List Nat) (l : List (Nat × List Nat)) (h : nget l k = none)
    (f : Nat) : ((nins k v l).flatMap (·.2)).count f = v.count f + (l.flatMap (·.2)).count f := by
  rw [((nins_perm k v l h).flatMap_right _).count_eq]
  simp

theorem nodup_keys_nins {α} (k : Nat) (v : α) (l : List (Nat × α)) (h : nget l k = none)
    (hn : (l.map (·.1)).Nodup) : ((nins k v l).map (·.1)).Nodup := by
  rw [((nins_perm k v l h).map _).nodup_iff]
  simp only [List.map_cons, List.nodup_cons]
  exact ⟨(nget_eq_none_iff l k).1 h, hn⟩

theorem nodup_keys_ndel {α} (k : Nat) (l : List (Nat × α)) (hn : (l.map (·.1)).Nodup) :
    ((ndel l k).map (·.1)).Nodup :=
  hn.sublist ((List.filter_sublist (l := l)).map _)

theorem count_flatMap_ndel (k : Nat) (l : List (Nat × List Nat)) (fs : List Nat)
    (hn : (l.map (·.1)).Nodup) (h : nget l k = some fs) (f : Nat) :
    (l.flatMap (·.2)).count f = fs.count f + ((ndel l k).flatMap (·.2)).count f := by
  induction l with
  | nil => simp at h
  | cons a r ih =>
    obtain ⟨a, b⟩ := a
    simp only [List.map_cons, List.nodup_cons] at hn
    rw [nget_cons] at h
    by_cases e : a = k
    · subst e
      simp only [if_true, Option.some.injEq] at h
      subst h
      have hr : ndel r a = r := by
        apply List.filter_eq_self.2
        intro x hx
        have : x.1 ≠ a := by
          intro e; apply hn.1; rw [← e]; exact List.mem_map_of_mem hx
        simp [this]
      have : ndel ((a, b) :: r) a = ndel r a := by simp [ndel]
      rw [this, hr]; simp
    · simp only [e, if_false] at h
      have : ndel ((a, b) :: r) k = (a, b) :: ndel r k := by simp [ndel, e]
      rw [this]
      simp only [List.flatMap_cons, List.count_append]
      rw [ih hn.2 h]; omega

/-- What the lock invariant reads of `St`: of a job slot only the files it holds, of the queue only whether it is
    empty.  Stated on this projection, the invariant does not see a change anywhere else in `St`
    (`SameCore.proj`). -/
structure LK where
  idx : List Nat
  files : List (Nat × List Nat)
  used : List (Nat × Nat)
  views : List (Nat × List Nat)
  jI : Option (List Nat)
  jT : Option (List Nat)
  jM : Option (List Nat)
  jC : Option (List Nat)
  qE : Bool
  tag : Bool
  merge : Bool
  convert : Bool

def proj (s : St) : LK :=
  { idx := s.idx, files := s.files, used := s.used, views := s.views,
    jI := s.jImport.map (·.2), jT := s.jTag.map (·.2.2), jM := s.jMerge.map (·.2),
    jC := s.jConv.map (·.2), qE := s.queue.isEmpty, tag := s.tag, merge := s.merge,
    convert := s.convert }

def LK.held (k : LK) : List Nat := k.jI.getD [] ++ k.jT.getD [] ++ k.jM.getD [] ++ k.jC.getD []

def LK.holders (k : LK) (f : Nat) : Nat :=
  k.idx.count f + (k.views.flatMap (·.2)).count f + k.held.count f

/-- A job start overwrites its slot and is guarded only by the flag (the import: by the queue having been empty),
    so the slot has to be empty whenever the guard passes, or the locks of the job in it would never be released.
    Unique view keys: `viewRelease` removes every entry of the key (`ndel`) and releases the files of the first. -/
def LK.JobsWF (k : LK) : Prop :=
  (k.views.map (·.1)).Nodup ∧ (k.qE = true → k.jI = none) ∧ (k.tag = false → k.jT = none) ∧
  (k.merge = false → k.jM = none) ∧ (k.convert = false → k.jC = none)

/-- `p`: locks that no holder accounts for any more and that `release` has not yet given back.  Inside a completion
    event the job slot (or view) is emptied first and its files are released last, after the job starts in between
    took their locks (the completion cases of `CInv_step`, Pk/Proofs/MgrLocksStep.lean); every intermediate state
    satisfies the invariant with those files in `p`. -/
def CInvK (p : List Nat) (k : LK) : Prop :=
  (∀ f, (nget k.used f).getD 0 = k.holders f + p.count f) ∧
  (∀ f, nget k.used f ≠ some 0) ∧
  (∀ f, (nget k.files f).isSome = (nget k.used f).isSome) ∧
  k.JobsWF

def CInv (p : List Nat) (s : St) : Prop := CInvK p (proj s)

theorem countInv_iff_cinv (s : St) : Pk.Props.C13.CountInv s ↔ CInv [] s := by
  have hw : Pk.Props.C13.JobsWF s ↔ (proj s).JobsWF := by
    simp only [Pk.Props.C13.JobsWF, LK.JobsWF, proj, List.isEmpty_iff, Option.map_eq_none_iff]
  unfold Pk.Props.C13.CountInv CInv CInvK
  rw [hw]
  have hh : ∀ f, (proj s).holders f + List.count f [] = Pk.Props.C13.holders s f := fun f => by
    simp only [List.count_nil, Nat.add_zero]; rfl
  simp only [hh]
  rfl

theorem isSome_of_getD_pos {o : Option Nat} (h : 0 < o.getD 0) : o.isSome = true := by
  cases o <;> simp at h ⊢

/-- every lock is taken on a suffix of the service list (`getIndexesCopy`), whose files are held already -/
theorem CInvK.lock_idx {p : List Nat} {k : LK} (h : CInvK p k) (i : Nat) (k' : LK)
    (hu : k'.used = lock k.used (k.idx.drop i)) (hf : k'.files = k.files)
    (hh : ∀ f, k'.holders f = k.holders f + (k.idx.drop i).count f) (hw : k'.JobsWF) : CInvK p k' := by
  obtain ⟨h1, h2, h3, _⟩ := h
  refine ⟨?_, ?_, ?_, hw⟩
  · intro f; rw [hu, lock_getD, h1, hh]; omega
  · rw [hu]; exact lock_ne_zero _ _ h2
  · intro f
    rw [hu, hf, lock_isSome, h3]
    by_cases hm : f ∈ k.idx.drop i
    · have : 0 < (nget k.used f).getD 0 := by
        rw [h1]; unfold LK.holders
        have := List.count_pos_iff.2 (List.mem_of_mem_drop hm)
        omega
      simp [isSome_of_getD_pos this]
    · simp [hm]

theorem CInvK.start_import {p : List Nat} {k : LK} (i : Nat) (h : CInvK p k) (hj : k.jI = none)
    (hq : k.qE = false) :
    CInvK p { k with used := lock k.used (k.idx.drop i), jI := some (k.idx.drop i) } := by
  obtain ⟨_, hI, hT, hM, hC⟩ := h.2.2.2
  refine h.lock_idx i _ rfl rfl ?_ ⟨‹_›, ?_, hT, hM, hC⟩
  · intro f; simp [LK.holders, LK.held, hj]; omega
  · intro e; simp [hq] at e

theorem CInvK.start_tag {p : List Nat} {k : LK} (i : Nat) (h : CInvK p k) (hj : k.tag = false) :
    CInvK p { k with used := lock k.used (k.idx.drop i), jT := some (k.idx.drop i), tag := true } := by
  obtain ⟨_, hI, hT, hM, hC⟩ := h.2.2.2
  refine h.lock_idx i _ rfl rfl ?_ ⟨‹_›, hI, ?_, hM, hC⟩
  · intro f; simp [LK.holders, LK.held, hT hj]; omega
  · intro e; simp at e

theorem CInvK.start_merge {p : List Nat} {k : LK} (i : Nat) (h : CInvK p k) (hj : k.merge = false) :
    CInvK p { k with used := lock k.used (k.idx.drop i), jM := some (k.idx.drop i), merge := true } := by
  obtain ⟨_, hI, hT, hM, hC⟩ := h.2.2.2
  refine h.lock_idx i _ rfl rfl ?_ ⟨‹_›, hI, hT, ?_, hC⟩
  · intro f; simp [LK.holders, LK.held, hM hj]; omega
  · intro e; simp at e

theorem CInvK.start_conv {p : List Nat} {k : LK} (i : Nat) (h : CInvK p k) (hj : k.convert = false) :
    CInvK p { k with used := lock k.used (k.idx.drop i), jC := some (k.idx.drop i), convert := true } := by
  obtain ⟨_, hI, hT, hM, hC⟩ := h.2.2.2
  refine h.lock_idx i _ rfl rfl ?_ ⟨‹_›, hI, hT, hM, ?_⟩
  · intro f; simp [LK.holders, LK.held, hC hj]; omega
  · intro e; simp at e

theorem CInvK.open_view {p : List Nat} {k : LK} (i key : Nat) (h : CInvK p k)
    (hv : nget k.views key = none) :
    CInvK p { k with used := lock k.used (k.idx.drop i), views := nins key (k.idx.drop i) k.views } := by
  obtain ⟨hN, hI, hT, hM, hC⟩ := h.2.2.2
  refine h.lock_idx i _ rfl rfl ?_
    ⟨nodup_keys_nins _ _ _ hv hN, hI, hT, hM, hC⟩
  intro f
  simp only [LK.holders, LK.held, count_flatMap_nins _ _ _ hv]
  omega

theorem CInvK.done_import {p : List Nat} {k : LK} {held : List Nat} (h : CInvK p k)
    (hj : k.jI = some held) : CInvK (held ++ p) { k with jI := none } := by
  obtain ⟨h1, h2, h3, hN, hI, hT, hM, hC⟩ := h
  refine ⟨?_, h2, h3, hN, fun _ => rfl, hT, hM, hC⟩
  intro f; rw [h1]; simp [LK.holders, LK.held, hj]; omega

theorem CInvK.done_tag {p : List Nat} {k : LK} {held : List Nat} (h : CInvK p k)
    (hj : k.jT = some held) : CInvK (held ++ p) { k with jT := none } := by
  obtain ⟨h1, h2, h3, hN, hI, hT, hM, hC⟩ := h
  refine ⟨?_, h2, h3, hN, hI, fun _ => rfl, hM, hC⟩
  intro f; rw [h1]; simp [LK.holders, LK.held, hj]; omega

theorem CInvK.done_merge {p : List Nat} {k : LK} {held : List Nat} (h : CInvK p k)
    (hj : k.jM = some held) : CInvK (held ++ p) { k with jM := none } := by
  obtain ⟨h1, h2, h3, hN, hI, hT, hM, hC⟩ := h
  refine ⟨?_, h2, h3, hN, hI, hT, fun _ => rfl, hC⟩
  intro f; rw [h1]; simp [LK.holders, LK.held, hj]; omega

theorem CInvK.done_conv {p : List Nat} {k : LK} {held : List Nat} (h : CInvK p k)
    (hj : k.jC = some held) : CInvK (held ++ p) { k with jC := none } := by
  obtain ⟨h1, h2, h3, hN, hI, hT, hM, hC⟩ := h
  refine ⟨?_, h2, h3, hN, hI, hT, hM, fun _ => rfl⟩
  intro f; rw [h1]; simp [LK.holders, LK.held, hj]; omega

theorem CInvK.clear_tag {p : List Nat} {k : LK} (h : CInvK p k) (hj : k.jT = none) :
    CInvK p { k with tag := false } := by
  obtain ⟨h1, h2, h3, hN, hI, hT, hM, hC⟩ := h
  exact ⟨h1, h2, h3, hN, hI, fun _ => hj, hM, hC⟩

theorem CInvK.clear_merge {p : List Nat} {k : LK} (h : CInvK p k) (hj : k.jM = none) :
    CInvK p { k with merge := false } := by
  obtain ⟨h1, h2, h3, hN, hI, hT, hM, hC⟩ := h
  exact ⟨h1, h2, h3, hN, hI, hT, fun _ => hj, hC⟩

theorem CInvK.clear_conv {p : List Nat} {k : LK} (h : CInvK p k) (hj : k.jC = none) :
    CInvK p { k with convert := false } := by
  obtain ⟨h1, h2, h3, hN, hI, hT, hM, hC⟩ := h
  exact ⟨h1, h2, h3, hN, hI, hT, hM, fun _ => hj⟩

theorem CInvK.set_queue {p : List Nat} {k : LK} (b : Bool) (h : CInvK p k) (hj : b = true → k.jI = none) :
    CInvK p { k with qE := b } := by
  obtain ⟨h1, h2, h3, hN, hI, hT, hM, hC⟩ := h
  exact ⟨h1, h2, h3, hN, hj, hT, hM, hC⟩

theorem CInvK.close_view {p : List Nat} {k : LK} {key : Nat} {fs : List Nat} (h : CInvK p k)
    (hv : nget k.views key = some fs) : CInvK (fs ++ p) { k with views := ndel k.views key } := by
  obtain ⟨h1, h2, h3, hN, hI, hT, hM, hC⟩ := h
  refine ⟨?_, h2, h3, nodup_keys_ndel _ _ hN, hI, hT, hM, hC⟩
  intro f; rw [h1]
  simp only [LK.holders, LK.held, count_flatMap_ndel _ _ _ hN hv f, List.count_append]
  omega

theorem CInvK.add_files {p : List Nat} {k : LK} (cr : List (Nat × List Nat)) (h : CInvK p k) :
    CInvK p { k with idx := k.idx ++ cr.map (·.1),
                     files := cr.foldl (fun fs (x : Nat × List Nat) => nins x.1 x.2 fs) k.files,
                     used := lock k.used (cr.map (·.1)) } := by
  obtain ⟨h1, h2, h3, hw⟩ := h
  refine ⟨?_, lock_ne_zero _ _ h2, ?_, hw⟩
  · intro f; simp only [lock_getD, h1, LK.holders, LK.held, List.count_append]; omega
  · intro f; simp only [nget_insFiles_isSome, lock_isSome, h3]

theorem release_idx (s : St) (fs : List Nat) : (release s fs).idx = s.idx := release_frame (·.idx) s fs
theorem release_next (s : St) (fs : List Nat) : (release s fs).next = s.next := release_frame (·.next) s fs
theorem release_views (s : St) (fs : List Nat) : (release s fs).views = s.views := release_frame (·.views) s fs
theorem release_jImport (s : St) (fs : List Nat) : (release s fs).jImport = s.jImport :=
  release_frame (·.jImport) s fs

theorem proj_release (s : St) (fs : List Nat) :
    proj (release s fs) = { proj s with used := (release s fs).used, files := (release s fs).files } :=
  release_frame (fun x => { proj x with used := (release s fs).used, files := (release s fs).files }) s fs

theorem CInv_release {p held : List Nat} {s : St} (h : CInv (held ++ p) s) : CInv p (release s held) := by
  unfold CInv at *
  rw [proj_release]
  obtain ⟨h1, h2, h3, hw⟩ := h
  refine ⟨?_, release_ne_zero s held h2, release_sync s held h3, hw⟩
  intro f
  have := h1 f
  simp only [List.count_append] at this
  show (nget (release s held).used f).getD 0 = (proj s).holders f + p.count f
  rw [release_getD]
  show (nget (proj s).used f).getD 0 - _ = _
  omega

theorem SameCore.proj {s s' : St} (h : SameCore s s') : proj s' = proj s := by
  rw [h]; rfl

theorem CInv_same {p : List Nat} {s s' : St} (e : SameCore s s') (h : CInv p s) : CInv p s' := by
  unfold CInv; rw [e.proj]; exact h

end Pk.Proofs.MgrLocks

namespace Pk.Proofs.MgrViews
open Pk.Mgr

theorem nget_nil {α} (k : Nat) : nget ([] : List (Nat × α)) k = none := rfl

theorem release_nil (s : St) : release s [] = s := rfl

end Pk.Proofs.MgrViews
