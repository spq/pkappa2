/-
  `GraphWF` and why the calls keep it.  AddTag, DelTag and UpdateTag(query) each replace one tag and adjust the
  `referencedBy` lists along its references: one lemma, `GraphWF.edit`, with a rank function per call (the walk
  that accepted an UpdateTag(query) supplies its own: `elim_ranks`).  A rename is a delete followed by an add.
  The other calls do not touch what the graph looks at (`gview`).
  Before that, the dependency walk `elim`: its result, most recent first, holds the references of every entry
  further down (`DepOrder`), so the distance from the end is a rank (`rk`, `elim_ranks`), and a rank bounds the rounds
  the walk needs (`elim_isSome`): `resolveOrder_isSome_iff`.
-/
import Pk.Model.TagGraph
import Pk.Proofs.Lib

namespace Pk.Proofs.TagGraph
open Pk.TagGraph

theorem get_set (m : TagMap) (k : Name) (v : Tag) (k' : Name) :
    tget (tset m k v) k' = if k = k' then some v else tget m k' := by
  induction m with
  | nil => simp [tset, tget]
  | cons a m ih =>
    obtain ⟨a1, a2⟩ := a
    by_cases h : a1 = k <;> by_cases h' : k = k' <;> simp_all [tset, tget]

theorem get_del (m : TagMap) (k k' : Name) :
    tget (tdel m k) k' = if k = k' then none else tget m k' := by
  induction m with
  | nil => simp [tdel, tget]
  | cons a m ih =>
    obtain ⟨a1, a2⟩ := a
    by_cases h : a1 = k <;> by_cases h' : k = k' <;> simp_all [tdel, tget]

theorem get_mod (m : TagMap) (k : Name) (f : Tag → Tag) (k' : Name) :
    tget (tmod m k f) k' = if k = k' then (tget m k).map f else tget m k' := by
  unfold tmod
  cases h : tget m k with
  | none => by_cases h' : k = k' <;> simp_all
  | some t => by_cases h' : k = k' <;> simp_all [get_set]

theorem mem_keys (m : TagMap) (k : Name) : k ∈ tkeys m ↔ (tget m k).isSome := by
  induction m with
  | nil => exact ⟨nofun, nofun⟩
  | cons a m ih =>
    obtain ⟨a1, a2⟩ := a
    unfold tget
    by_cases h : a1 = k
    · rw [if_pos h]; exact ⟨fun _ => rfl, fun _ => h ▸ List.mem_cons_self⟩
    · rw [if_neg h, ← ih]
      exact ⟨fun h' => (List.mem_cons.mp h').resolve_left (Ne.symm h), List.mem_cons_of_mem _⟩

theorem tkeys_append (a b : TagMap) : tkeys (a ++ b) = tkeys a ++ tkeys b := by simp [tkeys]

theorem tset_new (m : TagMap) (n : Name) (t : Tag) (h : tget m n = none) : tset m n t = m ++ [(n, t)] := by
  induction m with
  | nil => rfl
  | cons a m ih =>
    obtain ⟨k, v⟩ := a
    unfold tget at h
    split at h
    · cases h
    · rename_i hk
      simp only [tset, hk, if_false, List.cons_append]
      rw [ih h]

theorem mem_of_tget (m : TagMap) (n : Name) (t : Tag) (h : tget m n = some t) : (n, t) ∈ m := by
  induction m with
  | nil => cases h
  | cons a m ih =>
    obtain ⟨k, v⟩ := a
    unfold tget at h
    split at h
    · rename_i hk
      cases h; subst hk
      exact List.mem_cons_self
    · exact List.mem_cons_of_mem _ (ih h)

theorem tget_singleton {k n : Name} {v t : Tag} (h : tget [(k, v)] n = some t) : n = k ∧ t = v := by
  have := mem_of_tget _ _ _ h
  simpa using this

theorem tget_of_mem (m : TagMap) (hnd : (tkeys m).Nodup) (n : Name) (t : Tag) (h : (n, t) ∈ m) :
    tget m n = some t := by
  induction m with
  | nil => cases h
  | cons a m ih =>
    obtain ⟨k, v⟩ := a
    simp only [tkeys, List.map_cons, List.nodup_cons] at hnd
    rcases List.mem_cons.mp h with h | h
    · cases h
      simp [tget]
    · have hk : k ≠ n := by
        intro hk; subst hk
        apply hnd.1
        exact List.mem_map.mpr ⟨(k, t), h, rfl⟩
      simp only [tget, hk, if_false]
      exact ih hnd.2 h

theorem tget_none_iff (m : TagMap) (n : Name) : tget m n = none ↔ n ∉ tkeys m := by
  rw [mem_keys]
  cases tget m n <;> simp

theorem tkeys_tset_has (m : TagMap) (n : Name) (t u : Tag) (h : tget m n = some u) :
    tkeys (tset m n t) = tkeys m := by
  induction m with
  | nil => cases h
  | cons a m ih =>
    obtain ⟨k, v⟩ := a
    unfold tget at h
    by_cases hk : k = n
    · simp [tset, hk, tkeys]
    · simp only [hk, if_false] at h
      have := ih h
      simp only [tkeys] at this
      simp [tset, hk, tkeys, this]

theorem tkeys_tset_new (m : TagMap) (n : Name) (t : Tag) (h : tget m n = none) :
    tkeys (tset m n t) = tkeys m ++ [n] := by
  rw [tset_new m n t h, tkeys_append]
  rfl

theorem tkeys_tmod (m : TagMap) (n : Name) (f : Tag → Tag) : tkeys (tmod m n f) = tkeys m := by
  unfold tmod
  cases h : tget m n with
  | none => rfl
  | some t => exact tkeys_tset_has m n _ t h

theorem tkeys_foldl_tmod (f : Name → Tag → Tag) (rs : List Name) (m : TagMap) :
    tkeys (rs.foldl (fun m r => tmod m r (f r)) m) = tkeys m :=
  Lib.foldl_keep tkeys _ (fun m r => tkeys_tmod m r (f r)) rs m

theorem tkeys_tdel (m : TagMap) (n : Name) : tkeys (tdel m n) = (tkeys m).filter (fun k => k != n) := by
  induction m with
  | nil => rfl
  | cons a m ih =>
    obtain ⟨k, v⟩ := a
    simp only [tkeys] at ih
    by_cases hk : k = n
    · simp [tdel, hk, tkeys, ih]
    · simp [tdel, hk, tkeys, ih]

theorem has_iff (m : TagMap) (k : Name) : thas m k = true ↔ ∃ t, tget m k = some t := by
  simp [thas, Option.isSome_iff_exists]


def DepOrder (refs : Name → List Name) : List Name → Prop
  | [] => True
  | n :: rest => (∀ r ∈ refs n, r ∈ rest) ∧ DepOrder refs rest

theorem elimRound_mono (refs : Name → List Name) (ns res : List Name) :
    ∀ x ∈ res, x ∈ elimRound refs ns res := by
  fun_induction elimRound refs ns res with
  | case1 res => exact fun _ h => h
  | case2 n ns res _ ih => exact ih
  | case3 n ns res _ _ ih => exact fun x hx => ih x (List.mem_cons_of_mem _ hx)
  | case4 n ns res _ _ ih => exact ih

theorem elimRound_sub (refs : Name → List Name) (ns res : List Name) :
    ∀ x ∈ elimRound refs ns res, x ∈ res ∨ x ∈ ns := by
  fun_induction elimRound refs ns res with
  | case1 res => exact fun _ h => Or.inl h
  | case2 n ns res _ ih => exact fun x hx => (ih x hx).imp_right (List.mem_cons_of_mem _)
  | case3 n ns res _ _ ih =>
    intro x hx
    rcases ih x hx with h | h
    · exact (List.mem_cons.mp h).elim (fun h => Or.inr (h ▸ List.mem_cons_self)) Or.inl
    · exact Or.inr (List.mem_cons_of_mem _ h)
  | case4 n ns res _ _ ih => exact fun x hx => (ih x hx).imp_right (List.mem_cons_of_mem _)

theorem elimRound_depOrder (refs : Name → List Name) (ns res : List Name) (h : DepOrder refs res) :
    DepOrder refs (elimRound refs ns res) := by
  fun_induction elimRound refs ns res with
  | case1 res => exact h
  | case2 n ns res _ ih => exact ih h
  | case3 n ns res _ hall ih => exact ih ⟨fun r hr => by simpa using List.all_eq_true.mp hall r hr, h⟩
  | case4 n ns res _ _ ih => exact ih h

theorem elimRound_resolves (refs : Name → List Name) (ns res : List Name) (n : Name)
    (hn : n ∈ ns) (hr : ∀ r ∈ refs n, r ∈ res) : n ∈ elimRound refs ns res := by
  fun_induction elimRound refs ns res with
  | case1 res => cases hn
  | case2 a ns res hc ih =>
    rcases List.mem_cons.mp hn with rfl | hn'
    · exact elimRound_mono _ _ _ _ (by simpa using hc)
    · exact ih hn' hr
  | case3 a ns res _ _ ih =>
    rcases List.mem_cons.mp hn with rfl | hn'
    · exact elimRound_mono _ _ _ _ List.mem_cons_self
    · exact ih hn' fun r hr' => List.mem_cons_of_mem _ (hr r hr')
  | case4 a ns res _ hnot ih =>
    rcases List.mem_cons.mp hn with rfl | hn'
    · exact absurd (List.all_eq_true.mpr fun r hr' => by simpa using hr r hr') hnot
    · exact ih hn' hr
theorem elim_some (refs : Name → List Name) (names : List Name) (fuel : Nat) (res out : List Name)
    (h : elim refs names fuel res = some out) (ho : DepOrder refs res) :
    DepOrder refs out ∧ (∀ n ∈ names, n ∈ out) ∧ (∀ x ∈ out, x ∈ res ∨ x ∈ names) := by
  fun_induction elim refs names fuel res with
  | case1 fuel res hall =>
    cases h
    exact ⟨ho, fun n hn => by simpa using List.all_eq_true.mp hall n hn, fun x hx => Or.inl hx⟩
  | case2 res _ => cases h
  | case3 res _ f ih =>
    obtain ⟨h1, h2, h3⟩ := ih h (elimRound_depOrder _ _ _ ho)
    exact ⟨h1, h2, fun x hx => (h3 x hx).elim (elimRound_sub _ _ _ x) Or.inr⟩

/-- rank of a name = length of the suffix that starts at its last occurrence -/
def rk : List Name → Name → Nat
  | [], _ => 0
  | _ :: xs, n => if n ∈ xs then rk xs n else xs.length + 1

theorem rk_le_length (l : List Name) (n : Name) (h : n ∈ l) : rk l n ≤ l.length := by
  induction l with
  | nil => cases h
  | cons x xs ih =>
    unfold rk
    split
    · rename_i hx
      exact Nat.le_succ_of_le (ih hx)
    · exact Nat.le_refl _

theorem depOrder_mem (refs : Name → List Name) (l : List Name) (h : DepOrder refs l) (n r : Name)
    (hn : n ∈ l) (hr : r ∈ refs n) : r ∈ l := by
  induction l with
  | nil => cases hn
  | cons x xs ih =>
    rcases List.mem_cons.mp hn with rfl | hn'
    · exact List.mem_cons_of_mem _ (h.1 r hr)
    · exact List.mem_cons_of_mem _ (ih h.2 hn')

theorem depOrder_rank (refs : Name → List Name) (l : List Name) (h : DepOrder refs l) (n r : Name)
    (hn : n ∈ l) (hr : r ∈ refs n) : rk l r < rk l n := by
  induction l with
  | nil => cases hn
  | cons x xs ih =>
    by_cases hnx : n ∈ xs
    · have hrx : r ∈ xs := depOrder_mem refs xs h.2 n r hnx hr
      simp only [rk, hnx, hrx, if_true]
      exact ih h.2 hnx
    · have hxn : n = x := by
        rcases List.mem_cons.mp hn with h1 | h1
        · exact h1
        · exact absurd h1 hnx
      subst hxn
      have hrx : r ∈ xs := h.1 r hr
      simp only [rk, hnx, hrx, if_true, if_false]
      have := rk_le_length xs r hrx
      omega

theorem elim_ranks {refs : Name → List Name} {names out : List Name} {fuel : Nat}
    (h : elim refs names fuel [] = some out) :
    ∀ n ∈ names, ∀ r ∈ refs n, r ∈ names ∧ rk out r < rk out n := by
  obtain ⟨hord, hall, hsub⟩ := elim_some _ _ _ _ _ h trivial
  intro n hn r hr
  exact ⟨(hsub r (depOrder_mem _ out hord n r (hall n hn) hr)).resolve_left nofun,
    depOrder_rank _ out hord n r (hall n hn) hr⟩

/-! #### progress: with a rank function every incomplete round resolves something -/

def unres (names res : List Name) : Nat := (names.filter (fun n => !res.contains n)).length

theorem unres_lt (names res res' : List Name) (hsub : ∀ x ∈ res, x ∈ res')
    (hnew : ∃ x ∈ names, x ∉ res ∧ x ∈ res') : unres names res' < unres names res := by
  unfold unres
  have : names.filter (fun n => !res'.contains n) =
      (names.filter fun n => !res.contains n).filter fun n => !res'.contains n := by
    rw [List.filter_filter]
    refine List.filter_congr fun x _ => ?_
    by_cases h : x ∈ res'
    · simp [h]
    · have h' : x ∉ res := fun h' => h (hsub x h')
      simp [h, h']
  rw [this, List.length_filter_lt_length_iff_exists]
  obtain ⟨x, hx, h1, h2⟩ := hnew
  exact ⟨x, List.mem_filter.mpr ⟨hx, by simpa using h1⟩, by simpa using h2⟩

theorem unres_pos (names res : List Name) (h : names.all (fun n => res.contains n) = false) :
    0 < unres names res := by
  unfold unres
  rw [List.length_filter_pos_iff]
  simpa using h

theorem exists_ready (refs : Name → List Name) (names res : List Name) (rank : Name → Nat)
    (hcl : ∀ n ∈ names, ∀ r ∈ refs n, r ∈ names ∧ rank r < rank n) :
    ∀ k n, rank n < k → n ∈ names → n ∉ res → ∃ n0 ∈ names, n0 ∉ res ∧ ∀ r ∈ refs n0, r ∈ res := by
  intro k
  induction k with
  | zero => intro n h; omega
  | succ k ih =>
    intro n hk hn hres
    by_cases hall : ∀ r ∈ refs n, r ∈ res
    · exact ⟨n, hn, hres, hall⟩
    · obtain ⟨r, h⟩ := Classical.not_forall.mp hall
      obtain ⟨hr, hnr⟩ := Classical.not_imp.mp h
      have := hcl n hn r hr
      exact ih r (by omega) this.1 hnr

theorem elim_isSome (refs : Name → List Name) (names : List Name) (rank : Name → Nat)
    (hcl : ∀ n ∈ names, ∀ r ∈ refs n, r ∈ names ∧ rank r < rank n) (fuel : Nat) (res : List Name)
    (h : unres names res ≤ fuel) : (elim refs names fuel res).isSome := by
  fun_induction elim refs names fuel res with
  | case1 fuel res hall => rfl
  | case2 res hall =>
    exact absurd (Nat.lt_of_lt_of_le (unres_pos names res (by simpa using hall)) h) (Nat.lt_irrefl 0)
  | case3 res hall f ih =>
    apply ih
    have hall' : names.all (fun n => res.contains n) = false := by simpa using hall
    obtain ⟨x, hx, hc⟩ := List.all_eq_false.mp hall'
    have hxr : x ∉ res := by simpa using hc
    obtain ⟨n0, hn0, hn0r, hrefs⟩ := exists_ready refs names res rank hcl (rank x + 1) x (Nat.lt_succ_self _) hx hxr
    have hlt := unres_lt names res (elimRound refs names res) (elimRound_mono _ _ _)
      ⟨n0, hn0, hn0r, elimRound_resolves _ _ _ n0 hn0 hrefs⟩
    exact Nat.le_of_lt_succ (Nat.lt_of_lt_of_le hlt h)
/-- no reference dangles, no cycle (stated by a rank function), and `referencedBy` is exactly the inverse of
    `referencedTags()` -/
structure GraphWF (m : TagMap) : Prop where
  closed : ∀ n t, tget m n = some t → ∀ r ∈ t.refs, (tget m r).isSome
  acyclic : ∃ rank : Name → Nat, ∀ n t, tget m n = some t → ∀ r ∈ t.refs, rank r < rank n
  mirror : ∀ n t, tget m n = some t → ∀ x, x ∈ t.referencedBy ↔ ∃ u, tget m x = some u ∧ n ∈ u.refs

/-- the part of the table the graph predicates look at -/
def gview (m : TagMap) (k : Name) : Option (List Name × List Name) :=
  (tget m k).map fun t => (t.refs, t.referencedBy)

theorem refsOf_of_gview {m m' : TagMap} (h : ∀ k, gview m' k = gview m k) (k : Name) : refsOf m' k = refsOf m k := by
  have := h k
  unfold gview at this
  unfold refsOf
  cases h1 : tget m' k <;> cases h2 : tget m k <;> simp_all

theorem gview_some {m m' : TagMap} (h : ∀ k, gview m' k = gview m k) {n : Name} {t' : Tag}
    (ht : tget m' n = some t') : ∃ t, tget m n = some t ∧ t.refs = t'.refs ∧ t.referencedBy = t'.referencedBy := by
  have := h n
  unfold gview at this
  rw [ht] at this
  obtain ⟨t, hm, he⟩ := Option.map_eq_some_iff.mp this.symm
  exact ⟨t, hm, (Prod.mk.inj he).1, (Prod.mk.inj he).2⟩

/-- `m'` holds the tags of `m`, up to the fields the graph does not look at and the order of referrers -/
def GLike (m m' : TagMap) : Prop :=
  ∀ k t', tget m' k = some t' →
    ∃ t, tget m k = some t ∧ t.refs = t'.refs ∧ ∀ x, x ∈ t.referencedBy ↔ x ∈ t'.referencedBy

theorem GraphWF.of_like {m m' : TagMap} (h : GLike m m') (h' : GLike m' m) (wf : GraphWF m) : GraphWF m' := by
  refine ⟨?_, ?_, ?_⟩
  · intro n t' ht' r hr
    obtain ⟨t, ht, h1, _⟩ := h n t' ht'
    obtain ⟨u, hu⟩ := Option.isSome_iff_exists.mp (wf.closed n t ht r (h1 ▸ hr))
    obtain ⟨u', hu', _⟩ := h' r u hu
    rw [hu']; rfl
  · obtain ⟨rank, hrank⟩ := wf.acyclic
    refine ⟨rank, fun n t' ht' r hr => ?_⟩
    obtain ⟨t, ht, h1, _⟩ := h n t' ht'
    exact hrank n t ht r (h1 ▸ hr)
  · intro n t' ht' x
    obtain ⟨t, ht, _, h2⟩ := h n t' ht'
    rw [← h2 x, wf.mirror n t ht x]
    constructor
    · rintro ⟨u, hu, hn⟩
      obtain ⟨u', hu', h1, _⟩ := h' x u hu
      exact ⟨u', hu', h1 ▸ hn⟩
    · rintro ⟨u', hu', hn⟩
      obtain ⟨u, hu, h1, _⟩ := h x u' hu'
      exact ⟨u, hu, h1 ▸ hn⟩

theorem GraphWF.congr {m m' : TagMap} (h : ∀ k, gview m' k = gview m k) (wf : GraphWF m) : GraphWF m' :=
  have like : ∀ {a b : TagMap}, (∀ k, gview b k = gview a k) → GLike a b := fun h _ _ ht' =>
    let ⟨t, h1, h2, h3⟩ := gview_some h ht'
    ⟨t, h1, h2, fun _ => h3 ▸ Iff.rfl⟩
  GraphWF.of_like (like h) (like fun k => (h k).symm) wf

theorem graphWF_empty : GraphWF [] :=
  ⟨fun _ _ h => by simp [tget] at h, ⟨fun _ => 0, fun _ _ h => by simp [tget] at h⟩, fun _ _ h => by simp [tget] at h⟩

def liftRB (f : List Name → List Name) (t : Tag) : Tag := { t with referencedBy := f t.referencedBy }

theorem mem_addRef (x y : Name) (l : List Name) : y ∈ addRef x l ↔ y ∈ l ∨ y = x := by
  unfold addRef
  split
  · rename_i h
    have hx : x ∈ l := by simpa using h
    constructor
    · exact Or.inl
    · rintro (h | h)
      · exact h
      · exact h ▸ hx
  · simp

theorem mem_delRef (x y : Name) (l : List Name) : y ∈ delRef x l ↔ y ∈ l ∧ y ≠ x := by
  simp [delRef]

/-- folding `tmod _ r (liftRB f)` over a reference list, for an `f` that drops some names and adds others: every
    listed tag gets `f` applied (possibly twice), which on the level of membership is the same as once -/
theorem foldRB_spec (f : List Name → List Name) (A B : Name → Prop)
    (hf : ∀ l x, x ∈ f l ↔ x ∈ l ∧ A x ∨ B x) (rs : List Name) (m : TagMap) (k : Name) :
    ∃ g : List Name → List Name,
      tget (rs.foldl (fun m r => tmod m r (liftRB f)) m) k = (tget m k).map (liftRB g) ∧
      ∀ l x, x ∈ g l ↔ (if k ∈ rs then x ∈ l ∧ A x ∨ B x else x ∈ l) := by
  induction rs generalizing m with
  | nil =>
    refine ⟨id, ?_, by simp⟩
    simp only [List.foldl_nil]
    cases tget m k <;> simp [liftRB]
  | cons r rs ih =>
    obtain ⟨g1, h1, h2⟩ := ih (tmod m r (liftRB f))
    simp only [List.foldl_cons]
    rw [h1, get_mod]
    by_cases hrk : r = k
    · subst hrk
      refine ⟨g1 ∘ f, ?_, ?_⟩
      · cases tget m r <;> simp [liftRB]
      · intro l x
        simp only [Function.comp, List.mem_cons, true_or, if_true]
        rw [h2]
        by_cases hk : r ∈ rs
        · rw [if_pos hk, hf]
          exact ⟨fun h => h.elim (fun h => h.1) Or.inr, fun h => h.elim (fun h => Or.inl ⟨Or.inl h, h.2⟩) Or.inr⟩
        · rw [if_neg hk]
          exact hf l x
    · refine ⟨g1, by simp [hrk], ?_⟩
      intro l x
      rw [h2]
      have : (k ∈ r :: rs) ↔ k ∈ rs := by
        simp only [List.mem_cons]
        constructor
        · rintro (h | h)
          · exact absurd h.symm hrk
          · exact h
        · exact Or.inr
      by_cases hk : k ∈ rs <;> simp [hk, this]

theorem tkeys_addReferrer (name : Name) (m : TagMap) (rs : List Name) : tkeys (addReferrer name m rs) = tkeys m :=
  tkeys_foldl_tmod (fun _ t => { t with referencedBy := addRef name t.referencedBy }) rs m

theorem tkeys_delReferrer (name : Name) (m : TagMap) (rs : List Name) : tkeys (delReferrer name m rs) = tkeys m :=
  tkeys_foldl_tmod (fun _ t => { t with referencedBy := delRef name t.referencedBy }) rs m

theorem get_addReferrer (name : Name) (m : TagMap) (rs : List Name) (k : Name) :
    ∃ g : List Name → List Name,
      tget (addReferrer name m rs) k = (tget m k).map (liftRB g) ∧
      ∀ l x, x ∈ g l ↔ (x ∈ l ∨ (k ∈ rs ∧ x = name)) := by
  obtain ⟨g, h1, h2⟩ := foldRB_spec (addRef name) (fun _ => True) (· = name)
    (fun l x => by rw [mem_addRef, and_true]) rs m k
  refine ⟨g, h1, ?_⟩
  intro l x
  rw [h2]
  by_cases hk : k ∈ rs <;> simp [hk]

theorem get_delReferrer (name : Name) (m : TagMap) (rs : List Name) (k : Name) :
    ∃ g : List Name → List Name,
      tget (delReferrer name m rs) k = (tget m k).map (liftRB g) ∧
      ∀ l x, x ∈ g l ↔ (x ∈ l ∧ ¬ (k ∈ rs ∧ x = name)) := by
  obtain ⟨g, h1, h2⟩ := foldRB_spec (delRef name) (· ≠ name) (fun _ => False)
    (fun l x => by rw [mem_delRef, or_false]) rs m k
  refine ⟨g, h1, ?_⟩
  intro l x
  rw [h2]
  by_cases hk : k ∈ rs <;> simp [hk]


theorem liftRB_refs (g : List Name → List Name) (t : Tag) : (liftRB g t).refs = t.refs := rfl
theorem liftRB_rb (g : List Name → List Name) (t : Tag) : (liftRB g t).referencedBy = g t.referencedBy := rfl

theorem GraphWF.referrer_iff {m : TagMap} (wf : GraphWF m) {name k : Name} {t u : Tag}
    (ht : tget m name = some t) (hu : tget m k = some u) : name ∈ u.referencedBy ↔ k ∈ t.refs := by
  rw [wf.mirror k u hu name]
  constructor
  · rintro ⟨v, hv, h⟩
    rw [ht] at hv; cases hv; exact h
  · exact fun h => ⟨t, ht, h⟩

/-- `m'` is `m` with the tag `name` replaced by one with references `rs` (or removed: `rs = []`): every other
    tag keeps its references and lists `name` as a referrer exactly when it is in `rs`. -/
theorem GraphWF.edit {m m' : TagMap} {name : Name} {rs : List Name} (wf : GraphWF m)
    (hrs : refsOf m' name = rs)
    (hother : ∀ k, k ≠ name → ∃ g : List Name → List Name, tget m' k = (tget m k).map (liftRB g) ∧
      ∀ u, tget m k = some u → ∀ x, x ∈ g u.referencedBy ↔ if x = name then k ∈ rs else x ∈ u.referencedBy)
    (hex : ∀ r ∈ rs, (tget m r).isSome)
    (hused : tget m' name = none → ∀ k u, tget m k = some u → name ∉ u.refs)
    (hrank : ∃ rank : Name → Nat, (∀ r ∈ rs, rank r < rank name) ∧
      ∀ k u, k ≠ name → tget m k = some u → ∀ r ∈ u.refs, rank r < rank k)
    (hrb : ∀ nt, tget m' name = some nt →
      ∀ x, x ∈ nt.referencedBy ↔ x ≠ name ∧ ∃ u, tget m x = some u ∧ name ∈ u.refs) :
    GraphWF m' := by
  obtain ⟨rank, hr1, hr2⟩ := hrank
  have hnrefs : ∀ nt, tget m' name = some nt → nt.refs = rs := by
    intro nt h
    rw [← hrs, refsOf, h]
  have hshape : ∀ k t', k ≠ name → tget m' k = some t' → ∃ u, tget m k = some u ∧ t'.refs = u.refs ∧
      ∀ x, x ∈ t'.referencedBy ↔ if x = name then k ∈ rs else x ∈ u.referencedBy := by
    intro k t' hk ht'
    obtain ⟨g, h1, h2⟩ := hother k hk
    obtain ⟨u, hu, rfl⟩ := Option.map_eq_some_iff.mp (h1.symm.trans ht')
    exact ⟨u, hu, rfl, h2 u hu⟩
  have hkeep : ∀ k u, k ≠ name → tget m k = some u → ∃ t', tget m' k = some t' ∧ t'.refs = u.refs := by
    intro k u hk hu
    obtain ⟨g, h1, _⟩ := hother k hk
    exact ⟨liftRB g u, by rw [h1, hu]; rfl, rfl⟩
  have hrefs : ∀ x k, x ≠ name →
      ((∃ v, tget m x = some v ∧ k ∈ v.refs) ↔ ∃ v', tget m' x = some v' ∧ k ∈ v'.refs) := by
    intro x k hx
    constructor
    · rintro ⟨v, hv, hk⟩
      obtain ⟨v', hv', h⟩ := hkeep x v hx hv
      exact ⟨v', hv', h ▸ hk⟩
    · rintro ⟨v', hv', hk⟩
      obtain ⟨v, hv, h, _⟩ := hshape x v' hx hv'
      exact ⟨v, hv, h ▸ hk⟩
  have hsome : ∀ r, (tget m r).isSome → (r = name → tget m' name ≠ none) → (tget m' r).isSome := by
    intro r h hn
    by_cases hrn : r = name
    · subst hrn; exact Option.isSome_iff_ne_none.mpr (hn rfl)
    · obtain ⟨v, hv⟩ := Option.isSome_iff_exists.mp h
      obtain ⟨v', hv', _⟩ := hkeep r v hrn hv
      rw [hv']; rfl
  refine ⟨?_, ⟨rank, ?_⟩, ?_⟩
  · intro k t' ht' r hr
    by_cases hk : k = name
    · subst hk
      have hr' : r ∈ rs := hnrefs t' ht' ▸ hr
      exact hsome r (hex r hr') fun h => absurd (hr1 r hr') (h ▸ Nat.lt_irrefl _)
    · obtain ⟨u, hu, h1, _⟩ := hshape k t' hk ht'
      exact hsome r (wf.closed k u hu r (h1 ▸ hr)) fun h hn => hused hn k u hu (h ▸ h1 ▸ hr)
  · intro k t' ht' r hr
    by_cases hk : k = name
    · subst hk; exact hr1 r (hnrefs t' ht' ▸ hr)
    · obtain ⟨u, hu, h1, _⟩ := hshape k t' hk ht'
      exact hr2 k u hk hu r (h1 ▸ hr)
  · intro k t' ht' x
    by_cases hk : k = name
    · subst hk
      rw [hrb t' ht' x]
      constructor
      · rintro ⟨hx, h⟩; exact (hrefs x k hx).mp h
      · rintro ⟨v', hv', hk⟩
        have hx : x ≠ k := by
          rintro rfl
          exact Nat.lt_irrefl _ (hr1 x (hnrefs v' hv' ▸ hk))
        exact ⟨hx, (hrefs x k hx).mpr ⟨v', hv', hk⟩⟩
    · obtain ⟨u, hu, _, h2⟩ := hshape k t' hk ht'
      rw [h2 x]
      by_cases hx : x = name
      · subst hx
        rw [if_pos rfl, ← hrs, refsOf]
        cases tget m' x <;> simp
      · rw [if_neg hx, wf.mirror k u hu x]
        exact hrefs x k hx

theorem wf_add (m : TagMap) (name : Name) (nt : Tag) (rs : List Name) (wf : GraphWF m)
    (hnew : tget m name = none) (hrefs : nt.refs = rs) (hrb : nt.referencedBy = [])
    (hex : ∀ r ∈ rs, (tget m r).isSome) (hself : name ∉ rs) :
    GraphWF (addReferrer name (tset m name nt) rs) := by
  have hget := get_addReferrer name (tset m name nt) rs
  obtain ⟨g0, h0, h0'⟩ := hget name
  rw [get_set, if_pos rfl] at h0
  have hnone : ∀ k u, tget m k = some u → name ∉ u.refs ∧ name ∉ u.referencedBy := by
    intro k u hu
    constructor
    · intro h
      have := wf.closed k u hu name h
      rw [hnew] at this; cases this
    · intro h
      obtain ⟨v, hv, _⟩ := (wf.mirror k u hu name).mp h
      rw [hnew] at hv; cases hv
  obtain ⟨rank, hrank⟩ := wf.acyclic
  refine wf.edit (rs := rs) (by rw [refsOf, h0]; exact hrefs) (fun k hk => ?_) hex
    (fun h => by rw [h0] at h; cases h)
    ⟨fun x => if x = name then (rs.map rank).sum + 1 else rank x, fun r hr => ?_, fun k u hk hu r hr => ?_⟩ ?_
  · obtain ⟨g, h1, h2⟩ := hget k
    rw [get_set, if_neg (Ne.symm hk)] at h1
    refine ⟨g, h1, fun u hu x => ?_⟩
    rw [h2]
    by_cases hx : x = name
    · subst hx; simp [(hnone k u hu).2]
    · simp [hx]
  · have hrn : r ≠ name := fun h => hself (h ▸ hr)
    simp only [hrn, if_false, if_true]
    exact Nat.lt_succ_of_le (Pk.Lib.wsum_mem rank hr)
  · have hrn : r ≠ name := fun h => (hnone k u hu).1 (h ▸ hr)
    simp only [hrn, hk, if_false]
    exact hrank k u hu r hr
  · intro nt' hnt' x
    rw [h0] at hnt'; cases hnt'
    rw [liftRB_rb, h0', hrb]
    constructor
    · rintro (h | ⟨h, _⟩)
      · cases h
      · exact absurd h hself
    · rintro ⟨_, u, hu, h⟩
      exact absurd h (hnone x u hu).1

theorem wf_del (m : TagMap) (name : Name) (t : Tag) (wf : GraphWF m)
    (ht : tget m name = some t) (hrb : t.referencedBy = []) :
    GraphWF (delReferrer name (tdel m name) t.refs) := by
  have hget := get_delReferrer name (tdel m name) t.refs
  have hnone : tget (delReferrer name (tdel m name) t.refs) name = none := by
    obtain ⟨g, h, _⟩ := hget name
    rw [h, get_del, if_pos rfl]; rfl
  obtain ⟨rank, hrank⟩ := wf.acyclic
  refine wf.edit (rs := []) (by rw [refsOf, hnone]) (fun k hk => ?_) nofun (fun _ k u hu hn => ?_)
    ⟨rank, nofun, fun k u _ hu => hrank k u hu⟩ (fun nt h => by rw [hnone] at h; cases h)
  · obtain ⟨g, h1, h2⟩ := hget k
    rw [get_del, if_neg (Ne.symm hk)] at h1
    refine ⟨g, h1, fun u hu x => ?_⟩
    rw [h2]
    by_cases hx : x = name
    · subst hx; simp [wf.referrer_iff ht hu]
    · simp [hx]
  · have := (wf.mirror name t ht k).mpr ⟨u, hu, hn⟩
    rw [hrb] at this; cases this

theorem refs_exist_tdel {m : TagMap} (wf : GraphWF m) {n : Name} {t : Tag} (ht : tget m n = some t)
    (hrb : t.referencedBy = []) : ∀ r ∈ t.refs, (tget (tdel m n) r).isSome := by
  intro r hr
  have hrn : n ≠ r := by
    rintro rfl
    have := (wf.mirror n t ht n).mpr ⟨t, ht, hr⟩
    rw [hrb] at this; cases this
  rw [get_del, if_neg hrn]
  exact wf.closed n t ht r hr

theorem glike_of_map {y a b : TagMap}
    (h : ∀ k, ∃ ga gb, tget a k = (tget y k).map (liftRB ga) ∧ tget b k = (tget y k).map (liftRB gb) ∧
      ∀ u, tget y k = some u → ∀ x, x ∈ ga u.referencedBy ↔ x ∈ gb u.referencedBy) : GLike a b ∧ GLike b a := by
  constructor <;> intro k t' ht' <;> obtain ⟨ga, gb, h1, h2, h3⟩ := h k
  · obtain ⟨u, hy, rfl⟩ := Option.map_eq_some_iff.mp (h2.symm.trans ht')
    exact ⟨liftRB ga u, by rw [h1, hy]; rfl, rfl, h3 u hy⟩
  · obtain ⟨u, hy, rfl⟩ := Option.map_eq_some_iff.mp (h1.symm.trans ht')
    exact ⟨liftRB gb u, by rw [h2, hy]; rfl, rfl, fun x => (h3 u hy x).symm⟩

theorem wf_rename (m : TagMap) (name new : Name) (t : Tag) (wf : GraphWF m)
    (ht : tget m name = some t) (hnew : tget m new = none) (hrb : t.referencedBy = []) :
    GraphWF (t.refs.foldl (fun m r => tmod m r fun rt =>
      { rt with referencedBy := addRef new (delRef name rt.referencedBy) }) (tset (tdel m name) new t)) := by
  have hne : name ≠ new := by rintro rfl; rw [ht] at hnew; cases hnew
  have hdel := get_delReferrer name (tdel m name) t.refs
  -- renaming is deleting `name`, then adding the tag as `new`
  have wf2 : GraphWF (addReferrer new (tset (delReferrer name (tdel m name) t.refs) new t) t.refs) := by
    refine wf_add _ new t t.refs (wf_del m name t wf ht hrb) ?_ rfl hrb (fun r hr => ?_) fun h => ?_
    · obtain ⟨g, hg, _⟩ := hdel new
      rw [hg, get_del, if_neg hne, hnew]; rfl
    · obtain ⟨g, hg, _⟩ := hdel r
      rw [hg, Option.isSome_map]
      exact refs_exist_tdel wf ht hrb r hr
    · have := wf.closed name t ht new h
      rw [hnew] at this; cases this
  -- the model does both in one fold: tag by tag that lists the same referrers as the two folds
  have hlike := glike_of_map (y := tset (tdel m name) new t) fun k => by
    obtain ⟨ga, ha1, ha2⟩ := foldRB_spec (fun l => addRef new (delRef name l)) (· ≠ name) (· = new)
      (by intro l x; rw [mem_addRef, mem_delRef]) t.refs (tset (tdel m name) new t) k
    obtain ⟨g2, hb1, hb2⟩ := get_addReferrer new (tset (delReferrer name (tdel m name) t.refs) new t) t.refs k
    obtain ⟨g1, hd1, hd2⟩ := hdel k
    refine ⟨g2 ∘ (if new = k then id else g1), ga, ?_, ha1, fun u hu x => ?_⟩
    · rw [hb1, get_set, get_set, hd1]
      split
      · rfl
      · rw [Option.map_map]; rfl
    · rw [ha2, Function.comp, hb2]
      rw [get_set] at hu
      split at hu
      · rename_i hnk
        cases hu
        rw [if_pos hnk, hrb]
        by_cases hk : k ∈ t.refs <;> simp [hk]
      · rename_i hnk
        rw [if_neg hnk, hd2]
        by_cases hk : k ∈ t.refs <;> simp [hk]
  exact GraphWF.of_like hlike.1 hlike.2 wf2

theorem gview_tset_same (m : TagMap) (name : Name) (t t' : Tag) (ht : tget m name = some t)
    (h1 : t'.refs = t.refs) (h2 : t'.referencedBy = t.referencedBy) (k : Name) :
    gview (tset m name t') k = gview m k := by
  unfold gview
  rw [get_set]
  by_cases hk : name = k
  · subst hk; simp [ht, h1, h2]
  · simp [hk]

theorem gview_tmod (m : TagMap) (n : Name) (f : Tag → Tag)
    (hf : ∀ t, (f t).refs = t.refs ∧ (f t).referencedBy = t.referencedBy) (k : Name) :
    gview (tmod m n f) k = gview m k := by
  unfold gview
  rw [get_mod]
  by_cases hk : n = k
  · subst hk
    cases tget m n with
    | none => simp
    | some t => simp [(hf t).1, (hf t).2]
  · simp [hk]

theorem inherit_some {st st' : State} (h : inherit st = some st') :
    ∃ order, resolveOrder st.tags = some order ∧
      st' = { st with tags := inheritApply st.allStreams st.tags order } := by
  unfold inherit at h
  cases ho : resolveOrder st.tags with
  | none => rw [ho] at h; cases h
  | some order => rw [ho] at h; cases h; exact ⟨order, rfl, rfl⟩

theorem wf_update (m : TagMap) (name : Name) (t nt : Tag) (rs out : List Name) (wf : GraphWF m)
    (ht : tget m name = some t) (hrefs : nt.refs = rs) (hrb : nt.referencedBy = t.referencedBy)
    (helim : elim (fun n => if n = name then rs else refsOf m n) (tkeys m) ((tkeys m).length + 1) [] = some out) :
    GraphWF (tset (addReferrer name (delReferrer name m (t.refs.filter (fun r => !rs.contains r)))
      (rs.filter (fun r => !t.refs.contains r))) name nt) := by
  -- the order `out` that the walk along the new references found ranks the new graph
  have hrk := elim_ranks helim
  have hkey : ∀ {k u}, tget m k = some u → k ∈ tkeys m := fun hu => (mem_keys m _).mpr (by rw [hu]; rfl)
  have hnew : ∀ r ∈ rs, r ∈ tkeys m ∧ rk out r < rk out name := fun r hr =>
    hrk name (hkey ht) r (by simpa using hr)
  refine wf.edit (rs := rs) (by rw [refsOf, get_set, if_pos rfl]; exact hrefs) (fun k hk => ?_)
    (fun r hr => (mem_keys m r).mp (hnew r hr).1) (fun h => by rw [get_set, if_pos rfl] at h; cases h)
    ⟨rk out, fun r hr => (hnew r hr).2, fun k u hk hu r hr =>
      (hrk k (hkey hu) r (by simpa [hk, refsOf, hu] using hr)).2⟩ ?_
  · obtain ⟨g2, h21, h22⟩ := get_addReferrer name (delReferrer name m (t.refs.filter (fun r => !rs.contains r)))
      (rs.filter (fun r => !t.refs.contains r)) k
    obtain ⟨g1, h11, h12⟩ := get_delReferrer name m (t.refs.filter (fun r => !rs.contains r)) k
    refine ⟨g2 ∘ g1, ?_, fun u hu x => ?_⟩
    · rw [get_set, if_neg (Ne.symm hk), h21, h11, Option.map_map]; rfl
    · rw [Function.comp, h22, h12]
      by_cases hx : x = name
      · subst hx
        rw [if_pos rfl, wf.referrer_iff ht hu]
        by_cases a : k ∈ t.refs <;> by_cases b : k ∈ rs <;> simp [a, b]
      · simp [hx]
  · intro nt' h x
    rw [get_set, if_pos rfl] at h; cases h
    rw [hrb, wf.mirror name t ht x]
    refine ⟨fun ⟨u, hu, hn⟩ => ⟨?_, u, hu, hn⟩, fun h => h.2⟩
    rintro rfl
    rw [ht] at hu; cases hu
    obtain ⟨rank, hrank⟩ := wf.acyclic
    exact Nat.lt_irrefl _ (hrank x t ht x hn)

theorem any_missing {m : TagMap} {rs : List Name} :
    (rs.any fun r => !thas m r) = false ↔ ∀ r ∈ rs, (tget m r).isSome := by
  simp only [List.any_eq_false, thas, Bool.not_eq_true', Bool.not_eq_false]

theorem none_of_not_has (m : TagMap) (n : Name) (h : ¬ thas m n = true) : tget m n = none := by
  unfold thas at h
  cases hg : tget m n with
  | none => rfl
  | some t => simp [hg] at h

theorem not_self_of_not_rejected (n : Name) (p : Facts) (b : Bool)
    (h : defRejected n p b = false) : n ∉ p.refs := by
  intro hn
  simp [defRejected, hn] at h

theorem mkTag_refs (c d : String) (p : Facts) : (mkTag c d p).refs = p.refs := rfl

theorem rb_nil_of_isEmpty (t : Tag) (h : ¬ (!t.referencedBy.isEmpty) = true) : t.referencedBy = [] := by
  cases hr : t.referencedBy with
  | nil => rfl
  | cons a l => simp [hr] at h

theorem resolveOrder_isSome_iff (m : TagMap) :
    (resolveOrder m).isSome ↔
      ((∀ n t, tget m n = some t → ∀ r ∈ t.refs, (tget m r).isSome) ∧
       (∃ rank : Name → Nat, ∀ n t, tget m n = some t → ∀ r ∈ t.refs, rank r < rank n)) := by
  unfold resolveOrder
  rw [Option.isSome_map]
  constructor
  · intro h
    obtain ⟨out, hout⟩ := Option.isSome_iff_exists.mp h
    have hin : ∀ n t, tget m n = some t → ∀ r ∈ t.refs, r ∈ tkeys m ∧ rk out r < rk out n := fun n t ht r hr =>
      elim_ranks hout n ((mem_keys m n).mpr (by rw [ht]; rfl)) r (by simpa [refsOf, ht] using hr)
    exact ⟨fun n t ht r hr => (mem_keys m r).mp (hin n t ht r hr).1, rk out, fun n t ht r hr => (hin n t ht r hr).2⟩
  · rintro ⟨hcl, rank, hrank⟩
    refine elim_isSome (refsOf m) (tkeys m) rank (fun n hn r hr => ?_) ((tkeys m).length + 1) []
      (Nat.le_succ_of_le (List.length_filter_le _ _))
    obtain ⟨t, ht⟩ := Option.isSome_iff_exists.mp ((mem_keys m n).mp hn)
    have hr' : r ∈ t.refs := by simpa [refsOf, ht] using hr
    exact ⟨(mem_keys m r).mpr (hcl n t ht r hr'), hrank n t ht r hr'⟩

theorem inherit_isSome (st : State) (wf : GraphWF st.tags) : ∃ st', inherit st = some st' := by
  unfold inherit
  obtain ⟨o, ho⟩ := Option.isSome_iff_exists.mp ((resolveOrder_isSome_iff st.tags).mpr ⟨wf.closed, wf.acyclic⟩)
  rw [ho]
  exact ⟨_, rfl⟩

theorem tagJobPanics_false_of_closed (m : TagMap)
    (hcl : ∀ n t, tget m n = some t → ∀ r ∈ t.refs, (tget m r).isSome) : tagJobPanics m = false := by
  unfold tagJobPanics
  rw [List.any_eq_false]
  intro n _
  cases ht : tget m n with
  | none => simp
  | some t =>
    simp only [Bool.and_eq_true, Bool.not_eq_true', not_and]
    intro _
    simp only [Bool.not_eq_true, List.any_eq_false]
    intro r hr
    have := hcl n t ht r hr
    simp [thas, this]

theorem closed_tset_new (m : TagMap) (n : Name) (nt : Tag)
    (hcl : ∀ k t, tget m k = some t → ∀ r ∈ t.refs, (tget m r).isSome)
    (hnt : ∀ r ∈ nt.refs, (tget m r).isSome) :
    ∀ k t, tget (tset m n nt) k = some t → ∀ r ∈ t.refs, (tget (tset m n nt) r).isSome := by
  intro k t hk r hr
  rw [get_set] at hk
  have hex : (tget m r).isSome := by
    by_cases hnk : n = k
    · simp only [hnk, if_true] at hk
      cases hk
      exact hnt r hr
    · simp only [hnk, if_false] at hk
      exact hcl k t hk r hr
  rw [get_set]
  split
  · rfl
  · exact hex

end Pk.Proofs.TagGraph
