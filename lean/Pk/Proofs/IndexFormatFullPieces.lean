/-
  The pieces of a written stream.  A record that `HostOf`, `PktAt` and `BlobAt` place (the vocabulary of the C01
  statements) is `Located` (the vocabulary of the C07 statements) at the addresses, the packet records and the blob the
  writer computes from the input stream, and these pieces satisfy `Comp.Ok`.  On them `Stream.Packets` and `Stream.Data`
  return what was written (`packets_walk_stream`, `data_of_stream`): both walks are taken on the has-next chain alone.
-/
import Pk.Proofs.IndexFormatFullSizes
import Pk.Proofs.MergeFullWalk
namespace Pk.Index
open Pk Pk.Bytes

theorem skipsOk_of_sound {L : List PacketRec} (hn : chainOf L = some L) (hs : SkipSound L) : SkipsOk L := by
  induction L with
  | nil => trivial
  | cons p t ih =>
    rcases chainOf_cons hn with ⟨h0, ht⟩ | ⟨_, c', hc, ht⟩
    · cases ht; exact ⟨fun h1 => by omega, trivial⟩
    · cases ht; exact ⟨fun _ => (hs.1.resolve_left (chainOf_ne_nil hc)).2, ih hc hs.2⟩

theorem streamRecs_imp_lt {imps : List ImportKey} {s : StreamIn} (hk : s.KeysIn imps) :
    ∀ q ∈ streamRecs imps s, q.imp < imps.length :=
  forall_mem_of_map_eq (P := fun c => c.1 < imps.length) (streamRecs_core imps s)
    (fun p hp => by
      obtain ⟨_, q, hq, ref, href, e⟩ := streamRaw_mem imps s p hp
      show p.imp < imps.length
      rw [e]; exact List.idxOf_lt_length_of_mem (hk q hq ref href))

theorem packetsWalk_walkAll (imports : List (Bytes × Nat)) {L : List PacketRec} (h : chainOf L = some L) :
    ∀ (rt : Int) (last : Option (Nat × Nat)) (lr : Nat), packetsWalk imports rt last lr L = walkAll imports rt last lr L := by
  induction L with
  | nil => simp [chainOf] at h
  | cons p t ih =>
    intro rt last lr
    rcases chainOf_cons h with ⟨h0, ht⟩ | ⟨h1, c', hc, ht⟩
    · cases ht
      simp only [packetsWalk, walkAll, h0, if_true]
      cases (if last ≠ some (p.imp, p.idx) then imports[p.imp]? else some default) <;> simp
    · cases ht
      have hp : ¬ p.flags % 2 = 0 := by omega
      rw [walkAll]
      simp only [packetsWalk, hp, if_false, ih hc]
      rfl

theorem packets_walk_stream (imps : List ImportKey) (s : StreamIn) (B : List PacketRec) (p0 : PacketIn)
    (hp0 : s.packets.head? = some p0) (hkeys : s.KeysIn imps) (hne : streamRaw imps s ≠ [])
    (hrefs : ∀ p ∈ s.packets, p.refs ≠ [] ∧ p.dir < 2 ∧ ∀ ref ∈ p.refs, ref.index < 2 ^ 64)
    (hch : ∀ i p q, s.packets[i]? = some p → s.packets[i + 1]? = some q →
      p.ts ≤ q.ts ∧ (q.ts - p0.ts).tdiv 1000 - (p.ts - p0.ts).tdiv 1000 < 2 ^ 32)
    (hpw : ((trips s.data 0 s.packets).map (outOf p0.ts)).Pairwise (fun a b => (a.file, a.index) ≠ (b.file, b.index))) :
    packetsWalk imps p0.ts none 0 (streamRecs imps s ++ B) = .ok ((trips s.data 0 s.packets).map (outOf p0.ts)) := by
  have hnext := (streamRecs_shape imps s hne).1
  rw [packetsWalk_chain _ _ _ _ (chainOf_append hnext B), packetsWalk_walkAll _ hnext, walkAll_congr _ _ _ (streamRecs_core imps s)]
  exact walkAll_stream imps s p0 hp0 hkeys hrefs hch hpw

theorem dirBytes_len_sum (cds : List (Nat × Bytes)) (h : ∀ c ∈ cds, c.1 = 0 ∨ c.1 = 1) :
    (dirBytes 0 cds).length + (dirBytes 1 cds).length = (cds.map (·.2.length)).sum := by
  induction cds with
  | nil => rfl
  | cons c cs ih =>
    have ih := ih (fun x hx => h x (by simp [hx]))
    simp only [dirBytes] at ih ⊢
    rcases h c (by simp) with hc | hc <;> simp [hc] at ih ⊢ <;> omega

/-- `pre`: the varints that account for the payload bytes are a prefix of `segBytes` (`segBytes_covers`); the reader and
    `copySeg` stop there, so only `pre` belongs to the pieces -/
theorem pieces_of_written {imps : List ImportKey} {P : List PacketRec} {D : Bytes} {s : StreamIn} {rec_ : StreamRec}
    {cds : List (Nat × Bytes)} (hp : PktAt imps P s rec_) (hcd : chunkDirs s.packets s.data = some cds)
    (hb : (D.drop rec_.dataStart).take (streamBlob cds).length = streamBlob cds)
    (hcb : rec_.cb = (dirBytes 0 cds).length) (hsb : rec_.sb = (dirBytes 1 cds).length)
    (hdirs : ∀ p ∈ s.packets, p.dir = 0 ∨ p.dir = 1) (hsize : (s.data.map (·.bytes.length)).sum < 2 ^ 64) :
    ∃ pre rest', segBytes 0 (segRuns (cds.map fun c => (c.1, c.2.length))) = pre ++ rest' ∧
      chainOf (P.drop rec_.pstart) = some (streamRecs imps s) ∧ (∀ q ∈ streamRecs imps s, q.imp < imps.length) ∧
      (∃ rest, D.drop rec_.dataStart = (dirBytes 0 cds ++ dirBytes 1 cds) ++ pre ++ rest) ∧
      SkipsOk (streamRecs imps s) ∧ SegCovers (rec_.cb + rec_.sb) pre ∧ rec_.cb + rec_.sb < 2 ^ 64 := by
  obtain ⟨hkeys, hne, rest, hdrop⟩ := hp
  obtain ⟨hnext, hskip⟩ := streamRecs_shape imps s hne
  obtain ⟨_, hcdir, _, hcl⟩ := chunkDirs_spec s.packets s.data cds hcd
  have hsum : (dirBytes 0 cds).length + (dirBytes 1 cds).length = (cds.map (·.2.length)).sum :=
    dirBytes_len_sum cds (fun c hc => by obtain ⟨p, hp, he⟩ := hcdir c hc; rw [← he]; exact hdirs p hp)
  rw [← hcl] at hsize
  have hruns := segRuns_total cds
  obtain ⟨pre, rest', hsb', hcov⟩ := segBytes_covers 0 (segRuns (cds.map fun c => (c.1, c.2.length))) (by rw [hruns]; exact hsize)
  rw [hruns, ← hsum, ← hcb, ← hsb] at hcov
  refine ⟨pre, rest', hsb', by rw [hdrop]; exact chainOf_append hnext rest, streamRecs_imp_lt hkeys, ?_,
    skipsOk_of_sound hnext hskip, hcov, by rw [hcb, hsb, hsum]; exact hsize⟩
  have := (List.take_append_drop (streamBlob cds).length (D.drop rec_.dataStart)).symm
  rw [hb] at this
  generalize (D.drop rec_.dataStart).drop (streamBlob cds).length = tail at this
  exact ⟨rest' ++ tail, by rw [this]; simp only [streamBlob, hsb', List.append_assoc]⟩

theorem located_of_written {imps : List ImportKey} {P : List PacketRec} {D : Bytes} {gs : List HostGroup} {s : StreamIn}
    {rec_ : StreamRec} (hh : HostOf gs s rec_) (hp : PktAt imps P s rec_) (hb : BlobAt D s rec_)
    (hrec : ∀ cds, chunkDirs s.packets s.data = some cds → rec_.cb = (dirBytes 0 cds).length ∧ rec_.sb = (dirBytes 1 cds).length)
    (hdirs : ∀ p ∈ s.packets, p.dir = 0 ∨ p.dir = 1) (hsize : (s.data.map (·.bytes.length)).sum < 2 ^ 64) :
    ∃ k, Located imps.length P D (gs.map HostGroup.toReader) rec_ k ∧ k.Ok rec_ ∧
      k.client = s.client ∧ k.server = s.server ∧ k.chain = streamRecs imps s := by
  obtain ⟨g, hg, v1, v2, e1, e2⟩ := hh
  obtain ⟨cds, hcd, _, htake⟩ := hb
  obtain ⟨hcb, hsb⟩ := hrec cds hcd
  obtain ⟨pre, _, _, hch, himp, hd, hsk, hcov, hlt⟩ := pieces_of_written hp hcd htake hcb hsb hdirs hsize
  exact ⟨{ client := s.client, server := s.server, chain := streamRecs imps s, c := dirBytes 0 cds ++ dirBytes 1 cds, seg := pre },
    ⟨⟨g.toReader, by rw [List.getElem?_map, hg]; rfl, v1, v2, e1, e2⟩, hch, himp, hd, by simp [hcb, hsb]⟩,
    ⟨hsk, hcov, hlt⟩, rfl, rfl, rfl⟩

theorem data_of_stream (r : Reader) (imps : List ImportKey) (s : StreamIn) (rec_ : StreamRec) (cds : List (Nat × Bytes))
    (hpa : PktAt imps r.f.packets s rec_) (hcd : chunkDirs s.packets s.data = some cds)
    (hb2 : (r.f.data.drop rec_.dataStart).take (streamBlob cds).length = streamBlob cds)
    (hcb : rec_.cb = (dirBytes 0 cds).length) (hsb : rec_.sb = (dirBytes 1 cds).length)
    (hrefs : ∀ p ∈ s.packets, p.refs ≠ [] ∧ p.dir < 2)
    (hpos : (s.data.map (·.pos)).Pairwise (· < ·)) (hsize : (s.data.map (·.bytes.length)).sum < 2 ^ 64) :
    ∃ ds, r.data rec_ = .ok ds ∧ dirFlat 0 ds = dirBytes 0 cds ∧ dirFlat 1 ds = dirBytes 1 cds ∧
      dirSeq (outRuns ds) = dirSeq (cds.map fun c => (c.1, c.2.length)) := by
  obtain ⟨pre, rest', hseg, hch, _, hd, hsk, hcov, hlt⟩ := pieces_of_written hpa hcd hb2 hcb hsb
    (fun p hp => by have := (hrefs p hp).2; omega) hsize
  rw [reader_data_of_pieces r rec_ ⟨[], [], streamRecs imps s, dirBytes 0 cds ++ dirBytes 1 cds, pre⟩ hch hd
    (by simp [hcb, hsb]) ⟨hsk, hcov, hlt⟩]
  obtain ⟨hnext, hskip⟩ := streamRecs_shape imps s hpa.2.1
  obtain ⟨_, hdirs, _, htot⟩ := chunkDirs_spec s.packets s.data cds hcd
  have hge := dirBytes_le_dirSum imps s cds hcd hrefs hpos
  have hw := dataWalk_fold ((streamRecs imps s).length + 1) (streamRecs imps s)
    { refTime := r.firstPacket rec_, expectWraps := expWraps rec_, lastRel := 0,
      prevTs := 0, prevDir := 0, pt0 := [], pt1 := [] } (by omega) hnext hskip
  obtain ⟨t0, t1⟩ := foldl_dwStep_pt (streamRecs imps s)
    { refTime := r.firstPacket rec_, expectWraps := expWraps rec_, lastRel := 0,
      prevTs := 0, prevDir := 0, pt0 := [], pt1 := [] }
  unfold dataOf
  simp only [hw, hcb, hsb, List.take_left, List.drop_left, List.take_length]
  have hR : ∀ x ∈ segRuns (cds.map fun c => (c.1, c.2.length)), x.1 < 2 := by
    intro x hx
    obtain ⟨y, hy, he⟩ := segRuns_dirs _ x hx
    obtain ⟨c, hc, rfl⟩ := List.mem_map.mp hy
    obtain ⟨p, hp, hpd⟩ := hdirs c hc
    rw [← he]; simp only; rw [← hpd]; exact (hrefs p hp).2
  obtain ⟨ds, hds, f0, f1, fm⟩ := dataRuns_ok (segRuns (cds.map fun c => (c.1, c.2.length))) (dirBytes 0 cds) (dirBytes 1 cds)
    _ _ ((pre ++ rest').length + 1)
    hR (by rw [segRuns_total, htot]; exact hsize) (by rw [runSum_segRuns, runSum_cds]) (by rw [runSum_segRuns, runSum_cds])
    (by rw [ptSum_reverse, t0]; have := hge 0; simp [ptSum]; omega)
    (by rw [ptSum_reverse, t1]; have := hge 1; simp [ptSum]; omega)
    (by rw [hseg]; omega)
  rw [hseg, dataRuns_indep (by rw [hcb, hsb] at hcov; exact hcov) rest' _ _ rfl 0 _ _ _ (pre.length + 1)
    (Nat.le_refl _) (Nat.le_refl _)] at hds
  exact ⟨ds, hds, f0, f1, by rw [fm, dirSeq_segRuns]⟩

end Pk.Index
