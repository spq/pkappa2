/-
  A wire that holds one TCP conversation.  The handshake (SYN, SYN/ACK) from the empty state is
  `handshake_state`.  After it the state has one shape in every phase (`TSkel`: the stream `convStream`, its
  connection, the delivered chunks `Chunks2`; `Sk` reads the `Complete` flag off the connection), and a
  direction that has not been closed keeps `OpenDir`: both directions have it after the handshake
  (`openDir_after_handshake`), a segment of that direction keeps it (`seg_step`), a packet of the other
  direction does not touch it (`OpenDir.other`).  `live_step` is an accepted packet of any kind;
  `convStream_truth` is what the stream holds, in total and per direction.  Directions are a `Bool`
  (`true` = server → client).
-/
import Pk.Proofs.ImportReasmMachine
namespace Pk.Proofs.ImportReasm
open Pk.Import

def hsStream (e : Endpoints) (p0 p1 : Pkt) : Stream :=
  { caddr := e.cip, saddr := e.sip, cport := e.cport, sport := e.sport, udp := false,
    pktsRev := [(p1.ref, true), (p0.ref, false)], npkts := 2, dataRev := [], complete := false,
    fsm := { state := .established, dir := false } }

def hsConn (e : Endpoints) (p0 p1 : Pkt) : TcpConn :=
  { k := assemblerIndex p0, src := e.cip, dst := e.sip, sport := e.cport, dport := e.sport,
    c2s := { nextSeq := some (seqAdd p0.seq 1), closed := false, lastSeen := p0.ts, queue := [] },
    s2c := { nextSeq := some (seqAdd p1.seq 1), closed := false, lastSeen := max p0.ts p1.ts, queue := [] },
    stream := 0 }

def synStream (e : Endpoints) (p0 : Pkt) : Import.Stream :=
  { caddr := e.cip, saddr := e.sip, cport := e.cport, sport := e.sport, udp := false,
    pktsRev := [(p0.ref, false)], npkts := 1, fsm := { state := .synSent, dir := false } }

def synConn (e : Endpoints) (p0 : Pkt) : TcpConn :=
  { k := assemblerIndex p0, src := e.cip, dst := e.sip, sport := e.cport, dport := e.sport,
    c2s := { nextSeq := some (seqAdd p0.seq 1), lastSeen := p0.ts },
    s2c := { lastSeen := p0.ts }, stream := 0 }

theorem seqAdd_idem (s k : Nat) : seqAdd (seqAdd s k) 0 = seqAdd s k := by
  unfold seqAdd; rw [Nat.add_zero, Nat.mod_mod]

theorem tcpBody_syn (e : Endpoints) (p0 : Pkt) (h0 : IsSyn e p0) :
    tcpBody (newConn p0 0) (newTcpStream p0) p0 false = (synConn e p0, synStream e p0) := by
  obtain ⟨⟨a0, a1, a2, a3, a4⟩, b1, b2, b3, b4, b5⟩ := h0
  simp [tcpBody, acceptHalf, touch, newConn, newTcpStream, a1, a2, a3, a4, Stream.addPkt, Fsm.check, b1, b2, b3, b4, b5,
      assembleHalf, overlapExisting, seqDiff_self, checkOverlap, overlapWalk, sendToConnection, addContiguous,
      seqAdd_idem, synStream, synConn]

theorem tcpBody_synack (e : Endpoints) (p0 p1 : Pkt) (h1 : IsSynAck e p1) :
    tcpBody (synConn e p0) (synStream e p0) p1 true = (hsConn e p0 p1, hsStream e p0 p1) := by
  obtain ⟨⟨c0, c1, c2, c3, c4⟩, d1, d2, d3, d4, d5⟩ := h1
  have hmax : max p0.ts p1.ts = if p0.ts < p1.ts then p1.ts else p0.ts := by split <;> omega
  by_cases hlt : p0.ts < p1.ts
  · simp [tcpBody, acceptHalf, touch, Stream.addPkt, Fsm.check, d1, d2, d3, d4, d5, hlt, hmax,
      assembleHalf, overlapExisting, seqDiff_self, checkOverlap, overlapWalk, sendToConnection, addContiguous,
      seqAdd_idem, hsStream, hsConn, synStream, synConn]
  · simp [tcpBody, acceptHalf, touch, Stream.addPkt, Fsm.check, d1, d2, d3, d4, d5, hlt, hmax,
      assembleHalf, overlapExisting, seqDiff_self, checkOverlap, overlapWalk, sendToConnection, addContiguous,
      seqAdd_idem, hsStream, hsConn, synStream, synConn]

theorem tcpDir_dirPkt {e : Endpoints} (hd : e.Distinct) {c : TcpConn} {p : Pkt} {dir : Bool} (hc : ConnOf e c)
    (hp : DirPkt e p dir) : tcpDir p c = some dir := by
  obtain ⟨c1, c2, c3, c4, _⟩ := hc
  have : ¬ (e.cip = e.sip ∧ e.sip = e.cip ∧ e.cport = e.sport ∧ e.sport = e.cport) := fun h => hd ⟨h.1, h.2.2.1⟩
  rcases hp with ⟨rfl, _, p1, p2, p3, p4⟩ | ⟨rfl, _, p1, p2, p3, p4⟩ <;> simp [tcpDir, c1, c2, c3, c4, p1, p2, p3, p4, this]

/-- a reassembler that holds one TCP conversation and nothing else is the abstract state `[.tcp c st]`, so one
    packet of the conversation inside the window is `tcpBody` on that entry (`sim_step`) -/
theorem reasmPacket_one (e : Endpoints) (hd : e.Distinct) (t0 : Nat) (c : TcpConn) (st : Import.Stream) (u : Bool)
    (p : Pkt) (dir : Bool) (hc : ConnOf e c) (hp : DirPkt e p dir) (hw : ConnWin t0 c) (hts : p.ts ≤ t0 + timeout) :
    ∃ u', reasmPacket { streams := #[st], tcp := [c], udp := [], unmodelled := u } p =
      { streams := #[(tcpBody c st p dir).2], tcp := [(tcpBody c st p dir).1], udp := [], unmodelled := u' } := by
  have hr : Rel { streams := #[st], tcp := [c], udp := [], unmodelled := u } [.tcp c st] :=
    ⟨rfl, by simp only [concT, ← hc.2.2.2.2], rfl⟩
  have h := sim_step t0 _ _ p hr (by simpa [EntryWin] using hw) hts
  have ha : aStep [.tcp c st] p = [.tcp (tcpBody c st p dir).1 (tcpBody c st p dir).2] := by
    simp [aStep, entryDir, entryBody, hp.udp, tcpDir_dirPkt hd hc hp]
  rw [ha] at h
  obtain ⟨h1, h2, h3⟩ := h
  refine ⟨(reasmPacket { streams := #[st], tcp := [c], udp := [], unmodelled := u } p).unmodelled, ?_⟩
  generalize reasmPacket { streams := #[st], tcp := [c], udp := [], unmodelled := u } p = r' at h1 h2 h3 ⊢
  obtain ⟨s', t', u', m'⟩ := r'
  simp only [concT, concU, List.map_cons, List.map_nil, Entry.st] at h1 h2 h3
  have hs : (tcpBody c st p dir).1.stream = 0 := (tcpBody_frame c st p dir).2.2.2.2.trans hc.2.2.2.2
  subst h1 h2 h3
  generalize (tcpBody c st p dir).1 = c' at hs
  cases c'; cases hs; rfl

theorem handshake_state (e : Endpoints) (hd : e.Distinct) (p0 p1 : Pkt) (h0 : IsSyn e p0) (h1 : IsSynAck e p1)
    (ht : ¬ (p0.ts + timeout < p1.ts)) :
    ∃ u, [p0, p1].foldl reasmPacket {} =
      { streams := #[hsStream e p0 p1], tcp := [hsConn e p0 p1], udp := [], unmodelled := u } := by
  have step0 : reasmPacket {} p0 =
      { streams := #[synStream e p0], tcp := [synConn e p0], udp := [], unmodelled := false || decide (p0.payload.length > 1900) } := by
    unfold reasmPacket
    rw [if_neg (by simp [h0.1.1]), tcpPacket_keeps {} p0 (fun c hm => by cases hm), tcpNoFlush_new {} p0 rfl]
    show RState.mk (#[].push (tcpBody (newConn p0 0) (newTcpStream p0) p0 false).2) ([] ++ [(tcpBody (newConn p0 0) (newTcpStream p0) p0 false).1]) [] _ = _
    rw [tcpBody_syn e p0 h0]
    rfl
  obtain ⟨u, h2⟩ := reasmPacket_one e hd p0.ts (synConn e p0) (synStream e p0) (false || decide (p0.payload.length > 1900)) p1 true
    ⟨rfl, rfl, rfl, rfl, rfl⟩ (Or.inr ⟨rfl, h1.1⟩) ⟨Nat.le_refl _, (by intro pg hm; cases hm), (by intro pg hm; cases hm)⟩ (by omega)
  refine ⟨u, ?_⟩
  rw [List.foldl_cons, List.foldl_cons, List.foldl_nil, step0, h2, tcpBody_synack e p0 p1 h1]

theorem pdir_c2s {e : Endpoints} (hd : e.Distinct) {p : Pkt} (h : isC2S e p) : pdir e p = false := by
  obtain ⟨_, p1, p2, p3, p4⟩ := h
  unfold pdir
  rw [decide_eq_false_iff_not]
  rintro ⟨_, q1, q2, q3, q4⟩
  exact hd ⟨by rw [← p1, q1], by rw [← p3, q3]⟩

theorem pdir_s2c {e : Endpoints} {p : Pkt} (h : isS2C e p) : pdir e p = true := by
  unfold pdir; simp [h]

theorem Chunks2.mono {cp n0 done cc cs chunks} (h : Chunks2 cp n0 done cc cs chunks) (more : List Pkt) :
    Chunks2 cp n0 (done ++ more) cc cs chunks := by
  have hget : ∀ {k : Nat} {p : Pkt}, done[k]? = some p → (done ++ more)[k]? = some p := by
    intro k p h3
    rw [List.getElem?_append_left (List.getElem?_eq_some_iff.mp h3).1]; exact h3
  induction h with
  | nil => exact .nil
  | c2s _ h1 h2 h3 h4 h5 h6 h7 h8 ih => exact .c2s ih h1 h2 (hget h3) h4 h5 h6 h7 h8
  | s2c _ h1 h2 h3 h4 h5 h6 h7 h8 ih => exact .s2c ih h1 h2 (hget h3) h4 h5 h6 h7 h8

theorem Chunks2.lt {cp n0 done cc cs chunks} (h : Chunks2 cp n0 done cc cs chunks) :
    ∀ ch ∈ chunks, ch.1 < n0 + done.length := by
  induction h with
  | nil => intro ch hm; cases hm
  | c2s _ _ _ h3 _ _ _ _ _ ih =>
    intro ch hm
    rcases List.mem_cons.mp hm with rfl | hm
    · have := (List.getElem?_eq_some_iff.mp h3).1; simp only; omega
    · exact ih ch hm
  | s2c _ _ _ h3 _ _ _ _ _ ih =>
    intro ch hm
    rcases List.mem_cons.mp hm with rfl | hm
    · have := (List.getElem?_eq_some_iff.mp h3).1; simp only; omega
    · exact ih ch hm

def convStream (cp : ConvParams) (hs : Stream) (done : List Pkt) (chunks : List (Nat × Bytes)) : Stream :=
  { hs with pktsRev := (done.map (fun p => (p.ref, pdir cp.e p))).reverse ++ hs.pktsRev,
            npkts := hs.npkts + done.length,
            dataRev := chunks ++ hs.dataRev }

theorem DirPkt.pdir {e : Endpoints} (hd : e.Distinct) {p : Pkt} {dir : Bool} (h : DirPkt e p dir) :
    pdir e p = dir := by
  rcases h with ⟨rfl, h⟩ | ⟨rfl, h⟩
  · exact pdir_c2s hd h
  · exact pdir_s2c h

def hsWith (hs : Stream) (f : Fsm) (k : Bool) : Stream := { hs with fsm := f, complete := k }

theorem convStream_inert (cp : ConvParams) (hs : Import.Stream) (f f' : Fsm) (k : Bool) (done : List Pkt)
    (chunks : List (Nat × Bytes)) (p : Pkt) :
    ({ (convStream cp (hsWith hs f k) done chunks).addPkt p.ref (pdir cp.e p) with fsm := f' } : Import.Stream) =
      convStream cp (hsWith hs f' k) (done ++ [p]) chunks := by
  simp [convStream, hsWith, Stream.addPkt, Nat.add_assoc]

theorem convStream_data (cp : ConvParams) (hs : Stream) (f f' : Fsm) (k : Bool) (done : List Pkt)
    (chunks : List (Nat × Bytes)) (p : Pkt) (b : Bytes) :
    ({ Stream.record (convStream cp (hsWith hs f k) done chunks) p.ref (pdir cp.e p) b with fsm := f' } : Stream) =
      convStream cp (hsWith hs f' k) (done ++ [p]) ((hs.npkts + done.length, b) :: chunks) := by
  simp [convStream, hsWith, Stream.record, Nat.add_assoc]

theorem convStream_complete (cp : ConvParams) (hs : Stream) (f : Fsm) (k : Bool) (done : List Pkt)
    (chunks : List (Nat × Bytes)) :
    ({ convStream cp (hsWith hs f k) done chunks with complete := true } : Stream) =
      convStream cp (hsWith hs f true) done chunks := rfl

theorem bodyPkt_iff (cp : ConvParams) (p : Pkt) : BodyPkt cp p ↔ SegOf cp p false ∨ SegOf cp p true := by
  unfold BodyPkt SegOf ConvPkt DirPkt
  constructor
  · rintro ⟨h | h, t⟩
    · exact Or.inl ⟨⟨Or.inl ⟨rfl, h.1⟩, t⟩, h.2⟩
    · exact Or.inr ⟨⟨Or.inr ⟨rfl, h.1⟩, t⟩, h.2⟩
  · rintro (⟨⟨h, t⟩, s⟩ | ⟨⟨h, t⟩, s⟩)
    · rcases h with ⟨_, h⟩ | ⟨h0, _⟩
      · exact ⟨Or.inl ⟨h, s⟩, t⟩
      · cases h0
    · rcases h with ⟨h0, _⟩ | ⟨_, h⟩
      · cases h0
      · exact ⟨Or.inr ⟨h, s⟩, t⟩

/-- `Complete` is no state of its own: the stream has it as soon as both half-connections are closed -/
def bothClosed (c : TcpConn) : Bool := c.c2s.closed && c.s2c.closed

theorem bothClosed_setHalf (c : TcpConn) (d : Bool) (h : Half) :
    bothClosed (setHalf c d h) = (h.closed && (halfOf c (!d)).closed) := by
  cases d
  · rfl
  · exact Bool.and_comm ..

theorem bothClosed_open {c : TcpConn} {d : Bool} (h : (halfOf c d).closed = false) : bothClosed c = false := by
  cases d
  · exact (congrArg (· && c.s2c.closed) h).trans (Bool.false_and _)
  · exact (congrArg (c.c2s.closed && ·) h).trans (Bool.and_false _)

/-- the numbers of bytes delivered so far, kept as one pair `n` (client, server): `cnt n d` and `setCnt n d v` are to it what
    `halfOf c d` and `setHalf c d h` are to the connection -/
abbrev cnt (n : Nat × Nat) (d : Bool) : Nat := cntOf n.1 n.2 d

def setCnt (n : Nat × Nat) (d : Bool) (v : Nat) : Nat × Nat := if d then (n.1, v) else (v, n.2)

theorem cnt_setCnt (n : Nat × Nat) (d : Bool) (v : Nat) :
    cnt (setCnt n d v) d = v ∧ cnt (setCnt n d v) (!d) = cnt n (!d) := by
  cases d <;> exact ⟨rfl, rfl⟩

theorem chunks2_add {cp : ConvParams} {n0 : Nat} {done : List Pkt} {n : Nat × Nat} {chunks : List (Nat × Bytes)}
    (h : Chunks2 cp n0 done n.1 n.2 chunks) (d : Bool) {c' k : Nat} {p : Pkt}
    (h1 : cnt n d < c') (h2 : c' ≤ (cp.BOf d).length) (h3 : done[k]? = some p) (h4 : DirPkt cp.e p d)
    (h5 : pOff (cp.isnOf d) p ≤ cnt n d) (h6 : cnt n d < pEnd (cp.isnOf d) p)
    (h7 : pEnd (cp.isnOf d) p ≤ c') (h8 : ∀ ch ∈ chunks, ch.1 < n0 + k) :
    Chunks2 cp n0 done (setCnt n d c').1 (setCnt n d c').2
      ((n0 + k, slice (cp.BOf d) (cnt n d) c') :: chunks) := by
  cases d with
  | false =>
    have hdir : isC2S cp.e p := by
      rcases h4 with ⟨_, h⟩ | ⟨h0, _⟩
      · exact h
      · cases h0
    exact .c2s h h1 h2 h3 hdir h5 h6 h7 h8
  | true =>
    have hdir : isS2C cp.e p := by
      rcases h4 with ⟨h0, _⟩ | ⟨_, h⟩
      · cases h0
      · exact h
    exact .s2c h h1 h2 h3 hdir h5 h6 h7 h8

theorem chunks2_le {cp : ConvParams} {n0 : Nat} {done : List Pkt} {cc cs : Nat} {chunks : List (Nat × Bytes)}
    (h : Chunks2 cp n0 done cc cs chunks) : cc ≤ cp.Bc.length ∧ cs ≤ cp.Bs.length := by
  induction h with
  | nil => exact ⟨Nat.zero_le _, Nat.zero_le _⟩
  | c2s _ _ h2 _ _ _ _ _ _ ih => exact ⟨h2, ih.2⟩
  | s2c _ _ h2 _ _ _ _ _ _ ih => exact ⟨ih.1, h2⟩

/-- the reassembler holds exactly the conversation: one stream (TCP state `f`, `Complete` flag `k`)
    and its connection `c`, nothing of which is older than `t0`.  `ls` on one half is enough:
    `tcpFlush` looks at the later of the two `lastSeen`. -/
structure TSkel (cp : ConvParams) (hs : Stream) (done : List Pkt) (r : RState) (f : Fsm) (k : Bool)
    (c : TcpConn) (cc cs : Nat) (chunks : List (Nat × Bytes)) : Prop where
  st : ∃ u, r = { streams := #[convStream cp (hsWith hs f k) done chunks], tcp := [c], udp := [], unmodelled := u }
  conn : ConnOf cp.e c
  ls : cp.t0 ≤ c.c2s.lastSeen
  qc : ∀ pg ∈ c.c2s.queue, cp.t0 ≤ pg.ref.ts
  qs : ∀ pg ∈ c.s2c.queue, cp.t0 ≤ pg.ref.ts
  ch : Chunks2 cp hs.npkts done cc cs chunks

theorem skel_step {cp : ConvParams} {hs : Import.Stream} (hd : cp.e.Distinct) {done : List Pkt} {r : RState} {f : Fsm} {k : Bool}
    {c : TcpConn} {cc cs : Nat} {chunks : List (Nat × Bytes)} (h : TSkel cp hs done r f k c cc cs chunks)
    {p : Pkt} {dir : Bool} (hp : ConvPkt cp p dir)
    {f' : Fsm} {k' : Bool} {c' : TcpConn} {cc' cs' : Nat} {chunks' : List (Nat × Bytes)}
    (heq : tcpBody c (convStream cp (hsWith hs f k) done chunks) p dir =
      (c', convStream cp (hsWith hs f' k') (done ++ [p]) chunks'))
    (hch : Chunks2 cp hs.npkts (done ++ [p]) cc' cs' chunks') :
    TSkel cp hs (done ++ [p]) (reasmPacket r p) f' k' c' cc' cs' chunks' := by
  obtain ⟨⟨u, hr⟩, hconn, hls, hqc, hqs, _⟩ := h
  obtain ⟨hdir, ht0, ht1⟩ := hp
  have hw : ConnWin cp.t0 c := ⟨hls, hqc, hqs⟩
  obtain ⟨u', hstep⟩ := reasmPacket_one cp.e hd cp.t0 c (convStream cp (hsWith hs f k) done chunks) u p dir hconn hdir hw ht1
  have hw' := tcpBody_win cp.t0 c (convStream cp (hsWith hs f k) done chunks) p dir hw ht0
  obtain ⟨n1, n2, n3, n4, n5⟩ := tcpBody_frame c (convStream cp (hsWith hs f k) done chunks) p dir
  rw [heq] at hstep hw' n1 n2 n3 n4 n5
  exact ⟨⟨u', hr ▸ hstep⟩, ⟨n1.trans hconn.1, n2.trans hconn.2.1, n3.trans hconn.2.2.1, n4.trans hconn.2.2.2.1,
    n5.trans hconn.2.2.2.2⟩, hw'.1, hw'.2.1, hw'.2.2, hch⟩

theorem touch_halfInv {isn : Nat} {B : Bytes} {c : Nat} {h : Half} (hi : HalfInv isn B c h) (ts : Nat) :
    HalfInv isn B c (touch h ts) := by
  unfold touch
  split
  · exact ⟨hi.opn, hi.nxt, hi.le, hi.q⟩
  · exact hi

theorem carried_mono {cp : ConvParams} {done : List Pkt} {d : Bool} {x : Nat} (h : Carried cp done d x) (more : List Pkt) :
    Carried cp (done ++ more) d x := by
  obtain ⟨q, hm, hq⟩ := h
  exact ⟨q, List.mem_append_left _ hm, hq⟩

theorem check_est_seg (p : Pkt) (d : Bool) (h2 : p.fin = false) (h3 : p.rst = false) :
    ({ state := .established, dir := false } : Fsm).check p d = ({ state := .established, dir := false }, true) := by
  simp [Fsm.check, h2, h3]

theorem setCnt_self (n : Nat × Nat) (d : Bool) : setCnt n d (cnt n d) = n := by
  cases d <;> rfl

theorem carried_other {cp : ConvParams} (hd : cp.e.Distinct) {done : List Pkt} {p : Pkt} {d : Bool} (hp : DirPkt cp.e p d)
    {x : Nat} (h : Carried cp (done ++ [p]) (!d) x) : Carried cp done (!d) x := by
  obtain ⟨q, hm, hq1, hq2⟩ := h
  rcases List.mem_append.mp hm with hm | hm
  · exact ⟨q, hm, hq1, hq2⟩
  · rw [List.mem_singleton.mp hm] at hq1
    have := hq1.pdir hd
    rw [hp.pdir hd] at this
    cases d <;> cases this

/-- direction `d` is in its data phase: the one-direction invariant holds of its half-connection, and no
    offset carried so far has been lost.  This is what every phase of a conversation keeps for each
    direction that has not been closed. -/
def OpenDir (cp : ConvParams) (done : List Pkt) (c : TcpConn) (n : Nat × Nat) (d : Bool) : Prop :=
  HalfInv (cp.isnOf d) (cp.BOf d) (cnt n d) (halfOf c d) ∧
  ∀ x, Carried cp done d x → x < cnt n d ∨ Covered (cp.isnOf d) (halfOf c d).queue x

theorem OpenDir.other {cp : ConvParams} (hd : cp.e.Distinct) {done : List Pkt} {c : TcpConn} {n : Nat × Nat} {p : Pkt} {d : Bool}
    (hp : DirPkt cp.e p d) (h : OpenDir cp done c n (!d)) (h' : Half) (v : Nat) :
    OpenDir cp (done ++ [p]) (setHalf c d h') (setCnt n d v) (!d) := by
  rw [OpenDir, halfOf_setHalf_ne, (cnt_setCnt n d v).2]
  exact ⟨h.1, fun x hx => h.2 x (carried_other hd hp hx)⟩

/-- `TSkel` with the `Complete` flag read off the connection -/
abbrev Sk (cp : ConvParams) (hs : Stream) (done : List Pkt) (r : RState) (f : Fsm) (c : TcpConn) (n : Nat × Nat)
    (chunks : List (Nat × Bytes)) : Prop := TSkel cp hs done r f (bothClosed c) c n.1 n.2 chunks

section
variable {cp : ConvParams} {hs : Stream} {done : List Pkt} {r : RState} {f : Fsm} {c : TcpConn} {n : Nat × Nat}
  {chunks : List (Nat × Bytes)} {p : Pkt} {d : Bool}

/-- a packet that the TCP state machine accepts, on an open half-connection: the state after it, whatever the kind of
    packet (segment, FIN, RST: `feed_step`, `feed_fin`, `feed_rst` give `hf`) -/
theorem live_step (hd : cp.e.Distinct) (h : Sk cp hs done r f c n chunks) (hp : ConvPkt cp p d)
    {f' : Fsm} (hchk : f.check p d = (f', true)) (hopen : (halfOf c d).closed = false) {c1 : Nat} {h' : Half}
    (hf : Fed (cp.isnOf d) (cp.BOf d) d (convStream cp (hsWith hs f (bothClosed c)) done chunks) (touch (halfOf c d) p.ts) p
      (cnt n d) c1 h') :
    ∃ chunks', Sk cp hs (done ++ [p]) (reasmPacket r p) f' (setHalf c d h') (setCnt n d c1) chunks' := by
  have hpd := hp.1.pdir hd
  subst hpd
  refine ⟨if c1 = cnt n (pdir cp.e p) then chunks
    else (hs.npkts + done.length, slice (cp.BOf (pdir cp.e p)) (cnt n (pdir cp.e p)) c1) :: chunks, skel_step hd h hp ?_ ?_⟩
  · rw [tcpBody_accept _ c p _ f' hchk, hf.eq]
    simp only [setHalf_closed]
    -- the stream with the new state of the TCP state machine, before `Complete` is looked at
    have hS : ({ (if c1 = cnt n (pdir cp.e p) then (convStream cp (hsWith hs f (bothClosed c)) done chunks).addPkt p.ref (pdir cp.e p)
          else Stream.record (convStream cp (hsWith hs f (bothClosed c)) done chunks) p.ref (pdir cp.e p)
            (slice (cp.BOf (pdir cp.e p)) (cnt n (pdir cp.e p)) c1)) with fsm := f' } : Import.Stream) =
        convStream cp (hsWith hs f' (bothClosed c)) (done ++ [p]) (if c1 = cnt n (pdir cp.e p) then chunks
          else (hs.npkts + done.length, slice (cp.BOf (pdir cp.e p)) (cnt n (pdir cp.e p)) c1) :: chunks) := by
      split
      · exact convStream_inert ..
      · exact convStream_data ..
    rw [bothClosed_setHalf]
    by_cases hb : h'.closed = true ∧ (halfOf c (!pdir cp.e p)).closed = true
    · rw [if_pos hb, hb.1, hb.2, Bool.and_self, ← convStream_complete cp hs f' (bothClosed c), ← hS]
    · rw [if_neg hb, hS, Bool.eq_false_iff.mpr (fun h0 => hb (Bool.and_eq_true _ _ ▸ h0)), bothClosed_open hopen]
  · split
    · next hcc => rw [hcc, setCnt_self]; exact h.ch.mono [p]
    · next hcc =>
      have hlt := Nat.lt_of_le_of_ne hf.le (Ne.symm hcc)
      obtain ⟨k1, k2, k3⟩ := hf.att hlt
      exact chunks2_add (h.ch.mono [p]) _ hlt hf.len (List.getElem?_concat_length ..) hp.1 k1 k2 k3 h.ch.lt

theorem seg_step (hd : cp.e.Distinct) (hl : ∀ d, SeqLinear (cp.isnOf d) (cp.BOf d).length)
    (h : Sk cp hs done r f c n chunks) (hp : SegOf cp p d)
    (hchk : f.check p d = (f, true)) (ho : OpenDir cp done c n d) :
    ∃ h' c1 chunks', Sk cp hs (done ++ [p]) (reasmPacket r p) f (setHalf c d h')
        (setCnt n d c1) chunks' ∧
      OpenDir cp (done ++ [p]) (setHalf c d h') (setCnt n d c1) d := by
  obtain ⟨hcp, hseg⟩ := hp
  obtain ⟨hi, hcov⟩ := ho
  obtain ⟨c1, h', hf, e2, e5⟩ := feed_step (hl _) d (convStream cp (hsWith hs f (bothClosed c)) done chunks) _ p _
    (touch_halfInv hi p.ts) hseg
  rw [(touch_frame _ _).1] at e5
  obtain ⟨chunks', hsk⟩ := live_step hd h hcp hchk hi.opn hf
  refine ⟨h', c1, chunks', hsk, ?_⟩
  rw [OpenDir, halfOf_setHalf, (cnt_setCnt n d c1).1]
  refine ⟨e2, ?_⟩
  rintro x ⟨q, hm, hq1, hq2⟩
  rcases List.mem_append.mp hm with hm | hm
  · exact e5 x ((hcov x ⟨q, hm, hq1, hq2⟩).imp id Or.inl)
  · rw [List.mem_singleton.mp hm] at hq2
    exact e5 x (Or.inr (Or.inr hq2))

end

theorem forall_bool_of_both {P : Bool → Prop} (d : Bool) (h1 : P d) (h2 : P (!d)) : ∀ d', P d' := by
  intro d'
  cases d <;> cases d' <;> assumption

theorem seqLinear_of (cp : ConvParams) (hlc : SeqLinear cp.icn cp.Bc.length) (hls : SeqLinear cp.isn cp.Bs.length) :
    ∀ d, SeqLinear (cp.isnOf d) (cp.BOf d).length := by
  intro d; cases d
  · exact hlc
  · exact hls

theorem openDir_after_handshake (e : Endpoints) (p0 p1 : Pkt) (Bc Bs : Bytes) (t0 : Nat) (u : Bool) (ht : t0 ≤ p0.ts) :
    ∃ c n chunks, Sk ⟨e, seqAdd p0.seq 1, seqAdd p1.seq 1, Bc, Bs, t0⟩ (hsStream e p0 p1) []
      { streams := #[hsStream e p0 p1], tcp := [hsConn e p0 p1], udp := [], unmodelled := u }
      { state := .established, dir := false } c n chunks ∧
      ∀ d, OpenDir ⟨e, seqAdd p0.seq 1, seqAdd p1.seq 1, Bc, Bs, t0⟩ [] c n d := by
  have hhalf : ∀ isn B lastSeen, HalfInv isn B 0 { nextSeq := some isn, closed := false, lastSeen := lastSeen, queue := [] } :=
    fun isn B _ => ⟨rfl, rfl, Nat.zero_le _, ⟨(by intro pg hm; cases hm), List.Pairwise.nil⟩⟩
  refine ⟨hsConn e p0 p1, (0, 0), [], ⟨⟨u, rfl⟩, ⟨rfl, rfl, rfl, rfl, rfl⟩, ht, (by intro pg hm; cases hm),
    (by intro pg hm; cases hm), .nil⟩, fun d => ?_⟩
  cases d
  · exact ⟨hhalf _ _ _, fun x ⟨q, hm, _⟩ => by cases hm⟩
  · exact ⟨hhalf _ _ _, fun x ⟨q, hm, _⟩ => by cases hm⟩

theorem chunks2_bytes {cp : ConvParams} {n0 : Nat} {done : List Pkt} (hd : cp.e.Distinct) (f : Nat → Bool)
    (hf : ∀ k p, done[k]? = some p → f (n0 + k) = pdir cp.e p) {cc cs : Nat} {chunks : List (Nat × Bytes)}
    (h : Chunks2 cp n0 done cc cs chunks) :
    ((chunks.reverse.filter (fun ch => f ch.1 == false)).map (·.2)).flatten = cp.Bc.take cc ∧
    ((chunks.reverse.filter (fun ch => f ch.1 == true)).map (·.2)).flatten = cp.Bs.take cs := by
  induction h with
  | nil => simp
  | c2s _ h1 h2 h3 h4 _ _ _ _ ih =>
    have hfk := hf _ _ h3
    rw [pdir_c2s hd h4] at hfk
    simp only [List.reverse_cons, List.filter_append, List.map_append, List.flatten_append, ih.1, ih.2]
    simp only [List.filter_cons, List.filter_nil, hfk]
    refine ⟨?_, by simp⟩
    simp only [beq_self_eq_true, if_true, List.map_cons, List.map_nil, List.flatten_cons, List.flatten_nil,
      List.append_nil]
    rw [← slice_zero, ← slice_zero, slice_append (Nat.zero_le _) (Nat.le_of_lt h1)]
  | s2c _ h1 h2 h3 h4 _ _ _ _ ih =>
    have hfk := hf _ _ h3
    rw [pdir_s2c h4] at hfk
    simp only [List.reverse_cons, List.filter_append, List.map_append, List.flatten_append, ih.1, ih.2]
    simp only [List.filter_cons, List.filter_nil, hfk]
    refine ⟨by simp, ?_⟩
    simp only [beq_self_eq_true, if_true, List.map_cons, List.map_nil, List.flatten_cons, List.flatten_nil,
      List.append_nil]
    rw [← slice_zero, ← slice_zero, slice_append (Nat.zero_le _) (Nat.le_of_lt h1)]

theorem convStream_truth (cp : ConvParams) (hd : cp.e.Distinct) (p0 p1 : Pkt) (f : Fsm) (k : Bool) (body : List Pkt)
    {cc cs : Nat} {chunks : List (Nat × Bytes)} (hch : Chunks2 cp 2 body cc cs chunks) :
    (convStream cp (hsWith (hsStream cp.e p0 p1) f k) body chunks).pkts =
      (p0.ref, false) :: (p1.ref, true) :: body.map (fun p => (p.ref, pdir cp.e p)) ∧
    (convStream cp (hsWith (hsStream cp.e p0 p1) f k) body chunks).npkts = 2 + body.length ∧
    (convStream cp (hsWith (hsStream cp.e p0 p1) f k) body chunks).data = chunks.reverse ∧
    dirBytes (convStream cp (hsWith (hsStream cp.e p0 p1) f k) body chunks) false = cp.Bc.take cc ∧
    dirBytes (convStream cp (hsWith (hsStream cp.e p0 p1) f k) body chunks) true = cp.Bs.take cs := by
  have hpk : (convStream cp (hsWith (hsStream cp.e p0 p1) f k) body chunks).pkts =
      (p0.ref, false) :: (p1.ref, true) :: body.map (fun p => (p.ref, pdir cp.e p)) := by
    simp [Stream.pkts, convStream, hsStream, hsWith]
  have hb := chunks2_bytes hd (convStream cp (hsWith (hsStream cp.e p0 p1) f k) body chunks).dirOf
    (fun j p hj => Stream.dirOf_eq (r := p.ref) (by simp [convStream, hsStream, hsWith, Nat.add_comm])
      (by rw [hpk, Nat.add_comm]; simp [hj])) hch
  have hdata : (convStream cp (hsWith (hsStream cp.e p0 p1) f k) body chunks).data = chunks.reverse := by
    simp [Stream.data, convStream, hsStream, hsWith]
  refine ⟨hpk, rfl, hdata, ?_, ?_⟩
  · unfold dirBytes; rw [hdata]; exact hb.1
  · unfold dirBytes; rw [hdata]; exact hb.2

end Pk.Proofs.ImportReasm
