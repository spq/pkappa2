/- C06Reach: the closure of a set of (tag, stream) pairs under tag references (`Dep`)
   and why the uncertainty sweep `inherit` makes all of it pending. -/
import Pk.Proofs.MgrTagsStep
namespace Pk.Proofs.MgrTruth
open Pk.Mgr Pk.Proofs.MgrTags

/-- The two rules of `inheritOne`: a reference in the main query passes the stream on; a reference in a sub-query
    passes EVERY stream on as soon as one stream `id' < nx` of the referenced tag is a member. -/
inductive Dep (tags : List (String × Tag)) (nx : Nat) (B : String → Nat → Prop) : String → Nat → Prop
  | base {n : String} {id : Nat} : B n id → Dep tags nx B n id
  | main {n r : String} {t : Tag} {id : Nat} : sget tags n = some t → r ∈ t.mainT → Dep tags nx B r id →
      Dep tags nx B n id
  | sub {n r : String} {t : Tag} {id id' : Nat} : sget tags n = some t → r ∈ t.subT → id' < nx →
      Dep tags nx B r id' → Dep tags nx B n id

def Pend (tags : List (String × Tag)) (n : String) (id : Nat) : Prop := ∃ t, sget tags n = some t ∧ id ∈ t.unc

theorem Dep.mono {tags nx} {B B' : String → Nat → Prop} (h : ∀ n id, B n id → B' n id) {n id}
    (d : Dep tags nx B n id) : Dep tags nx B' n id := by
  induction d with
  | base hb => exact .base (h _ _ hb)
  | main ht hr _ ih => exact .main ht hr ih
  | sub ht hr hlt _ ih => exact .sub ht hr hlt ih

theorem Dep.nonempty {tags nx} {B : String → Nat → Prop} {n id} (d : Dep tags nx B n id) :
    ∃ n0 id0, B n0 id0 := by
  induction d with
  | base hb => exact ⟨_, _, hb⟩
  | main _ _ _ ih => exact ih
  | sub _ _ _ _ ih => exact ih

theorem pend_tagUnc {T : List (String × Tag)} {r : String} {id : Nat} (h : Pend T r id) : id ∈ tagUnc T r := by
  obtain ⟨t, ht, hid⟩ := h
  simp [tagUnc, ht, hid]

theorem tagUnc_pend {T : List (String × Tag)} {r : String} {id : Nat} (h : id ∈ tagUnc T r) : Pend T r id := by
  unfold tagUnc at h
  cases hr : sget T r with
  | none => simp [hr] at h
  | some t => simp [hr] at h; exact ⟨t, hr, h⟩

/-- `hex`: an entry of `tags0` keeps its references in `T'` or (the edited tag) is pending there for every stream -/
theorem dep_pending {tags0 T' : List (String × Tag)} {all nx : Nat} {B : String → Nat → Prop}
    (hnx : nx ≤ all)
    (hclosed : ∀ n t', sget T' n = some t' → Closed all T' t')
    (hex : ∀ n t0, sget tags0 n = some t0 → ∃ t', sget T' n = some t' ∧
        (((∀ r ∈ t0.mainT, r ∈ t'.mainT) ∧ (∀ r ∈ t0.subT, r ∈ t'.subT)) ∨ ∀ id, id < all → id ∈ t'.unc))
    (hbase : ∀ n id, B n id → id < all → Pend T' n id) :
    ∀ n id, Dep tags0 nx B n id → id < all → Pend T' n id := by
  intro n id d
  induction d with
  | base hb => exact hbase _ _ hb
  | main ht hr _ ih =>
    intro hid
    obtain ⟨t', h', hc⟩ := hex _ _ ht
    refine ⟨t', h', ?_⟩
    rcases hc with hc | hc
    · exact (hclosed _ _ h').1 _ (hc.1 _ hr) _ (pend_tagUnc (ih hid))
    · exact hc _ hid
  | sub ht hr hlt _ ih =>
    intro hid
    obtain ⟨t', h', hc⟩ := hex _ _ ht
    refine ⟨t', h', ?_⟩
    rcases hc with hc | hc
    · have hp := pend_tagUnc (ih (Nat.lt_of_lt_of_le hlt hnx))
      refine (hclosed _ _ h').2 ⟨_, hc.2 _ hr, ?_⟩ _ hid
      intro h0; rw [h0] at hp; cases hp
    · exact hc _ hid

end Pk.Proofs.MgrTruth
