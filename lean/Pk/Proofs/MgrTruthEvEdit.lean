/-
  `C06.Inv` and `JobInv` through the events that edit a tag, on the pattern of MgrTruthEvKeep; `hjt` is the
  event's clause of `JobTextOK`.
-/
import Pk.Proofs.MgrTruthGen

namespace Pk.Props.C06Reach
open Pk.Mgr Pk.Props.MgrReach Pk.Proofs.MgrTruth Pk.Proofs.MgrTags

theorem edits_updQuery (name defn : String) (f : Facts) (n : String) :
    C06.Edits (.updQuery name defn f) n ↔ name = n := Iff.rfl

theorem good_updQuery (s : St) (name defn : String) (f : Facts) (st : Started) (T T' g : Truth)
    (hg : Good s T g) (hA' : C09.Acyclic (step s (.updQuery name defn f) st).1)
    (hok : (step s (.updQuery name defn f) st).2 = Res.ok)
    (hch : ChangesIn s s.next (fun n _ => n = name) T T')
    (hjt : ∀ jn snap held, s.jTag = some (jn, snap, held) → ∀ t, sget s.tags name = some t →
        t.gen = snap.gen → defn = snap.defn → (F254 snap ∨ snap.sfeat ≠ 0)) :
    C06.Inv (step s (.updQuery name defn f) st).1 T' ∧
    (∀ jn' snap held', s.jTag = some (jn', snap, held') → JobInv (step s (.updQuery name defn f) st).1 T' g) := by
  have hr := hg.reach
  have hw := hr.tagsWF
  have hna : s.next ≤ s.all := hr.nextLeAll
  obtain ⟨Q, t, ht, hq, hqn, hS⟩ := updQuery_via s name defn f st hok
  obtain ⟨t0, t2, ht0, h2, hdef, hallp, egen⟩ := updQuery_ok s name defn f st hok
  generalize hs1 : setTag Q name (uqNew defn f t s.all) = s1 at hS
  have h1all : s1.all = s.all := by rw [← hs1]; exact hq.all
  have hget : ∀ n, sget s1.tags n = if name = n then some (uqNew defn f t s.all) else sget Q.tags n := by
    intro n; rw [← hs1]; exact sget_sins ..
  have hsort : Sorted s1.tags := by rw [← hs1]; exact sorted_sins _ _ _ (hq.sorted hw)
  have hbnd : Bounded s1.all s1.tags := by
    rw [h1all, ← hs1]
    exact bounded_sins (hq.tags.bounded hr.uncBounded) name fun x hx => by simpa [uqNew] using hx
  have htopo : Pk.Proofs.MgrTermination.Topo s1.tags := by
    apply topo_before_inherit s1 hsort
    rw [← hS.1]
    exact topo_of_acyclic _ hA'
  have mr : s.tag = true → ∀ id, id < s.next → id ∈ (step s (.updQuery name defn f) st).1.rst :=
    fun htag id hid => updQuery_masks s name defn f st hok htag id (Nat.lt_of_lt_of_le hid hna)
  refine Covers.good hg (nx := s.next) (B := fun n _ => n = name) (A := fun _ => True)
    { next := hS.2.2.trans (by rw [← hs1]; exact hqn)
      changes := fun n t _ => hch n t
      pending := ?_
      base := fun _ n _ _ hE _ _ hB => absurd hB.symm hE
      masks := fun htag _ id hid => masksNE_of_mem (Or.inr (Or.inl (mr htag id hid)))
      edited := ?_
      self := ?_ }
  · intro n id _ hd hid
    rw [hS.1]
    refine sweep_pending s.tags s1 hsort hbnd htopo (h1all ▸ hna) ?_ ?_ n id hd (h1all ▸ Nat.lt_of_lt_of_le hid hna)
    · intro n t0 h0
      rw [hget]
      split
      · exact ⟨_, rfl, Or.inr fun id hid => by rw [h1all] at hid; simpa [uqNew] using hid⟩
      · obtain ⟨t1, h1, c⟩ := (hq.tags n).1 t0 h0
        exact ⟨t1, h1, Or.inl ⟨c.2.2.2.2.2.1, c.2.2.2.2.2.2.1⟩⟩
    · intro n id hB hid
      subst hB
      rw [h1all] at hid
      exact ⟨_, by rw [hget, if_pos rfl], by simpa [uqNew] using hid⟩
  · intro n hE t' h' id hid hnu
    have hn : name = n := hE
    subst hn
    rw [h'] at h2; cases h2
    exact absurd (hallp id (Nat.lt_of_lt_of_le hid hna)) hnu
  · intro jn snap held hjt' n' ot' hE hot' hg' hd'
    have hn : name = n' := hE
    subst hn
    rw [hot'] at h2; cases h2
    have htag : s.tag = true := hr.jobsWF.1.2 (by rw [hjt']; rfl)
    left
    intro id hid
    rcases hjt jn snap held hjt' t0 ht0 (egen ▸ hg') (hdef.symm.trans hd') with h | h
    · exact Or.inr (Or.inr (Or.inl ⟨mr htag id hid, h⟩))
    · exact Or.inr (Or.inl ⟨h, masksNE_of_mem (Or.inr (Or.inl (mr htag id hid)))⟩)

/-- A mark update `markSt s name a d st` (`markAdd`: `d = []`, `markDel`: `a = []`).  The table after it is the sweep of
    the table with `X = muDel (muAdd t s a).1 d` put in at the mark tag, whose own pending set is restored
    afterwards; the mask `rst` records `X.unc`.  Asked of the event: the decided answers of the mark tag are the new
    truth (`hmat`); the truth moves at the mark tag only inside `X.unc` (`hchg`) and elsewhere only in the closure of
    those streams (`hch`); its clause of `JobTextOK` (`hjt`). -/
theorem good_mark (s : St) (e : Ev) (st : Started) (T T' g : Truth) (hg : Good s T g)
    (name : String) (a d : List Nat) (t : Tag)
    (hEd : ∀ n, C06.Edits e n ↔ name = n) (hne : ∀ n r, e ≠ .tagDone n r)
    (hst : (step s e st).1 = markSt s name a d st)
    (ht : sget s.tags name = some t) (hmk : isMarkName name = true)
    (hlt : ∀ id, id ∈ a ∨ id ∈ d → id < s.next)
    (hmat : ∀ t', sget (step s e st).1.tags name = some t' → ∀ id, id < s.next → id ∉ t'.unc →
        (id ∈ t'.mat ↔ T' name id = true))
    (hchg : ∀ id, id < s.next → T' name id ≠ T name id → id ∈ (muDel (muAdd t s a).1 d).unc)
    (hch : ChangesIn s s.next (fun n id => n = name ∧ id < s.next ∧ T' name id ≠ T name id) T T')
    (hjt : ∀ jn snap held, s.jTag = some (jn, snap, held) → ∀ t0, sget s.tags name = some t0 → t0.gen = snap.gen →
        (∃ t', sget (step s e st).1.tags name = some t' ∧ t'.defn = snap.defn) →
        t0.defn = snap.defn ∧ ∀ id, id < s.next → T' name id = T name id) :
    C06.Inv (step s e st).1 T' ∧
    (∀ jn' snap held', s.jTag = some (jn', snap, held') → JobInv (step s e st).1 T' g) := by
  have hr := hg.reach
  have hw := hr.tagsWF
  have hna : s.next ≤ s.all := hr.nextLeAll
  have hplain := hr.factsOK.2.1 name t ht hmk
  have hXa : Attrs (muDel (muAdd t s a).1 d) = Attrs t := by rw [attrs_muDel, attrs_muAdd]
  have hXb : ∀ x, x ∈ (muDel (muAdd t s a).1 d).unc → x < s.all := by
    intro x hx
    rw [Masks.muDel_unc, Masks.muAdd_unc] at hx
    rcases hx with (h | h) | h
    · exact hr.uncBounded name t ht x h
    · exact Nat.lt_of_lt_of_le (hlt x (.inl h.1)) hna
    · exact Nat.lt_of_lt_of_le (hlt x (.inr h.1)) hna
  have hmask : s.tag = true → ∀ id, id ∈ (muDel (muAdd t s a).1 d).unc → id ∈ (step s e st).1.rst :=
    fun htag id hid => hst ▸ Masks.markSt_masks s name a d st t ht htag id hid
  have hself : ∃ t', sget (step s e st).1.tags name = some t' ∧ t'.unc = t.unc ∧ Attrs t' = Attrs t := by
    rw [hst]; exact markSt_self s name a d st t ht
  have hvia : ∀ n, n ≠ name → sget (step s e st).1.tags n =
      sget (inherit (setTag (muAdd t s a).2 name (muDel (muAdd t s a).1 d))).tags n :=
    fun n hn => hst ▸ markSt_sget_ne s name a d st t ht n hn
  generalize muDel (muAdd t s a).1 d = X at hchg hXa hXb hmask hvia
  have hX1 : sget (setTag (muAdd t s a).2 name X).tags name = some X := by simp [setTag, sget_sins]
  have h1all : (setTag (muAdd t s a).2 name X).all = s.all := (muAdd_same t s a).2.1
  have h1tags : (setTag (muAdd t s a).2 name X).tags = sins name X s.tags := by
    show sins name X (muAdd t s a).2.tags = _
    rw [(muAdd_same t s a).1]
  -- the mark tag has no references: it is in the closure only through the base
  have hbase_only : ∀ id, Dep s.tags s.next (fun n id => n = name ∧ id < s.next ∧ T' name id ≠ T name id) name id →
      id ∈ X.unc := by
    intro id hd
    cases hd with
    | base hB => exact hchg id hB.2.1 hB.2.2
    | main h0 hr' _ => rw [ht] at h0; cases h0; rw [hplain.1] at hr'; cases hr'
    | sub h0 hr' _ _ => rw [ht] at h0; cases h0; rw [hplain.2] at hr'; cases hr'
  refine Covers.good hg (nx := s.next) (B := fun n id => n = name ∧ id < s.next ∧ T' name id ≠ T name id)
    (A := fun n => n ≠ name)
    { next := by rw [hst]; exact (markSt_frE (g := False) s name a d st).next
      changes := fun n t0 _ => hch n t0
      pending := ?_
      base := fun _ n _ _ hE _ _ hB => absurd ((hEd n).2 hB.1.symm) hE
      masks := fun htag ⟨_, id0, _, h1, h2⟩ _ _ => masksNE_of_mem (Or.inr (Or.inl (hmask htag id0 (hchg id0 h1 h2))))
      notDone := hne
      alive := fun n hE h => hE ((hEd n).2 h.symm)
      edited := fun n hE t' h' id hid hnu => by
        have hn : name = n := (hEd n).1 hE
        subst hn
        exact hmat t' h' id hid hnu
      dead := ?_
      self := ?_ }
  · intro n id hn hd hid
    suffices h : Pend (inherit (setTag (muAdd t s a).2 name X)).tags n id by
      obtain ⟨t2, h2, hu⟩ := h
      exact ⟨t2, by rw [hvia n hn]; exact h2, hu⟩
    refine sweep_rel_pending hg (setTag (muAdd t s a).2 name X) (h1tags ▸ sorted_sins _ _ _ hw)
      (h1tags ▸ fq_sins ht (f2_of_attrs hXa))
      (by rw [h1tags, h1all]; exact bounded_sins hr.uncBounded name hXb) (h1all ▸ hna) ?_ n id hd
      (h1all ▸ Nat.lt_of_lt_of_le hid hna)
    rintro n id ⟨hn, hlt, hT⟩ _
    subst hn
    exact ⟨X, hX1, hchg id hlt hT⟩
  · -- a tag that references the mark tag directly is subject to `rst` (`TagFeatInv`)
    intro htag n ot hot _ r hr' id _
    have hrn : r = name := Decidable.byContradiction hr'
    subst hrn
    obtain ⟨f1, f2⟩ := hg.feats.1 n ot hot
    refine ⟨fun hm d => Or.inr (Or.inr (Or.inl ⟨hmask htag id (hbase_only id d), fTags_254 (f1 (List.ne_nil_of_mem hm))⟩)),
      fun hs id' d => Or.inr (Or.inl ⟨fun h0 => ?_, masksNE_of_mem (Or.inr (Or.inl (hmask htag id' (hbase_only id' d))))⟩)⟩
    have := f2 (List.ne_nil_of_mem hs)
    rw [h0, Nat.zero_and] at this
    exact this rfl
  · intro jn snap held hjt' n' ot' hE hot' hg' hd'
    have hn : name = n' := (hEd n').1 hE
    subst hn
    obtain ⟨t2, h2, _, ha2⟩ := hself
    rw [hot'] at h2; cases h2
    have hgen : t.gen = snap.gen := by rw [← (attrs_eq ha2).2.2.2.2]; exact hg'
    obtain ⟨hd0, hsame⟩ := hjt jn snap held hjt' t ht hgen ⟨ot', hot', hd'⟩
    exact Or.inr ⟨name, t, ht, hgen, hd0, ha2, hsame⟩

theorem markAdd_acc (s : St) (name : String) (ids : List Nat) (st : Started)
    (hok : (step s (.markAdd name ids) st).2 = Res.ok) (hne : ids ≠ []) :
    isMarkName name = true ∧ (∀ id, id ∈ ids → id < s.next) ∧
    (step s (.markAdd name ids) st).1 = markSt s name ids [] st :=
  step_markAdd_cases (P := fun r => r.2 = Res.ok → isMarkName name = true ∧ (∀ id, id ∈ ids → id < s.next) ∧
      r.1 = markSt s name ids [] st) s name ids st
    (fun h => nomatch h) (fun _ _ h => absurd h hne)
    (fun _ ok _ => ⟨ok.mark, fun id hid => Nat.lt_of_le_of_lt (Pk.Lib.le_foldl_max ids 0 id (.inl hid)) ok.known, rfl⟩) hok

theorem markDel_acc (s : St) (name : String) (ids : List Nat) (st : Started)
    (hok : (step s (.markDel name ids) st).2 = Res.ok) (hne : ids ≠ []) :
    isMarkName name = true ∧ (∀ id, id ∈ ids → id < s.next) ∧
    (step s (.markDel name ids) st).1 = markSt s name [] ids st :=
  step_markDel_cases (P := fun r => r.2 = Res.ok → isMarkName name = true ∧ (∀ id, id ∈ ids → id < s.next) ∧
      r.1 = markSt s name [] ids st) s name ids st
    (fun h => nomatch h) (fun _ _ h => absurd h hne)
    (fun _ ok _ => ⟨ok.mark, fun id hid => Nat.lt_of_le_of_lt (Pk.Lib.le_foldl_max ids 0 id (.inl hid)) ok.known, rfl⟩) hok

theorem markSt_sget (s : St) (name : String) (a d : List Nat) (st : Started) (n : String) :
    sget (markSt s name a d st).tags n = sget (markUpdate s name a d).1.tags n :=
  same_sget ((startTagging_same _ _).trans (startConverter_same _)) n

theorem good_markAdd (s : St) (name : String) (ids : List Nat) (st : Started) (T T' g : Truth)
    (hg : Good s T g) (hok : (step s (.markAdd name ids) st).2 = Res.ok) (hne : ids ≠ [])
    (t : Tag) (ht : sget s.tags name = some t)
    (hT1 : ∀ id, id < s.next → T' name id = (T name id || decide (id ∈ ids ∧ id ∉ t.mat)))
    (hch : ChangesIn s s.next (fun n id => n = name ∧ id < s.next ∧ T' name id ≠ T name id) T T')
    (hjt : ∀ jn snap held, s.jTag = some (jn, snap, held) → ∀ t0, sget s.tags name = some t0 → t0.gen = snap.gen →
        (∃ t', sget (step s (.markAdd name ids) st).1.tags name = some t' ∧ t'.defn = snap.defn) →
        t0.defn = snap.defn ∧ ∀ id, id < s.next → T' name id = T name id) :
    C06.Inv (step s (.markAdd name ids) st).1 T' ∧
    (∀ jn' snap held', s.jTag = some (jn', snap, held') → JobInv (step s (.markAdd name ids) st).1 T' g) := by
  obtain ⟨hmk, hlt, hst⟩ := markAdd_acc s name ids st hok hne
  refine good_mark s _ st T T' g hg name ids [] t (fun n => Iff.rfl) (fun n r h => by cases h) hst ht hmk
    (fun id h => h.elim (hlt id) fun h => nomatch h) ?_ ?_ hch hjt
  · intro t' h' id hid hnu
    obtain ⟨t2, h2, hu, _⟩ := step_markAdd_self s name ids st t ht
    rw [h'] at h2; cases h2
    obtain ⟨t3, h3, hm3⟩ := C06.mark_update_exact s name t ids [] hg.reach.tagsWF ht
    rw [hst, markSt_sget] at h'
    rw [h'] at h3; cases h3
    have hinv := hg.inv name t ht id hid (by rw [← hu]; exact hnu)
    rw [hm3, hT1 id hid]
    by_cases hm : id ∈ t.mat
    · simp [hm, hinv.1 hm]
    · have hf : T name id = false := by
        cases hT : T name id with
        | false => rfl
        | true => exact absurd (hinv.2 hT) hm
      simp [hm, hf]
  · intro id hid hT
    rw [hT1 id hid] at hT
    rw [Masks.muDel_unc, Masks.muAdd_unc]
    refine .inl (.inr ?_)
    cases hd : decide (id ∈ ids ∧ id ∉ t.mat) with
    | true => exact of_decide_eq_true hd
    | false => rw [hd, Bool.or_false] at hT; exact absurd rfl hT

theorem good_markDel (s : St) (name : String) (ids : List Nat) (st : Started) (T T' g : Truth)
    (hg : Good s T g) (hok : (step s (.markDel name ids) st).2 = Res.ok) (hne : ids ≠ [])
    (t : Tag) (ht : sget s.tags name = some t)
    (hT1 : ∀ id, id < s.next → (T' name id = true ↔ (id ∈ t.mat ∧ id ∉ ids)))
    (hch : ChangesIn s s.next (fun n id => n = name ∧ id < s.next ∧ T' name id ≠ T name id) T T')
    (hjt : ∀ jn snap held, s.jTag = some (jn, snap, held) → ∀ t0, sget s.tags name = some t0 → t0.gen = snap.gen →
        (∃ t', sget (step s (.markDel name ids) st).1.tags name = some t' ∧ t'.defn = snap.defn) →
        t0.defn = snap.defn ∧ ∀ id, id < s.next → T' name id = T name id) :
    C06.Inv (step s (.markDel name ids) st).1 T' ∧
    (∀ jn' snap held', s.jTag = some (jn', snap, held') → JobInv (step s (.markDel name ids) st).1 T' g) := by
  obtain ⟨hmk, hlt, hst⟩ := markDel_acc s name ids st hok hne
  refine good_mark s _ st T T' g hg name [] ids t (fun n => Iff.rfl) (fun n r h => by cases h) hst ht hmk
    (fun id h => h.elim (fun h => nomatch h) (hlt id)) ?_ ?_ hch hjt
  · intro t' h' id hid _
    obtain ⟨t3, h3, hm3⟩ := C06.mark_update_exact s name t [] ids hg.reach.tagsWF ht
    rw [hst, markSt_sget] at h'
    rw [h'] at h3; cases h3
    rw [hm3, hT1 id hid]
    simp
  · intro id hid hT
    rw [Masks.muDel_unc, Masks.muAdd_unc, muAdd_mat]
    by_cases hu : id ∈ t.unc
    · exact .inl (.inl hu)
    · right
      have hinv := hg.inv name t ht id hid hu
      have h1 := hT1 id hid
      by_cases hm : id ∈ t.mat
      · by_cases hi : id ∈ ids
        · exact ⟨hi, .inl hm⟩
        · exfalso; apply hT
          rw [h1.2 ⟨hm, hi⟩, hinv.1 hm]
      · exfalso; apply hT
        have hf : T name id = false := by
          cases hT2 : T name id with
          | false => rfl
          | true => exact absurd (hinv.2 hT2) hm
        have hf' : T' name id = false := by
          cases hT2 : T' name id with
          | false => rfl
          | true => exact absurd (h1.1 hT2).1 hm
        rw [hf, hf']

theorem good_addTag (s : St) (name color defn : String) (f : Facts) (st : Started) (T T' g : Truth)
    (hg : Good s T g) (hok : (step s (.addTag name color defn f) st).2 = Res.ok)
    (hsame : ∀ n, n ≠ name → SameAt s T T' n)
    (hmark : (parseTagName name).2.2 = true → ∀ id, id < s.next → (T' name id = true ↔ id ∈ f.ids)) :
    C06.Inv (step s (.addTag name color defn f) st).1 T' ∧
    (∀ jn' snap held', s.jTag = some (jn', snap, held') → JobInv (step s (.addTag name color defn f) st).1 T' g) := by
  obtain ⟨_, t2, h2, egen, hcase⟩ := addTag_ok s name color defn f st hok
  refine good_edit_simple s _ st T T' g hg (fun n r h => by cases h)
    (Pk.Proofs.MgrReach.step_all_next_other s _ st (fun p u c a b d h => by cases h)).2 ?_ ?_ ?_
  · intro n hE
    exact hsame n (fun h => hE h.symm)
  · intro n hE t' h' id hid hnu
    have hn : name = n := hE
    subst hn
    rw [h'] at h2; cases h2
    rcases hcase with ⟨hm, _, hmat⟩ | ⟨_, hallp⟩
    · rw [hmat, hmark hm id hid]
    · exact absurd (hallp id (Nat.lt_of_lt_of_le hid hg.reach.nextLeAll)) hnu
  · -- the new tag has a fresh identity: it is not the incarnation the job was started for
    intro jn snap held hj n' ot' hE hot' hg' _
    have hn : name = n' := hE
    subst hn
    rw [hot'] at h2; cases h2
    have := hg.gens.2.1 jn snap held hj
    rw [← hg', egen] at this
    omega

theorem good_updName (s : St) (name new : String) (st : Started) (T T' g : Truth)
    (hg : Good s T g) (hok : (step s (.updName name new) st).2 = Res.ok) (hnew : new ≠ "")
    (hsame : ∀ n, n ≠ name → n ≠ new → SameAt s T T' n)
    (hmove : ∀ id, id < s.next → T' new id = T name id) :
    C06.Inv (step s (.updName name new) st).1 T' ∧
    (∀ jn' snap held', s.jTag = some (jn', snap, held') → JobInv (step s (.updName name new) st).1 T' g) := by
  rcases updName_ok s name new st hok with h1 | ⟨t, ht, _, _, hne, hgone, t2, h2, hm, hu, hdf, a3, a4, a1, a2, a5⟩
  · exact absurd h1.2 hnew
  have ha := attrs_mk a1 a2 a3 a4 a5
  refine good_edit_simple s _ st T T' g hg (fun n r h => by cases h)
    (Pk.Proofs.MgrReach.step_all_next_other s _ st (fun p u c a b d h => by cases h)).2 ?_ ?_ ?_
  · intro n hE
    exact hsame n (fun h => hE (Or.inl h.symm)) (fun h => hE (Or.inr h.symm))
  · intro n hE t' h' id hid hnu
    have hn : name = n ∨ new = n := hE
    rcases hn with hn | hn
    · subst hn; rw [hgone] at h'; cases h'
    · subst hn
      rw [h'] at h2; cases h2
      rw [hm, hmove id hid]
      exact hg.inv name t ht id hid (by rw [← hu]; exact hnu)
  · -- the renamed tag keeps its identity: the incarnation is followed under its new name
    intro jn snap held hj n' ot' hE hot' hg' hd'
    have hn : name = n' ∨ new = n' := hE
    rcases hn with hn | hn
    · subst hn; rw [hgone] at hot'; cases hot'
    · subst hn
      rw [hot'] at h2; cases h2
      exact ⟨name, t, ht, by rw [← (attrs_eq ha).2.2.2.2]; exact hg', by rw [← hdf]; exact hd', ha, hmove⟩

theorem good_delTag (s : St) (name : String) (st : Started) (T T' g : Truth)
    (hg : Good s T g) (hok : (step s (.delTag name) st).2 = Res.ok)
    (hsame : ∀ n, n ≠ name → SameAt s T T' n) :
    C06.Inv (step s (.delTag name) st).1 T' ∧
    (∀ jn' snap held', s.jTag = some (jn', snap, held') → JobInv (step s (.delTag name) st).1 T' g) := by
  obtain ⟨_, _, _, hgone⟩ := delTag_ok s name st hok
  refine good_edit_simple s _ st T T' g hg (fun n r h => by cases h)
    (Pk.Proofs.MgrReach.step_all_next_other s _ st (fun p u c a b d h => by cases h)).2 ?_ ?_ ?_
  · intro n hE
    exact hsame n (fun h => hE h.symm)
  · intro n hE t' h' id hid hnu
    have hn : name = n := hE
    subst hn
    rw [hgone] at h'; cases h'
  · intro jn snap held hj n' ot' hE hot' _ _
    have hn : name = n' := hE
    subst hn
    rw [hgone] at hot'; cases hot'

end Pk.Props.C06Reach
