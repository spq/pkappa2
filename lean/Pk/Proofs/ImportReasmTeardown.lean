/-
  The FIN segment and the RST segment of one direction through `assembleHalf`, under the invariant
  `HalfInv` of Pk/Proofs/ImportReasmStep.lean ("expected sequence number = isn + c, the queue holds
  slices of B beyond c").

  The teardown of a single conversation; which packets may follow in which phase is `TPhase`, `TStep`,
  `TRun` of ImportSpec.  A packet does one of two things to the state: it is accepted on an open half-connection and `feed` delivers
  a slice of its direction (`live_step`, with `feed_step`, `feed_fin`, `feed_rst`: `seg_step`, `fin_step`, `rst_step`), or it
  is only recorded (`inert_step`; `dead_step` once nothing can be assembled any more).  Either way the other direction is
  untouched (`OpenDir.other`).  The invariant along a run says which direction is in which case: a direction that has not
  been closed keeps `OpenDir`, whatever the phase (`TInv`, `tinv_step`, `tinv_run`); `tinv_facts` is what `C05More`
  reads off it; `tear_state` is the whole wire from the empty state.
-/
import Pk.Proofs.ImportReasmConversation

namespace Pk.Proofs.ImportReasm
open Pk.Import

/-- `ha`: everything before the FIN segment has been delivered.  What is left of `B` goes out as one
    chunk attributed to the FIN packet (no chunk if nothing is left). -/
theorem feed_fin {isn : Nat} {B : Bytes} (hl : SeqLinear isn B.length) (dir : Bool) (st : Import.Stream) (h : Half) (p : Pkt)
    (c : Nat) (hinv : HalfInv isn B c h) (hp : FinPkt isn B p) (ha : pOff isn p ≤ c) :
    Fed isn B dir st h p c B.length { h with closed := true, queue := [], nextSeq := some (seqAdd (isn + B.length) 1) } := by
  obtain ⟨hopen, hnext, hc, hq⟩ := hinv
  obtain ⟨⟨h1, h2, h3⟩, hge, hend, hpl⟩ := hp
  refine ⟨?_, hc, Nat.le_refl _, fun hlt => ⟨ha, hend ▸ hlt, Nat.le_of_eq hend⟩⟩
  obtain ⟨q', e1, e2, e3, _⟩ := checkOverlap_deliver hl h p.ref c B.length hq hc (Nat.le_refl _)
  -- nothing can continue the last bytes of `B`, so the FIN closes the half-connection
  obtain ⟨left, e', s1, s2, s3, _⟩ := sendToConnection_spec hl (st.addPkt p.ref dir) { h with queue := q' } p.ref true
    c B.length hc (Nat.le_refl _) e2 e3
  rw [Nat.le_antisymm s3 s2] at s1
  unfold feed
  rw [asm_behind hl _ h p c hopen hnext hc h1 hge hpl ha, hend, Nat.max_eq_right hc]
  simp only [e1, h2, h3, s1, Bool.or_true, or_true, and_self, if_true]
  split <;> simp only [addPkt_addData]

/-- nothing is delivered.  An RST not beyond the expected sequence number closes the half-connection and
    drops its queue (data waiting behind a hole); an RST beyond it leaves the half-connection
    open (having no payload it is not even queued). -/
theorem feed_rst {isn : Nat} {B : Bytes} (hl : SeqLinear isn B.length) (dir : Bool) (st : Import.Stream) (h : Half) (p : Pkt)
    (c : Nat) (hinv : HalfInv isn B c h) (hp : RstPkt isn B p) :
    ∃ h', Fed isn B dir st h p c c h' ∧ h'.closed = decide (pOff isn p ≤ c) := by
  obtain ⟨hopen, hnext, hc, hq⟩ := hinv
  obtain ⟨⟨h1, h2, h3⟩, hge, hoff, hpl⟩ := hp
  have hend : pEnd isn p = pOff isn p := by unfold pEnd pOff; rw [hpl]; rfl
  have fed : ∀ {h'}, feed dir (st, h) p = (st.addPkt p.ref dir, h') → Fed isn B dir st h p c c h' :=
    fun e => ⟨by rw [if_pos rfl]; exact e, Nat.le_refl _, hc, fun h0 => absurd h0 (Nat.lt_irrefl _)⟩
  by_cases ha : pOff isn p ≤ c
  · obtain ⟨q', e1, e2, e3, _⟩ := checkOverlap_deliver hl h p.ref c c hq (Nat.le_refl _) hc
    obtain ⟨left, e', s1, s2, _, s4, _⟩ := sendToConnection_spec hl (st.addPkt p.ref dir) { h with queue := q' } p.ref true
      c c (Nat.le_refl _) hc e2 e3
    rw [Nat.le_antisymm (Nat.not_lt.mp fun h0 => Nat.lt_irrefl _ (s4 h0)) s2] at s1
    refine ⟨{ h with closed := true, queue := [], nextSeq := some (isn + c) }, fed ?_, by simp [ha]⟩
    unfold feed
    rw [asm_behind hl _ h p c hopen hnext hc h1 hge (by rw [hpl, hend, slice_self]) ha, hend, Nat.max_eq_left ha]
    simp only [e1, h2, h3, s1, Bool.or_false, or_true, and_self, if_true, Bool.false_eq_true, if_false]
  · refine ⟨(checkOverlap h true p.seq p.payload p.ref true).1, fed ?_, ?_⟩
    · unfold feed
      rw [asm_ahead hl _ h p c hopen hnext hc hge hoff (Nat.not_le.mp ha), h2, h3]; rfl
    · rw [(checkOverlap_frame ..).2.1, hopen]; simp [ha]

theorem touch_closed (h : Half) (ts : Nat) : (touch h ts).closed = h.closed := (touch_frame h ts).2.1

section
variable {cp : ConvParams} {hs : Stream} {done : List Pkt} {r : RState} {f : Fsm} {c : TcpConn} {n : Nat × Nat}
  {chunks : List (Nat × Bytes)} {p : Pkt} {d dir : Bool}

theorem complete_bothClosed (c : TcpConn) (st : Import.Stream) (h : st.complete = bothClosed c) :
    (if c.c2s.closed = true ∧ c.s2c.closed = true then { st with complete := true } else st) = st := by
  split
  · next h1 =>
    rw [bothClosed, h1.1, h1.2] at h
    cases st; cases h; rfl
  · rfl

theorem inert_step (hd : cp.e.Distinct) (h : Sk cp hs done r f c n chunks) (hp : ConvPkt cp p d)
    (hin : (f.check p d).2 = false ∨ (halfOf c d).closed = true) :
    Sk cp hs (done ++ [p]) (reasmPacket r p) (f.check p d).1 (setHalf c d (touch (halfOf c d) p.ts)) n chunks := by
  have hpd := hp.1.pdir hd
  subst hpd
  have hb : bothClosed (setHalf c (pdir cp.e p) (touch (halfOf c (pdir cp.e p)) p.ts)) = bothClosed c := by
    cases pdir cp.e p <;> simp [bothClosed, setHalf, halfOf, touch_closed]
  refine skel_step hd h hp ?_ (h.ch.mono [p])
  rw [tcpBody_inert _ c p _ hin, hb, ← convStream_inert cp hs f]
  exact congrArg (Prod.mk _) (complete_bothClosed _ _ hb.symm)

/-- nothing can be assembled any more: the TCP state machine is in `reset` (it rejects every
    packet) or both half-connections are closed -/
def Dead (f : Fsm) (c : TcpConn) : Prop := f.state = .reset ∨ bothClosed c = true

theorem dead_step (hd : cp.e.Distinct) (h : Sk cp hs done r f c n chunks) (hdead : Dead f c) (hp : ConvPkt cp p dir) :
    ∃ f' c', Sk cp hs (done ++ [p]) (reasmPacket r p) f' c' n chunks ∧ (f.state = .reset → f'.state = .reset) ∧
      bothClosed c' = bothClosed c := by
  refine ⟨_, _, inert_step hd h hp ?_, ?_, ?_⟩
  · refine hdead.imp (fun h1 => ?_) fun h1 => ?_
    · unfold Fsm.check; rw [h1]
    · have := (Bool.and_eq_true _ _).mp h1
      cases dir
      · exact this.1
      · exact this.2
  · intro h1; unfold Fsm.check; rw [h1]; exact h1
  · cases dir <;> simp [bothClosed, setHalf, halfOf, touch_closed]

/-- the FIN of direction `d` has been delivered: `d`'s half-connection is closed and everything `d` sent has been delivered; the other
    half-connection is open and in its data phase -/
structure CWInv (cp : ConvParams) (done : List Pkt) (d : Bool) (c : TcpConn) (cc cs : Nat) : Prop where
  closed : (halfOf c d).closed = true
  full : cntOf cc cs d = (cp.BOf d).length
  opn : HalfInv (cp.isnOf (!d)) (cp.BOf (!d)) (cntOf cc cs (!d)) (halfOf c (!d))
  cov : ∀ x, Carried cp done (!d) x → x < cntOf cc cs (!d) ∨ Covered (cp.isnOf (!d)) (halfOf c (!d)).queue x

theorem CWInv.of {cp : ConvParams} {done : List Pkt} {d : Bool} {c : TcpConn} {n : Nat × Nat} (h1 : (halfOf c d).closed = true)
    (h2 : cnt n d = (cp.BOf d).length) (ho : OpenDir cp done c n (!d)) : CWInv cp done d c n.1 n.2 :=
  ⟨h1, h2, ho.1, ho.2⟩

theorem check_est_fin (p : Pkt) (d : Bool) (h2 : p.fin = true) (h3 : p.rst = false) :
    ({ state := .established, dir := false } : Fsm).check p d = ({ state := .closeWait, dir := d }, true) := by
  simp [Fsm.check, h2, h3]

theorem check_est_rst (p : Pkt) (d : Bool) (h3 : p.rst = true) :
    ({ state := .established, dir := false } : Fsm).check p d = ({ state := .reset, dir := false }, true) := by
  simp [Fsm.check, h3]

theorem check_cw_seg (p : Pkt) (d x : Bool) (h2 : p.fin = false) (h3 : p.rst = false) (h4 : p.ack = true) :
    ({ state := .closeWait, dir := d } : Fsm).check p x = ({ state := .closeWait, dir := d }, true) := by
  simp [Fsm.check, h2, h3, h4]

theorem check_cw_own (p : Pkt) (d : Bool) (h3 : p.rst = false) :
    (({ state := .closeWait, dir := d } : Fsm).check p d).1 = { state := .closeWait, dir := d } := by
  cases d <;> cases h2 : p.fin <;> cases h4 : p.ack <;> simp [Fsm.check, h2, h3, h4]

theorem check_cw_fin (p : Pkt) (d : Bool) (h2 : p.fin = true) (h3 : p.rst = false) (h4 : p.ack = true) :
    ({ state := .closeWait, dir := d } : Fsm).check p (!d) = ({ state := .lastAck, dir := d }, true) := by
  simp [Fsm.check, h2, h3, h4]

theorem check_cw_rst (p : Pkt) (d x : Bool) (h3 : p.rst = true) :
    ({ state := .closeWait, dir := d } : Fsm).check p x = ({ state := .reset, dir := d }, true) := by
  simp [Fsm.check, h3]

/-- the first and the second FIN alike: `f` is any state of the TCP state machine that accepts the FIN -/
theorem fin_step (hd : cp.e.Distinct) (hl : ∀ d, SeqLinear (cp.isnOf d) (cp.BOf d).length)
    (h : Sk cp hs done r f c n chunks) (hp : FinOf cp done p d)
    {f' : Fsm} (hchk : f.check p d = (f', true)) (ho : OpenDir cp done c n d) :
    ∃ h' chunks', h'.closed = true ∧
      Sk cp hs (done ++ [p]) (reasmPacket r p) f' (setHalf c d h')
        (setCnt n d (cp.BOf d).length) chunks' :=
  have ⟨chunks', hsk⟩ := live_step hd h hp.1 hchk ho.1.opn
    (feed_fin (hl _) d _ _ p _ (touch_halfInv ho.1 p.ts) hp.2.1 (carried_le ho.1 ho.2 hp.2.2))
  ⟨_, chunks', rfl, hsk⟩

/-- `f` is any state that accepts the RST -/
theorem rst_step (hd : cp.e.Distinct) (hl : ∀ d, SeqLinear (cp.isnOf d) (cp.BOf d).length)
    (h : Sk cp hs done r f c n chunks) (hp : RstOf cp p d)
    {f' : Fsm} (hchk : f.check p d = (f', true)) (ho : OpenDir cp done c n d) :
    ∃ h' chunks', h'.closed = decide (pOff (cp.isnOf d) p ≤ cnt n d) ∧
      Sk cp hs (done ++ [p]) (reasmPacket r p) f' (setHalf c d h') n chunks' := by
  obtain ⟨h', hfed, hcl⟩ := feed_rst (hl _) d (convStream cp (hsWith hs f (bothClosed c)) done chunks) _ p _
    (touch_halfInv ho.1 p.ts) hp.2
  obtain ⟨chunks', hsk⟩ := live_step hd h hp.1 hchk ho.1.opn hfed
  rw [setCnt_self] at hsk
  exact ⟨h', chunks', hcl, hsk⟩

end

def TInv (cp : ConvParams) (hs : Import.Stream) (done : List Pkt) (r : RState) : TPhase → Prop
  | .est => ∃ c n chunks, Sk cp hs done r { state := .established, dir := false } c n chunks ∧
      ∀ d, OpenDir cp done c n d
  | .cw d => ∃ c n chunks, Sk cp hs done r { state := .closeWait, dir := d } c n chunks ∧ CWInv cp done d c n.1 n.2
  | .both full => ∃ f c n chunks, Sk cp hs done r f c n chunks ∧ bothClosed c = true ∧
      (full = true → n.1 = cp.Bc.length ∧ n.2 = cp.Bs.length)
  | .reset => ∃ f c n chunks, Sk cp hs done r f c n chunks ∧ f.state = .reset

theorem tinv_step (cp : ConvParams) (hs : Import.Stream) (hd : cp.e.Distinct)
    (hl : ∀ d, SeqLinear (cp.isnOf d) (cp.BOf d).length)
    {done : List Pkt} {r : RState} {ph ph' : TPhase} {p : Pkt} (hstep : TStep cp done ph p ph')
    (hinv : TInv cp hs done r ph) : TInv cp hs (done ++ [p]) (reasmPacket r p) ph' := by
  cases hstep with
  | seg hb =>
    obtain ⟨c, n, chunks, hsk, ho⟩ := hinv
    have key : ∀ d, SegOf cp p d → TInv cp hs (done ++ [p]) (reasmPacket r p) .est := fun d hp =>
      have ⟨h', c1, chunks', hsk', ho'⟩ := seg_step hd hl hsk hp (check_est_seg p d hp.2.1.2.1 hp.2.1.2.2) (ho d)
      ⟨_, _, chunks', hsk', forall_bool_of_both d ho' ((ho (!d)).other hd hp.1.1 h' c1)⟩
    exact ((bodyPkt_iff cp p).mp hb).elim (key false) (key true)
  | fin hf =>
    rename_i d
    obtain ⟨c, n, chunks, hsk, ho⟩ := hinv
    obtain ⟨h', chunks', hc', hsk'⟩ := fin_step hd hl hsk hf (check_est_fin p d hf.2.1.1.2.1 hf.2.1.1.2.2) (ho d)
    exact ⟨_, _, chunks', hsk', .of (by rw [halfOf_setHalf]; exact hc') (cnt_setCnt ..).1 ((ho (!d)).other hd hf.1.1 h' _)⟩
  | rst hr =>
    rename_i d
    obtain ⟨c, n, chunks, hsk, ho⟩ := hinv
    obtain ⟨h', chunks', _, hsk'⟩ := rst_step hd hl hsk hr (check_est_rst p d hr.2.1.2.2) (ho d)
    exact ⟨_, _, n, chunks', hsk', rfl⟩
  | cwSeg hsg hack =>
    -- `hack`: in `closeWait` the TCP state machine rejects segments without ACK
    rename_i d
    obtain ⟨c, n, chunks, hsk, hcl, hfull, hi, hcov⟩ := hinv
    obtain ⟨h', c1, chunks', hsk', ho'⟩ :=
      seg_step hd hl hsk hsg (check_cw_seg p d _ hsg.2.1.2.1 hsg.2.1.2.2 hack) ⟨hi, hcov⟩
    have hcnt := cnt_setCnt n (!d) c1
    rw [Bool.not_not] at hcnt
    exact ⟨_, _, chunks', hsk', .of (by rw [halfOf_setHalf_ne']; exact hcl) (hcnt.2.trans hfull) ho'⟩
  | cwOwn hp hrst =>
    rename_i d
    obtain ⟨c, n, chunks, hsk, hcl, hfull, hi, hcov⟩ := hinv
    have hsk' := inert_step hd hsk hp (Or.inr hcl)
    rw [check_cw_own p d hrst] at hsk'
    have ho' := OpenDir.other hd hp.1 ⟨hi, hcov⟩ (touch (halfOf c d) p.ts) (cnt n d)
    rw [setCnt_self] at ho'
    exact ⟨_, n, chunks, hsk', .of (by rw [halfOf_setHalf, touch_closed]; exact hcl) hfull ho'⟩
  | cwFin hf hack =>
    rename_i d
    obtain ⟨c, n, chunks, hsk, hcl, hfull, hi, hcov⟩ := hinv
    obtain ⟨h', chunks', hc', hsk'⟩ :=
      fin_step hd hl hsk hf (check_cw_fin p d hf.2.1.1.2.1 hf.2.1.1.2.2 hack) ⟨hi, hcov⟩
    have hcnt := cnt_setCnt n (!d) (cp.BOf (!d)).length
    rw [Bool.not_not] at hcnt
    refine ⟨_, _, _, chunks', hsk', by rw [bothClosed_setHalf, hc', Bool.not_not, hcl]; rfl, fun _ => ?_⟩
    cases d
    · exact ⟨hcnt.2.trans hfull, hcnt.1⟩
    · exact ⟨hcnt.1, hcnt.2.trans hfull⟩
  | cwRstOwn hp hrst =>
    -- the state machine goes to `reset` while the other half-connection is open: the other direction's later
    -- data is lost
    rename_i d
    obtain ⟨c, n, chunks, hsk, hcl, _⟩ := hinv
    have hsk' := inert_step hd hsk hp (Or.inr hcl)
    rw [check_cw_rst p d d hrst] at hsk'
    exact ⟨_, _, n, chunks, hsk', rfl⟩
  | cwRst hr =>
    -- an RST of the open direction beyond the expected sequence number leaves its half-connection open: the
    -- stream is never completed inside the window
    rename_i d
    obtain ⟨c, n, chunks, hsk, _, _, hi, hcov⟩ := hinv
    obtain ⟨h', chunks', _, hsk'⟩ := rst_step hd hl hsk hr (check_cw_rst p d _ hr.2.1.2.2) ⟨hi, hcov⟩
    exact ⟨_, _, n, chunks', hsk', rfl⟩
  | cwRstClose hr hall =>
    rename_i d
    obtain ⟨c, n, chunks, hsk, hcl, _, hi, hcov⟩ := hinv
    obtain ⟨h', chunks', hcl', hsk'⟩ := rst_step hd hl hsk hr (check_cw_rst p d _ hr.2.1.2.2) ⟨hi, hcov⟩
    -- everything before the RST has arrived, so it is not beyond the expected sequence number
    rw [decide_eq_true (carried_le hi hcov hall)] at hcl'
    exact ⟨_, _, n, chunks', hsk', by rw [bothClosed_setHalf, hcl', Bool.not_not, hcl]; rfl, fun h0 => by cases h0⟩
  | closed hp =>
    obtain ⟨f, c, n, chunks, hsk, hb, hfull⟩ := hinv
    obtain ⟨f', c', h1, _, h2⟩ := dead_step hd hsk (Or.inr hb) hp
    exact ⟨f', c', n, chunks, h1, h2.trans hb, hfull⟩
  | afterRst hp =>
    obtain ⟨f, c, n, chunks, hsk, hr⟩ := hinv
    obtain ⟨f', c', h1, h2, _⟩ := dead_step hd hsk (Or.inl hr) hp
    exact ⟨f', c', n, chunks, h1, h2 hr⟩

theorem tinv_run (cp : ConvParams) (hs : Import.Stream) (hd : cp.e.Distinct)
    (hlc : SeqLinear cp.icn cp.Bc.length) (hls : SeqLinear cp.isn cp.Bs.length)
    {done body : List Pkt} {ph ph' : TPhase} (hrun : TRun cp done ph body ph') :
    ∀ (r : RState), TInv cp hs done r ph → TInv cp hs (done ++ body) (body.foldl reasmPacket r) ph' := by
  induction hrun with
  | nil => intro r h; simpa using h
  | cons hstep _ ih =>
    intro r h
    have := ih _ (tinv_step cp hs hd (seqLinear_of cp hlc hls) hstep h)
    simpa using this

theorem covFact_of {cp : ConvParams} {done : List Pkt} {cc cs : Nat} {d : Bool} {h : Half}
    (hi : HalfInv (cp.isnOf d) (cp.BOf d) (cntOf cc cs d) h)
    (hcov : ∀ x, Carried cp done d x → x < cntOf cc cs d ∨ Covered (cp.isnOf d) h.queue x) :
    CovFact cp done cc cs d := by
  intro hall
  have h1 := carried_le hi hcov hall
  have h2 := hi.le
  omega

theorem tinv_facts {cp : ConvParams} {hs : Import.Stream} {done : List Pkt} {r : RState} {ph : TPhase} (h : TInv cp hs done r ph) :
    ∃ f k c cc cs chunks, TSkel cp hs done r f k c cc cs chunks ∧ PhaseFacts cp done f k c cc cs ph := by
  cases ph with
  | est =>
    obtain ⟨c, n, chunks, hsk, hest⟩ := h
    exact ⟨_, _, c, _, _, chunks, hsk, rfl, bothClosed_open (hest false).1.opn, (hest false).1.opn, (hest true).1.opn,
      fun d => covFact_of (hest d).1 (hest d).2⟩
  | cw d =>
    obtain ⟨c, n, chunks, hsk, hcw⟩ := h
    exact ⟨_, _, c, _, _, chunks, hsk, rfl, bothClosed_open hcw.opn.opn, hcw.closed, hcw.opn.opn, hcw.full,
      covFact_of hcw.opn hcw.cov⟩
  | both full =>
    obtain ⟨f, c, n, chunks, hsk, hb, hfull⟩ := h
    have := (Bool.and_eq_true _ _).mp hb
    exact ⟨f, _, c, _, _, chunks, hsk, hb, this.1, this.2, hfull⟩
  | reset =>
    obtain ⟨f, c, n, chunks, hsk, hr⟩ := h
    exact ⟨f, _, c, _, _, chunks, hsk, hr, rfl⟩

theorem dead_run {cp : ConvParams} {hs : Import.Stream} (hd : cp.e.Distinct) (tail : List Pkt) :
    ∀ {done : List Pkt} {r : RState} {f : Fsm} {c : TcpConn} {n : Nat × Nat} {chunks : List (Nat × Bytes)},
      Sk cp hs done r f c n chunks → Dead f c → (∀ p ∈ tail, ∃ dir, ConvPkt cp p dir) →
      ∃ f' c', Sk cp hs (done ++ tail) (tail.foldl reasmPacket r) f' c' n chunks ∧ bothClosed c' = bothClosed c := by
  induction tail with
  | nil => intro done r f c n chunks h _ _; exact ⟨f, c, by simpa using h, rfl⟩
  | cons p rest ih =>
    intro done r f c n chunks h hdead hall
    obtain ⟨dir, hp⟩ := hall p (List.mem_cons_self ..)
    obtain ⟨f1, c1, h1, h2, h3⟩ := dead_step hd h hdead hp
    obtain ⟨f2, c2, h4, h5⟩ := ih h1 (hdead.imp h2 (h3.trans ·)) (fun q hm => hall q (List.mem_cons_of_mem _ hm))
    exact ⟨f2, c2, by simpa using h4, h5.trans h3⟩

theorem tRun_segs (cp : ConvParams) : ∀ (l done : List Pkt), (∀ p ∈ l, BodyPkt cp p) → TRun cp done .est l .est
  | [], _, _ => .nil
  | p :: _, _, hl => .cons (.seg (hl p (List.mem_cons_self ..))) (tRun_segs cp _ _ fun q hq => hl q (List.mem_cons_of_mem _ hq))

theorem tear_state (cp : ConvParams) (hd : cp.e.Distinct) (p0 p1 : Pkt) (h0 : IsSyn cp.e p0) (h1 : IsSynAck cp.e p1)
    (ht0 : cp.t0 ≤ p0.ts) (ht : ¬ (p0.ts + timeout < p1.ts))
    (hc : cp.icn = seqAdd p0.seq 1) (hs : cp.isn = seqAdd p1.seq 1)
    (hlc : SeqLinear cp.icn cp.Bc.length) (hls : SeqLinear cp.isn cp.Bs.length)
    {body : List Pkt} {ph : TPhase} (hrun : TRun cp [] .est body ph) :
    ∃ f k c cc cs chunks,
      TSkel cp (hsStream cp.e p0 p1) body ((p0 :: p1 :: body).foldl reasmPacket {}) f k c cc cs chunks ∧
      PhaseFacts cp body f k c cc cs ph := by
  obtain ⟨e, icn, isn, Bc, Bs, t0⟩ := cp
  subst hc hs
  obtain ⟨u, hhs⟩ := handshake_state e hd p0 p1 h0 h1 ht
  rw [show (p0 :: p1 :: body).foldl reasmPacket {} = body.foldl reasmPacket ([p0, p1].foldl reasmPacket {}) from rfl, hhs]
  exact tinv_facts (tinv_run _ (hsStream e p0 p1) hd hlc hls hrun _ (openDir_after_handshake e p0 p1 Bc Bs t0 u ht0))

end Pk.Proofs.ImportReasm
