/-
  The ids a mark add / mark del really changes (`Changed`) are existing streams (`lt_maxUsed`) and pending at the
  mark when the walk starts, so `inherit_pending` leaves them pending at every tag that refers to it; the mark's
  own pending set is then put back (`updMark_spec`).
-/
import Pk.Proofs.TagGraphStep

namespace Pk.Proofs.TagGraphMore
open Pk.TagGraph Pk.Proofs.TagGraph

theorem refersTo_congr {m m' : TagMap} (h : ∀ k, refsOf m' k = refsOf m k) {target k : Name}
    (hr : RefersTo m target k) : RefersTo m' target k := by
  induction hr with
  | self => exact .self
  | step hrk _ ih => exact .step (by rw [h]; exact hrk) ih

theorem maxUsed_eq (ids : List Nat) : maxUsed ids = (ids.map (· + 1)).foldl max 0 := by
  rw [List.foldl_map]
  refine congrArg (fun f => ids.foldl f 0) (funext fun m => funext fun s => ?_)
  rw [Nat.max_def]
  by_cases h : m ≤ s
  · rw [if_pos h, if_pos (Nat.le_succ_of_le h)]
  · rw [if_neg h]
    split
    · exact Nat.le_antisymm ‹_› (Nat.lt_of_not_le h)
    · rfl

theorem lt_maxUsed (ids : List Nat) (s : Nat) (hs : s ∈ ids) : s < maxUsed ids := by
  rw [maxUsed_eq]
  exact Lib.le_foldl_max _ 0 (s + 1) (Or.inl (List.mem_map.mpr ⟨s, hs, rfl⟩))

def Changed (add : Bool) (t : Tag) (ids : List Nat) (x : Nat) : Prop :=
  x ∈ ids ∧ (if add then x ∉ t.matched else x ∈ t.matched)

theorem changed_mem_uncertain (add : Bool) (t : Tag) (ids : List Nat) (x : Nat)
    (h : Changed add t ids x) : x ∈ (markApply add t ids).uncertain := by
  unfold Changed at h
  unfold markApply
  cases add
  · simp only [Bool.false_eq_true, if_false] at h ⊢
    exact (mem_markDelApply_uncertain t ids x).mpr (Or.inr h)
  · simp only [if_true] at h ⊢
    exact (mem_markAddApply_uncertain t ids x).mpr (Or.inr h)

/-- the complete effect of a mark add / mark del on a well-formed table (`mark_add_applies` and
    `mark_del_applies` of C11More are its two readings) -/
theorem updMark_spec (st : State) (name : Name) (add : Bool) (ids : List Nat) (t : Tag)
    (wf : GraphWF st.tags) (ht : tget st.tags name = some t) (hmark : markPrefix name = true)
    (hknown : t.known = true) (hne : ids ≠ []) (hmax : maxUsed ids ≤ st.nextStreamID) :
    ∃ st', updMark st name add ids = (.ok, st') ∧
      st'.nextStreamID = st.nextStreamID ∧ st'.convs = st.convs ∧
      tget st'.tags name = some { markApply add t ids with uncertain := t.uncertain } ∧
      (∀ k, k ≠ name → (tget st'.tags k).map clearU = (tget st.tags k).map clearU) ∧
      (∀ k u', k ≠ name → RefersTo st.tags name k → tget st'.tags k = some u' →
        ∀ x, Changed add t ids x → x ∈ u'.uncertain) := by
  have hne' : ids.isEmpty = false := by
    cases ids with
    | nil => exact absurd rfl hne
    | cons a l => rfl
  have hg := refs_of_sameOther (markApply_other add t ids)
  have hk := markTag_of_known hknown add ids
  have hw := markTable_wf ht add ids wf
  rw [hk] at hw
  obtain ⟨s1, hs1⟩ := inherit_isSome { st with tags := tset st.tags name (markApply add t ids) } hw
  obtain ⟨hunc, hnext, hconvs⟩ := uncOnly_inherit _ _ hs1
  have hunc' : UncOnly (tset st.tags name (markApply add t ids)) s1.tags := hunc
  refine ⟨{ s1 with tags := tmod s1.tags name fun x => { x with uncertain := t.uncertain } }, ?_, hnext, hconvs, ?_, ?_, ?_⟩
  · have hw' : GraphWF (tmod s1.tags name fun x => { x with uncertain := t.uncertain }) := by
      rw [inherit_tags hs1, ← hk] at hs1
      exact markRestored_wf ht hs1 wf
    unfold updMark
    simp only [hne', hmark, ht, hknown, Bool.false_eq_true, if_false, Bool.not_true, if_true]
    rw [if_neg (Nat.not_lt.mpr hmax)]
    show (match inherit { st with tags := tset st.tags name (markApply add t ids) } with | none => _ | some st' => _) = _
    rw [hs1]
    simp only [tagJobPanics_false_of_closed _ hw'.closed, Bool.false_eq_true, if_false]
  · exact markRestored_get hs1 _
  · intro k hk
    show (tget (tmod s1.tags name fun x => { x with uncertain := t.uncertain }) k).map clearU = _
    rw [get_mod]
    simp only [Ne.symm hk, if_false]
    rw [hunc' k, get_set]
    simp [Ne.symm hk]
  · intro k u' hk hrefers hu' x hx
    have hu'' : tget s1.tags k = some u' := by
      have : tget (tmod s1.tags name fun x => { x with uncertain := t.uncertain }) k = some u' := hu'
      rw [get_mod] at this
      simpa [Ne.symm hk] using this
    have hrefs : ∀ k, refsOf (tset st.tags name (markApply add t ids)) k = refsOf st.tags k :=
      refsOf_of_gview (gview_tset_same st.tags name t _ ht hg.1 hg.2)
    have hsome : (tget (tset st.tags name (markApply add t ids)) k).isSome := by
      obtain ⟨u, hu, _⟩ := hunc'.get' hu''
      simp [hu]
    have hpend := inherit_pending hs1 (x := x) (Nat.lt_of_lt_of_le (lt_maxUsed ids x hx.1) hmax) (target := name)
      (by
        simp only [uncertainOf, get_set, if_true]
        exact changed_mem_uncertain add t ids x hx)
      hsome (refersTo_congr hrefs hrefers)
    simpa [uncertainOf, hu''] using hpend

end Pk.Proofs.TagGraphMore
