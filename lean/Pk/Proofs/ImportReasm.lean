/-
  The reference TCP reassembler of Pk/Model/Import.lean (`assembleHalf`) on a run of packets of one
  direction of one connection: an in-order run is delivered packet by packet.

  In the lemmas of these files the stream type is written `Import.Stream`: the bare name `Stream` is
  also a class of core, and the elaborator tries that reading first at every occurrence.
-/
import Pk.Props.ImportSpec
import Pk.Proofs.Lib

namespace Pk.Proofs.ImportReasm
open Pk.Import

def Stream.record (s : Stream) (r : PRef) (dir : Bool) (b : Bytes) : Stream :=
  { s with pktsRev := (r, dir) :: s.pktsRev, npkts := s.npkts + 1, dataRev := (s.npkts, b) :: s.dataRev }

theorem seqDiff_self (x : Nat) : seqDiff x x = 0 := by
  unfold seqDiff; split <;> (try split) <;> omega

theorem addPkt_addData (s : Import.Stream) (r : PRef) (d : Bool) (b : Bytes) :
    (s.addPkt r d).addData r b = Stream.record s r d b := by
  simp [Stream.addPkt, Stream.addData, findPktIdx, Stream.record]

theorem assembleHalf_inorder (st : Import.Stream) (h : Half) (p : Pkt) (nx : Nat)
    (hopen : h.closed = false) (hnext : h.nextSeq = some nx) (hq : h.queue = []) (hseq : p.seq = nx)
    (hp : PlainData p) :
    assembleHalf st h p = (st.addData p.ref p.payload, { h with nextSeq := some (seqAdd nx p.payload.length) }) := by
  obtain ⟨h1, h2, h3, hpl⟩ := hp
  have hd : seqDiff nx nx = 0 := seqDiff_self nx
  have hlen : p.payload.length ≠ 0 := by
    intro h0; exact hpl (List.length_eq_zero_iff.mp h0)
  have hpos : 0 < p.payload.length := Nat.pos_of_ne_zero hlen
  cases h with
  | mk nextSeq closed lastSeen queue =>
  simp only at hopen hnext hq
  subst hopen hnext hq
  simp [assembleHalf, hseq, h1, h2, h3, hd, overlapExisting, checkOverlap, overlapWalk,
    sendToConnection, addContiguous, firstNonEmptyRef, hlen, hpos]

theorem seqAdd_seqAdd (s a b : Nat) : seqAdd (seqAdd s a) b = seqAdd s (a + b) := by
  unfold seqAdd; rw [Nat.mod_add_mod, Nat.add_assoc]

theorem seqAdd_zero (s : Nat) (h : s < 4294967296) : seqAdd s 0 = s := Nat.mod_eq_of_lt h

def Stream.recordAll (s : Import.Stream) (dir : Bool) (ps : List Pkt) : Import.Stream :=
  { s with pktsRev := (ps.map (fun p => (p.ref, dir))).reverse ++ s.pktsRev,
           npkts := s.npkts + ps.length,
           dataRev := (chunksFrom s.npkts ps).reverse ++ s.dataRev }

theorem feedAll_inorder (dir : Bool) (ps : List Pkt) : ∀ (st : Import.Stream) (h : Half) (nx : Nat),
    h.closed = false → h.nextSeq = some nx → h.queue = [] → nx < 4294967296 → InOrder nx ps →
    feedAll dir (st, h) ps =
      (Stream.recordAll st dir ps, { h with nextSeq := some (seqAdd nx (payloadOf ps).length) }) := by
  induction ps with
  | nil =>
    intro st h nx _ hn _ hlt _
    simp [feedAll, Stream.recordAll, payloadOf, chunksFrom, seqAdd_zero nx hlt, ← hn]
  | cons p rest ih =>
    intro st h nx hc hn hq hlt hio
    obtain ⟨hs, hp, hrest⟩ := hio
    simp only [feedAll, List.foldl_cons] at ih ⊢
    have e := ih (Stream.record st p.ref dir p.payload) { h with nextSeq := some (seqAdd nx p.payload.length) }
      (seqAdd nx p.payload.length) hc rfl hq (by unfold seqAdd; omega) hrest
    rw [feed, assembleHalf_inorder _ h p nx hc hn hq hs hp, addPkt_addData, e]
    simp [Stream.recordAll, Stream.record, payloadOf, chunksFrom, seqAdd_seqAdd, Nat.add_assoc, Nat.add_comm 1]

end Pk.Proofs.ImportReasm

