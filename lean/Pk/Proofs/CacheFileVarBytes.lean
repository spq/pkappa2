/-
  C15 helper lemmas: the varbytes codec (content-type bitmasks) and strings.
-/
import Pk.Model.CacheFile
import Pk.Proofs.CacheFile

namespace Pk.Proofs.CacheFile
open Pk.CacheFile

/-- a byte or group shifted above the `k ≤ 8` buffered bits fits the `uint16` buffer -/
theorem or_shl_u16 {a k : Nat} (b : Nat) (ha : a < 2 ^ k) (hk : k ≤ 8) (hb : b < 256) :
    (a ||| b <<< k) % 65536 = a + b * 2 ^ k := by
  have h1 : 2 ^ k ≤ 2 ^ 8 := Nat.pow_le_pow_right (by decide) hk
  have h2 := Nat.mul_le_mul_right (2 ^ k) (Nat.le_of_lt_succ hb)
  rw [Nat.or_comm, ← Nat.shiftLeft_add_eq_or_of_lt ha, Nat.shiftLeft_eq, Nat.add_comm,
    Nat.mod_eq_of_lt (by omega)]

theorem hi_lt {wf r p : Nat} (hwr : wf + r = 8) (hp : p < 256) : p / 2 ^ r < 2 ^ wf :=
  Nat.div_lt_of_lt_mul (by rw [← Nat.pow_add, Nat.add_comm, hwr]; exact hp)

/-- One 7-bit group of the writer: the upper `wf` bits of the previous byte `p` below the lower `h` bits of
    the next byte `b`.  The writer keeps the other bits of `b`; the reader, holding the lower `h + 1` bits
    of `p`, completes `p` and keeps the `h` bits of `b`. -/
theorem group_facts {wf h p : Nat} (b : Nat) (hw : wf + h = 7) (hp : p < 256) :
    (p / 2 ^ (h + 1) + b * 2 ^ wf) / 128 = b / 2 ^ h ∧
    (p % 2 ^ (h + 1) + (p / 2 ^ (h + 1) + b * 2 ^ wf) % 128 * 2 ^ (h + 1)) % 256 = p ∧
    (p % 2 ^ (h + 1) + (p / 2 ^ (h + 1) + b * 2 ^ wf) % 128 * 2 ^ (h + 1)) / 256 = b % 2 ^ h := by
  have hx : p / 2 ^ (h + 1) < 2 ^ wf := hi_lt (by omega) hp
  have hmh : 128 = 2 ^ wf * 2 ^ h := by rw [← Nat.pow_add, hw]
  have hd := Nat.add_mul_div_right (p / 2 ^ (h + 1)) b (Nat.two_pow_pos wf)
  rw [Nat.div_eq_of_lt hx, Nat.zero_add] at hd
  have e : p % 2 ^ (h + 1) + (p / 2 ^ (h + 1) + b * 2 ^ wf) % 128 * 2 ^ (h + 1) = p + 256 * (b % 2 ^ h) := by
    rw [hmh, Nat.mod_mul, Nat.add_mul_mod_self_right, Nat.mod_eq_of_lt hx, hd, Nat.add_mul, ← Nat.add_assoc,
      Nat.mul_comm (p / _), Nat.mod_add_div, Nat.mul_right_comm, ← Nat.pow_add, show wf + (h + 1) = 8 by omega]
  rw [e, Nat.add_mul_mod_self_left, Nat.mod_eq_of_lt hp, Nat.add_mul_div_left _ _ (by decide),
    Nat.div_eq_of_lt hp, Nat.zero_add, hmh, ← Nat.div_div_eq_div_mul, hd]
  exact ⟨rfl, rfl, rfl⟩

theorem rvb_start (g : Nat) (bs : List Nat) (hg : g < 128) :
    readVarBytesAux ((128 + g) :: bs) 0 0 = readVarBytesAux bs g 7 := by
  rw [readVarBytesAux, Nat.add_mod_left, Nat.mod_eq_of_lt hg, or_shl_u16 g (by decide) (by decide) (by omega)]
  simp only [Nat.zero_add, Nat.pow_zero, Nat.mul_one]
  rw [if_neg (by decide), if_neg (by omega)]

theorem rvb_flag {buf r : Nat} (g : Nat) (bs : List Nat) (hbuf : buf < 2 ^ r) (h1 : 1 ≤ r) (h8 : r ≤ 8)
    (hg : g < 128) :
    readVarBytesAux ((128 + g) :: bs) buf r =
      (readVarBytesAux bs ((buf + g * 2 ^ r) / 256) (r - 1)).map
        fun x => ((buf + g * 2 ^ r) % 256 :: x.1, x.2) := by
  rw [readVarBytesAux, Nat.add_mod_left, Nat.mod_eq_of_lt hg, or_shl_u16 g hbuf h8 (by omega),
    if_pos (by omega), if_neg (by omega), show r + 7 - 8 = r - 1 by omega]

theorem rvb_last {buf r : Nat} (g : Nat) (bs : List Nat) (hbuf : buf < 2 ^ r) (h1 : 1 ≤ r) (h8 : r ≤ 8)
    (hg : g < 128) :
    readVarBytesAux (g :: bs) buf r = some ([(buf + g * 2 ^ r) % 256], bs) := by
  rw [readVarBytesAux, Nat.mod_eq_of_lt hg, or_shl_u16 g hbuf h8 (by omega), if_pos (by omega), if_pos hg]

theorem wvb_cons {x wf : Nat} (b : Nat) (bs : List Nat) (hx : x < 2 ^ wf) (hwf : wf ≤ 6) (hb : b < 256) :
    writeVarBytesAux (b :: bs) x wf =
      (128 + (x + b * 2 ^ wf) % 128) :: writeVarBytesAux bs ((x + b * 2 ^ wf) / 128) (wf + 1) := by
  rw [writeVarBytesAux, or_shl_u16 b hx (by omega) hb, vbEmit]
  dsimp only
  rw [if_pos (by omega)]
  rfl

/-- with 7 bits buffered the 15 bits make two groups -/
theorem wvb_seven {x : Nat} (b : Nat) (bs : List Nat) (hx : x < 2 ^ 7) (hb : b < 256) :
    writeVarBytesAux (b :: bs) x 7 =
      (128 + (x + b * 2 ^ 7) % 128) :: (128 + (x + b * 2 ^ 7) / 128 % 128) ::
        writeVarBytesAux bs ((x + b * 2 ^ 7) / 128 / 128) 1 := by
  rw [writeVarBytesAux, or_shl_u16 b hx (by decide) hb]
  rfl

/-- The writer holds the upper `wf` bits of the last byte `p`, the reader its lower `r = 8 - wf` bits. -/
theorem vb_step (rest : List Nat) : ∀ (data : List Nat) (wf r p : Nat), wf + r = 8 → 1 ≤ wf → 1 ≤ r → p < 256 →
    (∀ b ∈ data, b < 256) →
    readVarBytesAux (writeVarBytesAux data (p / 2 ^ r) wf ++ rest) (p % 2 ^ r) r = some (p :: data, rest) := by
  intro data
  induction data with
  | nil =>
    intro wf r p hwr hwf hr hp _
    have hx : p / 2 ^ r < 2 ^ wf := hi_lt hwr hp
    have h7 : 2 ^ wf ≤ 2 ^ 7 := Nat.pow_le_pow_right (by decide) (by omega)
    rw [writeVarBytesAux, if_pos (by omega), Nat.mod_eq_of_lt (by omega), List.singleton_append,
      rvb_last _ _ (Nat.mod_lt _ (Nat.two_pow_pos r)) hr (by omega) (by omega), Nat.mul_comm, Nat.mod_add_div,
      Nat.mod_eq_of_lt hp]
  | cons b bs ih =>
    intro wf r p hwr hwf hr hp hb
    obtain ⟨hb, hbs⟩ := List.forall_mem_cons.mp hb
    have hx : p / 2 ^ r < 2 ^ wf := hi_lt hwr hp
    have hy : p % 2 ^ r < 2 ^ r := Nat.mod_lt _ (Nat.two_pow_pos r)
    obtain ⟨h, rfl⟩ : ∃ h, r = h + 1 := ⟨r - 1, by omega⟩
    obtain ⟨e1, e2, e3⟩ := group_facts b (show wf + h = 7 by omega) hp
    by_cases h7 : wf = 7
    · -- the reader completes `p` and has nothing of `b` yet; both go on as from the start
      obtain rfl : h = 0 := by omega
      subst h7
      rw [wvb_seven b bs hx hb, List.cons_append, List.cons_append,
        rvb_flag _ _ hy hr (by omega) (Nat.mod_lt _ (by decide)), e1, e2, e3, Nat.pow_zero, Nat.mod_one,
        Nat.div_one, rvb_start _ _ (Nat.mod_lt _ (by decide)), ih 1 7 b rfl (by decide) (by decide) hb hbs]
      rfl
    · rw [wvb_cons b bs hx (by omega) hb, List.cons_append,
        rvb_flag _ _ hy hr (by omega) (Nat.mod_lt _ (by decide)), e1, e2, e3, Nat.add_sub_cancel,
        ih (wf + 1) h b (by omega) (by omega) (by omega) hb hbs]
      rfl

theorem varbytes_rt (data rest : List Nat) (h : ∀ b ∈ data, b < 256) :
    readVarBytes (writeVarBytes data ++ rest) = some (data, rest) := by
  cases data with
  | nil => simp [writeVarBytes, readVarBytes_zero]
  | cons b bs =>
    have hb : b < 256 := h b (by simp)
    have e := wvb_cons b bs (show 0 < 2 ^ 0 by decide) (by decide) hb
    rw [Nat.zero_add, Nat.pow_zero, Nat.mul_one] at e
    rw [writeVarBytes, readVarBytes, if_neg (by simp), e, List.cons_append,
      rvb_start _ _ (Nat.mod_lt _ (by decide))]
    exact vb_step rest bs 1 7 b rfl (by decide) (by decide) hb fun x hx => h x (by simp [hx])

theorem readString_rt (s rest : List Nat) (h : s.length < 2 ^ 64) :
    readString (writeString s ++ rest) = some (s, rest) := by
  unfold readString writeString
  rw [List.append_assoc, varint_roundtrip _ _ h]
  simp

end Pk.Proofs.CacheFile
