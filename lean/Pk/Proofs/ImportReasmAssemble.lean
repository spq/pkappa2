/-
  The assembler and the flush as `tcpPacket` uses them, whatever the traffic: what `assembleHalf`
  leaves alone (the stream apart from one appended chunk, `lastSeen`, the references of queued
  pages), and `tcpFlush` as a step per connection that does nothing to a fresh one.  Between the two: the
  stream table, an `Array` read with `[i]!` and written with `set!`, `push`, `modify`.
-/
import Pk.Proofs.ImportReasmSeq

namespace Pk.Proofs.ImportReasm
open Pk.Import

theorem overlapWalk_refs (P : PRef → Prop) (s e : Nat) (revq after : List Page) (bytes : Bytes)
    (h1 : ∀ pg ∈ revq, P pg.ref) (h2 : ∀ pg ∈ after, P pg.ref) :
    (∀ pg ∈ (overlapWalk s e revq after bytes).1, P pg.ref) ∧
    (∀ pg ∈ (overlapWalk s e revq after bytes).2.1, P pg.ref) := by
  -- every case either stops with `cur` (or a cut copy of it) in front of `prev`, or goes on with
  -- `cur`, a cut copy of it, or nothing pushed onto `after`: no case invents a reference
  fun_induction overlapWalk s e revq after bytes with
  | case1 => exact ⟨h1, h2⟩
  | case3 | case5 =>
    rw [List.forall_mem_cons] at h1
    exact ⟨by simpa only [List.mem_reverse, List.forall_mem_cons] using h1, h2⟩
  | case4 => rename_i ih; exact ih (List.forall_mem_cons.mp h1).2 h2
  | case2 | case6 | case7 | case8 =>
    rename_i ih
    rw [List.forall_mem_cons] at h1
    exact ih h1.2 (List.forall_mem_cons.mpr ⟨h1.1, h2⟩)

theorem checkOverlap_refs (P : PRef → Prop) (h : Half) (q : Bool) (s : Nat) (b : Bytes) (r : PRef) (f : Bool)
    (hq : ∀ pg ∈ h.queue, P pg.ref) (hr : P r) :
    ∀ pg ∈ (checkOverlap h q s b r f).1.queue, P pg.ref := by
  have := overlapWalk_refs P s (seqAdd s b.length) h.queue.reverse [] b
    (fun pg hm => hq pg (List.mem_reverse.mp hm)) (by intro pg hm; cases hm)
  unfold checkOverlap
  generalize overlapWalk s (seqAdd s b.length) h.queue.reverse [] b = w at this
  obtain ⟨bf, af, bs⟩ := w
  obtain ⟨w1, w2⟩ := this
  simp only at w1 w2 ⊢
  split
  · intro pg hm
    simp only [List.mem_append, List.mem_singleton] at hm
    rcases hm with (hm | rfl) | hm
    · exact w1 pg hm
    · exact hr
    · exact w2 pg hm
  · intro pg hm
    rcases List.mem_append.mp hm with hm | hm
    · exact w1 pg hm
    · exact w2 pg hm

theorem checkOverlap_frame (h : Half) (q : Bool) (s : Nat) (b : Bytes) (r : PRef) (f : Bool) :
    (checkOverlap h q s b r f).1.lastSeen = h.lastSeen ∧ (checkOverlap h q s b r f).1.closed = h.closed ∧
    (checkOverlap h q s b r f).1.nextSeq = h.nextSeq := by
  unfold checkOverlap
  simp only
  split <;> exact ⟨rfl, rfl, rfl⟩

theorem addContiguous_left (q : List Page) : ∀ (l : Nat), ∀ pg ∈ (addContiguous q l).2.1, pg ∈ q := by
  induction q with
  | nil => intro l pg hm; cases hm
  | cons a rest ih =>
    intro l pg hm
    rw [addContiguous] at hm
    split at hm
    · exact List.mem_cons_of_mem _ (ih _ pg hm)
    · exact hm

/-! The assembler never reads the stream it writes to: whatever the stream, it appends the same data
chunk (or none) to `Data`, and the half-connection it returns is the same (`assembleHalf_frame`). -/

def Stream.deliver (st : Import.Stream) : Option (PRef × Bytes) → Import.Stream
  | none => st
  | some d => st.addData d.1 d.2

theorem sendToConnection_frame (h : Half) (s : Nat) (b : Bytes) (r : PRef) (f : Bool) :
    ∃ d h' n, (∀ st, sendToConnection st h s b r f = (Stream.deliver st d, h', n)) ∧ h'.lastSeen = h.lastSeen ∧
      ∀ pg ∈ h'.queue, pg ∈ h.queue := by
  have hleft := addContiguous_left h.queue (seqAdd s b.length)
  unfold sendToConnection
  simp only
  generalize addContiguous h.queue (seqAdd s b.length) = ac at hleft ⊢
  obtain ⟨taken, left, nx⟩ := ac
  generalize ((b, r) :: taken.map (fun pg => (pg.bytes, pg.ref))) = all
  generalize all.foldr (fun x acc => x.1 ++ acc) [] = total
  -- whether the half is closed now (`c`) or not
  have key : ∀ c : Bool, ∃ d h' n, (∀ st, ((if total.length = 0 then st else
        match firstNonEmptyRef all with
        | some r => st.addData r total
        | none => st),
      (if c then { h with closed := true, queue := [] } else { h with queue := left } : Half), nx) =
        (Stream.deliver st d, h', n)) ∧ h'.lastSeen = h.lastSeen ∧ ∀ pg ∈ h'.queue, pg ∈ h.queue := by
    intro c
    refine ⟨if total.length = 0 then none else (firstNonEmptyRef all).map (fun r => (r, total)),
      if c then { h with closed := true, queue := [] } else { h with queue := left }, nx, fun st => ?_, ?_, ?_⟩
    · by_cases ht : total.length = 0
      · rw [if_pos ht, if_pos ht]; rfl
      · rw [if_neg ht, if_neg ht]
        cases firstNonEmptyRef all <;> rfl
    · cases c <;> rfl
    · cases c
      · exact hleft
      · intro pg hm; cases hm
  generalize taken.getLast? = tl
  cases tl with
  | none => exact key f
  | some pg => exact key pg.fin

theorem deliverNow_frame (g : Half) (seq : Nat) (p : Pkt) :
    ∃ d h', (∀ st, deliverNow st g seq p = (Stream.deliver st d, h')) ∧ h'.lastSeen = g.lastSeen ∧
      ∀ P : PRef → Prop, (∀ pg ∈ g.queue, P pg.ref) → P p.ref → ∀ pg ∈ h'.queue, P pg.ref := by
  unfold deliverNow
  simp only
  generalize overlapExisting g seq p.payload = oe
  obtain ⟨bytes, seq'⟩ := oe
  have hf := (checkOverlap_frame g false seq' bytes p.ref (p.rst || p.fin)).1
  have hr := fun P hq hr => checkOverlap_refs P g false seq' bytes p.ref (p.rst || p.fin) hq hr
  generalize checkOverlap g false seq' bytes p.ref (p.rst || p.fin) = co at hf hr
  obtain ⟨h1, b1⟩ := co
  by_cases hcond : b1.length ≠ 0 ∨ (p.rst || p.fin) = true ∨ p.syn = true
  · obtain ⟨d, h2, n, hs, hls, hsub⟩ := sendToConnection_frame h1 seq' b1 p.ref (p.rst || p.fin)
    refine ⟨d, { h2 with nextSeq := some (if p.fin then seqAdd n 1 else n) }, fun st => ?_, hls.trans hf,
      fun P hq hp pg hm => hr P hq hp pg (hsub pg hm)⟩
    simp only [if_pos hcond, hs st]
  · exact ⟨none, h1, fun st => by simp only [if_neg hcond]; rfl, hf, hr⟩

theorem assembleHalf_frame (h : Half) (p : Pkt) :
    ∃ d h', (∀ st, assembleHalf st h p = (Stream.deliver st d, h')) ∧ h'.lastSeen = h.lastSeen ∧
      ∀ P : PRef → Prop, (∀ pg ∈ h.queue, P pg.ref) → P p.ref → ∀ pg ∈ h'.queue, P pg.ref := by
  have queued : ∃ d h', (∀ st, (st, (checkOverlap h true p.seq p.payload p.ref (p.rst || p.fin)).1) = (Stream.deliver st d, h')) ∧
      h'.lastSeen = h.lastSeen ∧ ∀ P : PRef → Prop, (∀ pg ∈ h.queue, P pg.ref) → P p.ref → ∀ pg ∈ h'.queue, P pg.ref :=
    ⟨none, _, fun _ => rfl, (checkOverlap_frame ..).1, fun P hq hr => checkOverlap_refs P h _ _ _ _ _ hq hr⟩
  simp only [assembleHalf_eq]
  split
  · exact ⟨none, h, fun _ => rfl, rfl, fun _ hq _ => hq⟩
  · split
    · split
      · exact deliverNow_frame { h with nextSeq := some (seqAdd p.seq 1) } _ p
      · exact queued
    · split
      · exact queued
      · exact deliverNow_frame h _ p

theorem assembleHalf_refs (P : PRef → Prop) (st : Import.Stream) (h : Half) (p : Pkt)
    (hq : ∀ pg ∈ h.queue, P pg.ref) (hr : P p.ref) :
    (∀ pg ∈ (assembleHalf st h p).2.queue, P pg.ref) ∧ (assembleHalf st h p).2.lastSeen = h.lastSeen := by
  obtain ⟨d, h', hu, hls, hrefs⟩ := assembleHalf_frame h p
  rw [hu]
  exact ⟨hrefs P hq hr, hls⟩

theorem feedAll_lastSeen (dir : Bool) (ps : List Pkt) : ∀ acc : Import.Stream × Half,
    (feedAll dir acc ps).2.lastSeen = acc.2.lastSeen := by
  induction ps with
  | nil => exact fun _ => rfl
  | cons p ps ih =>
    exact fun acc => (ih _).trans (assembleHalf_refs (fun _ => True) _ acc.2 p (fun _ _ => trivial) trivial).2

theorem skipFlushLoop_id (ts : Nat) (n : Nat) (st : Import.Stream) (h : Half)
    (hq : ∀ pg ∈ h.queue, ¬ (pg.ref.ts + timeout < ts)) : skipFlushLoop ts n st h = (st, h) := by
  cases n with
  | zero => rfl
  | succ n =>
    rw [skipFlushLoop]
    split
    · rfl
    · split
      · rfl
      · rename_i pg rest hqq
        have := hq pg (by rw [hqq]; exact List.mem_cons_self ..)
        rw [if_neg this]

theorem array_set!_self (ss : Array Import.Stream) (i : Nat) : ss.set! i ss[i]! = ss := by
  apply Array.ext
  · simp
  · intro j h1 h2
    simp only [Array.set!_eq_setIfInBounds]
    rw [Array.getElem_setIfInBounds]
    split
    · rename_i h; subst h
      simp [getElem!_pos, h2]
    · rfl

theorem array_set!_get!_ne (ss : Array Import.Stream) (i j : Nat) (x : Import.Stream) (h : j ≠ i) : (ss.set! j x)[i]! = ss[i]! := by
  simp [Array.getElem!_eq_getD, Array.getD_eq_getD_getElem?, Array.getElem?_setIfInBounds_ne h]

theorem array_set!_get!_eq (ss : Array Import.Stream) (j : Nat) (x : Import.Stream) :
    (ss.set! j x)[j]! = if j < ss.size then x else ss[j]! := by
  split
  · rename_i h; simp [h]
  · rename_i h; simp [h]

theorem array_get!_default (R : Array Import.Stream) (k : Nat) (h : R.size ≤ k) : R[k]! = default := by
  rw [getElem!_def, Array.getElem?_eq_none h]

theorem array_get?_some {R : Array Import.Stream} {i : Nat} {s : Import.Stream} : R[i]? = some s ↔ i < R.size ∧ R[i]! = s := by
  rw [getElem!_def]
  rcases Nat.lt_or_ge i R.size with h | h
  · rw [getElem?_pos R i h]
    exact ⟨fun e => ⟨h, Option.some.inj e⟩, fun e => congrArg some e.2⟩
  · rw [Array.getElem?_eq_none h]
    exact ⟨fun e => (nomatch e), fun e => absurd e.1 (Nat.not_lt.mpr h)⟩

theorem array_push_get! (ss : Array Import.Stream) (x : Import.Stream) (i : Nat) :
    (ss.push x)[i]! = if i = ss.size then x else ss[i]! := by
  rw [getElem!_def, getElem!_def, Array.getElem?_push]
  by_cases h : i = ss.size
  · rw [if_pos h, if_pos h]
  · rw [if_neg h, if_neg h]

theorem array_push_set! (ss : Array Import.Stream) (s s' : Import.Stream) : (ss.push s).set! ss.size s' = ss.push s' := by
  apply Array.ext'
  simp [List.set_append_right]

theorem list_toArray_set! (l1 l2 : List Import.Stream) (s s' : Import.Stream) :
    (l1 ++ s :: l2).toArray.set! l1.length s' = (l1 ++ s' :: l2).toArray := by
  apply Array.ext'
  simp [List.set_append_right]

theorem list_toArray_get! (l1 l2 : List Import.Stream) (s : Import.Stream) : (l1 ++ s :: l2).toArray[l1.length]! = s := by
  simp

theorem toArray_modify_last {α} (done : List α) (s : α) (f : α → α) :
    (done ++ [s]).toArray.modify done.length f = (done ++ [f s]).toArray := by
  simp [Lib.list_modify_last]

def ConnFresh (ts : Nat) (c : TcpConn) : Prop :=
  ¬ (c.lastSeen + timeout < ts) ∧ (∀ pg ∈ c.c2s.queue, ¬ (pg.ref.ts + timeout < ts)) ∧
    (∀ pg ∈ c.s2c.queue, ¬ (pg.ref.ts + timeout < ts))
instance (ts : Nat) (c : TcpConn) : Decidable (ConnFresh ts c) := by unfold ConnFresh; infer_instance

def FlushKeeps (k ts : Nat) (c : TcpConn) : Prop := c.k ≠ k ∨ ConnFresh ts c
instance (k ts : Nat) (c : TcpConn) : Decidable (FlushKeeps k ts c) := by unfold FlushKeeps; infer_instance

/-- second part of `flushClose` -/
def closeIfOld (old : Bool) (h : Half) : Half :=
  if ¬ h.closed ∧ h.queue.isEmpty ∧ old then { h with closed := true, queue := [] } else h

def markComplete (b : Bool) (st : Import.Stream) : Import.Stream := if b then { st with complete := true } else st

theorem closeIfOld_false (h : Half) : closeIfOld false h = h := by
  unfold closeIfOld; simp

theorem closeIfOld_lastSeen (old : Bool) (h : Half) : (closeIfOld old h).lastSeen = h.lastSeen := by
  unfold closeIfOld; split <;> rfl

def flushStep (k ts : Nat) (c : TcpConn) (st0 : Import.Stream) : Option TcpConn × Import.Stream :=
  if c.k ≠ k then (some c, st0) else
  let old : Bool := c.lastSeen + timeout < ts
  let wasClosed := c.c2s.closed && c.s2c.closed
  let r1 := skipFlushLoop ts c.s2c.queue.length st0 c.s2c
  let s2c := closeIfOld old r1.2
  let r2 := skipFlushLoop ts c.c2s.queue.length r1.1 c.c2s
  let c2s := closeIfOld old r2.2
  let st3 := markComplete ((c2s.closed && s2c.closed) && !wasClosed) r2.1
  let remove : Bool := c2s.closed ∧ s2c.closed ∧ c.c2s.lastSeen + timeout < ts ∧ c.s2c.lastSeen + timeout < ts
  (if remove then none else some { c with c2s := c2s, s2c := s2c }, st3)

theorem ite_cons_toList {α β γ : Type} (r : Prop) [Decidable r] (x : α) (rest : List α × β × γ) :
    (if r then (rest.1, rest.2.1, rest.2.2) else (x :: rest.1, rest.2.1, rest.2.2)) =
      ((if r then none else some x).toList ++ rest.1, rest.2.1, rest.2.2) := by
  split <;> rfl

theorem tcpFlush_cons (k ts : Nat) (c : TcpConn) (cs : List TcpConn) (ss : Array Import.Stream) (u : Bool) :
    tcpFlush k ts (c :: cs) ss u =
      ((flushStep k ts c ss[c.stream]!).1.toList ++
          (tcpFlush k ts cs (ss.set! c.stream (flushStep k ts c ss[c.stream]!).2) u).1,
        (tcpFlush k ts cs (ss.set! c.stream (flushStep k ts c ss[c.stream]!).2) u).2.1,
        (tcpFlush k ts cs (ss.set! c.stream (flushStep k ts c ss[c.stream]!).2) u).2.2) := by
  rw [tcpFlush]
  unfold flushStep
  by_cases hk : c.k ≠ k
  · simp only [if_pos hk, array_set!_self, Option.toList_some, List.singleton_append]
  · simp only [if_neg hk]
    exact ite_cons_toList _ _ _

theorem flushStep_keeps (k ts : Nat) (c : TcpConn) (st : Import.Stream) (h : FlushKeeps k ts c) :
    flushStep k ts c st = (some c, st) := by
  unfold flushStep
  by_cases hk : c.k ≠ k
  · rw [if_pos hk]
  · rw [if_neg hk]
    obtain ⟨hold, h1, h2⟩ := h.resolve_left hk
    -- not both halves are older than the timeout, so the connection is not removed
    have hboth : ¬ (c.c2s.lastSeen + timeout < ts ∧ c.s2c.lastSeen + timeout < ts) := by
      unfold TcpConn.lastSeen at hold; omega
    simp only [skipFlushLoop_id ts _ _ c.s2c h2, skipFlushLoop_id ts _ _ c.c2s h1, hold, decide_false,
      closeIfOld_false, Bool.and_not_self, markComplete, Bool.false_eq_true, if_false, decide_eq_true_eq,
      hboth, and_false]

theorem tcpFlush_keepsAll (k ts : Nat) : ∀ (cs : List TcpConn) (ss : Array Import.Stream) (u : Bool),
    (∀ c ∈ cs, FlushKeeps k ts c) → tcpFlush k ts cs ss u = (cs, ss, u) := by
  intro cs
  induction cs with
  | nil => intro ss u _; rfl
  | cons c cs ih =>
    intro ss u hw
    rw [tcpFlush_cons, flushStep_keeps k ts c _ (hw c (List.mem_cons_self ..)), array_set!_self,
      ih ss u (fun c hm => hw c (List.mem_cons_of_mem _ hm))]
    rfl

end Pk.Proofs.ImportReasm
