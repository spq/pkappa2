/-
  C04: every shortcut of `find` only discards start positions at which a context-free expression with
  sound facts has no candidate (`Rel_skip`) or bytes behind every candidate (`matcherOf_take`), so the
  result denotes the match of the plain scan (`Rel`, `find_Rel`).  For THEN chains equal matches are not
  enough: `EmptyStays`.
-/
import Pk.Model.DataSearch

namespace Pk.Proofs.DataSearch
open Pk.DataSearch

/-- the anchored candidates of a context-free expression only depend on the bytes they consume -/
structure Local (cands : Bytes → List Nat) : Prop where
  le_len : ∀ u n, n ∈ cands u → n ≤ u.length
  take : ∀ u c, cands (u.take c) = (cands u).filter (fun n => decide (n ≤ c))

/-- the facts are sound for the expression: every match has a length in [minLen, maxLen], starts with the
    prefix and ends with the suffix -/
structure Sound (cands : Bytes → List Nat) (f : Facts) : Prop where
  min_le : ∀ u n, n ∈ cands u → f.minLen ≤ n
  le_max : ∀ u n, n ∈ cands u → n ≤ f.maxLen
  pre : ∀ u n, n ∈ cands u → hasPrefix (u.take n) f.pre = true
  suf : ∀ u n, n ∈ cands u → hasSuffix (u.take n) f.suf = true

/-- two scan results denote the same match in absolute positions (or both none) -/
def sameAbs (a b : Found) : Bool :=
  match a.res, b.res with
  | none, none => true
  | some (s, e), some (s', e') => a.off + s == b.off + s' && a.off + e == b.off + e'
  | _, _ => false

theorem sameAbs_of_off {a b : Found} (h : ∀ r r', a.res = some r → b.res = some r' → a.off = b.off) :
    sameAbs a b = decide (a.res = b.res) := by
  unfold sameAbs
  cases ha : a.res with
  | none => cases b.res <;> simp
  | some r =>
    cases hb : b.res with
    | none => simp
    | some r' =>
      obtain ⟨s, e⟩ := r; obtain ⟨s', e'⟩ := r'
      rw [h _ _ ha hb]
      simp [Nat.add_left_cancel_iff, Bool.beq_eq_decide_eq]

/-- the plain scan reports what the matcher says at the old offset; where it puts the offset after a miss does
    not show -/
theorem sameAbs_plainFind (R : Found) (m : Matcher) (buf : Bytes) (off : Nat) :
    sameAbs R (plainFind m buf off) = sameAbs R ⟨m (buf.drop off), off⟩ := by
  unfold plainFind
  cases m (buf.drop off) with
  | some r => rfl
  | none => unfold sameAbs; cases R.res <;> rfl

theorem hasPrefix_iff (a b : Bytes) : hasPrefix a b = true ↔ b <+: a := by
  fun_induction hasPrefix a b with
  | case1 => simp
  | case2 => simp
  | case3 a as b bs ih =>
    simp only [Bool.and_eq_true, beq_iff_eq, ih, List.cons_prefix_cons, @eq_comm _ a b]

theorem hasSuffix_iff (a b : Bytes) : hasSuffix a b = true ↔ b <:+ a := by
  unfold hasSuffix
  rw [hasPrefix_iff, List.reverse_prefix]

theorem indexOf_spec (t p : Bytes) :
    (indexOf t p = none → ∀ j, ¬ p <+: t.drop j) ∧
    ∀ i, indexOf t p = some i → i ≤ t.length ∧ p <+: t.drop i ∧ ∀ j, j < i → ¬ p <+: t.drop j := by
  induction t with
  | nil => cases p <;> simp [indexOf]
  | cons a rest ih =>
    unfold indexOf
    by_cases hp : hasPrefix (a :: rest) p = true
    · rw [if_pos hp]
      simpa [hasPrefix_iff] using hp
    · rw [if_neg hp]
      rw [hasPrefix_iff] at hp
      cases hr : indexOf rest p with
      | none =>
        refine ⟨fun _ j => ?_, nofun⟩
        cases j with
        | zero => exact hp
        | succ j => simpa using ih.1 hr j
      | some i' =>
        obtain ⟨h0, h1, h2⟩ := ih.2 i' hr
        refine ⟨nofun, fun i h => ?_⟩
        cases h
        refine ⟨by simpa using h0, by simpa using h1, fun j hj => ?_⟩
        cases j with
        | zero => exact hp
        | succ j => simpa using h2 j (by omega)

theorem lastIndexOf_spec (t p : Bytes) :
    (lastIndexOf t p = none → ∀ j, ¬ p <+: t.drop j) ∧
    ∀ i, lastIndexOf t p = some i → p <+: t.drop i ∧ ∀ j, j ≤ t.length → p <+: t.drop j → j ≤ i := by
  induction t with
  | nil => cases p <;> simp [lastIndexOf]
  | cons a rest ih =>
    unfold lastIndexOf
    cases hr : lastIndexOf rest p with
    | some i' =>
      obtain ⟨h1, h2⟩ := ih.2 i' hr
      refine ⟨nofun, fun i h => ?_⟩
      cases h
      refine ⟨by simpa using h1, fun j hj hpj => ?_⟩
      cases j with
      | zero => omega
      | succ j => have := h2 j (by simpa using hj) (by simpa using hpj); omega
    | none =>
      by_cases hp : hasPrefix (a :: rest) p = true
      · simp only [if_pos hp]
        refine ⟨nofun, fun i h => ?_⟩
        cases h
        refine ⟨by simpa [hasPrefix_iff] using hp, fun j _ hpj => ?_⟩
        cases j with
        | zero => omega
        | succ j => exact absurd (by simpa using hpj) (ih.1 hr j)
      · simp only [if_neg hp]
        refine ⟨fun _ j => ?_, nofun⟩
        cases j with
        | zero => simpa [hasPrefix_iff] using hp
        | succ j => simpa using ih.1 hr j

theorem matcherOf_head (cands : Bytes → List Nat) (t : Bytes) (n : Nat)
    (h : (cands t).head? = some n) : matcherOf cands t = some (0, n) := by
  cases t <;> simp [matcherOf, h]

theorem matcherOf_shift (cands : Bytes → List Nat) (p : Nat) (t : Bytes)
    (h : ∀ i, i < p → ∀ n, n ∉ cands (t.drop i)) :
    matcherOf cands t = (matcherOf cands (t.drop p)).map (fun r => (r.1 + p, r.2 + p)) := by
  induction p generalizing t with
  | zero => simp
  | succ p ih =>
    have h0 : cands t = [] := List.eq_nil_iff_forall_not_mem.2 (h 0 (by omega))
    cases t with
    | nil => simp [matcherOf, h0]
    | cons a rest =>
      have := ih rest (fun i hi => h (i + 1) (by omega))
      simp only [matcherOf, h0, List.head?_nil, List.drop_succ_cons, this, Option.map_map]
      congr 1

theorem matcherOf_none_of (cands : Bytes → List Nat) (t : Bytes)
    (h : ∀ i, i ≤ t.length → ∀ n, n ∉ cands (t.drop i)) : matcherOf cands t = none := by
  rw [matcherOf_shift cands t.length t (fun i hi => h i (by omega))]
  have h1 := List.eq_nil_iff_forall_not_mem.2 (h t.length (Nat.le_refl _))
  simp only [List.drop_length] at h1 ⊢
  simp [matcherOf, h1]

theorem matcherOf_spec (cands : Bytes → List Nat) (t : Bytes) :
    (matcherOf cands t = none → ∀ i, cands (t.drop i) = []) ∧
    ∀ s e, matcherOf cands t = some (s, e) →
      s ≤ t.length ∧ (∀ i, i < s → cands (t.drop i) = []) ∧
      ∃ n, (cands (t.drop s)).head? = some n ∧ e = s + n := by
  induction t with
  | nil => cases hc : cands [] <;> simp [matcherOf, hc]
  | cons a rest ih =>
    simp only [matcherOf]
    cases hn : (cands (a :: rest)).head? with
    | some n =>
      refine ⟨nofun, fun s e h => ?_⟩
      cases h
      simp [hn]
    | none =>
      cases hr : matcherOf cands rest with
      | none =>
        refine ⟨fun _ i => ?_, nofun⟩
        cases i with
        | zero => simpa using hn
        | succ i => simpa using ih.1 hr i
      | some r =>
        obtain ⟨a1, a2, n, a3, a4⟩ := ih.2 r.1 r.2 hr
        refine ⟨nofun, fun s e h => ?_⟩
        cases h
        refine ⟨by simp; omega, fun i hi => ?_, n, by simpa using a3, by omega⟩
        cases i with
        | zero => simpa using hn
        | succ i => simpa using a2 i (by omega)
theorem matcherOf_none_spec (cands : Bytes → List Nat) (t : Bytes)
    (h : matcherOf cands t = none) : ∀ i, cands (t.drop i) = [] :=
  (matcherOf_spec cands t).1 h

theorem matcherOf_take (cands : Bytes → List Nat) (hl : Local cands) (t : Bytes) (c : Nat)
    (h : ∀ i n, i ≤ t.length → n ∈ cands (t.drop i) → i + n ≤ c) :
    matcherOf cands (t.take c) = matcherOf cands t := by
  induction t generalizing c with
  | nil => simp
  | cons a rest ih =>
    have hc : cands ((a :: rest).take c) = cands (a :: rest) := by
      rw [hl.take, List.filter_eq_self]
      intro n hn
      have := h 0 n (by simp) (by simpa using hn)
      simp; omega
    cases c with
    | zero =>
      simp only [List.take_zero] at hc ⊢
      have hr : matcherOf cands rest = none :=
        matcherOf_none_of cands rest fun i hi n hn => by
          have := h (i + 1) n (by simpa using hi) (by simpa using hn)
          omega
      simp only [matcherOf, hc, hr]
      cases (cands (a :: rest)).head? <;> simp
    | succ c =>
      simp only [List.take_succ_cons] at hc ⊢
      have := ih c (fun i n hi hn => by
        have := h (i + 1) n (by simpa using hi) (by simpa using hn)
        omega)
      simp only [matcherOf, hc, this]

theorem cand_pre (cands : Bytes → List Nat) (f : Facts) (hs : Sound cands f) (u : Bytes) (n : Nat)
    (hn : n ∈ cands u) : f.pre <+: u ∧ f.pre.length ≤ n := by
  have := hs.pre u n hn
  rw [hasPrefix_iff, List.prefix_take_iff] at this
  exact this

theorem cand_suf (cands : Bytes → List Nat) (f : Facts) (hl : Local cands) (hs : Sound cands f)
    (t : Bytes) (i n : Nat) (hn : n ∈ cands (t.drop i)) :
    f.suf.length ≤ n ∧ f.suf <+: t.drop (i + n - f.suf.length) := by
  obtain ⟨w, hw⟩ := (hasSuffix_iff _ _).1 (hs.suf _ n hn)
  have hlen := congrArg List.length hw
  simp only [List.length_append, List.length_take, Nat.min_eq_left (hl.le_len _ _ hn)] at hlen
  refine ⟨by omega, ?_⟩
  have hd : t.drop i = w ++ (f.suf ++ (t.drop i).drop n) := by
    rw [← List.append_assoc, hw, List.take_append_drop]
  rw [show i + n - f.suf.length = i + w.length by omega, ← List.drop_drop, hd, List.drop_left]
  exact List.prefix_append _ _

/-! `find` cut at its three length tests: `stage1` is everything after `buf.drop off`, `stage2` what follows
    the prefix skip, `stage3` what follows the suffix cut.  The bodies are those of `find`, so that
    `find_eq_stage1` holds by unfolding. -/

def stage3 (m : Matcher) (f : Facts) (total : Nat) (buffer : Bytes) (off : Nat) : Found :=
  if buffer.length < f.minLen then ⟨none, off⟩ else
  if f.minLen == f.maxLen && f.pre.isEmpty && !f.suf.isEmpty then
    window m f total (buffer.length + 1) buffer off
  else
    match m buffer with
    | some r => ⟨some r, off⟩
    | none => ⟨none, if f.ctx then off else total⟩

def stage2 (m : Matcher) (f : Facts) (total : Nat) (buffer : Bytes) (off : Nat) : Found :=
  if buffer.length < f.minLen then ⟨none, off⟩ else
  match (if f.suf.isEmpty then some buffer else
    match lastIndexOf buffer f.suf with
    | none => none
    | some pos => some (buffer.take (pos + f.suf.length))) with
  | none => ⟨none, total⟩
  | some buffer => stage3 m f total buffer off

def stage1 (m : Matcher) (f : Facts) (total : Nat) (buffer : Bytes) (off : Nat) : Found :=
  if buffer.length < f.minLen then ⟨none, off⟩ else
  match (if f.pre.isEmpty then some (buffer, off) else
    match indexOf buffer f.pre with
    | none => none
    | some pos => some (buffer.drop pos, off + pos)) with
  | none => ⟨none, total⟩
  | some (buffer, off) => stage2 m f total buffer off

theorem find_eq_stage1 (m : Matcher) (f : Facts) (buf : Bytes) (off : Nat) :
    find m f buf off = stage1 m f buf.length (buf.drop off) off := rfl

/-- `R` (a result of a scan started at `off' ≥ off`) denotes the match `mt` (relative to `off`) -/
def Rel (mt : Option (Nat × Nat)) (off : Nat) (R : Found) : Prop :=
  off ≤ R.off ∧ sameAbs R ⟨mt, off⟩ = true

theorem Rel_none {off o : Nat} (h : off ≤ o) : Rel none off ⟨none, o⟩ := ⟨h, rfl⟩

theorem Rel_here (r : Nat × Nat) (off : Nat) : Rel (some r) off ⟨some r, off⟩ :=
  ⟨Nat.le_refl _, by simp [sameAbs]⟩

theorem Rel_skip {cands : Bytes → List Nat} {t : Bytes} {off : Nat} {R : Found} (p : Nat)
    (h : ∀ i, i < p → ∀ n, n ∉ cands (t.drop i)) (hR : Rel (matcherOf cands (t.drop p)) (off + p) R) :
    Rel (matcherOf cands t) off R := by
  rw [matcherOf_shift cands p t h]
  generalize matcherOf cands (t.drop p) = mt at hR ⊢
  unfold Rel sameAbs at *
  obtain ⟨h1, h2⟩ := hR
  refine ⟨by omega, ?_⟩
  cases mt <;> cases hr : R.res <;> simp [hr] at h2 ⊢
  omega

section
variable {cands : Bytes → List Nat} {f : Facts} (hl : Local cands) (hs : Sound cands f)
include hl hs

theorem Rel_lengthTest {t : Bytes} {off : Nat} {R : Found} (h : Rel (matcherOf cands t) off R) :
    Rel (matcherOf cands t) off (if t.length < f.minLen then ⟨none, off⟩ else R) := by
  split
  · rw [matcherOf_none_of cands t fun i _ n hn => by
      have h1 := hl.le_len _ _ hn
      have h2 := hs.min_le _ _ hn
      simp at h1
      omega]
    exact Rel_none (Nat.le_refl _)
  · exact h

theorem window_ok (hmm : f.minLen = f.maxLen) (hsuf : f.suf ≠ []) (total : Nat) :
    ∀ fuel t off, t.length + 1 ≤ fuel → off + t.length ≤ total →
      Rel (matcherOf cands t) off (window (matcherOf cands) f total fuel t off) := by
  have hK : 1 ≤ f.suf.length := List.length_pos_iff.2 hsuf
  have hL : ∀ u n, n ∈ cands u → n = f.minLen := fun u n hn => by
    have := hs.min_le u n hn; have := hs.le_max u n hn; omega
  -- a candidate at start i puts the suffix at position i of the shifted buffer
  have hocc : ∀ (t : Bytes) i n, n ∈ cands (t.drop i) →
      f.suf <+: (t.drop (f.minLen - f.suf.length)).drop i := by
    intro t i n hn
    have h1 := cand_suf cands f hl hs t i n hn
    rw [List.drop_drop, ← hL _ _ hn, show n - f.suf.length + i = i + n - f.suf.length by omega]
    exact h1.2
  intro fuel
  induction fuel with
  | zero => intro t off h; omega
  | succ fuel ih =>
    intro t off hfuel htot
    unfold window
    cases hidx : indexOf (t.drop (f.minLen - f.suf.length)) f.suf with
    | none =>
      rw [matcherOf_none_of cands t fun i _ n hn => (indexOf_spec _ _).1 hidx i (hocc t i n hn)]
      exact Rel_none (by omega)
    | some pos =>
      obtain ⟨hi0, hi1, hi2⟩ := (indexOf_spec _ _).2 _ hidx
      have hlen : pos + 1 ≤ t.length := by
        have := hi1.length_le
        simp at this
        omega
      refine Rel_skip pos (fun i hi n hn => hi2 i hi (hocc t i n hn)) ?_
      simp only []
      cases hhd : (cands (t.drop pos)).head? with
      | some n =>
        have htk : cands ((t.drop pos).take f.minLen) = cands (t.drop pos) := by
          rw [hl.take, List.filter_eq_self]
          intro k hk
          have := hL _ _ hk
          simp; omega
        rw [matcherOf_head _ _ _ hhd, matcherOf_head _ _ _ (htk.symm ▸ hhd)]
        exact Rel_here _ _
      | none =>
        have hnil : cands (t.drop pos) = [] := by simpa using hhd
        -- inside the window only start 0 has room for a candidate of length `minLen`
        rw [matcherOf_none_of cands ((t.drop pos).take f.minLen) fun i _ k hk => by
          rw [List.drop_take, hl.take, List.mem_filter] at hk
          have h3 := hL _ _ hk.1
          have h4 := (cand_suf cands f hl hs _ _ _ hk.1).1
          have h5 := hk.2
          simp at h5
          obtain rfl : i = 0 := by omega
          simp [hnil] at hk]
        refine Rel_skip 1 (fun i hi => by
          obtain rfl : i = 0 := by omega
          simp [hnil]) ?_
        exact ih ((t.drop pos).drop 1) (off + pos + 1) (by simp; omega) (by simp; omega)

theorem stage3_ok (total : Nat) (t : Bytes) (off : Nat) (htot : off + t.length ≤ total) :
    Rel (matcherOf cands t) off (stage3 (matcherOf cands) f total t off) := by
  unfold stage3
  refine Rel_lengthTest hl hs ?_
  split
  · rename_i h
    simp only [Bool.and_eq_true, beq_iff_eq, List.isEmpty_iff, Bool.not_eq_true',
      List.isEmpty_eq_false_iff] at h
    exact window_ok hl hs h.1.1 h.2 total _ t off (Nat.le_refl _) htot
  · cases hm : matcherOf cands t with
    | none => exact Rel_none (by split <;> omega)
    | some r => exact Rel_here r off

theorem stage2_ok (total : Nat) (t : Bytes) (off : Nat) (htot : off + t.length ≤ total) :
    Rel (matcherOf cands t) off (stage2 (matcherOf cands) f total t off) := by
  unfold stage2
  refine Rel_lengthTest hl hs ?_
  by_cases hsf : f.suf.isEmpty = true
  · rw [if_pos hsf]
    exact stage3_ok hl hs total t off htot
  · rw [if_neg hsf]
    cases hli : lastIndexOf t f.suf with
    | none =>
      -- every candidate ends with the suffix, and there is none
      rw [matcherOf_none_of cands t fun i _ n hn =>
        (lastIndexOf_spec _ _).1 hli _ (cand_suf cands f hl hs t i n hn).2]
      exact Rel_none (by omega)
    | some pos =>
      -- every candidate ends at or before the end of the last suffix
      rw [← matcherOf_take cands hl t (pos + f.suf.length) (fun i n hi hn => by
        have hb := hl.le_len _ _ hn
        simp at hb
        have hsf := cand_suf cands f hl hs t i n hn
        have := ((lastIndexOf_spec _ _).2 _ hli).2 (i + n - f.suf.length) (by omega) hsf.2
        omega)]
      exact stage3_ok hl hs total _ off (by simp; omega)

theorem stage1_ok (total : Nat) (t : Bytes) (off : Nat) (htot : off + t.length ≤ total) :
    Rel (matcherOf cands t) off (stage1 (matcherOf cands) f total t off) := by
  unfold stage1
  refine Rel_lengthTest hl hs ?_
  by_cases hp : f.pre.isEmpty = true
  · rw [if_pos hp]
    exact stage2_ok hl hs total t off htot
  · rw [if_neg hp]
    cases hidx : indexOf t f.pre with
    | none =>
      -- every candidate starts with the prefix, and there is none
      rw [matcherOf_none_of cands t fun i _ n hn =>
        (indexOf_spec _ _).1 hidx _ (cand_pre cands f hs _ n hn).1]
      exact Rel_none (by omega)
    | some pos =>
      -- no candidate starts before the first prefix
      obtain ⟨h0, _, h2⟩ := (indexOf_spec _ _).2 _ hidx
      exact Rel_skip pos (fun i hi n hn => h2 i hi (cand_pre cands f hs _ n hn).1)
        (stage2_ok hl hs total _ _ (by simp; omega))

theorem find_Rel (buf : Bytes) (off : Nat) (hoff : off ≤ buf.length) :
    Rel (matcherOf cands (buf.drop off)) off (find (matcherOf cands) f buf off) :=
  stage1_ok hl hs _ _ _ (by simp; omega)

end

/-- an element on which the shortcut scan and the plain scan agree everywhere -/
def Agree (e : Elem) : Prop :=
  ∀ buf off, off ≤ buf.length → sameAbs (find e.m e.facts buf off) (plainFind e.m buf off) = true

theorem window_off_ge (m : Matcher) (f : Facts) (total : Nat) :
    ∀ fuel t off r, (window m f total fuel t off).res = some r → off ≤ (window m f total fuel t off).off := by
  intro fuel
  induction fuel with
  | zero => intro t off r h; simp [window] at h
  | succ fuel ih =>
    intro t off r h
    unfold window at h ⊢
    cases hidx : indexOf (t.drop (f.minLen - f.suf.length)) f.suf with
    | none => simp [hidx] at h
    | some pos =>
      simp only [hidx] at h ⊢
      cases hm : m (List.take f.minLen (List.drop pos t)) with
      | some r' => simp
      | none =>
        simp only [hm] at h ⊢
        have := ih _ _ r h
        omega

theorem stage2_found {m : Matcher} {f : Facts} {total : Nat} {t : Bytes} {off : Nat} {R : Found} {r : Nat × Nat}
    (hR : stage2 m f total t off = R) (h : R.res = some r) : off ≤ R.off ∧ (f.suf = [] → R.off = off) := by
  unfold stage2 at hR
  split at hR
  · subst hR; cases h
  · split at hR
    · subst hR; cases h
    · unfold stage3 at hR
      split at hR
      · subst hR; cases h
      · split at hR
        · rename_i hc
          simp only [Bool.and_eq_true, Bool.not_eq_true', List.isEmpty_eq_false_iff] at hc
          subst hR
          exact ⟨window_off_ge m f total _ _ _ r h, fun hs => absurd hs hc.2⟩
        · split at hR <;> subst hR
          · exact ⟨Nat.le_refl _, fun _ => rfl⟩
          · cases h

theorem find_found {m : Matcher} {f : Facts} {buf : Bytes} {off : Nat} {r : Nat × Nat}
    (h : (find m f buf off).res = some r) :
    off ≤ (find m f buf off).off ∧ (f.pre = [] → f.suf = [] → (find m f buf off).off = off) := by
  generalize hR : find m f buf off = R at h ⊢
  rw [find_eq_stage1] at hR
  unfold stage1 at hR
  split at hR
  · subst hR; cases h
  · split at hR
    · subst hR; cases h
    · rename_i b off' hap
      obtain ⟨h1, h2⟩ := stage2_found hR h
      split at hap
      · cases hap; exact ⟨h1, fun _ => h2⟩
      · rename_i hp
        split at hap <;> cases hap
        exact ⟨by omega, fun hp' => absurd (by simp [hp']) hp⟩

/-- What `progressWith_congr` needs besides `Agree`: an empty match ending at relative position 0 is only
    reported with the offset unmoved.  `advance` does nothing for `e = 0`; the plain scan reports the same
    empty match as `(k, k)` with `k > 0` from the old offset and applies the chunk-boundary rule, which
    the shortcut scan would then skip. -/
def EmptyStays (e : Elem) : Prop :=
  ∀ buf off s, off ≤ buf.length → (find e.m e.facts buf off).res = some (s, 0) →
    (find e.m e.facts buf off).off = off

theorem find_beyond (m : Matcher) (f : Facts) (buf : Bytes) (off : Nat) (h : buf.length ≤ off) :
    (find m f buf off).res = (find m f buf buf.length).res ∧
    ∀ r, (find m f buf off).res = some r → (find m f buf off).off = off := by
  rw [find_eq_stage1, find_eq_stage1, List.drop_of_length_le h, List.drop_of_length_le (Nat.le_refl _)]
  by_cases h0 : 0 < f.minLen
  · simp [stage1, h0]
  · cases hp : f.pre with
    | cons a p => simp [stage1, h0, hp, indexOf]
    | nil =>
      cases hsf : f.suf with
      | cons a p => simp [stage1, stage2, h0, hp, hsf, lastIndexOf]
      | nil => cases hm : m [] <;> simp [stage1, stage2, stage3, h0, hp, hsf, hm]

theorem plainFind_off (m : Matcher) (buf : Bytes) (off : Nat) (r : Nat × Nat)
    (h : (plainFind m buf off).res = some r) : (plainFind m buf off).off = off := by
  unfold plainFind at h ⊢
  cases hm : m (buf.drop off) <;> simp_all

theorem Agree.all {e : Elem} (h : Agree e) (buf : Bytes) (off : Nat) :
    sameAbs (find e.m e.facts buf off) (plainFind e.m buf off) = true := by
  by_cases hoff : off ≤ buf.length
  · exact h buf off hoff
  · have key : ∀ o, buf.length ≤ o → sameAbs (find e.m e.facts buf o) (plainFind e.m buf o) =
        decide ((find e.m e.facts buf buf.length).res = e.m []) := by
      intro o ho
      have hf := find_beyond e.m e.facts buf o ho
      rw [sameAbs_plainFind, List.drop_of_length_le ho, sameAbs_of_off fun r _ hr _ => hf.2 r hr, hf.1]
    rw [key off (by omega), ← key buf.length (Nat.le_refl _)]
    exact h buf buf.length (Nat.le_refl _)

theorem EmptyStays.all {e : Elem} (h : EmptyStays e) (buf : Bytes) (off s : Nat)
    (hr : (find e.m e.facts buf off).res = some (s, 0)) : (find e.m e.facts buf off).off = off := by
  by_cases hoff : off ≤ buf.length
  · exact h buf off s hoff hr
  · exact (find_beyond e.m e.facts buf off (by omega)).2 _ hr

theorem sel_upd (d : Nat) (p : Nat × Nat) (v : Nat) : sel d (upd d p v) = v := by
  unfold sel upd; split <;> simp_all

theorem upd_upd (d : Nat) (p : Nat × Nat) (v w : Nat) : upd d (upd d p v) w = upd d p w := by
  unfold upd; split <;> simp_all

theorem advance_congr (bl : ChunkSizes) (d : Nat) (offs : Nat × Nat) (a o en en' : Nat)
    (h1 : a + en = o + en') (h2 : o ≤ a) (h3 : en = 0 → a = o) :
    advance bl d (upd d offs a) en = advance bl d (upd d offs o) en' := by
  unfold advance
  by_cases he : en = 0
  · have := h3 he
    subst this
    have : en' = 0 := by omega
    simp [he, this]
  · have : en' ≠ 0 := by omega
    simp only [he, this, if_false, sel_upd, upd_upd, h1]

theorem progressWith_congr (s : Source) (els : List Elem)
    (h : ∀ e ∈ els, Agree e ∧ EmptyStays e) (offs : Nat × Nat) :
    progressWith find s els offs = progressWith (fun m _ b o => plainFind m b o) s els offs := by
  induction els generalizing offs with
  | nil => rfl
  | cons e rest ih =>
    obtain ⟨ha, he⟩ := h e (by simp)
    have hs := ha.all (s.buf e.dir) (sel e.dir offs)
    simp only [progressWith]
    unfold sameAbs at hs
    split at hs
    · rename_i hr hq
      rw [hr, hq]
    · rename_i s1 en s2 en' hr hq
      have e1 := plainFind_off _ _ _ _ hq
      simp only [e1, Bool.and_eq_true, beq_iff_eq] at hs
      rw [hr, hq]
      simp only []
      rw [e1, advance_congr s.sizes e.dir offs _ (sel e.dir offs) en en' hs.2 (find_found hr).1
        (fun h0 => he.all _ _ s1 (h0 ▸ hr)), ih fun e' he' => h e' (by simp [he'])]
    · cases hs

theorem filterWith_congr {prog prog' : Source → List Elem → Nat} (conds : List Cond) (srcs : List Source)
    (h : ∀ c ∈ conds, ∀ s ∈ srcs, prog s c.els = prog' s c.els) :
    filterWith prog conds srcs = filterWith prog' conds srcs := by
  unfold filterWith
  split
  · rfl
  · rw [Bool.eq_iff_iff, List.all_eq_true, List.all_eq_true]
    exact forall₂_congr fun c hc => by rw [List.map_congr_left (h c hc)]

theorem selected_congr (parts : List (List Cond)) (srcs : List Source)
    (h : ∀ p ∈ parts, ∀ c ∈ p, ∀ e ∈ c.els, Agree e ∧ EmptyStays e) :
    selected parts srcs = plainSelected parts srcs := by
  unfold selected plainSelected filter plainFilter
  rw [Bool.eq_iff_iff, List.any_eq_true, List.any_eq_true]
  exact exists_congr fun p => and_congr_right fun hp => by
    rw [filterWith_congr (prog' := plainProgress) p srcs fun c hc s _ => progressWith_congr s c.els (h p hp c hc) (0, 0)]

/-- `(?=\x02)`-like matcher: the empty match in front of the first byte 2.  With the prefix fact [2] (`cexF`) it
    satisfies `Agree` and not `EmptyStays`, and a chain of two such elements advances further under `find` than
    under the plain scan (`cex_progress`). -/
def cexM : Matcher := fun b => (indexOf b [2]).map (fun i => (i, i))
def cexF : Facts := ⟨[2], [], 0, 100, false⟩
def cexSrc : Source := ⟨[1, 2], [2, 2, 2], [(0, 0), (0, 3), (2, 3)]⟩
def cexEls : List Elem := [⟨0, cexM, cexF⟩, ⟨1, cexM, cexF⟩]

theorem indexOf_of_prefix (t p : Bytes) (h : p <+: t) : indexOf t p = some 0 := by
  cases t with
  | nil =>
    have : p = [] := by simpa using h
    simp [indexOf, this]
  | cons a rest =>
    unfold indexOf
    simp [(hasPrefix_iff _ _).2 h]

theorem cex_agree (d : Nat) : Agree ⟨d, cexM, cexF⟩ := by
  intro buf off _
  simp only
  rw [find_eq_stage1]
  unfold stage1 stage2 stage3 plainFind sameAbs cexF cexM
  simp only [Nat.not_lt_zero, if_false, List.isEmpty_cons, Bool.false_eq_true, List.isEmpty_nil, if_true]
  cases hidx : indexOf (buf.drop off) [2] with
  | none => simp
  | some pos =>
    have := indexOf_of_prefix _ _ ((indexOf_spec _ _).2 _ hidx).2.1
    rw [List.drop_drop] at this
    simp [this]

theorem cexEls_agree : ∀ e ∈ cexEls, Agree e := by
  intro e he
  simp only [cexEls, List.mem_cons, List.not_mem_nil, or_false] at he
  rcases he with rfl | rfl <;> exact cex_agree _

theorem cex_progress :
    progressWith find cexSrc cexEls (0, 0) = 2 ∧
    progressWith (fun m _ b o => plainFind m b o) cexSrc cexEls (0, 0) = 1 := by
  decide

theorem cex_filter :
    filter [⟨cexEls, false⟩] [cexSrc] = true ∧
    plainFilter [⟨cexEls, false⟩] [cexSrc] = false := by
  decide

/-- `Agree` alone does not make the filters equal either (the chains: `C04.chain_needs_emptyStays`). -/
theorem filter_congr'_false :
    ¬ (∀ (conds : List Cond) (srcs : List Source), (∀ c ∈ conds, ∀ e ∈ c.els, Agree e) →
        (∀ s ∈ srcs, ∀ p ∈ s.sizes, p.1 ≤ s.client.length ∧ p.2 ≤ s.server.length) →
        filter conds srcs = plainFilter conds srcs) := by
  intro h
  have := h [⟨cexEls, false⟩] [cexSrc]
    (by
      intro c hc
      simp at hc; subst hc
      exact cexEls_agree)
    (by decide)
  rw [cex_filter.1, cex_filter.2] at this
  exact absurd this (by decide)

theorem condDecision_eq (c : Cond) (ns : List Nat) :
    condDecision c ns = (!ns.all (failsOn c) && (ns.all (fun n => !failsOn c n) || !c.inverted)) := by
  have hB : (ns.length - (ns.filter (failsOn c)).length = 0) ↔ ns.all (failsOn c) = true := by
    have := List.length_filter_le (failsOn c) ns
    rw [List.all_eq_true, ← List.length_filter_eq_length_iff]
    omega
  have hA : ((ns.filter (failsOn c)).length = 0) ↔ ns.all (fun n => !failsOn c n) = true := by
    rw [List.length_eq_zero_iff, List.filter_eq_nil_iff, List.all_eq_true]
    simp only [Bool.not_eq_true', Bool.not_eq_true]
  unfold condDecision
  simp only [hA, hB]
  cases ns.all (failsOn c) <;> cases ns.all (fun n => !failsOn c n) <;> rfl

end Pk.Proofs.DataSearch
