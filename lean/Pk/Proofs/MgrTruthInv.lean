/- C06Reach: the state invariants `GenInv` (identities in use are below the counter and pairwise different) and
   `TagFeatInv` (references carry the tag-reference feature) are preserved by every event; `gen_origin`, where the
   identity of an entry comes from.  All through `tj_step`. -/
import Pk.Props.C06ReachSpec
import Pk.Proofs.MgrTruthEdit
import Pk.Proofs.MgrTagsAll
namespace Pk.Props.C06Reach
open Pk.Mgr Pk.Props.MgrReach Pk.Proofs.MgrTruth Pk.Proofs.MgrTags

/-- Where the identity `gen` of a table entry after an event comes from: the entry of the same name before (also at
    a tagging completion, which publishes only onto the entry with the snapshot's identity), the renamed entry, or
    the counter.  An instance of `tj_step`. -/
theorem gen_origin (s : St) (e : Ev) (st : Started) (hw : C06.TagsWF s)
    (n : String) (t' : Tag) (h' : sget (step s e st).1.tags n = some t') :
    (∃ t, sget s.tags n = some t ∧ t'.gen = t.gen) ∨
    (∃ name t, e = .updName name n ∧ sget s.tags name = some t ∧ t'.gen = t.gen ∧
        sget (step s e st).1.tags name = none) ∨
    (∃ color defn f, e = .addTag n color defn f ∧ t'.gen = s.ngen) := by
  by_cases herr : (step s e st).2 = Res.err
  · rw [step_rejected s e st herr] at h'
    exact .inl ⟨t', h', rfl⟩
  let P : String → Tag → Prop := fun n t => (∃ t0, sget s.tags n = some t0 ∧ t.gen = t0.gen) ∨
    (∃ m t0, e = .updName m n ∧ UpdNameOk s m n t0 ∧ t.gen = t0.gen) ∨
    ((∃ c d f, e = .addTag n c d f) ∧ t.gen = s.ngen)
  have hok : TagEvOK P (fun _ _ => True) s e := by
    cases e with
    | addTag name color defn f =>
      intro _
      exact .inr (.inr ⟨⟨_, _, _, rfl⟩, rfl⟩)
    | updQuery name defn f => exact fun _ _ ht => ht
    | updName name new => exact fun t ok _ => .inr (.inl ⟨name, t, rfl, ok, rfl⟩)
    | updConv name convs => exact fun _ _ h _ => h
    | markAdd name ids => intro t _ ht; obtain ⟨m, u, df, e⟩ := mark_tag_eq t s ids []; rw [e]; exact ht
    | markDel name ids => intro t _ ht; obtain ⟨m, u, df, e⟩ := mark_tag_eq t s [] ids; rw [e]; exact ht
    | tagDone name result => exact fun _ _ ot _ hot _ hg _ _ => .inl ⟨ot, hot, hg.symm⟩
    | _ => trivial
  have h1 := tj_step (P := P) ⟨fun _ _ _ h => h, fun _ _ _ h => h, fun _ _ _ h => h, fun _ _ _ h => h⟩
    (fun _ _ _ => trivial) s e st hok
    ⟨fun nt hnt => .inl ⟨nt.2, mem_sget_of_sorted _ hw _ _ hnt, rfl⟩, fun _ _ _ _ => trivial⟩
  rcases h1.get h' with h | ⟨m, t0, rfl, ok, hg⟩ | ⟨⟨c, d, f, he⟩, hg⟩
  · exact .inl h
  · refine .inr (.inl ⟨m, t0, rfl, ok.found, hg, ?_⟩)
    rcases updName_ok s m n st (res_ok_updName s m n st herr) with h0 | ⟨_, _, _, _, _, hgone, _⟩
    · exact absurd h0.2 ok.nonempty
    · exact hgone
  · exact .inr (.inr ⟨c, d, f, he, hg⟩)

theorem genInv_step (s : St) (e : Ev) (st : Started) (hr : Reach s) (h : GenInv s) :
    GenInv (step s e st).1 := by
  by_cases herr : (step s e st).2 = Res.err
  · rw [step_rejected s e st herr]; exact h
  have hle : s.ngen ≤ (step s e st).1.ngen := by
    rcases step_ngen_cases s e st with h | ⟨_, h⟩ <;> omega
  have hadd : ∀ n c d f, e = .addTag n c d f → (step s e st).1.ngen = s.ngen + 1 := by
    rintro n c d f rfl
    revert herr
    exact step_addTag_cases (P := fun r => ¬ r.2 = Res.err → r.1.ngen = s.ngen + 1) s n c d f st
      (fun h => absurd rfl h) fun _ _ => addTagSt_ngen _ _ _ _ _ _
  have hok : TagEvOK (fun _ t => t.gen < (step s e st).1.ngen) (fun _ t => t.gen < (step s e st).1.ngen) s e := by
    cases e with
    | addTag name color defn f =>
      intro _
      rw [hadd _ _ _ _ rfl]
      exact Nat.lt_succ_self _
    | updQuery name defn f => exact fun _ _ ht => ht
    | updName name new => exact fun _ _ h => h
    | updConv name convs => exact fun _ _ h _ => h
    | markAdd name ids => intro t _ ht; obtain ⟨m, u, df, e⟩ := mark_tag_eq t s ids []; rw [e]; exact ht
    | markDel name ids => intro t _ ht; obtain ⟨m, u, df, e⟩ := mark_tag_eq t s [] ids; rw [e]; exact ht
    | tagDone name result => exact fun _ _ _ _ _ _ _ _ hs => hs
    | _ => trivial
  have h1 := tj_step ⟨fun _ _ _ h => h, fun _ _ _ h => h, fun _ _ _ h => h, fun _ _ _ h => h⟩ (fun _ _ h => h) s e st hok
    ⟨fun nt hnt => Nat.lt_of_lt_of_le (h.1 nt.1 nt.2 (mem_sget_of_sorted _ hr.tagsWF _ _ hnt)) hle,
      fun n snap held hj => Nat.lt_of_lt_of_le (h.2.1 n snap held hj) hle⟩
  refine ⟨fun n t ht => h1.1 (n, t) (sget_mem _ _ _ ht), h1.2, ?_⟩
  · intro n1 t1 n2 t2 h1 h2 hg
    rcases gen_origin s e st hr.tagsWF n1 t1 h1 with ⟨u1, hu1, g1⟩ | ⟨m1, u1, he1, hu1, g1, hgone1⟩ | ⟨c1, d1, f1, he1, g1⟩ <;>
    rcases gen_origin s e st hr.tagsWF n2 t2 h2 with ⟨u2, hu2, g2⟩ | ⟨m2, u2, he2, hu2, g2, hgone2⟩ | ⟨c2, d2, f2, he2, g2⟩
    · exact h.2.2 n1 u1 n2 u2 hu1 hu2 (by rw [← g1, ← g2]; exact hg)
    · have := h.2.2 n1 u1 m2 u2 hu1 hu2 (by rw [← g1, ← g2]; exact hg)
      subst this
      rw [hgone2] at h1; cases h1
    · have := h.1 n1 u1 hu1
      rw [← g1, hg, g2] at this; omega
    · have := h.2.2 m1 u1 n2 u2 hu1 hu2 (by rw [← g1, ← g2]; exact hg)
      subst this
      rw [hgone1] at h2; cases h2
    · rw [he1] at he2; cases he2; rfl
    · have := h.1 m1 u1 hu1
      rw [← g1, hg, g2] at this; omega
    · have := h.1 n2 u2 hu2
      rw [← g2, ← hg, g1] at this; omega
    · have := h.1 m2 u2 hu2
      rw [← g2, ← hg, g1] at this; omega
    · rw [he1] at he2; cases he2; rfl

theorem tagFeat_closed : TagClosed fun _ => TagFeat :=
  ⟨fun _ _ _ h => h, fun _ _ _ h => h, fun _ _ _ h => h, fun _ _ _ h => h⟩

theorem tagFeat_step (s : St) (e : Ev) (st : Started) (hr : Reach s) (hf : EvFeatOK e)
    (h : TagFeatInv s) : TagFeatInv (step s e st).1 := by
  -- the edits that store a tag take its features from the parser facts (`hf`) or keep those of the old entry
  have hok : TagEvOK (fun _ => TagFeat) (fun _ => TagFeat) s e := by
    cases e with
    | addTag name color defn f => exact fun _ => hf
    | updQuery name defn f => exact fun _ _ _ => hf
    | updName name new => exact fun _ _ h => h
    | updConv name convs => exact fun _ _ h _ => h
    | markAdd name ids => intro t _ ht; obtain ⟨m, u, df, e⟩ := mark_tag_eq t s ids []; rw [e]; exact ht
    | markDel name ids => intro t _ ht; obtain ⟨m, u, df, e⟩ := mark_tag_eq t s [] ids; rw [e]; exact ht
    | tagDone name result => exact fun _ _ _ _ _ _ _ _ hs => hs
    | _ => trivial
  have h1 := tj_step tagFeat_closed (fun _ _ h => h) s e st hok
    ⟨fun nt hnt => h.1 nt.1 nt.2 (mem_sget_of_sorted _ hr.tagsWF _ _ hnt), h.2⟩
  exact ⟨fun n t ht => h1.1 (n, t) (sget_mem _ _ _ ht), h1.2⟩

theorem fTags_254 {x : Nat} (h : x &&& fTags ≠ 0) : x &&& (255 - fID) ≠ 0 :=
  Pk.Lib.and_ne_zero_of_sub (by decide) h

theorem markRefOK_of_feat (s : St) (e : Ev) (h : TagFeatInv s) : MarkRefOK s e := by
  have key : ∀ name : String, ∀ jn snap held, s.jTag = some (jn, snap, held) →
      (name ∈ snap.mainT → F254 snap) ∧ (name ∈ snap.subT → snap.sfeat ≠ 0) := by
    intro name jn snap held hj
    obtain ⟨h1, h2⟩ := h.2 jn snap held hj
    refine ⟨fun hm => fTags_254 (h1 (fun h0 => by rw [h0] at hm; cases hm)), fun hs h0 => ?_⟩
    have := h2 (fun h0 => by rw [h0] at hs; cases hs)
    rw [h0, Nat.zero_and] at this
    exact this rfl
  cases e with
  | markAdd name ids => exact key name
  | markDel name ids => exact key name
  | _ => trivial

end Pk.Props.C06Reach
