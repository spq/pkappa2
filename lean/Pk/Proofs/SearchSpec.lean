/- C02: the executable page checker `validPage` against the relational spec.  The checker counts the matches outside
   the page that must stand in front of it or behind it.  Sound: any sorted arrangement of those matches, cut at
   `skip`, goes around the page (`sound_core`).  Complete: they are what a given arrangement holds around the page
   (`split_perm`), so the counts are bounded by its two parts (`complete_core`). -/
import Pk.Model.Search
import Pk.Proofs.SearchOrder

namespace Pk.Proofs.Search
open Pk.Search

/-- the page is the first `want` elements behind `skip`, `want` as `validPage` computes it -/
private theorem pageOf_eq_take (limit skip : Nat) (arr : List Rec) :
    pageOf limit skip arr =
      (arr.drop skip).take (if limit = 0 then arr.length - skip else min limit (arr.length - skip)) := by
  unfold pageOf
  split
  · rw [List.take_of_length_le (by rw [List.length_drop]; exact Nat.le_refl _)]
  · rw [List.take_eq_take_iff, List.length_drop]; omega

private theorem pageOf_sublist (limit skip : Nat) (arr : List Rec) : (pageOf limit skip arr).Sublist arr := by
  rw [pageOf_eq_take]
  exact (List.take_sublist _ _).trans (List.drop_sublist _ _)

theorem pageOf_ids_nodup {ms arr : List Rec} {limit skip : Nat} (hnd : (ms.map (·.id)).Nodup) (hp : arr.Perm ms) :
    ((pageOf limit skip arr).map (·.id)).Nodup := by
  have h1 : (arr.map (·.id)).Nodup := ((hp.map (·.id)).nodup_iff).2 hnd
  exact List.Nodup.sublist ((pageOf_sublist limit skip arr).map _) h1

theorem pageOf_ids_subset {ms arr : List Rec} {limit skip : Nat} (hp : arr.Perm ms) :
    ∀ id ∈ (pageOf limit skip arr).map (·.id), ∃ m ∈ ms, m.id = id := by
  intro id hid
  obtain ⟨m, hm, rfl⟩ := List.mem_map.1 hid
  exact ⟨m, hp.mem_iff.1 ((pageOf_sublist limit skip arr).subset hm), rfl⟩

private theorem nodupIds_iff (l : List Nat) : nodupIds l = true ↔ l.Nodup := by
  induction l with
  | nil => simp [nodupIds]
  | cons a t ih => simp [nodupIds, ih, List.nodup_cons]

private theorem sortedBy_iff (lt : Rec → Rec → Bool) (l : List Rec) :
    sortedBy lt l = true ↔ l.Pairwise (fun a b => lt b a = false) := by
  induction l with
  | nil => simp [sortedBy]
  | cons a t ih => simp [sortedBy, ih, List.pairwise_cons]

private theorem findRec_some {ms : List Rec} {id : Nat} {r : Rec} (h : findRec ms id = some r) :
    r ∈ ms ∧ r.id = id := by
  unfold findRec at h
  have h1 := List.find?_some h
  have h2 := List.mem_of_find?_eq_some h
  simp at h1
  exact ⟨h2, h1⟩

private theorem findRec_of_mem {ms : List Rec} (hnd : (ms.map (·.id)).Nodup) {r : Rec} (h : r ∈ ms) :
    findRec ms r.id = some r := by
  induction ms with
  | nil => cases h
  | cons a t ih =>
    simp only [List.map_cons, List.nodup_cons] at hnd
    unfold findRec
    rw [List.find?_cons]
    rcases List.mem_cons.1 h with rfl | h
    · simp
    · have : a.id ≠ r.id := by
        intro e
        exact hnd.1 (e ▸ List.mem_map.2 ⟨r, h, rfl⟩)
      have hb : (a.id == r.id) = false := beq_eq_false_iff_ne.2 this
      rw [hb]
      exact ih hnd.2 h

private theorem mapM_findRec {ms : List Rec} : ∀ (res : List Nat) (rs : List Rec),
    res.mapM (findRec ms) = some rs → rs.map (·.id) = res ∧ ∀ r ∈ rs, r ∈ ms := by
  intro res
  induction res with
  | nil => intro rs h; simp at h; subst h; simp
  | cons a t ih =>
    intro rs h
    simp only [List.mapM_cons] at h
    cases h1 : findRec ms a with
    | none => simp [h1] at h
    | some x =>
      cases h2 : List.mapM (findRec ms) t with
      | none => simp [h1, h2] at h
      | some y =>
        simp [h1, h2] at h
        subst h
        obtain ⟨e1, e2⟩ := ih y h2
        obtain ⟨m1, m2⟩ := findRec_some h1
        simp [e1, m2]
        exact ⟨m1, e2⟩

private theorem mapM_findRec_of {ms : List Rec} (hnd : (ms.map (·.id)).Nodup) : ∀ (l : List Rec),
    (∀ r ∈ l, r ∈ ms) → (l.map (·.id)).mapM (findRec ms) = some l := by
  intro l
  induction l with
  | nil => intro _; simp
  | cons a t ih =>
    intro h
    simp only [List.map_cons, List.mapM_cons]
    rw [findRec_of_mem hnd (h a (by simp)), ih (fun r hr => h r (by simp [hr]))]
    rfl

private theorem nodup_of_map_id {l : List Rec} (h : (l.map (·.id)).Nodup) : l.Nodup := by
  unfold List.Nodup at h ⊢
  rw [List.pairwise_map] at h
  exact h.imp (fun hne e => hne (by rw [e]))

private theorem id_inj {ms : List Rec} (hnd : (ms.map (·.id)).Nodup) {a b : Rec} (ha : a ∈ ms) (hb : b ∈ ms)
    (e : a.id = b.id) : a = b := by
  have h1 := findRec_of_mem hnd ha
  have h2 := findRec_of_mem hnd hb
  rw [e, h2] at h1
  exact (Option.some.inj h1).symm

private theorem split_perm {ms rs : List Rec} {res : List Nat} (hnd : (ms.map (·.id)).Nodup)
    (hres : res.Nodup) (hmap : rs.map (·.id) = res) (hsub : ∀ r ∈ rs, r ∈ ms) :
    (rs ++ ms.filter (fun m => !res.contains m.id)).Perm ms := by
  refine List.Perm.trans (List.Perm.append_right _ ?_) (List.filter_append_perm (fun m => res.contains m.id) ms)
  have hms := nodup_of_map_id hnd
  have hrs : rs.Nodup := nodup_of_map_id (hmap ▸ hres)
  refine (List.perm_ext_iff_of_nodup hrs (List.Nodup.sublist List.filter_sublist hms)).2 ?_
  intro m
  simp only [List.mem_filter, List.contains_iff_mem]
  constructor
  · intro hm
    exact ⟨hsub m hm, hmap ▸ List.mem_map.2 ⟨m, hm, rfl⟩⟩
  · intro ⟨hm, hid⟩
    rw [← hmap] at hid
    obtain ⟨r, hr, e⟩ := List.mem_map.1 hid
    have := id_inj hnd (hsub r hr) hm e
    exact this ▸ hr

/-- on a sorted list a downward closed predicate `q` holds exactly on a prefix (`q'` is its complement) -/
private theorem sorted_filter_split {α : Type} {R : α → α → Prop} {q q' : α → Bool} (hq : ∀ x, q' x = !q x)
    (hcl : ∀ a b, R a b → q b = true → q a = true) :
    ∀ S : List α, S.Pairwise R → S = S.filter q ++ S.filter q' := by
  intro S
  induction S with
  | nil => intro _; rfl
  | cons x t ih =>
    intro hS
    rw [List.pairwise_cons] at hS
    cases hx : q x with
    | true =>
      rw [List.filter_cons_of_pos hx, List.filter_cons_of_neg (by simp [hq, hx])]
      exact congrArg (x :: ·) (ih hS.2)
    | false =>
      have hall : ∀ b ∈ x :: t, q b = false := by
        intro b hb
        rcases List.mem_cons.1 hb with rfl | hb
        · exact hx
        · cases hb' : q b with
          | false => rfl
          | true => rw [hcl x b (hS.1 b hb) hb'] at hx; cases hx
      rw [List.filter_eq_nil_iff.2 (fun b hb => by simp [hall b hb]),
        List.filter_eq_self.2 (fun b hb => by simp [hq, hall b hb])]
      rfl

private theorem sound_core (keys : List SortKey) (ms rs rest : List Rec) (skip : Nat) (first last : Rec)
    (hperm : (rs ++ rest).Perm ms)
    (hsorted : SortedK keys rs)
    (hfirst : rs.head? = some first) (hlast : rs.getLast? = some last)
    (hb : (rest.filter (fun m => less keys m last)).length ≤ skip)
    (ha : (rest.filter (fun m => less keys first m)).length + skip ≤ rest.length) :
    ∃ pre post, (pre ++ rs ++ post).Perm ms ∧
      SortedK keys (pre ++ rs ++ post) ∧ pre.length = skip := by
  -- The checker counts instead of searching for an arrangement.  ANY sorted arrangement `S` of the other
  -- matches, cut at `skip`, goes around the page: what is strictly above `first` is a suffix of `S`
  -- (`sorted_filter_split`), by `ha` short enough to lie behind the cut; what is strictly below `last` is a
  -- prefix, by `hb` in front of the cut.
  obtain ⟨S, hSp, hSs⟩ := exists_sorted keys rest
  have hlen : S.length = rest.length := hSp.length_eq
  refine ⟨S.take skip, S.drop skip, ?_, ?_, ?_⟩
  · refine List.Perm.trans ?_ hperm
    refine List.Perm.trans (List.Perm.append_right _ List.perm_append_comm) ?_
    rw [List.append_assoc]
    refine List.Perm.append_left _ ?_
    rw [List.take_append_drop]
    exact hSp
  ·
    have F3 : ∀ r ∈ rs, less keys r first = false := by
      obtain ⟨t, rfl⟩ := List.head?_eq_some_iff.1 hfirst
      intro r hr
      rcases List.mem_cons.1 hr with rfl | hr
      · exact (less_swo keys).irrefl _
      · exact (List.pairwise_cons.1 hsorted).1 r hr
    have F4 : ∀ r ∈ rs, less keys last r = false := by
      obtain ⟨t, rfl⟩ := List.getLast?_eq_some_iff.1 hlast
      exact hsorted.last_max
    have F1 : ∀ a ∈ S.take skip, less keys first a = false := by
      intro a ha'
      have hsp := sorted_filter_split (q := fun m => !less keys first m) (q' := fun m => less keys first m)
        (fun x => (Bool.not_not _).symm)
        (fun x y hxy hy => by
          rw [Bool.not_eq_true'] at hy ⊢
          exact (less_swo keys).incomp first y x hy hxy) S hSs
      have hl := congrArg List.length hsp
      have e := (hSp.filter (fun m => less keys first m)).length_eq
      rw [List.length_append] at hl
      rw [hsp, List.take_append_of_le_length (by omega)] at ha'
      simpa using (List.mem_filter.1 (List.mem_of_mem_take ha')).2
    have F2 : ∀ b ∈ S.drop skip, less keys b last = false := by
      intro b hb'
      have e := (hSp.filter (fun m => less keys m last)).length_eq
      rw [sorted_filter_split (q := fun m => less keys m last) (q' := fun m => !less keys m last) (fun _ => rfl)
        (fun x y hxy hy => (less_swo keys).lt_of_le_of_lt x y last hxy hy) S hSs, List.drop_append,
        List.drop_eq_nil_of_le (by omega), List.nil_append] at hb'
      simpa using (List.mem_filter.1 (List.mem_of_mem_drop hb')).2
    rw [← List.take_append_drop skip S] at hSs
    have hS' := List.pairwise_append.1 hSs
    rw [SortedK, List.pairwise_append, List.pairwise_append]
    refine ⟨⟨hS'.1, hsorted, ?_⟩, hS'.2.1, ?_⟩
    · intro a ha' r hr
      exact (less_swo keys).incomp r first a (F3 r hr) (F1 a ha')
    · intro a ha' b hb'
      rcases List.mem_append.1 ha' with ha' | hr
      · exact hS'.2.2 a ha' b hb'
      · exact (less_swo keys).incomp b last a (F2 b hb') (F4 a hr)
  · rw [List.length_take]; omega

theorem validPage_sound' (ms : List Rec) (keys : List SortKey) (limit skip : Nat) (res : List Nat) (more : Bool)
    (hnd : (ms.map (·.id)).Nodup) :
    validPage ms keys limit skip res more = true →
    (∃ arr : List Rec, arr.Perm ms ∧ SortedK keys arr ∧
        res = (pageOf limit skip arr).map (·.id)) ∧ more = moreOf limit skip ms.length := by
  intro h
  unfold validPage at h
  simp only [] at h
  split at h
  · cases h
  · rename_i rs hrs
    simp only [Bool.and_eq_true, decide_eq_true_eq, beq_iff_eq] at h
    obtain ⟨⟨⟨⟨hnodup, hsorted⟩, hlen⟩, hmore⟩, hmatch⟩ := h
    refine ⟨?_, hmore⟩
    obtain ⟨hmap, hsub⟩ := mapM_findRec res rs hrs
    rw [nodupIds_iff] at hnodup
    rw [sortedBy_iff] at hsorted
    have hperm := split_perm hnd hnodup hmap hsub
    have hn : rs.length + (ms.filter (fun m => !res.contains m.id)).length = ms.length := by
      rw [← List.length_append]; exact hperm.length_eq
    generalize ms.filter (fun m => !res.contains m.id) = rest at hmatch hperm hn
    by_cases hne : rs = []
    · subst hne
      obtain ⟨S, hSp, hSs⟩ := exists_sorted keys ms
      refine ⟨S, hSp, hSs, ?_⟩
      rw [pageOf_eq_take, hSp.length_eq, ← hlen, ← hmap]
      rfl
    · obtain ⟨first, hfirst⟩ : ∃ f, rs.head? = some f := by
        cases rs with
        | nil => exact absurd rfl hne
        | cons a t => exact ⟨a, rfl⟩
      have hlast := List.getLast?_eq_some_getLast hne
      rw [hfirst, hlast] at hmatch
      simp only [Bool.and_eq_true, decide_eq_true_eq] at hmatch
      obtain ⟨⟨_, hb⟩, ha⟩ := hmatch
      have hpos : 0 < rs.length := List.length_pos_iff.2 hne
      have hle : rs.length ≤ ms.length - skip := by rw [hlen]; split <;> omega
      obtain ⟨pre, post, hp, hs, hpre⟩ :=
        sound_core keys ms rs rest skip first _ hperm hsorted hfirst hlast hb (by omega)
      refine ⟨pre ++ rs ++ post, hp, hs, ?_⟩
      rw [pageOf_eq_take, hp.length_eq, ← hlen, List.append_assoc, List.drop_left' hpre, List.take_left' rfl, hmap]

private theorem pageOf_decomp (limit skip : Nat) (arr : List Rec) :
    ∃ post, arr.drop skip = pageOf limit skip arr ++ post := by
  rw [pageOf_eq_take]
  exact ⟨_, (List.take_append_drop _ _).symm⟩

private theorem complete_core (keys : List SortKey) (rest pre page post : List Rec) (skip k : Nat) (first last : Rec)
    (hrest : rest.Perm (pre ++ post))
    (hs : SortedK keys (pre ++ (page ++ post)))
    (hfirst : first ∈ page) (hlast : last ∈ page)
    (hpre : pre.length ≤ skip) (hpost : post.length ≤ k) :
    (((rest.filter (fun m => less keys m last)).all (fun m => !less keys first m) &&
      (rest.filter (fun m => less keys first m)).all (fun m => !less keys m last)) &&
      decide ((rest.filter (fun m => less keys m last)).length ≤ skip) &&
      decide ((rest.filter (fun m => less keys first m)).length ≤ k)) = true := by
  rw [SortedK, List.pairwise_append, List.pairwise_append] at hs
  have Gpre : ∀ a ∈ pre, ∀ r ∈ page, less keys r a = false :=
    fun a ha r hr => hs.2.2 a ha r (List.mem_append_left _ hr)
  have Gpost : ∀ r ∈ page, ∀ b ∈ post, less keys b r = false := hs.2.1.2.2
  have hB := hrest.filter (fun m => less keys m last)
  have hA := hrest.filter (fun m => less keys first m)
  rw [List.filter_append] at hB hA
  have hB2 : post.filter (fun m => less keys m last) = [] := by
    rw [List.filter_eq_nil_iff]
    intro a ha; simp [Gpost last hlast a ha]
  have hA2 : pre.filter (fun m => less keys first m) = [] := by
    rw [List.filter_eq_nil_iff]
    intro a ha; simp [Gpre a ha first hfirst]
  rw [hB2, List.append_nil] at hB
  rw [hA2, List.nil_append] at hA
  simp only [Bool.and_eq_true, decide_eq_true_eq, List.all_eq_true]
  refine ⟨⟨⟨?_, ?_⟩, ?_⟩, ?_⟩
  · intro m hm
    have := (List.mem_filter.1 (hB.mem_iff.1 hm)).1
    simp [Gpre m this first hfirst]
  · intro m hm
    have := (List.mem_filter.1 (hA.mem_iff.1 hm)).1
    simp [Gpost last hlast m this]
  · rw [hB.length_eq]
    exact Nat.le_trans (List.length_filter_le _ _) hpre
  · rw [hA.length_eq]
    exact Nat.le_trans (List.length_filter_le _ _) hpost

theorem validPage_complete' (ms : List Rec) (keys : List SortKey) (limit skip : Nat) (res : List Nat) (more : Bool)
    (hnd : (ms.map (·.id)).Nodup) (arr : List Rec) (hp : arr.Perm ms)
    (hs : SortedK keys arr)
    (hr : res = (pageOf limit skip arr).map (·.id)) (hm : more = moreOf limit skip ms.length) :
    validPage ms keys limit skip res more = true := by
  subst hr hm
  have hsub := pageOf_sublist limit skip arr
  have hmem : ∀ r ∈ pageOf limit skip arr, r ∈ ms := fun r h => hp.mem_iff.1 (hsub.subset h)
  have hmapM := mapM_findRec_of hnd _ hmem
  have hlen := hp.length_eq
  obtain ⟨post, hpost⟩ := pageOf_decomp limit skip arr
  have hlen2 : arr.length - skip = (pageOf limit skip arr).length + post.length := by
    rw [← List.length_drop, hpost, List.length_append]
  unfold validPage
  simp only []
  rw [hmapM]
  simp only [Bool.and_eq_true]
  refine ⟨⟨⟨⟨?_, ?_⟩, ?_⟩, ?_⟩, ?_⟩
  · exact (nodupIds_iff _).2 (pageOf_ids_nodup hnd hp)
  · exact (sortedBy_iff _ _).2 (hs.sublist hsub)
  · rw [decide_eq_true_eq]
    unfold pageOf
    split
    · rw [List.length_drop, hlen]
    · rw [List.length_take, List.length_drop, hlen]
  · simp
  · split
    · rename_i first last hfirst hlast
      have hf : first ∈ pageOf limit skip arr := List.mem_of_mem_head? hfirst
      have hl : last ∈ pageOf limit skip arr := List.mem_of_getLast? hlast
      have hpos : 0 < (pageOf limit skip arr).length := List.length_pos_of_mem hf
      have harr : arr.take skip ++ (pageOf limit skip arr ++ post) = arr := by
        rw [← hpost, List.take_append_drop]
      -- the matches outside the page are what the arrangement holds around it
      have hrest := ((split_perm hnd (pageOf_ids_nodup hnd hp) rfl hmem).trans hp.symm).trans
        (harr ▸ List.perm_append_comm_assoc _ _ _)
      rw [← harr] at hs
      exact complete_core keys _ (arr.take skip) (pageOf limit skip arr) post skip _ first last
        ((List.perm_append_left_iff _).1 hrest) hs hf hl (by rw [List.length_take]; omega) (by omega)
    · rfl

end Pk.Proofs.Search
