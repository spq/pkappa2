/-
  The reference reassembler (`Pk.Import.reasm`) on a wire that holds ONE UDP flow, with arbitrary
  timestamps (`reasm_udp_flow_timeout`).  The datagrams are cut into runs (`udpRuns`, `udpRuns_spec`): a
  run ends where a datagram is more than the inactivity timeout younger than its PREDECESSOR — the
  flow table stores the timestamp of the last datagram, not the maximum.  Every run becomes its own
  stream, in order; all runs but the last are complete, closed by the flush that precedes the lookup of
  the first datagram of the next run; the client of the stream of a run is the sender of the run's
  first datagram, so the roles flip when the server speaks first after a silence (`runEndpoints_s2c`,
  example at the end).  Within one inactivity window there is one run (`reasm_udp_flow`).
  `udpStream_pkts`, `udpStream_data`, `udpStream_bytes`, `udpStream_dirBytes` say what the stream of a
  run holds, in total and per direction.

  Trap: never let the kernel unfold `udpFlush ts [c] ss` on a literal connection list (it would
  evaluate `Nat.decLt (la + 300000000) ts`); after `udpPacket_flush` the flush is rewritten by
  `udpFlush_keep` / `udpFlush_close` instead.
-/
import Pk.Proofs.ImportReasmWindow

namespace Pk.Proofs.ImportReasm
open Pk.Import

def inUdpFlow (e : Endpoints) (p : Pkt) : Prop := isUdpC2S e p ∨ isUdpS2C e p

theorem inUdpFlow_udp {e : Endpoints} {p : Pkt} (h : inUdpFlow e p) : p.udp = true := by
  rcases h with h | h <;> exact h.1

theorem udir_c2s {e : Endpoints} (hd : e.Distinct) {p : Pkt} (h : isUdpC2S e p) : udir e p = false := by
  obtain ⟨_, h1, h2, h3, h4⟩ := h
  unfold udir
  rw [decide_eq_false_iff_not]
  rintro ⟨_, g1, g2, g3, g4⟩
  exact hd ⟨by rw [← h1, g1], by rw [← h3, g3]⟩

theorem udir_s2c {e : Endpoints} {p : Pkt} (h : isUdpS2C e p) : udir e p = true := by
  unfold udir; exact decide_eq_true h

theorem udpMatch_udpStream (e : Endpoints) (hd : e.Distinct) (ps : List Pkt) (c : Bool) (p : Pkt)
    (hp : inUdpFlow e p) : udpMatch (udpStream e ps c) p = some (udir e p) := by
  rcases hp with h | h
  · rw [udir_c2s hd h]
    obtain ⟨_, h1, h2, h3, h4⟩ := h
    exact Proofs.Import.udpMatch_fwd hd ⟨h1.symm, h2.symm, h3.symm, h4.symm⟩
  · rw [udir_s2c h]
    obtain ⟨_, h1, h2, h3, h4⟩ := h
    exact Proofs.Import.udpMatch_bwd hd ⟨h2.symm, h1.symm, h4.symm, h3.symm⟩

theorem udpChunks_snoc (a : List Pkt) (p : Pkt) : ∀ n, udpChunks n (a ++ [p]) =
    udpChunks n a ++ (if p.payload.length = 0 then [] else [(n + a.length, p.payload)]) := by
  induction a with
  | nil => exact fun n => rfl
  | cons q a ih =>
    intro n
    rw [List.cons_append, udpChunks, udpChunks, ih, List.length_cons, Nat.add_assoc, Nat.add_comm 1]
    by_cases h : q.payload.length = 0
    · rw [if_pos h, if_pos h]
    · rw [if_neg h, if_neg h, List.cons_append]

theorem udpStream_snoc (e : Endpoints) (cur : List Pkt) (c : Bool) (p : Pkt) :
    udpBody (udpStream e cur c) p (udir e p) = udpStream e (cur ++ [p]) c := by
  unfold udpBody
  by_cases h : p.payload.length = 0
  · rw [if_pos h]
    simp only [udpStream, Stream.addPkt, udpChunks_snoc, if_pos h, List.map_append, List.reverse_append, List.map_cons,
      List.map_nil, List.reverse_cons, List.reverse_nil, List.nil_append, List.cons_append, List.length_append,
      List.length_cons, List.length_nil, List.append_nil]
  · rw [if_neg h, addPkt_addData]
    simp only [udpStream, Stream.record, udpChunks_snoc, if_neg h, List.map_append, List.reverse_append, List.map_cons,
      List.map_nil, List.reverse_cons, List.reverse_nil, List.nil_append, List.cons_append, List.length_append,
      List.length_cons, List.length_nil, Nat.zero_add]

theorem udpFlush_keep (ts : Nat) (c : UdpConn) (ss : Array Import.Stream) (h : ¬ (c.lastActivity + timeout < ts)) :
    udpFlush ts [c] ss = ([c], ss) := by
  rw [udpFlush, if_neg h, udpFlush]

theorem udpFlush_close (ts : Nat) (c : UdpConn) (ss : Array Import.Stream) (h : c.lastActivity + timeout < ts) :
    udpFlush ts [c] ss = ([], ss.modify c.stream (fun s => { s with complete := true })) := by
  rw [udpFlush, if_pos h, udpFlush]

/-- the invariant of `reasm_runs_aux`: the streams `done` of the closed runs, then the stream of the
    datagrams `cur` of the open run with endpoints `e`; the flow table holds that run alone, last active
    at `la` -/
def udpState (done : List Import.Stream) (e : Endpoints) (cur : List Pkt) (la : Nat) (u : Bool) : RState :=
  { streams := (done ++ [udpStream e cur false]).toArray, tcp := [], udp := [⟨la, done.length⟩], unmodelled := u }

theorem reasmPacket_cont (e : Endpoints) (hd : e.Distinct) (done : List Import.Stream) (cur : List Pkt) (la : Nat) (u : Bool)
    (p : Pkt) (hp : inUdpFlow e p) (hng : ¬ (la + timeout < p.ts)) :
    reasmPacket (udpState done e cur la u) p = udpState done e (cur ++ [p]) p.ts u := by
  unfold reasmPacket udpState
  rw [if_pos (inUdpFlow_udp hp), udpPacket_flush, udpFlush_keep p.ts ⟨la, done.length⟩ _ hng]
  simp only [udpNoFlush, udpLookup, list_toArray_get!, udpMatch_udpStream e hd cur false p hp, List.getElem?_cons_zero,
    udpStream_snoc, List.set_cons_zero, list_toArray_set!]

theorem udpStream_single (p : Pkt) (hu : p.udp = true) (hd : (runEndpoints p).Distinct) :
    udpBody (newUdpStream p) p false = udpStream (runEndpoints p) [p] false := by
  have := udpStream_snoc (runEndpoints p) [] false p
  rw [udir_c2s hd ⟨hu, rfl, rfl, rfl, rfl⟩] at this
  exact this

theorem reasmPacket_gap (e : Endpoints) (done : List Import.Stream) (cur : List Pkt) (la : Nat) (u : Bool)
    (p : Pkt) (hu : p.udp = true) (hd : (runEndpoints p).Distinct) (hg : la + timeout < p.ts) :
    reasmPacket (udpState done e cur la u) p = udpState (done ++ [udpStream e cur true]) (runEndpoints p) [p] p.ts u := by
  unfold reasmPacket udpState
  rw [if_pos hu, udpPacket_flush, udpFlush_close p.ts ⟨la, done.length⟩ _ hg]
  simp only [udpNoFlush, udpLookup, udpStream_single p hu hd, toArray_modify_last, List.push_toArray, List.nil_append,
    List.size_toArray]
  rfl

theorem reasmPacket_first (p : Pkt) (hu : p.udp = true) (hd : (runEndpoints p).Distinct) :
    reasmPacket {} p = udpState [] (runEndpoints p) [p] p.ts false := by
  unfold reasmPacket
  rw [if_pos hu, udpPacket_flush]
  simp only [udpNoFlush, udpFlush, udpLookup, udpStream_single p hu hd]
  rfl

/-- timestamp of the last datagram of `q :: tl` -/
def udpLastTs (q : Pkt) : List Pkt → Nat
  | [] => q.ts
  | p :: r => udpLastTs p r

theorem udpLastTs_snoc (p : Pkt) : ∀ (q : Pkt) (tl : List Pkt), udpLastTs q (tl ++ [p]) = p.ts := by
  intro q tl
  induction tl generalizing q with
  | nil => rfl
  | cons a tl ih => exact ih a

theorem udpNoGap_snoc (p : Pkt) : ∀ (q : Pkt) (tl : List Pkt), udpNoGap (q :: tl) → ¬ (udpLastTs q tl + timeout < p.ts) →
    udpNoGap (q :: (tl ++ [p])) := by
  intro q tl
  induction tl generalizing q with
  | nil => intro _ h; exact ⟨h, trivial⟩
  | cons a tl ih => intro h1 h2; exact ⟨h1.1, ih a h1.2 h2⟩

theorem udpRuns_head (q : Pkt) (rest : List Pkt) : ∃ r' rs, udpRuns (q :: rest) = (q :: r') :: rs := by
  cases rest with
  | nil => exact ⟨[], [], rfl⟩
  | cons a l =>
    rw [udpRuns]
    by_cases hg : q.ts + timeout < a.ts
    · exact ⟨[], _, if_pos hg⟩
    · rw [if_neg hg]
      cases udpRuns (a :: l) with
      | nil => exact ⟨[], [], rfl⟩
      | cons r rs => exact ⟨r, rs, rfl⟩

theorem udpRuns_ne_nil (p : Pkt) (ps : List Pkt) : udpRuns (p :: ps) ≠ [] := by
  obtain ⟨r', rs, h⟩ := udpRuns_head p ps
  rw [h]; exact List.cons_ne_nil _ _

theorem udpRuns_noGap : ∀ (q : Pkt) (tl : List Pkt), udpNoGap (q :: tl) → udpRuns (q :: tl) = [q :: tl] := by
  intro q tl
  induction tl generalizing q with
  | nil => intro _; rfl
  | cons a tl ih =>
    intro h
    rw [udpRuns, if_neg h.1, ih a h.2]

theorem udpRuns_gap (p : Pkt) (ps : List Pkt) : ∀ (q : Pkt) (tl : List Pkt), udpNoGap (q :: tl) →
    udpLastTs q tl + timeout < p.ts → udpRuns (q :: tl ++ p :: ps) = (q :: tl) :: udpRuns (p :: ps) := by
  intro q tl
  induction tl generalizing q with
  | nil =>
    intro _ h
    simp only [udpLastTs] at h
    simp only [List.cons_append, List.nil_append]
    rw [udpRuns, if_pos h]
  | cons a tl ih =>
    intro h1 h2
    have := ih a h1.2 h2
    simp only [List.cons_append] at this ⊢
    rw [udpRuns, if_neg h1.1, this]

theorem runEndpoints_c2s {e : Endpoints} {q : Pkt} (h : isUdpC2S e q) : runEndpoints q = e := by
  obtain ⟨_, h1, h2, h3, h4⟩ := h
  rw [runEndpoints, h1, h2, h3, h4]

theorem runEndpoints_s2c {e : Endpoints} {q : Pkt} (h : isUdpS2C e q) :
    runEndpoints q = ⟨e.sip, e.cip, e.sport, e.cport⟩ := by
  obtain ⟨_, h1, h2, h3, h4⟩ := h
  rw [runEndpoints, h1, h2, h3, h4]

theorem inUdpFlow_runEndpoints {e : Endpoints} (hd : e.Distinct) {p : Pkt} (hp : inUdpFlow e p) :
    (runEndpoints p).Distinct ∧ ∀ q, inUdpFlow e q → inUdpFlow (runEndpoints p) q := by
  rcases hp with h | h
  · rw [runEndpoints_c2s h]; exact ⟨hd, fun q h => h⟩
  · rw [runEndpoints_s2c h]; exact ⟨fun h => hd ⟨h.1.symm, h.2.symm⟩, fun q h => h.symm⟩

theorem runStreams_cons (r : List Pkt) {rs : List (List Pkt)} (h : rs ≠ []) :
    runStreams (r :: rs) = runStream true r :: runStreams rs := by
  cases rs with
  | nil => exact absurd rfl h
  | cons r' rs => rfl

theorem reasm_runs_aux (ps : List Pkt) : ∀ (done : List Import.Stream) (q : Pkt) (tl : List Pkt) (u : Bool),
    (runEndpoints q).Distinct → (∀ p ∈ ps, inUdpFlow (runEndpoints q) p) → udpNoGap (q :: tl) →
    (ps.foldl reasmPacket (udpState done (runEndpoints q) (q :: tl) (udpLastTs q tl) u)).streams.toList
      = done ++ runStreams (udpRuns (q :: tl ++ ps)) := by
  induction ps with
  | nil =>
    intro done q tl u _ _ hng
    rw [List.append_nil, udpRuns_noGap q tl hng]
    rfl
  | cons p ps ih =>
    intro done q tl u hd hps hng
    obtain ⟨hp, hps'⟩ := List.forall_mem_cons.mp hps
    rw [List.foldl_cons]
    by_cases hg : udpLastTs q tl + timeout < p.ts
    · -- a silence longer than the timeout: the run is closed, `p` opens the next one
      have hd' := inUdpFlow_runEndpoints hd hp
      rw [reasmPacket_gap _ done (q :: tl) _ u p (inUdpFlow_udp hp) hd'.1 hg, udpRuns_gap p ps q tl hng hg,
        runStreams_cons _ (udpRuns_ne_nil p ps)]
      exact (ih _ p [] u hd'.1 (fun x hx => hd'.2 x (hps' x hx)) trivial).trans (List.append_assoc ..)
    · have := ih done q (tl ++ [p]) u hd hps' (udpNoGap_snoc p q tl hng hg)
      rw [udpLastTs_snoc, List.cons_append, List.append_assoc] at this
      rw [reasmPacket_cont _ hd done (q :: tl) _ u p hp hg]
      exact this

theorem reasm_udp_flow_timeout (e : Endpoints) (hd : e.Distinct) (ps : List Pkt) (hne : ps ≠ [])
    (hps : ∀ p ∈ ps, isUdpC2S e p ∨ isUdpS2C e p) :
    (reasm ps).toList = runStreams (udpRuns ps) := by
  cases ps with
  | nil => exact absurd rfl hne
  | cons p0 rest =>
    obtain ⟨h0, hrest⟩ := List.forall_mem_cons.mp hps
    have hr := inUdpFlow_runEndpoints hd h0
    unfold reasm
    rw [List.foldl_cons, reasmPacket_first p0 (inUdpFlow_udp h0) hr.1]
    exact reasm_runs_aux rest [] p0 [] false hr.1 (fun x hx => hr.2 x (hrest x hx)) trivial

theorem udpNoGap_window (t0 : Nat) : ∀ (ps : List Pkt), (∀ p ∈ ps, t0 ≤ p.ts ∧ p.ts ≤ t0 + timeout) → udpNoGap ps := by
  intro ps
  fun_induction udpNoGap ps with
  | case1 => exact fun _ => trivial
  | case2 p => exact fun _ => trivial
  | case3 p q r ih =>
    intro h
    have h2 := List.forall_mem_cons.mp h
    exact ⟨Nat.not_lt.mpr (Nat.le_trans (List.forall_mem_cons.mp h2.2).1.2 (Nat.add_le_add_right h2.1.1 _)), ih h2.2⟩

theorem reasm_udp_flow (e : Endpoints) (hd : e.Distinct) (t0 : Nat) (p0 : Pkt) (rest : List Pkt)
    (h0 : isUdpC2S e p0) (hrest : ∀ p ∈ rest, isUdpC2S e p ∨ isUdpS2C e p)
    (hw : ∀ p ∈ p0 :: rest, t0 ≤ p.ts ∧ p.ts ≤ t0 + timeout) :
    reasm (p0 :: rest) = #[udpStream e (p0 :: rest) false] := by
  have hps : ∀ p ∈ p0 :: rest, isUdpC2S e p ∨ isUdpS2C e p := by
    intro p hp
    rcases List.mem_cons.mp hp with rfl | hp
    · exact Or.inl h0
    · exact hrest p hp
  have h := reasm_udp_flow_timeout e hd (p0 :: rest) (by simp) hps
  rw [udpRuns_noGap p0 rest (udpNoGap_window t0 _ hw)] at h
  simp only [runStreams, runStream, runEndpoints_c2s h0] at h
  rw [← Array.toList_inj]
  exact h

theorem udpRuns_spec (ps : List Pkt) :
    (udpRuns ps).flatten = ps ∧ (∀ r ∈ udpRuns ps, r ≠ [] ∧ udpNoGap r) ∧ udpGapsBetween (udpRuns ps) := by
  fun_induction udpRuns ps with
  | case1 => exact ⟨rfl, fun _ hm => (nomatch hm), trivial⟩
  | case2 p => exact ⟨rfl, List.forall_mem_singleton.mpr ⟨List.cons_ne_nil _ _, trivial⟩, trivial⟩
  | case3 p q rest hg ih =>
    obtain ⟨r', rs, hr⟩ := udpRuns_head q rest
    rw [hr] at ih ⊢
    exact ⟨congrArg (p :: ·) ih.1, List.forall_mem_cons.mpr ⟨⟨List.cons_ne_nil _ _, trivial⟩, ih.2.1⟩,
      fun a ha b hb => Option.some.inj ha ▸ Option.some.inj hb ▸ hg, ih.2.2⟩
  | case4 p q rest hg hnil => exact absurd hnil (udpRuns_ne_nil q rest)
  | case5 p q rest hg r rs hr ih =>
    obtain ⟨r', rs', hr'⟩ := udpRuns_head q rest
    obtain ⟨rfl, rfl⟩ := List.cons.inj (hr.symm.trans hr')
    rw [hr] at ih
    obtain ⟨i1, i2, i3⟩ := ih
    have i2' := List.forall_mem_cons.mp i2
    refine ⟨congrArg (p :: ·) i1, List.forall_mem_cons.mpr ⟨⟨List.cons_ne_nil _ _, hg, i2'.1.2⟩, i2'.2⟩, ?_⟩
    cases rs with
    | nil => trivial
    | cons r2 rs2 => exact i3
theorem runStreams_length (rs : List (List Pkt)) : (runStreams rs).length = rs.length := by
  fun_induction runStreams rs with
  | case1 => rfl
  | case2 r => rfl
  | case3 r r' rs ih => exact congrArg (· + 1) ih

theorem runStreams_getElem? (rs : List (List Pkt)) : ∀ (i : Nat) (q : Pkt) (tl : List Pkt), rs[i]? = some (q :: tl) →
    (runStreams rs)[i]? = some (udpStream (runEndpoints q) (q :: tl) (decide (i + 1 < rs.length))) := by
  fun_induction runStreams rs with
  | case1 => exact fun i q tl h => nomatch h
  | case2 r =>
    intro i q tl h
    cases i with
    | zero => cases h; rfl
    | succ i => exact nomatch h
  | case3 r r' rs ih =>
    intro i q tl h
    cases i with
    | zero =>
      cases h
      exact congrArg (fun c => some (udpStream (runEndpoints q) (q :: tl) c))
        (decide_eq_true (Nat.succ_lt_succ (Nat.succ_pos rs.length))).symm
    | succ i =>
      rw [List.getElem?_cons_succ, ih i q tl h]
      simp only [List.length_cons, Nat.add_lt_add_iff_right]
theorem reasm_udp_flow_timeout_size (e : Endpoints) (hd : e.Distinct) (ps : List Pkt) (hne : ps ≠ [])
    (hps : ∀ p ∈ ps, isUdpC2S e p ∨ isUdpS2C e p) : (reasm ps).size = (udpRuns ps).length := by
  rw [← Array.length_toList, reasm_udp_flow_timeout e hd ps hne hps, runStreams_length]

theorem reasm_udp_flow_timeout_stream (e : Endpoints) (hd : e.Distinct) (ps : List Pkt) (hne : ps ≠ [])
    (hps : ∀ p ∈ ps, isUdpC2S e p ∨ isUdpS2C e p) (i : Nat) (q : Pkt) (tl : List Pkt)
    (hi : (udpRuns ps)[i]? = some (q :: tl)) :
    (reasm ps)[i]? = some (udpStream (runEndpoints q) (q :: tl) (decide (i + 1 < (udpRuns ps).length))) := by
  rw [← Array.getElem?_toList, reasm_udp_flow_timeout e hd ps hne hps]
  exact runStreams_getElem? _ i q tl hi

theorem udpStream_pkts (e : Endpoints) (ps : List Pkt) (c : Bool) :
    (udpStream e ps c).pkts = ps.map (fun p => (p.ref, udir e p)) := by
  simp [Stream.pkts, udpStream]

theorem udpStream_data (e : Endpoints) (ps : List Pkt) (c : Bool) :
    (udpStream e ps c).data = udpChunks 0 ps := by
  simp [Stream.data, udpStream]

theorem udpStream_dirOf (e : Endpoints) (ps : List Pkt) (c : Bool) (k : Nat) (p : Pkt) (hk : ps[k]? = some p) :
    (udpStream e ps c).dirOf k = udir e p :=
  Stream.dirOf_eq (r := p.ref) (List.length_reverse.trans (List.length_map _)).symm
    (by rw [udpStream_pkts, List.getElem?_map, hk]; rfl)

/-- `g` on packet numbers and `P` on datagrams are the same selection; `udpChunks_bytes` (everything) and
    `udpStream_dirBytes` (one direction) are instances -/
theorem udpChunks_filter (P : Pkt → Bool) (g : Nat → Bool) (ps : List Pkt) : ∀ n,
    (∀ k p, ps[k]? = some p → g (n + k) = P p) →
    (((udpChunks n ps).filter (fun ch => g ch.1)).map (·.2)).flatten = ((ps.filter P).map (·.payload)).flatten := by
  induction ps with
  | nil => exact fun n _ => rfl
  | cons p ps ih =>
    intro n hf
    have ih' := ih (n + 1) fun k q hq => by rw [Nat.add_assoc, Nat.add_comm 1]; exact hf (k + 1) q hq
    have h0 : g n = P p := hf 0 p rfl
    rw [udpChunks, List.filter_cons (x := p)]
    by_cases hpl : p.payload.length = 0
    · -- a datagram without payload contributes nothing on either side
      rw [if_pos hpl, ih']
      cases P p with
      | false => rfl
      | true => rw [if_pos rfl, List.map_cons, List.flatten_cons, List.length_eq_zero_iff.mp hpl, List.nil_append]
    · rw [if_neg hpl, List.filter_cons, h0]
      cases P p with
      | false => exact ih'
      | true => rw [if_pos rfl, if_pos rfl, List.map_cons, List.flatten_cons, ih', List.map_cons, List.flatten_cons]

theorem udpChunks_bytes (ps : List Pkt) (n : Nat) : ((udpChunks n ps).map (·.2)).flatten = (ps.map (·.payload)).flatten := by
  have := udpChunks_filter (fun _ => true) (fun _ => true) ps n fun _ _ _ => rfl
  rwa [List.filter_eq_self.mpr fun _ _ => rfl, List.filter_eq_self.mpr fun _ _ => rfl] at this

theorem udpStream_bytes (e : Endpoints) (ps : List Pkt) (c : Bool) :
    ((udpStream e ps c).data.map (·.2)).flatten = (ps.map (·.payload)).flatten := by
  rw [udpStream_data, udpChunks_bytes]

theorem udpStream_dirBytes (e : Endpoints) (ps : List Pkt) (c : Bool) (d : Bool) :
    dirBytes (udpStream e ps c) d = ((ps.filter (fun p => udir e p == d)).map (·.payload)).flatten := by
  unfold dirBytes
  rw [udpStream_data]
  exact udpChunks_filter _ (fun i => (udpStream e ps c).dirOf i == d) ps 0 fun k p hk => by
    rw [Nat.zero_add, udpStream_dirOf e ps c k p hk]

/-- `Stream` has no `DecidableEq`; this one is for the `decide` examples below only -/
@[reducible] def udpStreamDecEq (a b : Stream) : Decidable (a = b) :=
  decidable_of_iff (a.caddr = b.caddr ∧ a.saddr = b.saddr ∧ a.cport = b.cport ∧ a.sport = b.sport ∧ a.udp = b.udp ∧
      a.pktsRev = b.pktsRev ∧ a.npkts = b.npkts ∧ a.dataRev = b.dataRev ∧ a.complete = b.complete ∧ a.fsm = b.fsm)
    ⟨fun h => by cases a; cases b; simp_all, fun h => by subst h; simp⟩

attribute [local instance] udpStreamDecEq

def udpExPkt (ts i : Nat) (c2s : Bool) (pl : Bytes) : Pkt :=
  { ts := ts, file := "a", idx := i, udp := true, src := if c2s then "c" else "s", dst := if c2s then "s" else "c",
    sport := if c2s then 4000 else 53, dport := if c2s then 53 else 4000, payload := pl }

def udpExFlow : Endpoints := ⟨"c", "s", 4000, 53⟩

/-- a request and its answer; more than five minutes later the server sends again and the client answers -/
def udpExWire : List Pkt :=
  [udpExPkt 10 0 true [1], udpExPkt 20 1 false [2, 3], udpExPkt 300000021 2 false [4], udpExPkt 300000022 3 true []]

example : udpExFlow.Distinct ∧ (∀ p ∈ udpExWire, isUdpC2S udpExFlow p ∨ isUdpS2C udpExFlow p) ∧
    udpRuns udpExWire = [[udpExPkt 10 0 true [1], udpExPkt 20 1 false [2, 3]],
                         [udpExPkt 300000021 2 false [4], udpExPkt 300000022 3 true []]] ∧
    (reasm udpExWire).toList =
      [udpStream udpExFlow [udpExPkt 10 0 true [1], udpExPkt 20 1 false [2, 3]] true,
       udpStream ⟨"s", "c", 53, 4000⟩ [udpExPkt 300000021 2 false [4], udpExPkt 300000022 3 true []] false] ∧
    (reasm udpExWire)[1]!.pkts.map (·.2) = [false, true] := by
  decide +kernel

/-- the hypotheses of `reasm_udp_flow_timeout` hold for this wire -/
example : (reasm udpExWire).toList = runStreams (udpRuns udpExWire) :=
  reasm_udp_flow_timeout udpExFlow (by decide +kernel) udpExWire (by decide +kernel) (by decide +kernel)

/-- the hypotheses of `reasm_udp_flow` hold for the first run -/
example : reasm (udpExWire.take 2) = #[udpStream udpExFlow (udpExWire.take 2) false] :=
  reasm_udp_flow udpExFlow (by decide +kernel) 10 (udpExPkt 10 0 true [1]) [udpExPkt 20 1 false [2, 3]] (by decide +kernel) (by decide +kernel)
    (by decide +kernel)

end Pk.Proofs.ImportReasm
