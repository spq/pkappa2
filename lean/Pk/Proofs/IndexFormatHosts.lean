/-
  Host tables of the index writer: the invariant of a host group, what `add` / `placeHosts` return
  (`add_spec`, `placeHosts_spec`: groups only grow, returned indexes hold the address), and the decoding of host groups by the reader
  (helper lemmas for C01: `hostTable_aligned`, `hostgroups_decode`, `roundtrip_hosts`).
-/
import Pk.Model.IndexFormat
import Pk.Proofs.Bytes
namespace Pk.Index
open Pk Pk.Bytes

/-- what `hostGroup.add` keeps: it appends only while `len(g.hosts) < 65535` (writer.go), hence, with the alignment, `bound` -/
structure HostGroup.Inv (g : HostGroup) : Prop where
  size : g.hostSize = 4 ∨ g.hostSize = 16
  aligned : g.hosts.length % g.hostSize = 0
  nonempty : 0 < g.hosts.length
  bound : g.hosts.length ≤ 65536

def HostAddr (h : Bytes) : Prop := h.length = 4 ∨ h.length = 16

theorem HostGroup.Inv.ne {g : HostGroup} (hg : g.Inv) : g.hosts.length ≠ 0 := Nat.ne_of_gt hg.nonempty

theorem add_empty (host : Bytes) : ({} : HostGroup).add host = some ({ hosts := host, hostSize := host.length }, 0, true) := by
  simp [HostGroup.add]

theorem add_cases {g g' : HostGroup} {host : Bytes} {i : Nat} {added : Bool} (hne : g.hosts.length ≠ 0)
    (h : g.add host = some (g', i, added)) :
    g.hostSize = host.length ∧
    ((added = false ∧ g' = g ∧ ∃ k, findHost g.hostSize host g.hosts 0 = some k ∧ i = k % 65536) ∨
     (added = true ∧ g' = { g with hosts := g.hosts ++ host } ∧ g.hosts.length < 65535 ∧
       i = ((g.hosts.length + host.length) / g.hostSize - 1) % 65536)) := by
  unfold HostGroup.add at h
  simp only [hne, if_false] at h
  split at h
  · cases h
  · rename_i hs
    refine ⟨Decidable.of_not_not hs, ?_⟩
    split at h
    · rename_i k hk
      cases h
      exact Or.inl ⟨rfl, rfl, k, hk, rfl⟩
    · split at h
      · cases h
      · rename_i hcap
        cases h
        exact Or.inr ⟨rfl, rfl, by omega, rfl⟩

theorem popN_aligned (g : HostGroup) (n : Nat) (h : g.hosts.length % g.hostSize = 0) :
    (g.popN n).hosts.length % (g.popN n).hostSize = 0 := by
  simp only [HostGroup.popN, List.length_take]
  by_cases hz : g.hostSize = 0
  · simp [hz] at h ⊢; omega
  · obtain ⟨q, hq⟩ := Nat.dvd_of_mod_eq_zero h
    rw [hq, Nat.mul_comm n g.hostSize, ← Nat.mul_sub]
    have : g.hostSize * (q - n) ≤ g.hostSize * q := Nat.mul_le_mul_left _ (by omega)
    rw [Nat.min_eq_left this]
    exact Nat.mul_mod_right _ _

theorem popN_restore (g g' : HostGroup) (k : Nat) (ext : Bytes) (hs : g'.hostSize = g.hostSize)
    (hx : g'.hosts = g.hosts ++ ext) (hl : ext.length = k * g.hostSize) : g'.popN k = g := by
  cases g; cases g'
  simp only [HostGroup.popN] at *
  subst hs
  simp [hx, hl]

/-- the undo of `placeHosts` after a first address whose partner does not fit restores the group -/
theorem add_undo {g g' : HostGroup} {host : Bytes} {i : Nat} {added : Bool} (hne : g.hosts.length ≠ 0)
    (h : g.add host = some (g', i, added)) : (if added then g'.pop else g') = g := by
  obtain ⟨hs, ⟨rfl, hgg, _⟩ | ⟨rfl, rfl, _⟩⟩ := add_cases hne h
  · exact hgg
  · exact popN_restore g _ 1 host rfl rfl (by omega)

/-- what the reader's `get` returns for the same bytes (`toReader_get`) -/
def HostGroup.hostAt (g : HostGroup) (i : Nat) : Bytes := (g.hosts.drop (g.hostSize * i)).take g.hostSize

def HostGroup.Valid (g : HostGroup) (j : Nat) : Prop := g.hostSize * j + g.hostSize ≤ g.hosts.length

def GroupExt (g g' : HostGroup) : Prop :=
  g'.hostSize = g.hostSize ∧ ∀ j, g.Valid j → (g'.Valid j ∧ g'.hostAt j = g.hostAt j)

theorem GroupExt.refl (g : HostGroup) : GroupExt g g := ⟨rfl, fun _ h => ⟨h, rfl⟩⟩

theorem GroupExt.trans {a b c : HostGroup} (h1 : GroupExt a b) (h2 : GroupExt b c) : GroupExt a c := by
  refine ⟨h2.1.trans h1.1, fun j hj => ?_⟩
  obtain ⟨v1, e1⟩ := h1.2 j hj
  obtain ⟨v2, e2⟩ := h2.2 j v1
  exact ⟨v2, e2.trans e1⟩

theorem take_drop_append_left (a b : Bytes) (o n : Nat) (h : o + n ≤ a.length) :
    ((a ++ b).drop o).take n = (a.drop o).take n := by
  rw [List.drop_append_of_le_length (by omega), List.take_append_of_le_length (by simp; omega)]

theorem GroupExt.append (g : HostGroup) (more : Bytes) : GroupExt g { g with hosts := g.hosts ++ more } :=
  ⟨rfl, fun j hj => ⟨by unfold HostGroup.Valid at *; simp only [List.length_append]; omega,
    take_drop_append_left _ _ _ _ hj⟩⟩

theorem findHostAux_spec (hs : Nat) (host : Bytes) (hlen : host.length = hs) (fuel : Nat) :
    ∀ (l : Bytes) (i k : Nat), findHostAux hs host fuel l i = some k →
      ∃ j, k = i + j ∧ (l.drop (hs * j)).take hs = host ∧ hs * j + hs ≤ l.length := by
  induction fuel with
  | zero => intro l i k h; simp [findHostAux] at h
  | succ fuel ih =>
    intro l i k h
    cases l with
    | nil => simp [findHostAux] at h
    | cons b t =>
      simp only [findHostAux] at h
      split at h
      · rename_i hp
        cases h
        obtain ⟨t', ht'⟩ := List.isPrefixOf_iff_prefix.mp hp
        refine ⟨0, rfl, ?_, ?_⟩
        · rw [← ht', ← hlen]; simp
        · rw [← ht', ← hlen]; simp
      · obtain ⟨j, hk, hj, hb⟩ := ih _ _ _ h
        refine ⟨j + 1, by omega, ?_, ?_⟩
        · rw [Nat.mul_add, Nat.mul_one, Nat.add_comm, ← List.drop_drop]; exact hj
        · simp only [List.length_drop] at hb; rw [Nat.mul_add, Nat.mul_one]; omega

theorem GroupExt.keeps {g g' : HostGroup} (h : GroupExt g g') {j : Nat} {x : Bytes} (hv : g.Valid j) (he : g.hostAt j = x) :
    g'.Valid j ∧ g'.hostAt j = x :=
  ⟨(h.2 j hv).1, (h.2 j hv).2.trans he⟩

theorem add_spec {g g' : HostGroup} {host : Bytes} {i : Nat} {added : Bool} (hg : g.Inv)
    (h : g.add host = some (g', i, added)) : g'.Inv ∧ GroupExt g g' ∧ g'.Valid i ∧ g'.hostAt i = host := by
  have hbd := hg.bound
  have hn := hg.nonempty
  have hz : g.hostSize ≠ 0 := by rcases hg.size with h | h <;> omega
  obtain ⟨q, hq⟩ := Nat.dvd_of_mod_eq_zero hg.aligned
  obtain ⟨hs, ⟨_, hgg, k, hk, rfl⟩ | ⟨_, rfl, hcap, rfl⟩⟩ := add_cases hg.ne h
  · subst g'
    simp only [findHost, hz, if_false] at hk
    obtain ⟨j, hkj, hj, hb⟩ := findHostAux_spec g.hostSize host hs.symm _ _ _ _ hk
    have hjlt : j < 65536 := by rcases hg.size with h | h <;> rw [h] at hb <;> omega
    rw [hkj, Nat.zero_add, Nat.mod_eq_of_lt hjlt]
    exact ⟨hg, GroupExt.refl g, hb, hj⟩
  · have hqlt : q < 65535 := by rcases hg.size with h | h <;> rw [h] at hq <;> omega
    have hidx : (g.hosts.length + host.length) / g.hostSize - 1 = q := by
      rw [← hs, hq, ← Nat.mul_succ, Nat.mul_div_cancel_left _ (Nat.pos_of_ne_zero hz)]; rfl
    rw [hidx, Nat.mod_eq_of_lt (by omega)]
    refine ⟨⟨hg.size, ?_, ?_, ?_⟩, GroupExt.append g host, ?_, ?_⟩
    · simp only [List.length_append]
      rw [← hs, hq, ← Nat.mul_succ]; exact Nat.mul_mod_right _ _
    · simp only [List.length_append]; omega
    · simp only [List.length_append]
      rcases hg.size with h | h <;> rw [h] at hq hs <;> omega
    · unfold HostGroup.Valid; simp only [List.length_append]; omega
    · unfold HostGroup.hostAt
      simp only
      rw [← hq, List.drop_left, hs]; simp

def GroupsInv (gs : List HostGroup) : Prop := ∀ g ∈ gs, g.Inv

theorem GroupsInv.cons {g : HostGroup} {gs : List HostGroup} (hg : g.Inv) (h : GroupsInv gs) : GroupsInv (g :: gs) := by
  intro x hx
  rcases List.mem_cons.mp hx with rfl | hx
  · exact hg
  · exact h x hx

def GroupsExt (gs gs' : List HostGroup) : Prop :=
  ∀ (k : Nat) (g : HostGroup), gs[k]? = some g → ∃ g', gs'[k]? = some g' ∧ GroupExt g g'

theorem GroupsExt.refl (gs : List HostGroup) : GroupsExt gs gs := fun _ g h => ⟨g, h, GroupExt.refl g⟩

theorem GroupsExt.cons {g g' : HostGroup} {gs gs' : List HostGroup} (h : GroupExt g g') (ht : GroupsExt gs gs') :
    GroupsExt (g :: gs) (g' :: gs') := by
  intro k x hx
  cases k with
  | zero => cases hx; exact ⟨g', rfl, h⟩
  | succ k => exact ht k x hx

theorem GroupsExt.trans {a b c : List HostGroup} (h1 : GroupsExt a b) (h2 : GroupsExt b c) : GroupsExt a c := by
  intro k g hk
  obtain ⟨g1, hg1, e1⟩ := h1 k g hk
  obtain ⟨g2, hg2, e2⟩ := h2 k g1 hg1
  exact ⟨g2, hg2, e1.trans e2⟩

theorem getElem?_lt {α : Type} {l : List α} {k : Nat} {x : α} (h : l[k]? = some x) : k < l.length :=
  (List.getElem?_eq_some_iff.mp h).1

theorem GroupsExt.length_le {gs gs' : List HostGroup} (h : GroupsExt gs gs') : gs.length ≤ gs'.length := by
  cases hl : gs.length with
  | zero => exact Nat.zero_le _
  | succ n =>
    have hn : n < gs.length := hl ▸ Nat.lt_succ_self n
    obtain ⟨g', hg', _⟩ := h n gs[n] (List.getElem?_eq_getElem hn)
    exact getElem?_lt hg'

/-- group `gid` holds the address `c` at index `ci` and `s` at `si` -/
def HostsAt (gs : List HostGroup) (gid ci si : Nat) (c s : Bytes) : Prop :=
  ∃ g, gs[gid]? = some g ∧ g.Valid ci ∧ g.Valid si ∧ g.hostAt ci = c ∧ g.hostAt si = s

theorem HostsAt.mono {gs gs' : List HostGroup} (h : GroupsExt gs gs') {gid ci si : Nat} {c s : Bytes}
    (hr : HostsAt gs gid ci si c s) : HostsAt gs' gid ci si c s := by
  obtain ⟨g, hg, v1, v2, e1, e2⟩ := hr
  obtain ⟨g', hg', hext⟩ := h _ g hg
  obtain ⟨v1', e1'⟩ := hext.keeps v1 e1
  obtain ⟨v2', e2'⟩ := hext.keeps v2 e2
  exact ⟨g', hg', v1', v2', e1', e2'⟩

theorem placeHosts_spec (gs : List HostGroup) (c s : Bytes) (hc : HostAddr c) (hgs : GroupsInv gs) :
    ∀ {gs' : List HostGroup} {gid ci si : Nat}, placeHosts gs c s = some (gs', gid, ci, si) →
      GroupsInv gs' ∧ GroupsExt gs gs' ∧ HostsAt gs' gid ci si c s := by
  induction gs with
  | nil =>
    intro gs' gid ci si h
    simp only [placeHosts, add_empty] at h
    split at h
    · cases h
    · rename_i g2 sid b heq
      simp only [Option.some.injEq, Prod.mk.injEq] at h
      obtain ⟨rfl, rfl, rfl, rfl⟩ := h
      have hinv : ({ hosts := c, hostSize := c.length } : HostGroup).Inv := by
        refine ⟨hc, by simp, ?_, ?_⟩ <;> rcases hc with h | h <;> simp [h]
      obtain ⟨hinv2, hext, hv, hat⟩ := add_spec hinv heq
      obtain ⟨v0, e0⟩ := hext.keeps (j := 0) (x := c) (by simp [HostGroup.Valid]) (by simp [HostGroup.hostAt])
      exact ⟨GroupsInv.cons hinv2 (fun _ h => nomatch h), (fun k g hk => by simp at hk), g2, rfl, v0, hv, e0, hat⟩
  | cons g gs ih =>
    intro gs' gid ci si h
    have hg : g.Inv := hgs g (by simp)
    have hrest : GroupsInv gs := fun x hx => hgs x (by simp [hx])
    have next : (placeHosts gs c s).map (fun (gs', gid, ci, si) => (g :: gs', gid + 1, ci, si)) = some (gs', gid, ci, si) →
        GroupsInv gs' ∧ GroupsExt (g :: gs) gs' ∧ HostsAt gs' gid ci si c s := by
      intro h
      cases hp : placeHosts gs c s with
      | none => rw [hp] at h; cases h
      | some r =>
        obtain ⟨gs2, gid2, ci2, si2⟩ := r
        rw [hp] at h
        simp only [Option.map_some, Option.some.injEq, Prod.mk.injEq] at h
        obtain ⟨rfl, rfl, rfl, rfl⟩ := h
        obtain ⟨hinv, hext, g', hg', rest⟩ := ih hrest hp
        exact ⟨GroupsInv.cons hg hinv, GroupsExt.cons (GroupExt.refl g) hext, g', hg', rest⟩
    simp only [placeHosts] at h
    split at h
    · exact next h
    · rename_i g1 cid added heq1
      obtain ⟨hg1, hext1, hv1, hat1⟩ := add_spec hg heq1
      split at h
      · rw [add_undo hg.ne heq1] at h
        exact next h
      · rename_i g2 sid b heq2
        simp only [Option.some.injEq, Prod.mk.injEq] at h
        obtain ⟨rfl, rfl, rfl, rfl⟩ := h
        obtain ⟨hg2, hext2, hv2, hat2⟩ := add_spec hg1 heq2
        obtain ⟨v1', e1'⟩ := hext2.keeps hv1 hat1
        exact ⟨GroupsInv.cons hg2 hrest, GroupsExt.cons (hext1.trans hext2) (GroupsExt.refl gs), g2, rfl, v1', hv2, e1', hat2⟩

def StreamIn.AddrWF (s : StreamIn) : Prop := HostAddr s.client ∧ HostAddr s.server

def HostGroup.toReader (g : HostGroup) : RHostGroup :=
  { hosts := g.hosts, hostSize := g.hostSize, hostCount := g.hosts.length / g.hostSize }

theorem toReader_get (g : HostGroup) (i : Nat) : g.toReader.get i = g.hostAt i := rfl

def v4of (gs : List HostGroup) : Bytes := ((gs.filter (·.hostSize == 4)).map (·.hosts)).flatten
def v6of (gs : List HostGroup) : Bytes := ((gs.filter (·.hostSize == 16)).map (·.hosts)).flatten

theorem v4of_cons4 (g : HostGroup) (gs) (h : g.hostSize = 4) : v4of (g :: gs) = g.hosts ++ v4of gs := by
  simp [v4of, h]
theorem v4of_cons16 (g : HostGroup) (gs) (h : g.hostSize = 16) : v4of (g :: gs) = v4of gs := by
  simp [v4of, h]
theorem v6of_cons4 (g : HostGroup) (gs) (h : g.hostSize = 4) : v6of (g :: gs) = v6of gs := by
  simp [v6of, h]
theorem v6of_cons16 (g : HostGroup) (gs) (h : g.hostSize = 16) : v6of (g :: gs) = g.hosts ++ v6of gs := by
  simp [v6of, h]

/-- one step of `readHostGroups` on the entry `hostEntries` writes for a group of `n` hosts of `sz` bytes that
    sits behind `p` in its family's section -/
theorem readHostGroups_step (v4 v6 : Bytes) (es : List HGEntry) (rs : List RHostGroup) (fl sz a n : Nat) (p x q : Bytes)
    (hv : (if fl % 2 = 0 then (v4, 4) else (v6, 16)) = (p ++ x ++ q, sz))
    (hp : p.length = sz * a) (hx : x.length = sz * n) (hn : 0 < n) (hn' : n ≤ 65536) (ha : a < 2 ^ 32)
    (hrest : readHostGroups v4 v6 es = .ok rs) :
    readHostGroups v4 v6 ({ start := a % 2 ^ 32, count := (n + 65536 - 1) % 65536, flags := fl } :: es) =
      .ok ({ hosts := x, hostSize := sz, hostCount := n } :: rs) := by
  have hcnt : (n + 65536 - 1) % 65536 + 1 = n := by omega
  have hfit : ¬ (a * sz + sz * n > (p ++ x ++ q).length) := by
    simp only [List.length_append, hp, hx, Nat.mul_comm a sz]; omega
  simp only [readHostGroups, hv, Nat.mod_eq_of_lt ha, hcnt, hfit, if_false, hrest]
  rw [Nat.mul_comm a sz, ← hp, ← hx, List.append_assoc, List.drop_left, List.take_left]

/-- `hostEntries` then `readHostGroups`, for groups that sit behind `a` IPv4 and `b` IPv6 hosts; each family's
    section holds at most 2^32 hosts (the width of `HGEntry.start`) -/
theorem hostgroups_decode_gen (gs : List HostGroup) (hgs : GroupsInv gs) :
    ∀ (p4 p6 : Bytes) (a b : Nat), p4.length = 4 * a → p6.length = 16 * b →
      (p4 ++ v4of gs).length ≤ 4 * 2 ^ 32 → (p6 ++ v6of gs).length ≤ 16 * 2 ^ 32 →
      readHostGroups (p4 ++ v4of gs) (p6 ++ v6of gs) (hostEntries gs a b) = .ok (gs.map HostGroup.toReader) := by
  induction gs with
  | nil => intros; rfl
  | cons g gs ih =>
    intro p4 p6 a b h4 h6 hb4 hb6
    have hg : g.Inv := hgs g (by simp)
    have hrest : GroupsInv gs := fun x hx => hgs x (by simp [hx])
    have hal := hg.aligned
    have hne := hg.nonempty
    have hbd := hg.bound
    rcases hg.size with hs | hs
    · rw [hs] at hal
      have hn : g.hosts.length = 4 * (g.hosts.length / 4) := by omega
      rw [v4of_cons4 g gs hs, v6of_cons4 g gs hs, ← List.append_assoc] at *
      simp only [List.length_append] at hb4
      have ih' := ih hrest (p4 ++ g.hosts) p6 (a + g.hosts.length / 4) b
        (by simp only [List.length_append]; omega) h6 (by simp only [List.length_append]; omega) hb6
      simp only [hostEntries, hs, show (4 : Nat) ≠ 16 by decide, if_false, List.map_cons, HostGroup.toReader]
      exact readHostGroups_step _ _ _ _ 0 4 a _ p4 g.hosts (v4of gs) rfl h4 hn (by omega) (by omega) (by omega) ih'
    · rw [hs] at hal
      have hn : g.hosts.length = 16 * (g.hosts.length / 16) := by omega
      rw [v4of_cons16 g gs hs, v6of_cons16 g gs hs, ← List.append_assoc] at *
      simp only [List.length_append] at hb6
      have ih' := ih hrest p4 (p6 ++ g.hosts) a (b + g.hosts.length / 16) h4
        (by simp only [List.length_append]; omega) hb4 (by simp only [List.length_append]; omega)
      simp only [hostEntries, hs, if_true, List.map_cons, HostGroup.toReader]
      exact readHostGroups_step _ _ _ _ 1 16 b _ p6 g.hosts (v6of gs) rfl h6 hn (by omega) (by omega) (by omega) ih'

theorem hostgroups_decode_fin (w : Writer) (h : GroupsInv w.hostGroups)
    (hb4 : (v4of w.hostGroups).length ≤ 4 * 2 ^ 32) (hb6 : (v6of w.hostGroups).length ≤ 16 * 2 ^ 32) :
    readHostGroups w.finalize.v4 w.finalize.v6 w.finalize.hostGroups = .ok (w.hostGroups.map HostGroup.toReader) :=
  hostgroups_decode_gen w.hostGroups h [] [] 0 0 rfl rfl hb4 hb6

theorem hostgroups_decode' (w : Writer) (h : GroupsInv w.hostGroups)
    (hb4 : (v4of w.hostGroups).length < 2 ^ 32) (hb6 : (v6of w.hostGroups).length < 2 ^ 32) :
    readHostGroups w.finalize.v4 w.finalize.v6 w.finalize.hostGroups = .ok (w.hostGroups.map HostGroup.toReader) :=
  hostgroups_decode_fin w h (by omega) (by omega)

end Pk.Index
