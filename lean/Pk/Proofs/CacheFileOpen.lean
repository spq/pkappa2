/-
  C15 helper lemmas at the level of the whole file: the load scan of `NewCacheFile` (`openFile`) on a file that
  satisfies the invariant, complete or cut anywhere; and `setData` with its compaction, the one operation that needs
  every layer below (codecs: CacheFileVarBytes, CacheFileCts, CacheFileSkip; file: CacheFileInv, CacheFileCompact).
-/
import Pk.Model.CacheFile
import Pk.Proofs.CacheFile
import Pk.Proofs.CacheFileInv
import Pk.Proofs.CacheFileCompact
import Pk.Proofs.CacheFileSkip

namespace Pk.Proofs.CacheFile
open Pk.CacheFile

/-- what may follow the last complete record: nothing, or something the scan gives up on -/
def TailBad (tail : List Nat) : Prop := tail = [] ∨ tail.length < 8 ∨ skipStream (tail.drop 8) = none

/-- `fs` holds from the start: until the scan meets a dead record `freeStart` keeps its start value 8, the boundary
    before the first record -/
structure ScanInv (pre : List Rec) (s : Scan) : Prop where
  size : s.fileSize = 8 + recsLen pre
  fs : Boundary pre s.freeStart
  infos : ∀ y, lookup s.infos y = find 8 pre y

theorem scan_rec (f : Nat) (r : Rec) (tl : List Nat) (pre : List Rec) (s : Scan) (hr : RecOk r)
    (hs : ScanInv pre s) (hnd : (liveIds (pre ++ [r])).Nodup) :
    ∃ s', scanLoop (f + 1) (le64 r.id ++ (r.body ++ tl)) s = scanLoop f tl s' ∧ ScanInv (pre ++ [r]) s' ∧
      s'.partialRecord = s.partialRecord := by
  obtain ⟨b1, b2, b3, b4, _⟩ := recBytes_facts r tl hr.1
  have hl : (r.body ++ tl).length - tl.length = r.body.length := by simp
  have hsize : s.fileSize + streamHeaderSize + r.body.length = 8 + recsLen (pre ++ [r]) := by
    rw [hs.size, recsLen_append]; simp only [recsLen, streamHeaderSize]; omega
  rw [scanLoop]
  simp only [b1, b2, if_false, b3, b4, hr.2 tl, hl]
  by_cases hd : r.id = invalidStreamID
  · rw [if_pos hd]
    refine ⟨_, rfl, ⟨hsize, ?_, fun y => ?_⟩, rfl⟩
    · simp only
      split
      · rw [hs.size]; exact ⟨pre, [r], rfl, rfl⟩
      · exact boundary_append_right _ _ _ hs.fs
    · have : ¬ (r.id = y ∧ y ≠ invalidStreamID) := fun hh => hh.2 (hh.1 ▸ hd)
      simp only
      rw [hs.infos y, find_append]; simp [find, this]
  · have hnone : find 8 pre r.id = none := by
      apply find_eq_none.mpr
      intro hm
      rw [liveIds_append, liveIds_cons, if_neg hd] at hnd
      exact (List.nodup_append.mp hnd).2.2 _ hm _ (by simp) rfl
    rw [if_neg hd]
    simp only [hs.infos, hnone]
    refine ⟨_, rfl, ⟨hsize, boundary_append_right _ _ _ hs.fs, fun y => ?_⟩, rfl⟩
    simp only
    rw [lookup_insert, find_append, hs.infos y]
    by_cases hy : y = r.id
    · subst hy; simp [hnone, find, hd, hs.size, streamHeaderSize]
    · have : ¬ (r.id = y ∧ y ≠ invalidStreamID) := fun hh => hy hh.1.symm
      simp [hy, find, this]

theorem scan_tail (f : Nat) (tail : List Nat) (s : Scan) (h : TailBad tail) :
    scanLoop (f + 1) tail s = if tail = [] then s else { s with partialRecord := true } := by
  rw [scanLoop]
  by_cases h1 : tail = []
  · simp [h1]
  · simp only [h1, if_false]
    by_cases h2 : tail.length < 8
    · simp [h2]
    · simp only [h2, if_false]
      rcases h with h | h | h
      · exact absurd h h1
      · exact absurd h h2
      · simp only [h]

theorem scan_spec (tail : List Nat) (ht : TailBad tail) : ∀ (post pre : List Rec) (s : Scan) (fuel : Nat),
    post.length < fuel → ScanInv pre s → (liveIds (pre ++ post)).Nodup → (∀ r ∈ post, RecOk r) →
    ScanInv (pre ++ post) (scanLoop fuel (recsBytes post ++ tail) s) ∧
    (scanLoop fuel (recsBytes post ++ tail) s).partialRecord = (s.partialRecord || decide (tail ≠ [])) := by
  intro post
  induction post with
  | nil =>
    intro pre s fuel hfuel hs _ _
    obtain ⟨f, rfl⟩ := Nat.exists_eq_add_one_of_ne_zero (Nat.ne_zero_of_lt hfuel)
    simp only [recsBytes, List.nil_append, List.append_nil, scan_tail f tail s ht]
    by_cases h1 : tail = []
    · simp only [h1, if_true]; exact ⟨hs, by simp⟩
    · simp only [h1, if_false]; exact ⟨⟨hs.size, hs.fs, hs.infos⟩, by simp [h1]⟩
  | cons r post ih =>
    intro pre s fuel hfuel hs hnd hok
    obtain ⟨f, rfl⟩ := Nat.exists_eq_add_one_of_ne_zero (Nat.ne_zero_of_lt hfuel)
    have hassoc : pre ++ r :: post = (pre ++ [r]) ++ post := by simp
    have hbytes : recsBytes (r :: post) ++ tail = le64 r.id ++ (r.body ++ (recsBytes post ++ tail)) := by
      simp [recsBytes, List.append_assoc]
    rw [hassoc] at hnd ⊢
    obtain ⟨s', e, hs', hp⟩ := scan_rec f r (recsBytes post ++ tail) pre s (hok r (by simp)) hs
      (by rw [liveIds_append] at hnd; exact (List.nodup_append.mp hnd).1)
    rw [hbytes, e, ← hp]
    exact ih (pre ++ [r]) s' f (by simp at hfuel; omega) hs' hnd fun x hx => hok x (by simp [hx])

theorem openFile_spec (pre : List Rec) (tail : List Nat) (ht : TailBad tail) (hok : ∀ r ∈ pre, RecOk r)
    (hnd : (liveIds pre).Nodup) :
    ∃ st' rs', openFile (layout pre ++ tail) = some st' ∧ Inv st' rs' ∧ ∀ y, view rs' y = view pre y := by
  have hlen : (layout pre ++ tail).length = 8 + recsLen pre + tail.length := by
    rw [List.length_append, layout_length]
  have htake : (layout pre ++ tail).take 8 = headerBytes := by
    simp only [layout, List.append_assoc]; exact List.take_left' rfl
  have hdrop : (layout pre ++ tail).drop 8 = recsBytes pre ++ tail := by
    simp only [layout, List.append_assoc]; exact List.drop_left' rfl
  obtain ⟨⟨h1, h2, h3⟩, h4⟩ := scan_spec tail ht pre []
    { infos := [], fileSize := 8, freeSize := 0, freeStart := 8, partialRecord := false }
    ((layout pre ++ tail).length + 1) (by have := length_le_recsLen pre; omega)
    ⟨rfl, ⟨[], [], rfl, rfl⟩, fun y => rfl⟩ (by simpa using hnd) hok
  unfold openFile
  have hl8 : ¬ (layout pre ++ tail).length < 8 := by omega
  simp only [hl8, if_false, htake, ne_eq, not_true_eq_false, hdrop]
  generalize scanLoop _ _ _ = s at h1 h2 h3 h4
  simp only [List.nil_append, Bool.false_or] at h1 h2 h3 h4
  have hbytes : (if s.partialRecord = true then (layout pre ++ tail).take s.fileSize else layout pre ++ tail)
      = layout pre := by
    rw [h4, h1]
    by_cases htl : tail = []
    · simp [htl]
    · simp only [htl, ne_eq, not_false_eq_true, decide_true, if_true]
      exact List.take_left' (layout_length pre)
  rw [hbytes]
  by_cases hfree : s.freeSize = 0
  · simp only [hfree, if_true]
    exact ⟨_, pre, rfl, Inv.mk' rfl h1 hok h3 hnd (boundary_end h1), fun y => rfl⟩
  · simp only [hfree, if_false]
    exact truncateFile_inv _ pre (Inv.mk' rfl h1 hok h3 hnd h2)

theorem reopen_inv (st : St) (rs : List Rec) (h : Inv st rs) :
    ∃ st' rs', openFile st.bytes = some st' ∧ Inv st' rs' ∧ ∀ y, view rs' y = view rs y := by
  have := openFile_spec rs [] (Or.inl rfl) h.ok h.nodup
  rw [List.append_nil, ← h.bytes] at this
  exact this

theorem reopen_data {st : St} {rs : List Rec} (h : Inv st rs) :
    ∃ st', openFile st.bytes = some st' ∧ ∀ id t0, data st' id t0 = data st id t0 := by
  obtain ⟨st', rs', e, h', v⟩ := reopen_inv st rs h
  exact ⟨st', e, fun id t0 => by rw [h'.data_eq, h.data_eq, v]⟩

theorem split_at (keep : Nat) : ∀ (rs : List Rec) (off : Nat), off ≤ keep →
    ∃ pre post, rs = pre ++ post ∧ off + recsLen pre ≤ keep ∧
      (post = [] ∨ ∃ r post', post = r :: post' ∧ keep < off + recsLen pre + 8 + r.body.length) := by
  intro rs
  induction rs with
  | nil => intro off h; exact ⟨[], [], rfl, by simpa [recsLen] using h, Or.inl rfl⟩
  | cons r rs ih =>
    intro off h
    by_cases hk : off + 8 + r.body.length ≤ keep
    · obtain ⟨pre, post, e, h1, h2⟩ := ih (off + 8 + r.body.length) hk
      refine ⟨r :: pre, post, by rw [e]; rfl, by simp only [recsLen]; omega, ?_⟩
      rcases h2 with h2 | ⟨r', post', e', h2⟩
      · exact Or.inl h2
      · exact Or.inr ⟨r', post', e', by simp only [recsLen]; omega⟩
    · exact ⟨[], r :: rs, rfl, by simpa [recsLen] using h, Or.inr ⟨r, rs, rfl, by simp only [recsLen]; omega⟩⟩

theorem find_end_ge (r : Rec) (post : List Rec) (off x : Nat) (info : Info) (h : find off (r :: post) x = some info) :
    off + 8 + r.body.length ≤ info.offset + info.size := by
  obtain ⟨a, r', b, e, _, _, rfl⟩ := find_split _ _ _ _ h
  cases a with
  | nil => cases e; simp only [recsLen]; omega
  | cons r0 a => cases e; simp only [recsLen]; omega

theorem tailBad_cut (r : Rec) (hr : RecOk r) (tl : List Nat) (j : Nat) (hj : j < 8 + r.body.length) :
    TailBad ((le64 r.id ++ (r.body ++ tl)).take j) := by
  by_cases h8 : j < 8
  · refine Or.inr (Or.inl ?_)
    rw [List.length_take]; omega
  · refine Or.inr (Or.inr ?_)
    rw [List.take_append, le64_length, List.take_of_length_le (by rw [le64_length]; omega),
      List.drop_left' (le64_length _), List.take_append_of_le_length (by omega)]
    exact skipStream_take_none (List.append_nil r.body ▸ hr.2 []) (by omega)

theorem truncated_inv (st : St) (rs : List Rec) (h : Inv st rs) (keep : Nat) :
    ∃ st' rs', openFile (st.bytes.take keep) = some st' ∧ Inv st' rs' ∧
      ∀ id info, lookup st.infos id = some info → info.offset + info.size ≤ keep → view rs' id = view rs id := by
  by_cases hk : keep < 8
  · refine ⟨reset, [], ?_, reset_inv, ?_⟩
    · unfold openFile
      have : (st.bytes.take keep).length < 8 := by rw [List.length_take]; omega
      simp only [this, if_true]
    · intro id info hl hle
      rw [h.infos id] at hl
      obtain ⟨a, r, b, _, _, _, rfl⟩ := find_split _ _ _ _ hl
      simp only at hle
      omega
  · obtain ⟨pre, post, hrs, h1, h2⟩ := split_at keep rs 8 (by omega)
    subst hrs
    have hcut : st.bytes.take keep = layout pre ++ (recsBytes post).take (keep - (8 + recsLen pre)) := by
      rw [h.bytes, layout_append, List.take_append, layout_length,
        List.take_of_length_le (by rw [layout_length]; omega)]
    have hbad : TailBad ((recsBytes post).take (keep - (8 + recsLen pre))) := by
      rcases h2 with h2 | ⟨r, post', e, h2⟩
      · subst h2; exact Or.inl (by simp [recsBytes])
      · subst e
        exact tailBad_cut r (h.ok r (by simp)) _ _ (by omega)
    have hnd : (liveIds pre).Nodup := by
      have := h.nodup
      rw [liveIds_append] at this
      exact (List.nodup_append.mp this).1
    obtain ⟨st', rs', e1, e2, e3⟩ := openFile_spec pre _ hbad (fun r hr => h.ok r (by simp [hr])) hnd
    refine ⟨st', rs', by rw [hcut]; exact e1, e2, ?_⟩
    intro id info hl hle
    rw [e3 id, view_append]
    rw [h.infos id, find_append] at hl
    cases hf : find 8 pre id with
    | some i => rw [find_view pre 8 headerBytes id rfl, hf]; rfl
    | none =>
      exfalso
      rw [hf, Option.none_or] at hl
      rcases h2 with h2 | ⟨r, post', e, h2⟩
      · subst h2; simp [find] at hl
      · subst e
        have := find_end_ge r post' _ id info hl
        omega

theorem truncated_data {st : St} {rs : List Rec} (h : Inv st rs) (keep : Nat) :
    ∃ st', openFile (st.bytes.take keep) = some st' ∧
      ∀ id info, lookup st.infos id = some info → info.offset + info.size ≤ keep →
        ∀ t0, data st' id t0 = data st id t0 := by
  obtain ⟨st', rs', e, h', v⟩ := truncated_inv st rs h keep
  exact ⟨st', e, fun id info hl hle t0 => by rw [h'.data_eq, h.data_eq, v id info hl hle]⟩

/-- compaction included -/
theorem setData_inv (st : St) (rs : List Rec) (h : Inv st rs) (x : Nat) (t0 : Int) (cs : List Chunk)
    (hx : x < 2 ^ 64 - 1) (hcs : ∀ c ∈ cs, c.content.length < 2 ^ 64 ∧ c.ctype.length < 2 ^ 64) :
    ∃ st' rs', setData st x t0 cs = some st' ∧ Inv st' rs' ∧
      ∀ y, view rs' y = if y = x then some (encodeRecord cs t0) else view rs y := by
  have hxi : x ≠ invalidStreamID := by simp only [invalidStreamID]; omega
  have hgood : GoodBody (encodeRecord cs t0) := fun rest => skip_encodeRecord cs t0 rest hcs
  rw [setData_eq]
  split
  · obtain ⟨st1, rs1, e1, i1, v1⟩ := truncateFile_inv st rs h
    refine ⟨_, _, by rw [e1]; rfl, storeCore_inv st1 rs1 i1 x _ hx hgood, ?_⟩
    intro y
    rw [view_store x hxi, v1]
  · refine ⟨_, _, rfl, storeCore_inv st rs h x _ hx hgood, ?_⟩
    intro y
    rw [view_store x hxi]

end Pk.Proofs.CacheFile
