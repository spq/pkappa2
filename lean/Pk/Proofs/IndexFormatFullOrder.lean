/-
  The by-first-packet-source lookup: Go's string order and the order of resolved (file name, packet index) keys are
  strict total orders; under any such order a lookup table of `Finalize` is a sorted permutation of the positions
  (`sortedIndexes_facts`), over which `search_sorted` of SortSearch finds a position by its key or no position has
  it; the sort key of a stream, and `StreamByFirstPacketSource` as that search over resolved keys
  (helper lemmas for C01Full `lookup_by_first_packet_exact'`).
-/
import Pk.Model.IndexFormat
import Pk.Proofs.IndexFormatMeta
import Pk.Proofs.Lib
import Pk.Proofs.SortSearch
import Pk.Proofs.SearchOrder
import Pk.Proofs.IndexFormatFullPackets
namespace Pk.Index
open Pk Pk.Bytes Pk.Proofs.Search

theorem blt_eq_bytesLt (a b : Bytes) : Bytes.lt a b = Pk.Search.bytesLt (a.map (·.toNat)) (b.map (·.toNat)) := by
  fun_induction Pk.Bytes.lt a b with
  | case6 x t y u hxy hyx ih => simp [Pk.Search.bytesLt, hxy, hyx, ih]
  | _ => simp_all [Pk.Search.bytesLt]

theorem blt_swo : SWO Bytes.lt := by
  have : Bytes.lt = fun a b => Pk.Search.bytesLt (a.map (·.toNat)) (b.map (·.toNat)) := by
    funext a b; exact blt_eq_bytesLt a b
  rw [this]; exact bytesLt_swo.comap _

theorem blt_asymm (a b : Bytes) (h : Bytes.lt a b = true) : Bytes.lt b a = false := blt_swo.asymm a b h

theorem blt_total : ∀ (a b : Bytes), a ≠ b → Bytes.lt a b = true ∨ Bytes.lt b a = true := by
  intro a b
  fun_induction Bytes.lt a b with
  | case1 => intro h; exact absurd rfl h
  | case2 => intro _; exact .inl rfl
  | case3 => intro _; exact .inr rfl
  | case4 x t y u hxy => intro _; exact .inl rfl
  | case5 x t y u hxy hyx => intro _; right; simp [Bytes.lt, hyx]
  | case6 x t y u hxy hyx ih =>
    intro h
    obtain rfl : x = y := UInt8.toNat_inj.mp (by omega)
    simpa [Bytes.lt, hxy] using ih (fun hh => h (by rw [hh]))

def lexLt (p q : Bytes × Nat) : Bool := if p.1 ≠ q.1 then Bytes.lt p.1 q.1 else decide (p.2 < q.2)

theorem lexLt_eq_lex : lexLt = SWO.lex (fun p q : Bytes × Nat => Bytes.lt p.1 q.1) (fun p q => decide (p.2 < q.2)) := by
  exact SWO.lex_of_key Prod.fst Bytes.lt _ blt_swo blt_total

theorem lexLt_swo : SWO lexLt := by
  rw [lexLt_eq_lex]; exact SWO.lex_swo (blt_swo.comap Prod.fst) (natLt_swo.comap Prod.snd)

theorem lexLt_total (p q : Bytes × Nat) (h : p ≠ q) : lexLt p q = true ∨ lexLt q p = true := by
  obtain ⟨pf, pi⟩ := p; obtain ⟨qf, qi⟩ := q
  simp only [lexLt]
  by_cases hpq : pf = qf
  · subst hpq
    have : pi ≠ qi := fun hh => h (by rw [hh])
    simp; omega
  · have hqp : qf ≠ pf := fun hh => hpq hh.symm
    simp only [ne_eq, hpq, hqp, not_false_eq_true, if_true]
    exact blt_total pf qf hpq

/-- the (file name, packet index) that `Reader.firstSource` computes for the stream of this key -/
def SrcKey.canon (k : SrcKey) : Bytes × Nat := (k.file, (k.off + k.idx) % 2 ^ 64)

theorem lessSrc_canon (a b : SrcKey) (ha : a.off + a.idx < 2 ^ 64) (hb : b.off + b.idx < 2 ^ 64)
    (hsame : a.imp = b.imp → a.file = b.file ∧ a.off = b.off) : lessSrc a b = lexLt a.canon b.canon := by
  unfold lessSrc lexLt SrcKey.canon
  by_cases himp : a.imp = b.imp
  · obtain ⟨hf, ho⟩ := hsame himp
    simp only [himp, if_true, hf, ne_eq, not_true_eq_false, if_false]
    rw [Nat.mod_eq_of_lt ha, Nat.mod_eq_of_lt hb, ho]
    apply decide_eq_decide.mpr; omega
  · simp only [himp, if_false]

/-- a lookup table of `Finalize` holds every position once, sorted by the keys there; `less` need only be a strict weak
    order on the keys that occur, seen through `c` -/
theorem sortedIndexes_facts {κ α : Type} (keys : List κ) (less : κ → κ → Bool) {lt : α → α → Bool} (hlt : SWO lt) (c : κ → α)
    (hless : ∀ a ∈ keys, ∀ b ∈ keys, less a b = lt (c a) (c b)) (d : κ) :
    (∀ i, i < keys.length → (sortedIndexes keys less).getD i 0 < keys.length) ∧
    (∀ j, j < keys.length → ∃ i, i < keys.length ∧ (sortedIndexes keys less).getD i 0 = j) ∧
    ∀ i j, i ≤ j → j < keys.length →
      lt (c (keys.getD ((sortedIndexes keys less).getD j 0) d)) (c (keys.getD ((sortedIndexes keys less).getD i 0) d)) = false := by
  have hperm : (sortedIndexes keys less).Perm (List.range keys.length) := by
    simpa [sortedIndexes, List.map_fst_zip] using
      (List.mergeSort_perm ((List.range keys.length).zip keys) (fun a b => !(less b.2 a.2))).map (·.1)
  have hlen : (sortedIndexes keys less).length = keys.length := by rw [hperm.length_eq, List.length_range]
  refine ⟨fun i hi => ?_, fun j hj => ?_, fun i j hij hj => ?_⟩
  · rw [← List.getElem_eq_getD (h := by omega)]; exact List.mem_range.mp (hperm.mem_iff.mp (List.getElem_mem _))
  · obtain ⟨i, hi, hij⟩ := List.getElem_of_mem (hperm.mem_iff.mpr (List.mem_range.mpr hj))
    exact ⟨i, by omega, by rw [← List.getElem_eq_getD (h := hi), hij]⟩
  · rcases Nat.lt_or_ge i j with h | h
    · -- mergeSort commutes with the map to the keys seen through `c`, on which the comparison is `lt`
      have hp := List.mergeSort_perm ((List.range keys.length).zip keys) (fun a b => !(less b.2 a.2))
      have hmap := List.map_mergeSort (r := fun (a b : Nat × κ) => !(less b.2 a.2))
        (s := fun (a b : Nat × α) => !(lt b.2 a.2)) (f := fun (x : Nat × κ) => (x.1, c x.2))
        (l := (List.range keys.length).zip keys)
        (fun a ha b hb => by rw [hless b.2 (List.of_mem_zip hb).2 a.2 (List.of_mem_zip ha).2])
      have hsorted := (hlt.comap (Prod.snd : Nat × α → α)).pairwise_mergeSort
        (((List.range keys.length).zip keys).map (fun (x : Nat × κ) => (x.1, c x.2)))
      rw [← hmap, List.pairwise_map] at hsorted
      have hs : (sortedIndexes keys less).Pairwise (fun a b => lt (c (keys.getD b d)) (c (keys.getD a d)) = false) := by
        unfold sortedIndexes
        rw [List.pairwise_map]
        refine hsorted.imp_of_mem fun {a b} ha hb hab => ?_
        simpa only [List.getD_eq_getElem?_getD, Lib.mem_zip_range keys a (hp.mem_iff.mp ha),
          Lib.mem_zip_range keys b (hp.mem_iff.mp hb), Option.getD_some] using hab
      rw [← List.getElem_eq_getD (h := (by omega : i < _)), ← List.getElem_eq_getD (h := (by omega : j < _))]
      exact List.pairwise_iff_getElem.mp hs i j _ _ h
    · obtain rfl : i = j := by omega
      exact hlt.irrefl _

/-- the record at `pstart` is the first piece of the stream's first source reference, so the sort key resolves to it -/
theorem srcKey_stream (imps : List ImportKey) (packets : List PacketRec) (s : StreamIn) (rec_ : StreamRec)
    (hpa : PktAt imps packets s rec_) (hne : s.packets ≠ [])
    (hrefs : ∀ p ∈ s.packets, p.refs ≠ [] ∧ ∀ ref ∈ p.refs, ref.index < 2 ^ 64) :
    ∃ t0 T, trips s.data 0 s.packets = t0 :: T ∧
      (srcKey imps packets rec_).canon = (t0.2.1.file, t0.2.1.index) ∧
      (srcKey imps packets rec_).off + (srcKey imps packets rec_).idx < 2 ^ 64 := by
  obtain ⟨hkeys, _, rest, hdrop⟩ := hpa
  have htne := trips_ne s.data s.packets 0 hne (fun p hp => (hrefs p hp).1)
  obtain ⟨t0, T, hT⟩ := List.exists_cons_of_ne_nil htne
  refine ⟨t0, T, hT, ?_⟩
  have hmem := mem_trips s.data s.packets 0 t0 (by rw [hT]; simp)
  have hkey : t0.2.1.key ∈ imps := hkeys _ hmem.1 _ hmem.2
  have hidx : t0.2.1.index < 2 ^ 64 := (hrefs _ hmem.1).2 _ hmem.2
  obtain ⟨a, l, hsp⟩ := List.exists_cons_of_ne_nil (splitSizes_ne t0.2.2)
  obtain ⟨c, tl, hraw, hc⟩ : ∃ c tl, (streamRaw imps s).map core = c :: tl ∧ (c.1, c.2.1) = t0.ik imps := by
    unfold streamRaw
    rw [allRecords_trips, hT]
    simp only [List.map_cons, List.flatten_cons, grp, hsp, List.cons_append]
    exact ⟨_, _, rfl, rfl⟩
  rw [← streamRecs_core] at hraw
  obtain ⟨r0, tl', hrecs, rfl, _⟩ := List.map_eq_cons_iff.mp hraw
  have hget : packets.getD rec_.pstart default = r0 := by
    have : (packets.drop rec_.pstart)[0]? = some r0 := by rw [hdrop, hrecs]; simp
    rw [List.getElem?_drop] at this
    simp only [Nat.add_zero] at this
    simp [List.getD_eq_getElem?_getD, this]
  obtain ⟨himp, hidx'⟩ : r0.imp = imps.idxOf t0.2.1.key ∧ r0.idx = t0.2.1.index % 2 ^ 32 := Prod.mk.inj hc
  have hlt : imps.idxOf t0.2.1.key < imps.length := List.idxOf_lt_length_iff.mpr hkey
  have hk : imps.getD (imps.idxOf t0.2.1.key) default = t0.2.1.key := by
    rw [← List.getElem_eq_getD (h := hlt), List.getElem_idxOf]
  simp only [srcKey, SrcKey.canon, hget, himp, hidx', hk]
  simp only [SrcRef.key, Nat.div_add_mod', Nat.mod_eq_of_lt hidx, true_and]
  exact hidx

theorem srcKey_same (imps : List ImportKey) (packets : List PacketRec) (x y : StreamRec)
    (h : (srcKey imps packets x).imp = (srcKey imps packets y).imp) :
    (srcKey imps packets x).file = (srcKey imps packets y).file ∧ (srcKey imps packets x).off = (srcKey imps packets y).off := by
  simp only [srcKey] at h ⊢
  rw [h]; exact ⟨rfl, rfl⟩

theorem firstSource_eq (r : Reader) (s : StreamRec) : r.firstSource s = (srcKey r.imports r.f.packets s).canon := rfl

theorem streamBySource_eq (r : Reader) (file : Bytes) (index : Nat) :
    ∃ k, k = sortSearch (fun i => !lexLt (r.firstSource (r.f.streams.getD (r.f.lkSrc.getD i 0) default)) (file, index)) 0
        r.f.streams.length ∧
      r.streamBySource file index =
        if k ≥ r.f.streams.length ∨ r.firstSource (r.f.streams.getD (r.f.lkSrc.getD k 0) default) ≠ (file, index) then none
        else some (r.f.lkSrc.getD k 0, r.f.streams.getD (r.f.lkSrc.getD k 0) default) := by
  have hpred : ∀ q : Bytes × Nat, (match q with
      | (fn, idx) => if fn ≠ file then !(Bytes.lt fn file) else decide (index ≤ idx) : Bool) = !lexLt q (file, index) := by
    rintro ⟨fn, idx⟩
    by_cases h : fn = file
    · simp [lexLt, h, ← Nat.not_lt]
    · simp [lexLt, h]
  have hend : ∀ (q : Bytes × Nat) (x : Nat × StreamRec), (match q with
      | (fn, idx) => if fn ≠ file ∨ idx ≠ index then none else some x) = if q ≠ (file, index) then none else some x := by
    rintro ⟨fn, idx⟩ x
    simp only [ne_eq, Prod.mk.injEq, Classical.not_and_iff_not_or_not]
  refine ⟨_, rfl, ?_⟩
  unfold Reader.streamBySource
  simp only [hpred, hend]
  split
  · rename_i h; rw [if_pos (.inl h)]
  · rename_i h; simp only [h, false_or]

/-- the lookup table is the records' positions sorted by first source, and the binary search returns the first position
    whose key is not below the target; nothing is asked of the streams but `hvalid` -/
theorem streamBySource_written (w : Writer) (r : Reader) (hr : newReader w.finalize = .ok r)
    (himp : r.imports = w.imports)
    (hvalid : ∀ x ∈ w.streams, (srcKey w.imports w.packets x).off + (srcKey w.imports w.packets x).idx < 2 ^ 64)
    (file : Bytes) (index : Nat) :
    (∃ j, j < w.streams.length ∧ r.firstSource (w.streams.getD j default) = (file, index) ∧
      r.streamBySource file index = some (j, w.streams.getD j default)) ∨
    (r.streamBySource file index = none ∧
      ∀ j, j < w.streams.length → r.firstSource (w.streams.getD j default) ≠ (file, index)) := by
  obtain ⟨hst, hpk, _⟩ := reopen w r hr
  have hlk : r.f.lkSrc = sortedIndexes (w.streams.map (srcKey w.imports w.packets)) lessSrc := by
    rw [(newReader_ok _ r hr).1]; rfl
  obtain ⟨hin, hall, hsort⟩ := sortedIndexes_facts (w.streams.map (srcKey w.imports w.packets)) lessSrc lexLt_swo SrcKey.canon
    (fun a ha b hb => by
      obtain ⟨x, hx, rfl⟩ := List.mem_map.mp ha
      obtain ⟨y, hy, rfl⟩ := List.mem_map.mp hb
      exact lessSrc_canon _ _ (hvalid x hx) (hvalid y hy) (srcKey_same _ _ x y))
    (srcKey w.imports w.packets default)
  have hkey : ∀ j, ((w.streams.map (srcKey w.imports w.packets)).getD j (srcKey w.imports w.packets default)).canon =
      r.firstSource (w.streams.getD j default) := fun j => by rw [Lib.getD_map, firstSource_eq, himp, hpk]
  simp only [← hlk, List.length_map, hkey] at hin hall hsort
  obtain ⟨k, hk, hsb⟩ := streamBySource_eq r file index
  rw [hst] at hk hsb
  rw [hsb]
  rcases search_sorted lexLt_swo lexLt_total _ w.streams.length (file, index) hsort k hk with ⟨hk, hck⟩ | hnone
  · exact .inl ⟨_, hin k hk, hck, if_neg (not_or.mpr ⟨by omega, not_not_intro hck⟩)⟩
  · exact .inr ⟨if_pos ((Nat.lt_or_ge k _).symm.imp_right (hnone k)),
      fun j hj => by obtain ⟨i, hi, rfl⟩ := hall j hj; exact hnone i hi⟩

end Pk.Index
