/-
  One preservation theorem for every invariant of the form "each tag of the table satisfies `P`, and the snapshot of
  the tagging job in flight satisfies `Q`": the helpers of the service loop rewrite pending sets, back references and
  colours of existing tags (under which `P` is closed, `TagClosed`), take converters off a tag, and store a handful of
  new tags, for which the event supplies `P` (`TagEvOK`); `Q` has to follow from `P` (`tj_startTagging`).
-/
import Pk.Proofs.MgrTagsFrame
import Pk.Proofs.MgrFrame
namespace Pk.Mgr
open Pk.Proofs.MgrTags

structure TagClosed (P : String → Tag → Prop) : Prop where
  unc : ∀ n t u, P n t → P n { t with unc := u }
  refBy : ∀ n t r, P n t → P n { t with refBy := r }
  color : ∀ n t c, P n t → P n { t with color := c }
  detach : ∀ n t c, P n t → P n { t with convs := t.convs.filter (· != c) }

def TJ (P Q : String → Tag → Prop) (s : St) : Prop :=
  (∀ nt ∈ s.tags, P nt.1 nt.2) ∧ ∀ n snap held, s.jTag = some (n, snap, held) → Q n snap

/-- the fields `TJ` reads -/
def tj (s : St) := (s.tags, s.jTag)

section
variable {P Q : String → Tag → Prop}

theorem TJ.congr {s s' : St} (e : tj s' = tj s) (h : TJ P Q s) : TJ P Q s' := by
  simp only [tj, Prod.mk.injEq] at e
  unfold TJ
  rw [e.1, e.2]
  exact h

theorem TJ.get {s : St} (h : TJ P Q s) {n : String} {t : Tag} (ht : sget s.tags n = some t) : P n t :=
  h.1 (n, t) (sget_mem _ _ _ ht)

theorem tj_setTag {s : St} (h : TJ P Q s) (n : String) {t : Tag} (ht : P n t) : TJ P Q (setTag s n t) :=
  ⟨fun nt hnt => (mem_sins _ _ _ _ hnt).elim (fun e => e ▸ ht) (h.1 nt), h.2⟩

theorem tj_sdel {s : St} (h : TJ P Q s) (n : String) : TJ P Q { s with tags := sdel s.tags n } :=
  ⟨fun nt hnt => h.1 nt (List.mem_filter.1 hnt).1, h.2⟩

theorem tj_map {s : St} (h : TJ P Q s) (f : Tag → Tag) (hf : ∀ n t, P n t → P n (f t)) :
    TJ P Q { s with tags := s.tags.map fun p => (p.1, f p.2) } := by
  refine ⟨fun nt hnt => ?_, h.2⟩
  obtain ⟨x, hx, rfl⟩ := List.mem_map.1 hnt
  exact hf _ _ (h.1 x hx)

theorem tj_foldl {β} {s : St} (h : TJ P Q s) (f : St → β → St) (hf : ∀ s x, TJ P Q s → TJ P Q (f s x))
    (l : List β) : TJ P Q (l.foldl f s) :=
  foldl_inv (TJ P Q) f hf l s h

theorem mark_tag_eq (t : Tag) (s : St) (a d : List Nat) :
    ∃ m u df, muDel (muAdd t s a).1 d = { t with mat := m, unc := u, defn := df } := by
  obtain ⟨d0, e1⟩ := muAdd_fst t s a
  obtain ⟨m, u, df, e2, _⟩ := muDel_spec (muAdd t s a).1 d
  exact ⟨m, u, df, by rw [e2, e1]⟩

theorem TagClosed.ite {c : Prop} [Decidable c] {n : String} {a b : Tag} (ha : P n a) (hb : P n b) :
    P n (if c then a else b) :=
  ite_cases (P n) c (fun _ => ha) fun _ => hb

variable (hP : TagClosed P)
include hP

theorem tj_inherit {s : St} (h : TJ P Q s) : TJ P Q (inherit s) :=
  ⟨inherit_inv s (fun T => ∀ nt ∈ T, P nt.1 nt.2)
    (fun T n t hT ht x hx => (mem_sins _ _ _ _ hx).elim
      (fun e => by
        obtain ⟨u, eu, _⟩ := inheritOne_spec s.all T t
        rw [e, eu]; exact hP.unc _ _ _ (hT (n, t) (sget_mem _ _ _ ht)))
      (hT x)) h.1, h.2⟩

theorem tj_invalidateTags {s : St} (h : TJ P Q s) (u r a : IdSet) : TJ P Q (invalidateTags s u r a) := by
  rw [invalidateTags_eq]
  refine tj_inherit hP (tj_map h _ fun _ t ht => ?_)
  exact TagClosed.ite (hP.unc _ _ _ ht) (TagClosed.ite (TagClosed.ite ht (hP.unc _ _ _ ht)) (hP.unc _ _ _ ht))

theorem tj_addRefBy {s : St} (h : TJ P Q s) (a b : String) : TJ P Q (addRefBy s a b) := by
  unfold addRefBy
  split
  · next t ht => exact tj_setTag h a (hP.refBy _ _ _ (h.get ht))
  · exact h

theorem tj_delRefBy {s : St} (h : TJ P Q s) (a b : String) : TJ P Q (delRefBy s a b) := by
  unfold delRefBy
  split
  · next t ht => exact tj_setTag h a (hP.refBy _ _ _ (h.get ht))
  · exact h

variable (hPQ : ∀ n t, P n t → Q n t)
include hPQ

omit hP in
/-- the job that starts snapshots an entry of the table -/
theorem tj_startTagging {s : St} (h : TJ P Q s) (c : Option String) : TJ P Q (startTagging s c) :=
  startTagging_cases (P := TJ P Q) s c (fun _ => h) fun n t _ _ hm _ =>
    ⟨h.1, fun _ _ _ e => by cases e; exact hPQ n t (h.1 (n, t) hm)⟩

omit hP in
theorem tj_jobTail {s : St} (h : TJ P Q s) (st : Started) : TJ P Q (jobTail s st) :=
  .congr ((startMerge_frame tj _).trans (startConverter_frame tj _)) (tj_startTagging hPQ h st.tag)

theorem tj_outputDropped {s : St} (h : TJ P Q s) (ch : Option String) : TJ P Q (outputDropped s ch) := by
  rw [outputDropped_eq]
  split
  · refine tj_startTagging hPQ (.congr (invalidatedDuringTaggingJob_frame tj _ _) (tj_inherit hP (tj_map h _ fun _ t ht => ?_))) _
    exact TagClosed.ite (hP.unc _ _ _ ht) ht
  · exact h

theorem tj_detachConv {s : St} (h : TJ P Q s) (n c : String) (ch : Option String) : TJ P Q (detachConv s n c ch) := by
  have h1 : ∀ t, sget s.tags n = some t → ∀ tc ca, TJ P Q { setTag s n { t with convs := t.convs.filter (· != c) } with
      toconv := tc, cached := ca } :=
    fun t ht _ _ => .congr (s := setTag s n { t with convs := t.convs.filter (· != c) }) rfl
      (tj_setTag h n (hP.detach _ _ _ (h.get ht)))
  exact detachConv_cases (P := TJ P Q) s n c ch (fun _ => h) (fun t d ht => h1 t ht _ _)
    fun t d ht => tj_outputDropped hP hPQ (h1 t ht _ _) _

/-- the tags an event stores that are not rewritten old ones: the event supplies `P` for them -/
def TagEvOK (P Q : String → Tag → Prop) (s : St) : Ev → Prop
  | .addTag name color defn f => AddTagOk s name f → P name (atNew s color defn f (parseTagName name).2.2)
  | .updQuery name defn f => ∀ t, UpdQueryOk s name defn f t → P name t → P name (uqNew defn f t s.all)
  | .updName name new => ∀ t, UpdNameOk s name new t → P name t → P new t
  | .updConv name _ => ∀ t c, P name t →
      (t.mfeat &&& fData ≠ 0 || t.sfeat &&& fData ≠ 0 || !t.mainT.isEmpty || !t.subT.isEmpty) = false →
      P name { t with convs := t.convs ++ [c] }
  | .markAdd name ids => ∀ t, MarkOk s name ids t → P name t → P name (muDel (muAdd t s ids).1 [])
  | .markDel name ids => ∀ t, MarkOk s name ids t → P name t → P name (muDel (muAdd t s []).1 ids)
  | .tagDone name result => ∀ snap held ot, s.jTag = some (name, snap, held) → sget s.tags name = some ot →
      ot.defn = snap.defn → ot.gen = snap.gen → P name ot → Q name snap → P name (tdTag snap ot (ofList result))
  | _ => True

theorem tj_markSt {s : St} (h : TJ P Q s) (name : String) (a d : List Nat) (st : Started)
    (hm : ∀ t, sget s.tags name = some t → P name t → P name (muDel (muAdd t s a).1 d)) : TJ P Q (markSt s name a d st) := by
  refine .congr (startConverter_frame tj _) (tj_startTagging hPQ ?_ _)
  rw [markUpdate_eq]
  split
  · exact h
  · next t ht =>
    have h1 : TJ P Q (setTag (muAdd t s a).2 name (muDel (muAdd t s a).1 d)) :=
      tj_setTag (.congr (muAdd_frame tj t s a) h) name (hm t ht (h.get ht))
    have h2 := TJ.congr (P := P) (Q := Q) (invalidatedDuringTaggingJob_frame tj _ (muDel (muAdd t s a).1 d).unc)
      (tj_inherit hP h1)
    show TJ P Q (muFin _ name t.unc)
    unfold muFin
    split
    · next t' ht' => exact tj_setTag h2 name (hP.unc _ _ _ (h2.get ht'))
    · exact h2

theorem tj_step (s : St) (e : Ev) (st : Started) (hev : TagEvOK P Q s e) (h : TJ P Q s) :
    TJ P Q (step s e st).1 := by
  cases e with
  | nop => exact h
  | importPcaps names =>
    exact step_importPcaps_cases (P := fun r => TJ P Q r.1) s names st h (fun _ _ => .congr rfl h) fun _ _ => .congr rfl h
  | viewOpen k => exact step_viewOpen_cases (P := fun r => TJ P Q r.1) s k st h fun _ _ => .congr rfl h
  | viewRelease k =>
    exact step_viewRelease_cases (P := fun r => TJ P Q r.1) s k st h fun fs _ =>
      .congr ((release_frame tj _ _).trans rfl) h
  | updColor name color =>
    refine step_updColor_cases (P := fun r => TJ P Q r.1) s name color st h h fun t ht => ?_
    exact tj_setTag h name (hP.color _ _ _ (h.get ht))
  | mergeDone merged =>
    refine step_mergeDone_cases (P := fun r => TJ P Q r.1) s merged st (fun _ => h) fun off held _ => ?_
    refine .congr ((release_frame tj _ _).trans ((startMerge_frame tj _).trans ?_)) h
    exact mdApply_frame tj { s with jMerge := none } off held merged
  | convertDone =>
    refine step_convertDone_cases (P := fun r => TJ P Q r.1) s st (fun _ => h) fun sets held _ => ?_
    refine .congr ((release_frame tj _ _).trans (startConverter_frame tj _)) (tj_startTagging hPQ (tj_inherit hP ?_) _)
    refine tj_foldl (s := { s with convert := false, jConv := none }) (.congr (s := s) rfl h) _ (fun x p hx => ?_) _
    refine ite_cases (TJ P Q) _ (fun _ => hx) fun _ => ?_
    · refine .congr (s := { x with tags := x.tags.map fun q => (q.1, cdF x.all p.2 q.2) }) rfl (tj_map hx _ fun _ t ht => ?_)
      exact TagClosed.ite (TagClosed.ite ht (hP.unc _ _ _ ht)) (TagClosed.ite ht (hP.unc _ _ _ ht))
  | importDone p u c a b d =>
    refine step_importDone_cases (P := fun r => TJ P Q r.1) s p u c a b d st (fun _ => h) fun jn held _ => ?_
    refine tj_jobTail hPQ (.congr ((idQueue_frame tj _).trans rfl) ?_) st
    have h1 : TJ P Q (release { s with all := jn + u, jImport := none } held) := .congr (release_frame tj _ _) h
    refine ite_cases (TJ P Q) _ (fun _ => h1) fun _ => ?_
    refine .congr ((invalidateConverters_frame tj _ _).trans (invalidateConverters_frame tj _ _)) ?_
    exact tj_invalidateTags hP (.congr rfl h1) _ _ _
  | tagDone name result =>
    refine step_tagDone_cases (P := fun r => TJ P Q r.1) s name result st (fun _ => h)
      (fun _ _ _ _ _ => .congr rfl h) fun snap held hj => ?_
    refine .congr (release_frame tj _ _) (tj_jobTail hPQ
      (s := { tdPublish { s with jTag := none } name snap (ofList result) with tag := false })
      (.congr (s := tdPublish { s with jTag := none } name snap (ofList result)) rfl ?_) st)
    have h0 : TJ P Q { s with jTag := none } := ⟨h.1, fun _ _ _ e => by cases e⟩
    refine tdPublish_cases (P := TJ P Q) _ name snap _ h0 (fun ot hot hd hg => ?_) fun _ hX => tj_invalidateTags hP hX _ _ _
    exact tj_setTag (.congr (qConv_frame tj _ _ _) h0) name (hev snap held ot hj hot hd hg (h.get hot) (h.2 _ _ _ hj))
  | updConv name convs =>
    refine step_updConv_cases (P := fun r => TJ P Q r.1) s name convs st h fun t _ _ => ?_
    refine .congr (startConverter_frame tj _) (tj_foldl (tj_foldl h _ (fun x c hx => tj_detachConv hP hPQ hx name c st.tag) _) _
      (fun x c hx => ?_) _)
    refine attachConv_cases (P := TJ P Q) x name c hx fun t' ht' _ hc => ?_
    exact .congr (s := setTag x name { t' with convs := t'.convs ++ [c] }) rfl (tj_setTag hx name (hev t' c (hx.get ht') hc))
  | markAdd name ids =>
    exact step_markAdd_cases (P := fun r => TJ P Q r.1) s name ids st h (fun _ _ _ => h) fun t ok =>
      tj_markSt hP hPQ h name ids [] st fun t' ht' hp => hev t' ⟨ht', ok.nonempty, ok.mark, ok.known⟩ hp
  | markDel name ids =>
    exact step_markDel_cases (P := fun r => TJ P Q r.1) s name ids st h (fun _ _ _ => h) fun t ok =>
      tj_markSt hP hPQ h name [] ids st fun t' ht' hp => hev t' ⟨ht', ok.nonempty, ok.mark, ok.known⟩ hp
  | delTag name =>
    refine step_delTag_cases (P := fun r => TJ P Q r.1) s name st h fun t _ _ => ?_
    exact tj_foldl (tj_sdel (tj_foldl h _ (fun x c hx => tj_detachConv hP hPQ hx name c st.tag) _) name) _
      (fun x r hx => tj_delRefBy hP hx r name) _
  | updName name new =>
    refine step_updName_cases (P := fun r => TJ P Q r.1) s name new st h (fun _ _ _ => h) fun t ok => ?_
    refine tj_foldl ?_ _ (fun x r hx => tj_addRefBy hP (tj_delRefBy hP hx r name) r new) _
    exact tj_setTag (tj_sdel h name) new (hev t ok (h.get ok.found))
  | addTag name color defn f =>
    refine step_addTag_cases (P := fun r => TJ P Q r.1) s name color defn f st h fun ok => ?_
    refine tj_foldl ?_ _ (fun x r hx => tj_addRefBy hP hx r name) _
    have hb : TJ P Q (setTag { s with ngen := s.ngen + 1 } name (atNew s color defn f (parseTagName name).2.2)) :=
      tj_setTag (.congr (s := s) rfl h) name (hev ok)
    split
    · exact hb
    · exact tj_startTagging hPQ hb _
  | updQuery name defn f =>
    refine step_updQuery_cases (P := fun r => TJ P Q r.1) s name defn f st h fun t ok => ?_
    refine .congr (startConverter_frame tj _) (tj_startTagging hPQ
      (.congr (invalidatedDuringTaggingJob_frame tj _ _) (tj_inherit hP ?_)) _)
    refine tj_setTag ?_ name (hev t ok (h.get ok.found))
    exact tj_foldl (tj_foldl h _ (fun x r hx => tj_delRefBy hP hx r name) _) _ (fun x r hx => tj_addRefBy hP hx r name) _

end
end Pk.Mgr

namespace Pk.Proofs.MgrConv
open Pk.Mgr

/-- the matches of a tag are existing streams: the predicate on one tag behind `C16.MatInv` (`C16.matInv_step` is the
    instance of `tj_step`) -/
def MatLt (k : Nat) (t : Tag) : Prop := ∀ id ∈ t.mat, id < k

theorem matLt_closed (k : Nat) : TagClosed fun _ => MatLt k :=
  ⟨fun _ _ _ h => h, fun _ _ _ h => h, fun _ _ _ h => h, fun _ _ _ h => h⟩

end Pk.Proofs.MgrConv
