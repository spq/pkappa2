/-
  What the window (`InWindow` of ImportSpec) is for: while every packet lies within one inactivity
  timeout after `t0` and nothing in the state is older than `t0` (`ConnWin`, kept by `tcpBody`), no flush
  does anything, so `tcpPacket` / `udpPacket` are "find the connection, apply the body" (`tcpNoFlush` by
  `tcpPacket_keeps` of ImportReasmTcpPacket through `ConnWin.keeps`; `udpNoFlush` by `udpPacket_eq`).
  `tcpDir` is the orientation test of `tcpFind` on one connection, so that the search is a walk
  (`tcpFind_cons`, `tcpFind_append`) like `udpLookup`.
-/
import Pk.Proofs.ImportReasmTcpPacket
import Pk.Proofs.Import

namespace Pk.Proofs.ImportReasm
open Pk.Import

theorem sameConv_key (s : Import.Stream) (p : Pkt) :
    sameConv (Stream.keyPkt s) p ↔ s.udp = p.udp ∧ (Proofs.Import.fwd s p ∨ Proofs.Import.bwd s p) := Iff.rfl

/-- a UDP datagram whose source endpoint equals its destination endpoint fits both orientations of its flow,
    so `udpMatch` never accepts it: each such datagram opens a new stream (`entryDir_self`) -/
def SelfUdp (p : Pkt) : Prop := p.udp = true ∧ p.src = p.dst ∧ p.sport = p.dport

instance (p : Pkt) : Decidable (SelfUdp p) := by unfold SelfUdp; infer_instance

/-- nothing in the connection is older than `t0`.  `lastSeen` of one half is enough: `tcpFlush` looks at
    the later of the two -/
def ConnWin (t0 : Nat) (c : TcpConn) : Prop :=
  t0 ≤ c.c2s.lastSeen ∧ (∀ pg ∈ c.c2s.queue, t0 ≤ pg.ref.ts) ∧ ∀ pg ∈ c.s2c.queue, t0 ≤ pg.ref.ts

theorem ConnWin.keeps {t0 : Nat} {c : TcpConn} (h : ConnWin t0 c) {ts : Nat} (hts : ts ≤ t0 + timeout) (k : Nat) :
    FlushKeeps k ts c := by
  obtain ⟨l1, q1, q2⟩ := h
  refine Or.inr ⟨by unfold TcpConn.lastSeen; omega, fun pg hm => ?_, fun pg hm => ?_⟩
  · have := q1 pg hm; omega
  · have := q2 pg hm; omega

theorem udpFlush_id (t0 ts : Nat) (hts : ts ≤ t0 + timeout) : ∀ (cs : List UdpConn) (ss : Array Import.Stream),
    (∀ c ∈ cs, t0 ≤ c.lastActivity) → udpFlush ts cs ss = (cs, ss) := by
  intro cs
  induction cs with
  | nil => intro ss _; rfl
  | cons c cs ih =>
    intro ss hw
    have hc := hw c (List.mem_cons_self ..)
    have hcs : ∀ c ∈ cs, t0 ≤ c.lastActivity := fun c hm => hw c (List.mem_cons_of_mem _ hm)
    rw [udpFlush, if_neg (by omega), ih ss hcs]

/-- the orientation test of `tcpFind` on one connection -/
def tcpDir (p : Pkt) (c : TcpConn) : Option Bool :=
  if c.src = p.src ∧ c.dst = p.dst ∧ c.sport = p.sport ∧ c.dport = p.dport then some false
  else if c.src = p.dst ∧ c.dst = p.src ∧ c.sport = p.dport ∧ c.dport = p.sport then some true
  else none

theorem tcpFind_cons (p : Pkt) (c : TcpConn) (cs : List TcpConn) (j : Nat) :
    tcpFind p (c :: cs) j = match tcpDir p c with | some d => some (j, d) | none => tcpFind p cs (j + 1) := by
  rw [tcpFind]; unfold tcpDir
  split
  · rfl
  · split <;> rfl

theorem tcpFind_append (p : Pkt) (l2 : List TcpConn) : ∀ (l1 : List TcpConn) (j : Nat),
    (∀ c ∈ l1, tcpDir p c = none) → tcpFind p (l1 ++ l2) j = tcpFind p l2 (j + l1.length) := by
  intro l1
  induction l1 with
  | nil => intro j _; rfl
  | cons c cs ih =>
    intro j h
    rw [List.cons_append, tcpFind_cons, h c (List.mem_cons_self ..)]
    simp only
    rw [ih (j + 1) (fun c hm => h c (List.mem_cons_of_mem _ hm)), List.length_cons]
    congr 1; omega

theorem tcpFind_none (p : Pkt) (l : List TcpConn) (j : Nat) (h : ∀ c ∈ l, tcpDir p c = none) : tcpFind p l j = none := by
  rw [← List.append_nil l, tcpFind_append p [] l j h]
  rfl

/-- what `udpPacket` does to the stream of the flow it found (`udpPacket_eq`) -/
def udpBody (st : Import.Stream) (p : Pkt) (dir : Bool) : Import.Stream :=
  let st := st.addPkt p.ref dir
  if p.payload.length = 0 then st else st.addData p.ref p.payload

def newUdpStream (p : Pkt) : Import.Stream :=
  { caddr := p.src, saddr := p.dst, cport := p.sport, sport := p.dport, udp := true }

/-- `udpPacket` after its flush -/
def udpNoFlush (r : RState) (p : Pkt) : RState :=
  match udpLookup r.streams p r.udp 0 with
  | some (i, dir) =>
    match r.udp[i]? with
    | none => r
    | some c =>
      { r with streams := r.streams.set! c.stream (udpBody r.streams[c.stream]! p dir),
               udp := r.udp.set i { c with lastActivity := p.ts } }
  | none =>
    { r with streams := r.streams.push (udpBody (newUdpStream p) p false),
             udp := r.udp ++ [{ lastActivity := p.ts, stream := r.streams.size }] }

theorem udpPacket_flush (r : RState) (p : Pkt) :
    udpPacket r p = udpNoFlush { r with udp := (udpFlush p.ts r.udp r.streams).1, streams := (udpFlush p.ts r.udp r.streams).2 } p :=
  rfl

theorem udpPacket_eq (t0 : Nat) (r : RState) (p : Pkt) (hw : ∀ c ∈ r.udp, t0 ≤ c.lastActivity) (hts : p.ts ≤ t0 + timeout) :
    udpPacket r p = udpNoFlush r p := by
  rw [udpPacket_flush, udpFlush_id t0 p.ts hts r.udp r.streams hw]

theorem udpLookup_append (ss : Array Import.Stream) (p : Pkt) (l2 : List UdpConn) : ∀ (l1 : List UdpConn) (j : Nat),
    (∀ c ∈ l1, udpMatch ss[c.stream]! p = none) → udpLookup ss p (l1 ++ l2) j = udpLookup ss p l2 (j + l1.length) := by
  intro l1
  induction l1 with
  | nil => intro j _; rfl
  | cons c cs ih =>
    intro j h
    rw [List.cons_append, Proofs.Import.udpLookup_cons, h c (List.mem_cons_self ..)]
    simp only
    rw [ih (j + 1) (fun c hm => h c (List.mem_cons_of_mem _ hm)), List.length_cons]
    congr 1; omega

theorem addPkt_key (s : Stream) (r : PRef) (d : Bool) : Stream.keyPkt (s.addPkt r d) = Stream.keyPkt s := rfl

theorem tcpBody_stream (c : TcpConn) (st : Import.Stream) (p : Pkt) (dir : Bool) (i : Nat) :
    tcpBody { c with stream := i } st p dir = ({ (tcpBody c st p dir).1 with stream := i }, (tcpBody c st p dir).2) := by
  unfold tcpBody
  cases dir <;> rfl

theorem tcpBody_win (t0 : Nat) (c : TcpConn) (st : Import.Stream) (p : Pkt) (dir : Bool) (hw : ConnWin t0 c) (hp : t0 ≤ p.ts) :
    ConnWin t0 (tcpBody c st p dir).1 := by
  have h1 := tcpBody_refs (fun r => t0 ≤ r.ts) c st p dir hp false
  have h2 := tcpBody_refs (fun r => t0 ≤ r.ts) c st p dir hp true
  exact ⟨Nat.le_trans hw.1 h1.2, h1.1 hw.2.1, h2.1 hw.2.2⟩

theorem newConn_win (t0 : Nat) (p : Pkt) (i : Nat) (hp : t0 ≤ p.ts) : ConnWin t0 (newConn p i) := by
  refine ⟨hp, ?_, ?_⟩ <;> intro pg hm <;> cases hm

end Pk.Proofs.ImportReasm
