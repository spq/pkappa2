/-
  The helpers of the service loop, each through two lemmas.  A frame lemma
  `helper_frame g … : g (helper s …) = g s` for every view `g` of the state that does not read the fields
  the helper writes; that hypothesis comes last and is closed by `rfl` on its own when `g` is a projection
  or a predicate on fields (so `rw [helper_frame g]` would leave it as a side goal: use the equation as a
  term).  And, for the helpers that test before they act (the three job starters, `attachConv`,
  `detachConv`, `tdPublish`), a case principle: idle, or the state they build, with what they tested.
-/
import Pk.Proofs.MgrStep
namespace Pk.Mgr

theorem release_frame {γ} (g : St → γ) (s : St) (fs : List Nat)
    (h : ∀ s u f, g { s with used := u, files := f } = g s := by intros; rfl) : g (release s fs) = g s := by
  refine foldl_keep g _ (fun s f => ?_) _ _
  split
  · rfl
  · split <;> exact h ..

theorem inherit_frame {γ} (g : St → γ) (s : St)
    (h : ∀ s t d, g { s with tags := t, diverged := d } = g s := by intros; rfl) : g (inherit s) = g s :=
  h s ..

theorem invalidateTags_frame {γ} (g : St → γ) (s : St) (a b c : IdSet)
    (h : ∀ s t d, g { s with tags := t, diverged := d } = g s := by intros; rfl) :
    g (invalidateTags s a b c) = g s :=
  (inherit_frame g _ h).trans (h s ..)

theorem invalidatedDuringTaggingJob_frame {γ} (g : St → γ) (s : St) (ids : IdSet)
    (h : ∀ s v, g { s with rst := v } = g s := by intros; rfl) :
    g (invalidatedDuringTaggingJob s ids) = g s := by
  unfold invalidatedDuringTaggingJob
  split
  · exact h ..
  · rfl

theorem invalidateConverters_frame {γ} (g : St → γ) (s : St) (u : IdSet)
    (h : ∀ s c t, g { s with cached := c, toconv := t } = g s := by intros; rfl) :
    g (invalidateConverters s u) = g s :=
  foldl_keep g _ (fun _ _ => h ..) _ _

theorem startImport_frame {γ} (g : St → γ) (s : St)
    (h : ∀ s u j p, g { s with used := u, jImport := j, pcaps := p } = g s := by intros; rfl) :
    g (startImport s) = g s := h s ..

theorem addRefBy_frame {γ} (g : St → γ) (s : St) (a b : String)
    (h : ∀ s v, g { s with tags := v } = g s := by intros; rfl) : g (addRefBy s a b) = g s := by
  unfold addRefBy
  split
  · exact h ..
  · rfl

theorem delRefBy_frame {γ} (g : St → γ) (s : St) (a b : String)
    (h : ∀ s v, g { s with tags := v } = g s := by intros; rfl) : g (delRefBy s a b) = g s := by
  unfold delRefBy
  split
  · exact h ..
  · rfl

theorem attachConv_cases {P : St → Prop} (s : St) (n c : String) (idle : P s)
    (attach : ∀ t, sget s.tags n = some t → t.convs.contains c = false →
      (t.mfeat &&& fData ≠ 0 || t.sfeat &&& fData ≠ 0 || !t.mainT.isEmpty || !t.subT.isEmpty) = false →
      P { setTag s n { t with convs := t.convs ++ [c] } with
          toconv := sins c (union ((sget s.toconv c).getD []) t.mat) s.toconv }) : P (attachConv s n c).1 := by
  unfold attachConv
  split
  · exact idle
  next t ht =>
  split
  · exact idle
  next h1 =>
  split
  · exact idle
  · next h2 => exact attach t ht (by simpa using h1) (by simpa using h2)

theorem attachConv_frame {γ} (g : St → γ) (s : St) (n c : String)
    (h : ∀ s t v, g { s with tags := t, toconv := v } = g s := by intros; rfl) : g (attachConv s n c).1 = g s :=
  attachConv_cases (P := fun x => g x = g s) s n c rfl fun _ _ _ _ => h s ..

theorem startTagging_cases {P : St → Prop} (s : St) (c : Option String)
    (idle : (s.tag = true ∨ ∀ nt ∈ s.tags, eligible s nt.2 = false) → P s)
    (start : ∀ n t b, s.tag = false → (n, t) ∈ s.tags → eligible s t = true → P { (getIndexesCopy s 0).1 with
      tag := true, upd := [], rst := [], add := [], jTag := some (n, t, (getIndexesCopy s 0).2), badChoice := b }) :
    P (startTagging s c) := by
  unfold startTagging
  refine ite_cases P _ (fun h => idle (.inl h)) fun ht => ?_
  have ht : s.tag = false := by simpa using ht
  refine ite_cases P _ (fun h => ?_) fun _ => ?_
  · have h : ∀ a b, (a, b) ∈ s.tags → eligible s b = false := by simpa using h
    exact idle (.inr fun nt hm => h nt.1 nt.2 hm)
  dsimp only
  split
  · split
    · next hf => exact idle (.inr fun nt hm => by simpa using List.find?_eq_none.1 hf nt hm)
    · next n t hf => exact start n t true ht (List.mem_of_find?_eq_some hf) (by simpa using List.find?_some hf)
  · next n t hp =>
    -- the reported choice is taken only if it names an eligible entry of the table
    suffices h : (n, t) ∈ s.tags ∧ eligible s t = true from start n t s.badChoice ht h.1 h.2
    split at hp
    · split at hp
      · next hg =>
        split at hp
        · next he => cases hp; exact ⟨sget_mem _ _ _ hg, he⟩
        · cases hp
      · cases hp
    · cases hp

theorem startTagging_of_tag (s : St) (c : Option String) (h : s.tag = true) : startTagging s c = s :=
  startTagging_cases (P := fun s' => s' = s) s c (fun _ => rfl) fun _ _ _ hf => by rw [h] at hf; cases hf

theorem startTagging_frame {γ} (g : St → γ) (s : St) (c : Option String)
    (h : ∀ s u tg up r a j b,
      g { s with used := u, tag := tg, upd := up, rst := r, add := a, jTag := j, badChoice := b } = g s := by
      intros; rfl) : g (startTagging s c) = g s :=
  startTagging_cases (P := fun x => g x = g s) s c (fun _ => rfl) fun _ _ _ _ _ _ => h s ..

theorem startMerge_cases {P : St → Prop} (s : St) (idle : P s)
    (start : ∀ i, s.merge = false → mergeOffset s = some i →
      P { (getIndexesCopy s i).1 with merge := true, jMerge := some (i, (getIndexesCopy s i).2) }) :
    P (startMerge s) := by
  unfold startMerge
  refine ite_cases P _ (fun _ => idle) fun hm => ite_cases P _ (fun _ => idle) fun _ => ?_
  split
  · exact idle
  · next i hi => exact start i (Bool.eq_false_iff.2 fun e => hm (by rw [e]; rfl)) hi

theorem startMerge_frame {γ} (g : St → γ) (s : St)
    (h : ∀ s u m j, g { s with used := u, merge := m, jMerge := j } = g s := by intros; rfl) :
    g (startMerge s) = g s :=
  startMerge_cases (P := fun x => g x = g s) s rfl fun _ _ _ => h s ..

theorem foldl_toconv {β} (f : St → β → List (String × IdSet)) (l : List β) (X : St) :
    ∃ t, l.foldl (fun s x => { s with toconv := f s x }) X = { X with toconv := t } :=
  foldl_inv (fun s => ∃ t, s = { X with toconv := t }) _ (fun _ _ ⟨_, e⟩ => ⟨_, by rw [e]⟩) l X ⟨X.toconv, rfl⟩

theorem foldl_cached {β} (f : St → β → List (String × IdSet)) (l : List β) (X : St) :
    ∃ t, l.foldl (fun s x => { s with cached := f s x }) X = { X with cached := t } :=
  foldl_inv (fun s => ∃ t, s = { X with cached := t }) _ (fun _ _ ⟨_, e⟩ => ⟨_, by rw [e]⟩) l X ⟨X.cached, rfl⟩

/-- the converter job takes its locks between two changes on the tag side: the queues are emptied before, the
    caches filled after -/
theorem startConverter_cases {P : St → Prop} (s : St)
    (idle : (s.convert = true ∨ ∀ c ∈ s.convs, (sget s.toconv c).getD [] = []) → P s)
    (start : ∀ t c r, s.convert = false →
      P { s with toconv := t, used := lock s.used (s.idx.drop 0), cached := c, convert := true,
                 jConv := some (r, s.idx.drop 0) }) :
    P (startConverter s) := by
  unfold startConverter
  refine ite_cases P _ (fun h => idle (.inl h)) fun hc => ?_
  refine ite_cases P _ (fun h => idle (.inr fun c hc => ?_)) fun _ => ?_
  · simpa using List.filterMap_eq_nil_iff.1 (List.isEmpty_iff.1 h) c hc
  · dsimp only
    obtain ⟨t, e1⟩ := foldl_toconv (fun s (x : String × IdSet) => sins x.1 [] s.toconv)
      (s.convs.filterMap fun c => if ((sget s.toconv c).getD []).isEmpty then none else some (c, (sget s.toconv c).getD [])) s
    rw [e1]
    obtain ⟨c, e2⟩ := foldl_cached _ _ _
    rw [e2]
    exact start _ _ _ (by simpa using hc)

theorem startConverter_frame {γ} (g : St → γ) (s : St)
    (h : ∀ s t u c cv j, g { s with toconv := t, used := u, cached := c, convert := cv, jConv := j } = g s := by
      intros; rfl) : g (startConverter s) = g s :=
  startConverter_cases (P := fun x => g x = g s) s (fun _ => rfl) fun _ _ _ _ => h s ..

theorem jobTail_frame {γ} (g : St → γ) (s : St) (st : Started)
    (h : ∀ s t u c cv j tg up r a jt b m jm,
      g { s with toconv := t, used := u, cached := c, convert := cv, jConv := j, tag := tg, upd := up, rst := r,
                 add := a, jTag := jt, badChoice := b, merge := m, jMerge := jm } = g s := by intros; rfl) :
    g (jobTail s st) = g s :=
  (startMerge_frame g _ fun _ _ _ _ => h ..).trans ((startConverter_frame g _ fun _ _ _ _ _ _ => h ..).trans
    (startTagging_frame g _ _ fun _ _ _ _ _ _ _ _ => h ..))

theorem outputDropped_frame {γ} (g : St → γ) (s : St) (ch : Option String)
    (h : ∀ s t d u tg up r a j b,
      g { s with tags := t, diverged := d, used := u, tag := tg, upd := up, rst := r, add := a, jTag := j,
                 badChoice := b } = g s := by intros; rfl) : g (outputDropped s ch) = g s := by
  unfold outputDropped
  split
  · refine (startTagging_frame g _ _ fun _ _ _ _ _ _ _ _ => h ..).trans ?_
    refine (invalidatedDuringTaggingJob_frame g _ _ fun _ _ => h ..).trans ?_
    exact (inherit_frame g _ fun _ _ _ => h ..).trans (h s ..)
  · rfl

/-- `d`: what the other tags need of the converter's waiting set; `drop`: no other tag needs the converter -/
theorem detachConv_cases {P : St → Prop} (s : St) (n c : String) (ch : Option String)
    (none : sget s.tags n = none → P s)
    (keep : ∀ t d, sget s.tags n = some t →
      P { setTag s n { t with convs := t.convs.filter (· != c) } with
          toconv := sins c (inter ((sget s.toconv c).getD []) d) s.toconv })
    (drop : ∀ t d, sget s.tags n = some t →
      P (outputDropped { setTag s n { t with convs := t.convs.filter (· != c) } with
          toconv := sins c (inter ((sget s.toconv c).getD []) d) s.toconv, cached := sins c [] s.cached } ch)) :
    P (detachConv s n c ch) := by
  unfold detachConv
  split
  · next h => exact none h
  · next t h =>
    dsimp only
    split
    · exact drop t _ h
    · exact keep t _ h

theorem detachConv_frame {γ} (g : St → γ) (s : St) (n c : String) (ch : Option String)
    (h : ∀ s t tc ca d u tg up r a j b,
      g { s with tags := t, toconv := tc, cached := ca, diverged := d, used := u, tag := tg, upd := up, rst := r,
                 add := a, jTag := j, badChoice := b } = g s := by intros; rfl) :
    g (detachConv s n c ch) = g s :=
  detachConv_cases (P := fun x => g x = g s) s n c ch (fun _ => rfl) (fun _ _ _ => h s ..)
    fun _ _ _ => (outputDropped_frame g _ _ fun _ _ _ _ _ _ _ _ _ _ => h ..).trans (h s ..)

theorem markUpdate_frame {γ} (g : St → γ) (s : St) (n : String) (a d : List Nat)
    (h : ∀ s tc t r dv, g { s with toconv := tc, tags := t, rst := r, diverged := dv } = g s := by intros; rfl) :
    g (markUpdate s n a d).1 = g s := by
  have h1 : ∀ s v, g { s with toconv := v } = g s := fun s _ => h s ..
  have h2 : ∀ s v, g { s with tags := v } = g s := fun s _ => h s ..
  unfold markUpdate
  split
  · rfl
  split
  next s' heq =>
  -- the add part only queues the new ids for the tag's converters, whichever definition text it builds
  have hs' : g s' = g s :=
    (congrArg (fun p : Tag × St => g p.2) heq).symm.trans (ite_cases (fun p : Tag × St => g p.2 = g s) _
      (fun _ => rfl) fun _ => ite_cases (fun p : Tag × St => g p.2 = g s) _
        (fun _ => foldl_keep g _ (fun _ _ => h1 ..) _ _) fun _ => foldl_keep g _ (fun _ _ => h1 ..) _ _)
  have hX : ∀ T u, g (invalidatedDuringTaggingJob (inherit (setTag s' n T)) u) = g s := fun T u =>
    (invalidatedDuringTaggingJob_frame g _ _ fun _ _ => h ..).trans
      ((inherit_frame g _ fun _ _ _ => h ..).trans ((h2 ..).trans hs'))
  dsimp only
  split
  · exact (h2 ..).trans (hX ..)
  · exact hX ..

theorem idApply_frame {γ} (g : St → γ) (s : St) (n : Nat) (cr : List (Nat × List Nat)) (u r a : IdSet)
    (h : ∀ s i f nr nx us up rs ad t d c tc,
      g { s with idx := i, files := f, nrec := nr, next := nx, used := us, upd := up, rst := rs, add := ad, tags := t,
                 diverged := d, cached := c, toconv := tc } = g s := by intros; rfl) :
    g (idApply s n cr u r a) = g s := by
  unfold idApply
  split
  · rfl
  · refine (invalidateConverters_frame g _ _ fun _ _ _ => h ..).trans ?_
    refine (invalidateConverters_frame g _ _ fun _ _ _ => h ..).trans ?_
    exact (invalidateTags_frame g _ _ _ _ fun _ _ _ => h ..).trans (h s ..)

theorem qConv_frame {γ} (g : St → γ) (s : St) (cs : List String) (ids : IdSet)
    (h : ∀ s v, g { s with toconv := v } = g s := by intros; rfl) : g (qConv s cs ids) = g s :=
  foldl_keep g _ (fun _ _ => h ..) _ _

theorem idQueue_frame {γ} (g : St → γ) (s : St)
    (h : ∀ s u j p, g { s with used := u, jImport := j, pcaps := p } = g s := by intros; rfl) :
    g (idQueue s) = g s := by
  unfold idQueue
  split
  · rfl
  · exact startImport_frame g _ h

/-- `idle`: the entry is gone or was redefined; `inval`: the invalidations that arrived during the job are
    re-applied after the publication -/
theorem tdPublish_cases {P : St → Prop} (s : St) (name : String) (snap : Tag) (res : IdSet) (idle : P s)
    (publish : ∀ ot, sget s.tags name = some ot → ot.defn = snap.defn → ot.gen = snap.gen →
      P (setTag (qConv s (tdTag snap ot res).convs (tdTag snap ot res).mat) name (tdTag snap ot res)))
    (inval : ∀ X, P X → P (invalidateTags X X.upd X.rst X.add)) : P (tdPublish s name snap res) := by
  unfold tdPublish
  split
  · next ot hot =>
    split
    · next hd =>
      have hd' : ot.defn = snap.defn ∧ ot.gen = snap.gen := by simpa using hd
      unfold tdInval
      split
      · exact publish ot hot hd'.1 hd'.2
      · exact inval _ (publish ot hot hd'.1 hd'.2)
    · exact idle
  · exact idle

theorem tdPublish_frame {γ} (g : St → γ) (s : St) (name : String) (snap : Tag) (res : IdSet)
    (h : ∀ s t d tc, g { s with tags := t, diverged := d, toconv := tc } = g s := by intros; rfl) :
    g (tdPublish s name snap res) = g s :=
  tdPublish_cases (P := fun x => g x = g s) s name snap res rfl
    (fun _ _ _ _ => (h (qConv ..) ..).trans (qConv_frame g _ _ _ fun _ _ => h ..))
    fun _ hX => (invalidateTags_frame g _ _ _ _ fun _ _ _ => h ..).trans hX

theorem mdApply_frame {γ} (g : St → γ) (s : St) (off : Nat) (held : List Nat) (merged : List (Nat × List Nat))
    (h : ∀ s u f i m n, g { s with used := u, files := f, idx := i, unm := m, nrec := n } = g s := by intros; rfl) :
    g (mdApply s off held merged) = g s := by
  unfold mdApply
  split
  · exact h s ..
  · exact (h (release ..) ..).trans (release_frame g _ _ fun _ _ _ => h ..)

theorem cdMark_frame {γ} (g : St → γ) (s : St) (p : String × IdSet)
    (h : ∀ s t u, g { s with tags := t, upd := u } = g s := by intros; rfl) : g (cdMark s p) = g s := by
  unfold cdMark
  split
  · rfl
  · exact h ..

end Pk.Mgr
