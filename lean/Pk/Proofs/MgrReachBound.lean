/- `PB k s`: every stream id the state mentions in a pending set, a match set, a during-job mask, a
   converter queue or a running converter job is below `k`.  `k` is a parameter and not `s.all` because an
   import completion raises `all` first and calls the helpers afterwards: `uncBounded_step`
   (Pk/Props/MgrReach.lean) starts from `PB s.all s`, passes to the `all` after the step (`PB.mono`) and
   reads `C06.UncBounded` and `JobUncBounded` off `pb_step`. -/
import Pk.Proofs.MgrConv
import Pk.Proofs.MgrTagsAll
import Pk.Proofs.MgrTagsStep
namespace Pk.Proofs.MgrReach
open Pk.Mgr Pk.Proofs.MgrTags

def SB (k : Nat) (l : IdSet) : Prop := ∀ id ∈ l, id < k
def TB (k : Nat) (t : Tag) : Prop := SB k t.unc ∧ SB k t.mat

theorem SB_nil (k : Nat) : SB k [] := fun _ h => by cases h
theorem SB_union {k : Nat} {a b : IdSet} (ha : SB k a) (hb : SB k b) : SB k (union a b) := by
  intro id hid
  rcases (mem_union _ _ _).1 hid with e | e
  · exact ha id e
  · exact hb id e
theorem SB_diff {k : Nat} {a : IdSet} (b : IdSet) (ha : SB k a) : SB k (diff a b) :=
  fun id hid => ha id ((mem_diff _ _ _).1 hid).1
theorem SB_inter {k : Nat} {a : IdSet} (b : IdSet) (ha : SB k a) : SB k (inter a b) :=
  fun id hid => ha id ((mem_inter _ _ _).1 hid).1
theorem SB_inter_r {k : Nat} (a : IdSet) {b : IdSet} (hb : SB k b) : SB k (inter a b) :=
  fun id hid => hb id ((mem_inter _ _ _).1 hid).2
theorem SB_range {k n : Nat} (h : n ≤ k) : SB k (rangeSet n) := by
  intro id hid
  have : id < n := by simpa [rangeSet] using hid
  omega
theorem SB_ofList {k : Nat} {l : List Nat} (h : ∀ id ∈ l, id < k) : SB k (ofList l) :=
  fun id hid => h id ((mem_ofList _ _).1 hid)
theorem SB_mono {k k' : Nat} {l : IdSet} (h : SB k l) (hk : k ≤ k') : SB k' l :=
  fun id hid => Nat.lt_of_lt_of_le (h id hid) hk
theorem TB_mono {k k' : Nat} {t : Tag} (h : TB k t) (hk : k ≤ k') : TB k' t :=
  ⟨SB_mono h.1 hk, SB_mono h.2 hk⟩

structure PB (k : Nat) (s : St) : Prop where
  all : s.all ≤ k
  next : s.next ≤ k
  tags : ∀ nt ∈ s.tags, TB k nt.2
  job : ∀ n snap held, s.jTag = some (n, snap, held) → TB k snap
  upd : SB k s.upd
  rst : SB k s.rst
  add : SB k s.add
  toconv : ∀ p ∈ s.toconv, SB k p.2
  jconv : ∀ sets held, s.jConv = some (sets, held) → ∀ p ∈ sets, SB k p.2

/-- the view for the frame lemmas of Pk/Proofs/MgrFrame.lean -/
def PB.view (s : St) := (s.all, s.next, s.tags, s.jTag, s.upd, s.rst, s.add, s.toconv, s.jConv)

theorem PB.congr {k : Nat} {s X : St} (h : PB k s) (e : PB.view X = PB.view s) : PB k X := by
  simp only [PB.view, Prod.mk.injEq] at e
  obtain ⟨e1, e2, e3, e4, e5, e6, e7, e8, e9⟩ := e
  exact ⟨e1 ▸ h.all, e2 ▸ h.next, e3 ▸ h.tags, e4 ▸ h.job, e5 ▸ h.upd, e6 ▸ h.rst, e7 ▸ h.add, e8 ▸ h.toconv,
    e9 ▸ h.jconv⟩

theorem PB.mono {k k' : Nat} {s : St} (h : PB k s) (hk : k ≤ k') : PB k' s :=
  ⟨Nat.le_trans h.all hk, Nat.le_trans h.next hk, fun nt hnt => TB_mono (h.tags nt hnt) hk,
   fun n snap held e => TB_mono (h.job n snap held e) hk, SB_mono h.upd hk, SB_mono h.rst hk,
   SB_mono h.add hk, fun p hp => SB_mono (h.toconv p hp) hk,
   fun sets held e p hp => SB_mono (h.jconv sets held e p hp) hk⟩

theorem PB.tagOf {k : Nat} {s : St} (h : PB k s) {n : String} {t : Tag} (ht : sget s.tags n = some t) : TB k t :=
  h.tags (n, t) (sget_mem _ _ _ ht)

theorem PB.q {k : Nat} {s : St} (h : PB k s) (c : String) : SB k ((sget s.toconv c).getD []) := by
  cases e : sget s.toconv c with
  | none => exact SB_nil k
  | some v => exact h.toconv (c, v) (sget_mem _ _ _ e)

theorem all_sins {α} {P : α → Prop} {l : List (String × α)} (h : ∀ p ∈ l, P p.2) (n : String) (v : α)
    (hv : P v) : ∀ p ∈ sins n v l, P p.2 := by
  intro p hp
  rcases mem_sins _ _ _ _ hp with e | e
  · subst e; exact hv
  · exact h p e

theorem all_map {α} {P : α → Prop} {l : List (String × α)} (h : ∀ p ∈ l, P p.2) (f : String × α → String × α)
    (hf : ∀ p, P p.2 → P (f p).2) : ∀ p ∈ l.map f, P p.2 := by
  intro p hp
  obtain ⟨x, hx, rfl⟩ := List.mem_map.1 hp
  exact hf x (h x hx)

theorem PB.withTag {k : Nat} {s : St} (h : PB k s) (n : String) (t : Tag) (ht : TB k t) : PB k (setTag s n t) :=
  { h with tags := all_sins h.tags n t ht }

theorem PB.tags_eq {k : Nat} {s : St} (h : PB k s) (tags : List (String × Tag)) (ht : ∀ nt ∈ tags, TB k nt.2) :
    PB k { s with tags := tags } := { h with tags := ht }

theorem PB.qset {k : Nat} {s : St} (h : PB k s) (c : String) (v : IdSet) (hv : SB k v) :
    PB k { s with toconv := sins c v s.toconv } :=
  { h with toconv := all_sins h.toconv c v hv }

theorem PB_release {k : Nat} (s : St) (fs : List Nat) (h : PB k s) : PB k (release s fs) :=
  h.congr (release_frame _ s fs)

theorem PB_startMerge {k : Nat} (s : St) (h : PB k s) : PB k (startMerge s) :=
  h.congr (startMerge_frame _ s)

theorem PB_invDuring {k : Nat} (s : St) (ids : IdSet) (hi : SB k ids) (h : PB k s) :
    PB k (invalidatedDuringTaggingJob s ids) := by
  unfold invalidatedDuringTaggingJob
  split
  · exact { h with rst := SB_union h.rst hi }
  · exact h

theorem SB_tagUnc {k : Nat} {tags : List (String × Tag)} (h : ∀ nt ∈ tags, TB k nt.2) (r : String) :
    SB k (tagUnc tags r) := by
  unfold tagUnc
  cases e : sget tags r with
  | none => exact SB_nil k
  | some t => exact (h (r, t) (sget_mem _ _ _ e)).1

theorem TB_inheritOne {k all : Nat} (hk : all ≤ k) {tags : List (String × Tag)} (h : ∀ nt ∈ tags, TB k nt.2)
    (t : Tag) (ht : TB k t) : TB k (inheritOne all tags t) := by
  obtain ⟨u, e, hu⟩ := inheritOne_spec all tags t
  rw [e]
  refine ⟨fun id hid => ?_, ht.2⟩
  have hi := (hu id).1 hid
  split at hi
  · exact Nat.lt_of_lt_of_le hi hk
  · exact hi.elim (ht.1 id) fun ⟨r, _, hr⟩ => SB_tagUnc h r id hr

theorem PB_inherit {k : Nat} (s : St) (h : PB k s) : PB k (inherit s) :=
  ⟨h.all, h.next, inherit_inv s (fun T => ∀ p ∈ T, TB k p.2)
    (fun _ n t hT ht => all_sins hT _ _ (TB_inheritOne h.all hT t (hT (n, t) (sget_mem _ _ _ ht)))) h.tags,
   h.job, h.upd, h.rst, h.add, h.toconv, h.jconv⟩

theorem TB_invF {k all : Nat} (hk : all ≤ k) {upd rst add : IdSet} (hu : SB k upd) (hr : SB k rst) (ha : SB k add)
    (t : Tag) (ht : TB k t) : TB k (invF all upd rst add t) := by
  obtain ⟨u, e, h⟩ := invF_spec all upd rst add t
  rw [e]
  refine ⟨fun id hid => ?_, ht.2⟩
  have := (h id).1 hid
  split at this
  · exact Nat.lt_of_lt_of_le this hk
  · rcases this with h | h | ⟨_, h | ⟨_, h⟩⟩
    · exact ht.1 id h
    · exact ha id h
    · exact hr id h
    · exact hu id h

theorem PB_invalidateTags {k : Nat} (s : St) (upd rst add : IdSet) (hu : SB k upd) (hr : SB k rst) (ha : SB k add)
    (h : PB k s) : PB k (invalidateTags s upd rst add) := by
  rw [invalidateTags_eq]
  exact PB_inherit _ (h.tags_eq _ (all_map h.tags _ fun p hp => TB_invF h.all hu hr ha p.2 hp))

theorem PB_invalidateConverters {k : Nat} (s : St) (u : IdSet) (hu : SB k u) (h : PB k s) :
    PB k (invalidateConverters s u) := by
  unfold invalidateConverters
  refine foldl_inv (PB k) _ (fun s c hs => ?_) _ _ h
  exact { hs with toconv := all_sins hs.toconv c _ (SB_union (hs.q c) (SB_inter _ hu)) }

theorem PB_startTagging {k : Nat} (s : St) (choice : Option String) (h : PB k s) : PB k (startTagging s choice) :=
  startTagging_cases s choice (fun _ => h) fun n t _ _ hm _ =>
    { h with upd := SB_nil k, rst := SB_nil k, add := SB_nil k, job := fun _ _ _ e => by cases e; exact h.tags _ hm }

theorem PB_startConverter {k : Nat} (s : St) (h : PB k s) : PB k (startConverter s) := by
  rcases MgrConv.startConverter_spec s with e | j
  · rw [e]; exact h
  · obtain ⟨sets, hj, hs⟩ := j.job
    rw [j.rest]
    refine { h with toconv := fun p hp => (j.entries p hp).elim (h.toconv p) fun e => e ▸ SB_nil k, jconv := ?_ }
    intro sets' held e p hp
    obtain ⟨rfl, _⟩ := Prod.mk.inj (Option.some.inj (hj.symm.trans e))
    exact ((hs p).1 hp).2.2 ▸ SB_inter _ (SB_diff _ (h.q _))

theorem PB_jobTail {k : Nat} (s : St) (st : Started) (h : PB k s) : PB k (jobTail s st) :=
  PB_startMerge _ (PB_startConverter _ (PB_startTagging _ _ h))

theorem PB_addRefBy {k : Nat} (s : St) (a b : String) (h : PB k s) : PB k (addRefBy s a b) := by
  unfold addRefBy
  split
  · next t ht => exact h.withTag _ _ (h.tagOf ht : TB k t)
  · exact h

theorem PB_delRefBy {k : Nat} (s : St) (a b : String) (h : PB k s) : PB k (delRefBy s a b) := by
  unfold delRefBy
  split
  · next t ht => exact h.withTag _ _ (h.tagOf ht : TB k t)
  · exact h

theorem PB_qConv {k : Nat} (s : St) (cs : List String) (ids : IdSet) (hi : SB k ids) (h : PB k s) :
    PB k (qConv s cs ids) :=
  foldl_inv (PB k) _ (fun _ c hs => hs.qset c _ (SB_union (hs.q c) hi)) _ _ h

theorem PB_attachConv {k : Nat} (s : St) (n c : String) (h : PB k s) : PB k (attachConv s n c).1 :=
  attachConv_cases s n c h fun t ht _ _ =>
    (h.withTag n { t with convs := t.convs ++ [c] } (h.tagOf ht : TB k t)).qset c _
      (SB_union (h.q c) (h.tagOf ht).2)

theorem TB_odF {k all : Nat} (hk : all ≤ k) (t : Tag) (ht : TB k t) : TB k (odF all t) := by
  unfold odF
  split
  · exact ⟨SB_range hk, ht.2⟩
  · exact ht

theorem PB_outputDropped {k : Nat} (s : St) (choice : Option String) (h : PB k s) :
    PB k (outputDropped s choice) := by
  rw [outputDropped_eq]
  split
  · apply PB_startTagging
    have h1 : PB k (inherit { s with tags := s.tags.map fun p => (p.1, odF s.all p.2) }) :=
      PB_inherit _ (h.tags_eq _ (all_map h.tags _ (fun p hp => TB_odF h.all p.2 hp)))
    exact PB_invDuring _ _ (SB_range h.all) h1
  · exact h

theorem PB_detachConv {k : Nat} (s : St) (n c : String) (choice : Option String) (h : PB k s) :
    PB k (detachConv s n c choice) :=
  have h2 : ∀ t d, sget s.tags n = some t → PB k { setTag s n { t with convs := t.convs.filter (· != c) } with
      toconv := sins c (inter ((sget s.toconv c).getD []) d) s.toconv } := fun t _ ht =>
    (h.withTag n { t with convs := t.convs.filter (· != c) } (h.tagOf ht : TB k t)).qset c _ (SB_inter _ (h.q c))
  detachConv_cases s n c choice (fun _ => h) h2 fun t d ht => PB_outputDropped _ _ { h2 t d ht with }

theorem muAdd_PB {k : Nat} (t : Tag) (s : St) (a : List Nat) (ha : SB k a) (ht : TB k t) (h : PB k s) :
    TB k (muAdd t s a).1 ∧ PB k (muAdd t s a).2 := by
  have hf : SB k (muFresh t a) := fun id hid => ha id ((mem_muFresh t a id).1 hid).1
  obtain ⟨d, e⟩ := muAdd_fst t s a
  rw [e, muAdd_snd]
  refine ⟨⟨SB_union ht.1 hf, SB_union ht.2 hf⟩, ?_⟩
  split
  · exact h
  · exact PB_qConv s t.convs _ hf h

theorem muDel_TB {k : Nat} (t : Tag) (d : List Nat) (ht : TB k t) : TB k (muDel t d) := by
  obtain ⟨m, u, df, e, hm, hu⟩ := muDel_spec t d
  rw [e]
  exact ⟨fun x hx => ((hu x).1 hx).elim (ht.1 x) fun h => ht.2 x h.2, fun x hx => ht.2 x ((hm x).1 hx).1⟩

theorem PB_markUpdate {k : Nat} (s : St) (name : String) (a d : List Nat) (ha : SB k a) (h : PB k s) :
    PB k (markUpdate s name a d).1 := by
  rw [markUpdate_eq]
  split
  · exact h
  · next t ht =>
    obtain ⟨h1, h2⟩ := muAdd_PB t s a ha (h.tagOf ht) h
    have ht' := muDel_TB _ d h1
    have h3 := PB_invDuring _ _ ht'.1 (PB_inherit _ (h2.withTag name _ ht'))
    dsimp only
    unfold muFin
    split
    · next t' ht' => exact h3.withTag _ _ ⟨(h.tagOf ht).1, (h3.tagOf ht').2⟩
    · exact h3

theorem TB_atNew {k : Nat} {s : St} (hk : s.all ≤ k) (color defn : String) (f : Facts) (isMark : Bool)
    (hf : ∀ id ∈ f.ids, id < k) : TB k (atNew s color defn f isMark) := by
  cases isMark
  · exact ⟨SB_range hk, SB_nil k⟩
  · exact ⟨SB_nil k, SB_ofList hf⟩

theorem TB_cdF {k all : Nat} (hk : all ≤ k) {ids : IdSet} (hi : SB k ids) (t : Tag) (ht : TB k t) :
    TB k (cdF all ids t) := by
  obtain ⟨u, e, _, h⟩ := cdF_spec all ids t
  rw [e]
  refine ⟨fun id hid => ?_, ht.2⟩
  rcases h id hid with h | h | h
  · exact ht.1 id h
  · exact hi id h
  · exact Nat.lt_of_lt_of_le h hk

theorem PB_cdMark {k : Nat} (s : St) (p : String × IdSet) (hp : SB k p.2) (h : PB k s) : PB k (cdMark s p) := by
  unfold cdMark
  split
  · exact h
  · exact { h with upd := SB_union h.upd hp, tags := all_map h.tags _ fun q hq => TB_cdF h.all hp q.2 hq }

theorem PB_tdPublish {k : Nat} (s : St) (name : String) (snap : Tag) (result : IdSet) (hs : TB k snap)
    (hr : SB k result) (h : PB k s) : PB k (tdPublish s name snap result) :=
  tdPublish_cases (P := PB k) s name snap result h
    (fun ot _ _ _ =>
      have ht : TB k (tdTag snap ot result) := ⟨SB_nil k, SB_union (SB_diff _ hs.2) hr⟩
      (PB_qConv s _ _ ht.2 h).withTag name _ ht)
    fun X hX => PB_invalidateTags X _ _ _ hX.upd hX.rst hX.add hX

theorem PB_idApply {k : Nat} (s : St) (n : Nat) (created : List (Nat × List Nat)) {u r a : IdSet} (hn : n ≤ k)
    (hu : SB k u) (hr : SB k r) (ha : SB k a) (h : PB k s) : PB k (idApply s n created u r a) := by
  unfold idApply
  split
  · exact h
  · refine PB_invalidateConverters _ _ hr (PB_invalidateConverters _ _ hu (PB_invalidateTags _ _ _ _ hu hr ha ?_))
    exact { h with next := hn, upd := SB_union h.upd hu, rst := SB_union h.rst hr, add := SB_union h.add ha }

theorem PB_idQueue {k : Nat} (s : St) (h : PB k s) : PB k (idQueue s) :=
  h.congr (idQueue_frame _ s)

/-- what `pb_step` asks of the payload; `uncBounded_step` derives it from `IdsOK` and `C16.MatOK` -/
def BOK (k : Nat) (s : St) : Ev → Prop
  | .tagDone _ result => ∀ id ∈ result, id < k
  | .addTag _ _ _ f => ∀ id ∈ f.ids, id < k
  | .importDone _ usednew _ upd rst add => ∀ jn held, s.jImport = some (jn, held) →
      jn + usednew ≤ k ∧ (∀ id ∈ upd, id < k) ∧ (∀ id ∈ rst, id < k) ∧ (∀ id ∈ add, id < k)
  | _ => True

theorem pb_step {k : Nat} (s : St) (e : Ev) (st : Started) (h : PB k s) (hok : BOK k s e) : PB k (step s e st).1 := by
  cases e with
  | nop => exact h
  | importPcaps names =>
    -- `{ h with }` is `h` at a state that differs in fields `PB` does not read: every field is checked by unfolding
    exact step_importPcaps_cases (P := fun (s', _) => PB k s') s names st h (fun _ _ => { h with }) fun _ _ => { h with }
  | importDone processed usednew created upd rst add =>
    refine step_importDone_cases (P := fun (s', _) => PB k s') s processed usednew created upd rst add st
      (fun _ => h) fun jn held hj => ?_
    obtain ⟨hle, hu, hr, ha⟩ := hok jn held hj
    have hB := PB_idApply _ (jn + usednew) created hle (SB_ofList hu) (SB_ofList hr) (SB_ofList ha)
      (PB_release { s with all := jn + usednew, jImport := none } held { h with all := hle })
    exact PB_jobTail _ _ (PB_idQueue _ { hB with })
  | tagDone name result =>
    refine step_tagDone_cases (P := fun (s', _) => PB k s') s name result st (fun _ => h)
      (fun _ _ _ _ _ => { h with }) fun snap held hj => ?_
    have := PB_tdPublish { s with jTag := none } name snap (ofList result) (h.job _ _ _ hj) (SB_ofList hok)
      { h with job := fun _ _ _ e => by cases e }
    exact PB_release _ _ (PB_jobTail _ _ { this with })
  | mergeDone merged =>
    refine step_mergeDone_cases (P := fun (s', _) => PB k s') s merged st (fun _ => h) fun off held _ => ?_
    have h0 : PB k (mdApply { s with jMerge := none } off held merged) :=
      PB.congr (s := { s with jMerge := none }) { h with }
        (mdApply_frame _ _ off held merged)
    exact PB_release _ _ (PB_startMerge _ { h0 with })
  | convertDone =>
    refine step_convertDone_cases (P := fun (s', _) => PB k s') s st (fun _ => h) fun sets held hj => ?_
    refine PB_release _ _ (PB_startConverter _ (PB_startTagging _ _ (PB_inherit _ ?_)))
    exact foldl_inv_mem (PB k) cdMark sets (fun s' p hp hs' => PB_cdMark s' p (h.jconv sets held hj p hp) hs') _
      { h with jconv := fun _ _ e => by cases e }
  | addTag name color defn f =>
    refine step_addTag_cases (P := fun (s', _) => PB k s') s name color defn f st h fun _ => ?_
    refine foldl_inv (PB k) _ (fun s r hs => PB_addRefBy s r name hs) _ _ ?_
    have h1 := PB.withTag (s := { s with ngen := s.ngen + 1 }) { h with } name _
      (TB_atNew h.all color defn f (parseTagName name).2.2 hok)
    split
    · exact h1
    · exact PB_startTagging _ _ h1
  | updQuery name defn f =>
    refine step_updQuery_cases (P := fun (s', _) => PB k s') s name defn f st h fun t _ => ?_
    refine PB_startConverter _ (PB_startTagging _ _ ?_)
    suffices hX : PB k (inherit (setTag (uqRefs s name t.refs (uqNew defn f t s.all).refs) name (uqNew defn f t s.all))) from
      PB_invDuring _ _ (SB_range hX.all) hX
    refine PB_inherit _ (PB.withTag ?_ _ _ ⟨SB_range h.all, SB_nil k⟩)
    exact foldl_inv (PB k) _ (fun s r hs => PB_addRefBy s r name hs) _ _
      (foldl_inv (PB k) _ (fun s r hs => PB_delRefBy s r name hs) _ _ h)
  | updColor name color =>
    exact step_updColor_cases (P := fun (s', _) => PB k s') s name color st h h fun t ht =>
      h.withTag _ _ (h.tagOf ht : TB k t)
  | updName name new =>
    refine step_updName_cases (P := fun (s', _) => PB k s') s name new st h (fun _ _ _ => h) fun t ok => ?_
    refine foldl_inv (PB k) _ (fun s r hs => PB_addRefBy _ r new (PB_delRefBy s r name hs)) _ _ ?_
    exact h.tags_eq _ (all_sins (fun p hp => h.tags p (List.mem_filter.1 hp).1) new t (h.tagOf ok.found))
  | updConv name convs =>
    refine step_updConv_cases (P := fun (s', _) => PB k s') s name convs st h fun t _ _ => ?_
    exact PB_startConverter _ (foldl_inv (PB k) _ (fun s c hs => PB_attachConv s name c hs) _ _
      (foldl_inv (PB k) _ (fun s c hs => PB_detachConv s name c st.tag hs) _ _ h))
  | markAdd name ids =>
    refine step_markAdd_cases (P := fun (s', _) => PB k s') s name ids st h (fun _ _ _ => h) fun t ok => ?_
    refine PB_startConverter _ (PB_startTagging _ _ (PB_markUpdate _ _ _ _ (fun id hid => ?_) h))
    exact Nat.lt_of_le_of_lt (Pk.Lib.le_foldl_max ids 0 id (Or.inl hid)) (Nat.lt_of_lt_of_le ok.known h.next)
  | markDel name ids =>
    exact step_markDel_cases (P := fun (s', _) => PB k s') s name ids st h (fun _ _ _ => h) fun t _ =>
      PB_startConverter _ (PB_startTagging _ _ (PB_markUpdate _ _ _ _ (SB_nil k) h))
  | delTag name =>
    refine step_delTag_cases (P := fun (s', _) => PB k s') s name st h fun t _ _ => ?_
    refine foldl_inv (PB k) _ (fun s r hs => PB_delRefBy s r name hs) _ _ ?_
    have h1 := foldl_inv (PB k) _ (fun s c hs => PB_detachConv s name c st.tag hs) t.convs s h
    exact h1.tags_eq _ fun p hp => h1.tags p (List.mem_filter.1 hp).1
  | viewOpen v => exact step_viewOpen_cases (P := fun (s', _) => PB k s') s v st h fun _ _ => { h with }
  | viewRelease v =>
    exact step_viewRelease_cases (P := fun (s', _) => PB k s') s v st h fun _ _ =>
      PB_release { s with views := ndel s.views v } _ { h with }

end Pk.Proofs.MgrReach
