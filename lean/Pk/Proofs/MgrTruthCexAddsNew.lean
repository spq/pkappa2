/-
  MgrTruthCexAddsNew — the payload contract `ImportAddsNew` (Pk/Props/C06ReachSpec.lean) cannot be dropped.

  Witness: the state reached from the initial state by `addTag tag/x "sport:80"` and `importPcaps ["a.pcap"]`
  (one tag with `mat = unc = []` and identity `gen = 0`, `ngen = 1`, `next = all = 0`, the import job in flight),
  and the completion
  `importDone 1 1 [(0,[0])] [] [] []`: one file holding the new stream 0, one new id, NOTHING reported as added.
  Every other contract of the step theorem holds (`Good`, `PayloadOK`, `EvFeatOK`, `TruthStep`, `ResultOK`,
  `JobTextOK`), but afterwards `next = 1` and tag/x decides stream 0 ("no") although the truth is "yes" and
  nobody evaluated it.
-/
import Pk.Proofs.MgrTruthRun

namespace Pk.Props.C06Reach
open Pk.Mgr Pk.Props.MgrReach Pk.Proofs.MgrTruth Pk.Proofs.MgrTags

def cexTag : Tag := { defn := "sport:80", mainT := [], subT := [], mfeat := 4, sfeat := 0, gen := 0 }
def cexSt : St :=
  { tags := [("tag/x", cexTag)], queue := ["a.pcap"], pcaps := ["a.pcap"], jImport := some (0, []), ngen := 1 }
def cexEv : Ev := .importDone 1 1 [(0, [0])] [] [] []
def cexT : Truth := fun _ _ => true

/-- `cexSt` is the state of the example run after its second event -/
theorem cex_good : Good cexSt cexT cexT := good_of_check (by decide +kernel)

theorem cex_truth : TruthStep cexSt cexEv cexT cexT := by
  refine ⟨fun _ n t _ id _ => rfl, fun _ => ?_⟩
  show ChangesIn cexSt (0 + 1) _ cexT cexT
  intro n t _ id _ hne
  exact absurd rfl hne

theorem cex_not_inv : ¬ C06.Inv (step cexSt cexEv {}).1 cexT := by
  intro h
  have h12 : sget (step cexSt cexEv {}).1.tags "tag/x" = some cexTag ∧ 0 < (step cexSt cexEv {}).1.next := by
    decide +kernel
  have := (h "tag/x" cexTag h12.1 0 h12.2 (by intro h; cases h)).2 rfl
  cases this

/-- the witness does violate the contract that is being dropped -/
theorem cex_not_addsNew : ¬ ImportAddsNew cexSt cexEv := by
  intro h
  have := h 0 [] rfl 0 (Nat.le_refl _) (by decide)
  cases this

/-- `decided_correct_step` without `ImportAddsNew` is false -/
theorem importAddsNew_counterexample :
    ¬ (∀ (s : St) (e : Ev) (st : Started) (T T' g : Truth), Good s T g → PayloadOK s e → EvFeatOK e →
        TruthStep s e T T' → ResultOK s e g → JobTextOK s e st T T' → C06.Inv (step s e st).1 T') := by
  intro h
  exact cex_not_inv (h cexSt cexEv {} cexT cexT cexT cex_good (payloadOK_of_check (by decide +kernel)) trivial cex_truth trivial
    (fun _ _ _ hj => by cases hj))

end Pk.Props.C06Reach
