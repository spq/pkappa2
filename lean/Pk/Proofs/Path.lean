/-
  C19: `Clean` keeps only `Good` components on its stack, so a plain name appended to a non-empty path
  is appended to the cleaned path (`clean_append_child`); `join_append_plain` follows.  Then `Base`: its value on a
  child, its fixed points; and the two route regexes, which only match names of six bytes or more.
-/
import Pk.Model.Path

namespace Pk.Path

theorem splitAux_noslash (n : P) (h : '/' ∉ n) : splitAux n = (n, []) := by
  induction n with
  | nil => rfl
  | cons c cs ih =>
    have hc : c ≠ '/' := fun e => h (by simp [e])
    have hcs : '/' ∉ cs := fun m => h (List.mem_cons_of_mem _ m)
    simp [splitAux, ih hcs, hc]

theorem splitAux_append_slash (a n : P) (h : '/' ∉ n) :
    splitAux (a ++ '/' :: n) = ((splitAux a).1, (splitAux a).2 ++ [n]) := by
  induction a with
  | nil => simp [splitAux, splitAux_noslash n h]
  | cons c cs ih =>
    by_cases hc : c = '/'
    · simp [splitAux, ih, hc]
    · simp [splitAux, ih, hc]

theorem split_append_slash (a n : P) (h : '/' ∉ n) : split (a ++ '/' :: n) = split a ++ [n] := by
  simp [split, splitAux_append_slash a n h]

theorem split_noslash (n : P) (h : '/' ∉ n) : split n = [n] := by
  simp [split, splitAux_noslash n h]

theorem splitAux_parts_noslash (s : P) :
    '/' ∉ (splitAux s).1 ∧ ∀ c ∈ (splitAux s).2, '/' ∉ c := by
  induction s with
  | nil => simp [splitAux]
  | cons c cs ih =>
    by_cases hc : c = '/'
    · simp only [splitAux, hc, if_true]
      refine ⟨by simp, ?_⟩
      intro x hx
      rcases List.mem_cons.mp hx with rfl | hx
      · exact ih.1
      · exact ih.2 x hx
    · simp only [splitAux, hc, if_false]
      refine ⟨?_, ih.2⟩
      intro hm
      rcases List.mem_cons.mp hm with e | hm
      · exact hc e.symm
      · exact ih.1 hm

theorem split_parts_noslash (s : P) : ∀ c ∈ split s, '/' ∉ c := by
  intro c hc
  have := splitAux_parts_noslash s
  rcases List.mem_cons.mp hc with rfl | hc
  · exact this.1
  · exact this.2 c hc

theorem joinSlash_append_singleton (l : List P) (n : P) (h : l ≠ []) :
    joinSlash (l ++ [n]) = joinSlash l ++ '/' :: n := by
  induction l with
  | nil => exact absurd rfl h
  | cons a t ih =>
    cases t with
    | nil => simp [joinSlash]
    | cons b t' =>
      have := ih (by simp)
      simp only [List.cons_append] at this ⊢
      simp [joinSlash, this]

theorem joinSlash_cons_ne_nil (a : P) (t : List P) (h : a ≠ []) : joinSlash (a :: t) ≠ [] := by
  cases t with
  | nil => simpa [joinSlash] using h
  | cons b t' => simp [joinSlash, h]

/-- what `Clean` keeps on its stack: real elements or "..", never empty, ".", or containing '/' -/
def Good (c : P) : Prop := c ≠ [] ∧ c ≠ ['.'] ∧ '/' ∉ c

theorem cleanStep_good (r : Bool) (st : List P × Nat) (c : P) (hc : '/' ∉ c)
    (h : ∀ x ∈ st.1, Good x) : ∀ x ∈ (cleanStep r st c).1, Good x := by
  unfold cleanStep
  by_cases h1 : c = []
  · rw [if_pos h1]; exact h
  rw [if_neg h1]
  by_cases h2 : c = ['.']
  · rw [if_pos h2]; exact h
  rw [if_neg h2]
  have happ : ∀ x ∈ st.1 ++ [c], Good x := by
    intro x hx
    rcases List.mem_append.mp hx with hx | hx
    · exact h x hx
    · rw [List.mem_singleton.1 hx]; exact ⟨h1, h2, hc⟩
  by_cases h3 : c = ['.', '.']
  · rw [if_pos h3]
    by_cases h4 : st.2 < st.1.length
    · rw [if_pos h4]; exact fun x hx => h x (List.dropLast_subset _ hx)
    · rw [if_neg h4]
      by_cases hr : r = true
      · rw [if_pos hr]; exact h
      · rw [if_neg hr]; exact h3 ▸ happ
  · rw [if_neg h3]; exact happ

theorem foldl_cleanStep_good (r : Bool) (cs : List P) (st : List P × Nat)
    (hcs : ∀ c ∈ cs, '/' ∉ c) (h : ∀ x ∈ st.1, Good x) :
    ∀ x ∈ (cs.foldl (cleanStep r) st).1, Good x := by
  induction cs generalizing st with
  | nil => simpa using h
  | cons c t ih =>
    simp only [List.foldl_cons]
    exact ih _ (fun x hx => hcs x (List.mem_cons_of_mem _ hx))
      (cleanStep_good r st c (hcs c (by simp)) h)

theorem cleanStep_plain (r : Bool) (st : List P × Nat) (n : P) (h : plain n) :
    cleanStep r st n = (st.1 ++ [n], st.2) := by
  obtain ⟨h1, _, h3, h4⟩ := h
  simp [cleanStep, h1, h3, h4]

theorem joinSlash_good (l : List P) (hl : l ≠ []) (h : ∀ x ∈ l, Good x) :
    joinSlash l ≠ [] ∧ joinSlash l ≠ ['/'] ∧ joinSlash l ≠ ['.'] := by
  cases l with
  | nil => exact absurd rfl hl
  | cons a t =>
    obtain ⟨ha1, ha2, ha3⟩ := h a (by simp)
    cases t with
    | nil =>
      refine ⟨by simpa [joinSlash] using ha1, ?_, by simpa [joinSlash] using ha2⟩
      intro e
      simp [joinSlash] at e
      exact ha3 (by simp [e])
    | cons b t' =>
      cases a with
      | nil => exact absurd rfl ha1
      | cons x xs => simp [joinSlash]

theorem isRooted_append (D s : P) (h : D ≠ []) : isRooted (D ++ s) = isRooted D := by
  cases D with
  | nil => exact absurd rfl h
  | cons a t => simp [isRooted]

theorem clean_append_child (D n : P) (hD : D ≠ []) (hn : plain n) :
    clean (D ++ '/' :: n) = child (clean D) n := by
  have hns : '/' ∉ n := hn.2.1
  have hne : D ++ '/' :: n ≠ [] := by simp
  have hgood := foldl_cleanStep_good (isRooted D) (split D) ([], 0) (split_parts_noslash D) (by simp)
  simp only [clean, hne, hD, if_false, isRooted_append D _ hD, split_append_slash D n hns,
    List.foldl_append, List.foldl_cons, List.foldl_nil, cleanStep_plain _ _ n hn]
  generalize (split D).foldl (cleanStep (isRooted D)) ([], 0) = st at hgood
  by_cases hr : isRooted D = true
  · simp only [hr, if_true]
    by_cases hs : st.1 = []
    · simp [hs, joinSlash, child]
    · obtain ⟨g1, _, _⟩ := joinSlash_good st.1 hs hgood
      rw [joinSlash_append_singleton _ _ hs]
      simp [child, g1]
  · simp only [hr]
    by_cases hs : st.1 = []
    · simp [hs, joinSlash, child]
    · obtain ⟨g1, g2, g3⟩ := joinSlash_good st.1 hs hgood
      rw [joinSlash_append_singleton _ _ hs]
      simp [child, hs, g1, g2, g3]

theorem clean_plain (n : P) (hn : plain n) : clean n = n := by
  obtain ⟨h1, h2, h3, h4⟩ := hn
  have hr : isRooted n = false := by
    cases n with
    | nil => exact absurd rfl h1
    | cons a t =>
      have : a ≠ '/' := fun e => h2 (by simp [e])
      simp [isRooted, this]
  simp [clean, h1, hr, split_noslash n h2, cleanStep, h3, h4, joinSlash]

theorem join_nil_cons (l : List P) : join ([] :: l) = join l := by
  simp [join, List.dropWhile]

theorem join_cons_of_ne (d : P) (l : List P) (h : d ≠ []) : join (d :: l) = clean (joinSlash (d :: l)) := by
  simp [join, List.dropWhile, h]

theorem join_append_plain (ds : List P) (n : P) (hn : plain n) :
    join (ds ++ [n]) = child (join ds) n := by
  induction ds with
  | nil =>
    simp only [List.nil_append]
    rw [join_cons_of_ne n [] hn.1]
    simp [joinSlash, clean_plain n hn, join, child]
  | cons d t ih =>
    by_cases hd : d = []
    · subst hd
      simp only [List.cons_append]
      rw [join_nil_cons, join_nil_cons, ih]
    · simp only [List.cons_append]
      rw [join_cons_of_ne d _ hd, join_cons_of_ne d _ hd]
      have : joinSlash (d :: (t ++ [n])) = joinSlash (d :: t) ++ '/' :: n := by
        have := joinSlash_append_singleton (d :: t) n (by simp)
        simpa using this
      rw [this]
      exact clean_append_child _ n (joinSlash_cons_ne_nil d t hd) hn

/-- `hp`: `pre` is empty or ends in a separator -/
theorem base_append (pre n : P) (h1 : n ≠ []) (h2 : '/' ∉ n)
    (hp : pre.reverse.takeWhile (· ≠ '/') = []) : base (pre ++ n) = n := by
  have hr : ∀ x ∈ n.reverse, x ≠ '/' := fun x hx e => h2 (e ▸ List.mem_reverse.mp hx)
  have hd : (n.reverse ++ pre.reverse).dropWhile (· = '/') = n.reverse ++ pre.reverse := by
    cases hn : n.reverse with
    | nil => exact absurd (List.reverse_eq_nil_iff.mp hn) h1
    | cons x xs => exact List.dropWhile_cons_of_neg (by simpa using hr x (by simp [hn]))
  have ht := List.takeWhile_append_of_pos (p := (· ≠ '/')) (l₁ := n.reverse) (l₂ := pre.reverse) (by simpa using hr)
  simp only [base, List.reverse_append, hd, ht, hp, List.append_nil, List.reverse_reverse]
  simp [h1]

theorem base_of_noslash (n : P) (h1 : n ≠ []) (h2 : '/' ∉ n) : base n = n :=
  base_append [] n h1 h2 rfl

theorem base_child (d n : P) (h1 : n ≠ []) (h2 : '/' ∉ n) : base (child d n) = n := by
  unfold child
  split
  · exact base_of_noslash n h1 h2
  · split
    · exact base_of_noslash n h1 h2
    · split
      · exact base_append ['/'] n h1 h2 rfl
      · rw [List.append_cons]; exact base_append _ n h1 h2 (by simp)

theorem base_fixed (n : P) (h : base n = n) : n = ['/'] ∨ (n ≠ [] ∧ '/' ∉ n) := by
  by_cases hn : n = []
  · subst hn; simp [base] at h
  · simp only [base, hn, if_false] at h
    split at h
    · exact Or.inl h.symm
    · right
      refine ⟨hn, ?_⟩
      rw [← h]
      intro hm
      have := List.all_eq_true.1 (List.all_takeWhile (p := (· ≠ '/'))) '/' (List.mem_reverse.mp hm)
      simp at this

theorem stripPrefix_some (a s r : P) (h : stripPrefix a s = some r) : s = a ++ r := by
  induction a generalizing s with
  | nil => simp [stripPrefix] at h; simp [h]
  | cons x xs ih =>
    cases s with
    | nil => simp [stripPrefix] at h
    | cons y ys =>
      by_cases e : x = y
      · simp [stripPrefix, e] at h
        simp [e, ih ys h]
      · simp [stripPrefix, e] at h

theorem stripSuffix_some (suf s p : P) (h : stripSuffix suf s = some p) : s = p ++ suf := by
  unfold stripSuffix at h
  cases hq : stripPrefix suf.reverse s.reverse with
  | none => simp [hq] at h
  | some q =>
    simp [hq] at h
    have := stripPrefix_some _ _ _ hq
    have h2 : s = (suf.reverse ++ q).reverse := by rw [← this]; simp
    rw [h2, ← h]; simp

/-- both route regexes: a non-empty text before a literal of five bytes or more -/
theorem stripSuffix_len {suf s p : P} (h : stripSuffix suf s = some p) (hp : p ≠ []) (hs : 5 ≤ suf.length) :
    6 ≤ s.length := by
  have := List.length_pos_iff.2 hp
  rw [stripSuffix_some _ _ _ h, List.length_append]
  omega

theorem matchUploadRegex_len (s : P) (h : matchUploadRegex s = true) : 6 ≤ s.length := by
  unfold matchUploadRegex at h
  simp only [Bool.or_eq_true] at h
  rcases h with h | h
  · cases hp : stripSuffix dotPcap s with
    | none => simp [hp] at h
    | some p =>
      simp [hp] at h
      exact stripSuffix_len hp h.1 (by decide)
  · cases hp : stripSuffix dotPcapng s with
    | none => simp [hp] at h
    | some p =>
      simp [hp] at h
      exact stripSuffix_len hp h.1 (by decide)

theorem matchDownloadRegex_len (s : P) (h : matchDownloadRegex s = true) : 6 ≤ s.length := by
  unfold matchDownloadRegex at h
  cases hp : stripSuffix dotPcap s with
  | none => simp [hp] at h
  | some p =>
    simp [hp] at h
    exact stripSuffix_len hp h.1 (by decide)

theorem plain_of_len (n : P) (h1 : '/' ∉ n) (h2 : 6 ≤ n.length) : plain n := by
  refine ⟨?_, h1, ?_, ?_⟩ <;> (intro e; subst e; simp at h2)

end Pk.Path
