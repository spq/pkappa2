/-
  `Stream.Packets` on the records of a stream: the walk without the has-next bit (`walkAll`) over the groups of
  records, one per source reference, then over the raw records of a whole stream from the well-formedness of its input
  (`walkAll_stream`; helper lemmas for C01Full `roundtrip_packets'`).  The records appended differ from the raw ones in
  the skip counters and the last has-next bit only (`streamRecs_core`), which neither `walkAll` nor the payload sums read.
-/
import Pk.Proofs.IndexFormatFullWriter
import Pk.Proofs.IndexFormatSkip
namespace Pk.Index
open Pk Pk.Bytes

/-- `packetsWalk` over ALL records given: what `Stream.Packets` does while the has-next bit is set -/
def walkAll (imports : List (Bytes × Nat)) : Int → Option (Nat × Nat) → Nat → List PacketRec → Except Fail (List PacketOut)
  | _, _, _, [] => .ok []
  | refTime, last, lastRel, p :: ps =>
    let isNew := last ≠ some (p.imp, p.idx)
    match (if isNew then imports[p.imp]? else some default) with
    | none => .error .panic
    | some im =>
      let refTime' := if isNew ∧ p.rel < lastRel then refTime + wrapNs else refTime
      let lastRel' := if isNew then p.rel else lastRel
      let out := if isNew then
          [({ file := im.1, index := (im.2 + p.idx) % 2 ^ 64, dir := if p.flags / 2 % 2 = 0 then 0 else 1,
              ts := refTime' + (p.rel : Int) * 1000 } : PacketOut)] else []
      match walkAll imports refTime' (some (p.imp, p.idx)) lastRel' ps with
        | .error e => .error e
        | .ok r => .ok (out ++ r)

/-- what `walkAll` and the payload sums read of a record; the skip pass and the has-next bit leave it alone -/
def core (p : PacketRec) : Nat × Nat × Nat × Nat × Nat := (p.imp, p.idx, p.rel, p.flags / 2 % 2, p.size)

theorem walkAll_congr (imports : List (Bytes × Nat)) (l : List PacketRec) : ∀ (l' : List PacketRec), l.map core = l'.map core →
    ∀ (rt : Int) (last : Option (Nat × Nat)) (lr : Nat), walkAll imports rt last lr l = walkAll imports rt last lr l' := by
  induction l with
  | nil => intro l' h; cases l' with | nil => intros; rfl | cons q t' => cases h
  | cons p t ih =>
    intro l' h rt last lr
    cases l' with
    | nil => cases h
    | cons q t' =>
      simp only [List.map_cons, List.cons.injEq, core, Prod.mk.injEq] at h
      obtain ⟨⟨h1, h2, h3, h4, _⟩, ht⟩ := h
      simp only [walkAll, h1, h2, h3, h4, ih t' ht]

/-- one source reference of a packet, with the packet and its payload size: the writer emits one group of records for it
    (`grp`, one record per piece of `splitSizes`), the reader returns one entry (`outOf`) -/
abbrev Trip := PacketIn × SrcRef × Nat

def trips (data : List ChunkIn) : Nat → List PacketIn → List Trip
  | _, [] => []
  | k, p :: ps => p.pmds.map (fun r => (p, r, chunkSize data k)) ++ trips data (k + 1) ps

def mkRec (i x ρ fl sz : Nat) : PacketRec := { imp := i, idx := x, rel := ρ, size := sz, skip := 255, flags := fl }

def Trip.mu (ts0 : Int) (t : Trip) : Int := (t.1.ts - ts0).tdiv 1000
def Trip.fl (t : Trip) : Nat := 1 + (if t.1.dir = 0 then 0 else 2)
def Trip.ik (imports : List ImportKey) (t : Trip) : Nat × Nat := (imports.idxOf t.2.1.key, t.2.1.index % 2 ^ 32)

def grp (imports : List ImportKey) (ts0 : Int) (t : Trip) : List PacketRec :=
  (splitSizes t.2.2).map (mkRec (t.ik imports).1 (t.ik imports).2 (u32 (t.mu ts0)) t.fl)

def outOf (ts0 : Int) (t : Trip) : PacketOut :=
  { file := t.2.1.file, index := t.2.1.index, dir := t.1.dir, ts := ts0 + t.mu ts0 * 1000 }

theorem allRecords_trips (imports : List ImportKey) (ts0 : Int) (data : List ChunkIn) (ps : List PacketIn) : ∀ (k : Nat),
    allRecords imports ts0 data k ps = ((trips data k ps).map (grp imports ts0)).flatten := by
  induction ps with
  | nil => intro k; rfl
  | cons p ps ih =>
    intro k
    simp only [allRecords, trips, List.map_append, List.flatten_append, ih]
    congr 1
    simp only [packetRecords, List.map_map]
    rfl

theorem splitSizes_ne (n : Nat) : splitSizes n ≠ [] := by
  unfold splitSizes
  cases n with
  | zero => simp [splitAux]
  | succ n => simp only [splitAux]; split <;> simp

def grpOut (im : Bytes × Nat) (x ρ fl : Nat) (rt : Int) : PacketOut :=
  { file := im.1, index := (im.2 + x) % 2 ^ 64, dir := if fl / 2 % 2 = 0 then 0 else 1, ts := rt + (ρ : Int) * 1000 }

theorem walkAll_same (imports : List (Bytes × Nat)) (i x ρ fl : Nat) (X : List PacketRec) (rt : Int) (szs : List Nat) :
    walkAll imports rt (some (i, x)) ρ (szs.map (mkRec i x ρ fl) ++ X) = walkAll imports rt (some (i, x)) ρ X := by
  induction szs with
  | nil => rfl
  | cons a t ih =>
    simp only [List.map_cons, List.cons_append, walkAll, mkRec, ne_eq, not_true_eq_false, if_false, false_and] at ih ⊢
    rw [ih]
    cases walkAll imports rt (some (i, x)) ρ X <;> simp

theorem walkAll_grp (imports : List (Bytes × Nat)) (im : Bytes × Nat) (i x ρ fl : Nat) (X : List PacketRec)
    (rt : Int) (last : Option (Nat × Nat)) (lr : Nat) (szs : List Nat) (hne : szs ≠ [])
    (hnew : last ≠ some (i, x)) (him : imports[i]? = some im) :
    walkAll imports rt last lr (szs.map (mkRec i x ρ fl) ++ X) =
      match walkAll imports (if ρ < lr then rt + wrapNs else rt) (some (i, x)) ρ X with
      | .error e => .error e
      | .ok r => .ok (grpOut im x ρ fl (if ρ < lr then rt + wrapNs else rt) :: r) := by
  cases szs with
  | nil => exact absurd rfl hne
  | cons a t =>
    have hw := walkAll_same imports i x ρ fl X (if ρ < lr then rt + wrapNs else rt) t
    simp only [List.map_cons, List.cons_append, walkAll]
    simp only [mkRec] at hw ⊢
    simp only [ne_eq, hnew, not_false_eq_true, if_true, him, true_and, hw]
    cases walkAll imports (if ρ < lr then rt + wrapNs else rt) (some (i, x)) ρ X <;> simp [grpOut] <;> rfl

def MuChain : Int → List Int → Prop
  | _, [] => True
  | a, b :: l => a ≤ b ∧ b - a < 2 ^ 32 ∧ MuChain b l

theorem u32_eq (x : Int) : u32 x = (x % 2 ^ 32).toNat := rfl

/-- the reader's wrap detection: coming from a record at `mp` µs (reference time `ts0` plus the wraps of `mp`, last
    relative time `mp mod 2^32`), a record at `μ` µs less than 2^32 µs later gets the reference time with the wraps of `μ` -/
theorem wrap_step (ts0 mp μ : Int) (h1 : mp ≤ μ) (h2 : μ - mp < 2 ^ 32) :
    (if u32 μ < (mp % 2 ^ 32).toNat then ts0 + wrapNs * (mp / 2 ^ 32) + wrapNs else ts0 + wrapNs * (mp / 2 ^ 32)) =
      ts0 + wrapNs * (μ / 2 ^ 32) := by
  rw [u32_eq]
  unfold wrapNs
  split <;> omega

theorem wrap_ts (ts0 μ : Int) : ts0 + wrapNs * (μ / 2 ^ 32) + ((u32 μ : Nat) : Int) * 1000 = ts0 + μ * 1000 := by
  rw [u32_eq]
  unfold wrapNs
  omega

theorem grpOut_eq (imps : List ImportKey) (ts0 : Int) (t : Trip) (hidx : t.2.1.index < 2 ^ 64) (hdir : t.1.dir < 2) :
    grpOut t.2.1.key (t.ik imps).2 (u32 (t.mu ts0)) t.fl (ts0 + wrapNs * (t.mu ts0 / 2 ^ 32)) = outOf ts0 t := by
  have e2 : (t.2.1.index / 2 ^ 32 * 2 ^ 32 + t.2.1.index % 2 ^ 32) % 2 ^ 64 = t.2.1.index := by omega
  have e3 : (if t.fl / 2 % 2 = 0 then 0 else 1) = t.1.dir := by
    unfold Trip.fl
    by_cases hd : t.1.dir = 0
    · simp [hd]
    · have : t.1.dir = 1 := by omega
      simp [this]
  simp only [grpOut, outOf, Trip.ik, SrcRef.key, e2, e3]
  rw [wrap_ts]

theorem walkAll_trips (imps : List ImportKey) (ts0 : Int) (T : List Trip) :
    ∀ (mp : Int) (last : Option (Nat × Nat)),
    (∀ t ∈ T, t.2.1.key ∈ imps ∧ t.2.1.index < 2 ^ 64 ∧ t.1.dir < 2) →
    MuChain mp (T.map (Trip.mu ts0)) →
    (∀ t ∈ T, last ≠ some (t.ik imps)) → T.Pairwise (fun a b => a.ik imps ≠ b.ik imps) →
    walkAll imps (ts0 + wrapNs * (mp / 2 ^ 32)) last (mp % 2 ^ 32).toNat ((T.map (grp imps ts0)).flatten) =
      .ok (T.map (outOf ts0)) := by
  induction T with
  | nil => intro mp last _ _ _ _; rfl
  | cons t T ih =>
    intro mp last hwf hch hlast hpw
    obtain ⟨hkey, hidx, hdir⟩ := hwf t (by simp)
    obtain ⟨hc1, hc2, hc3⟩ := hch
    have hlt : imps.idxOf t.2.1.key < imps.length := List.idxOf_lt_length_iff.mpr hkey
    have him : imps[(t.ik imps).1]? = some t.2.1.key := by
      simp only [Trip.ik]
      rw [List.getElem?_eq_getElem hlt, List.getElem_idxOf]
    have hpw' := List.pairwise_cons.mp hpw
    have := ih (t.mu ts0) (some (t.ik imps)) (fun x hx => hwf x (by simp [hx])) hc3
      (fun x hx h => hpw'.1 x hx (Option.some.inj h)) hpw'.2
    rw [List.map_cons, List.flatten_cons]
    unfold grp at this ⊢
    rw [walkAll_grp imps t.2.1.key (t.ik imps).1 (t.ik imps).2 _ _ _ _ last _ _ (splitSizes_ne _) (hlast t (by simp)) him,
      wrap_step ts0 mp (t.mu ts0) hc1 hc2, grpOut_eq imps ts0 t hidx hdir, u32_eq, this]
    rfl

theorem mem_trips (data : List ChunkIn) (ps : List PacketIn) : ∀ (k : Nat) (t : Trip), t ∈ trips data k ps →
    t.1 ∈ ps ∧ t.2.1 ∈ t.1.refs := by
  induction ps with
  | nil => intro k t h; simp [trips] at h
  | cons p ps ih =>
    intro k t h
    simp only [trips, List.mem_append, List.mem_map] at h
    rcases h with ⟨r, hr, rfl⟩ | h
    · simp [PacketIn.pmds] at hr; simp [hr]
    · have := ih (k + 1) t h
      exact ⟨by simp [this.1], this.2⟩

theorem trips_ne (data : List ChunkIn) (ps : List PacketIn) (k : Nat) (hne : ps ≠ []) (h : ∀ p ∈ ps, p.refs ≠ []) :
    trips data k ps ≠ [] := by
  cases ps with
  | nil => exact absurd rfl hne
  | cons p ps =>
    have := h p (by simp)
    simp only [trips]
    intro hh
    have := (List.append_eq_nil_iff.mp hh).1
    simp [PacketIn.pmds] at this
    contradiction

theorem expected_eq_trips (ts0 : Int) (data : List ChunkIn) (ps : List PacketIn) : ∀ (k : Nat),
    (ps.map fun p => p.pmds.map fun ref =>
      ({ file := ref.file, index := ref.index, dir := p.dir, ts := ts0 + (p.ts - ts0).tdiv 1000 * 1000 } : PacketOut)).flatten =
    (trips data k ps).map (outOf ts0) := by
  induction ps with
  | nil => intro k; rfl
  | cons p ps ih =>
    intro k
    simp only [List.map_cons, List.flatten_cons, trips, List.map_append, ih (k + 1), List.map_map]
    rfl

def TsChain (ts0 : Int) : Int → List PacketIn → Prop
  | _, [] => True
  | a, p :: ps => a ≤ p.ts ∧ (p.ts - ts0).tdiv 1000 - (a - ts0).tdiv 1000 < 2 ^ 32 ∧ TsChain ts0 p.ts ps

theorem tsChain_of_indexed (ts0 : Int) (ps : List PacketIn) : ∀ (a : PacketIn),
    (∀ i p q, (a :: ps)[i]? = some p → (a :: ps)[i + 1]? = some q →
      p.ts ≤ q.ts ∧ (q.ts - ts0).tdiv 1000 - (p.ts - ts0).tdiv 1000 < 2 ^ 32) → TsChain ts0 a.ts ps := by
  induction ps with
  | nil => intro a _; trivial
  | cons q ps ih =>
    intro a h
    have h0 := h 0 a q (by simp) (by simp)
    refine ⟨h0.1, h0.2, ih q ?_⟩
    intro i p q' hp hq
    exact h (i + 1) p q' (by simpa using hp) (by simpa using hq)

theorem muChain_const {α : Type} (f : α → Int) (b : Int) (rest : List Int) (l : List α) : ∀ (a : Int), l ≠ [] →
    (∀ x ∈ l, f x = b) → a ≤ b → b - a < 2 ^ 32 → MuChain b rest → MuChain a (l.map f ++ rest) := by
  induction l with
  | nil => intro a h; exact absurd rfl h
  | cons x l ih =>
    intro a _ hf h1 h2 h3
    have hx : f x = b := hf x (by simp)
    simp only [List.map_cons, List.cons_append, MuChain, hx]
    refine ⟨h1, h2, ?_⟩
    cases l with
    | nil => simpa using h3
    | cons y l' => exact ih b (by simp) (fun z hz => hf z (by simp [hz])) (Int.le_refl _) (by omega) h3

theorem trips_chain (ts0 : Int) (data : List ChunkIn) (ps : List PacketIn) : ∀ (a : Int) (k : Nat), ts0 ≤ a →
    TsChain ts0 a ps → (∀ p ∈ ps, p.refs ≠ []) →
    MuChain ((a - ts0).tdiv 1000) ((trips data k ps).map (Trip.mu ts0)) := by
  induction ps with
  | nil => intro a k _ _ _; trivial
  | cons p ps ih =>
    intro a k h0 hch hrefs
    obtain ⟨h1, h2, h3⟩ := hch
    simp only [trips, List.map_append, List.map_map]
    apply muChain_const _ ((p.ts - ts0).tdiv 1000)
    · have := hrefs p (by simp)
      simp [PacketIn.pmds]; exact this
    · intro r _; rfl
    · rw [Int.tdiv_eq_ediv_of_nonneg (by omega), Int.tdiv_eq_ediv_of_nonneg (by omega)]; omega
    · exact h2
    · exact ih p.ts (k + 1) (by omega) h3 (fun q hq => hrefs q (by simp [hq]))

theorem ik_inj (imps : List ImportKey) (a b : Trip) (ha : a.2.1.key ∈ imps) (hb : b.2.1.key ∈ imps)
    (h : a.ik imps = b.ik imps) : (a.2.1.file, a.2.1.index) = (b.2.1.file, b.2.1.index) := by
  simp only [Trip.ik, Prod.mk.injEq] at h
  obtain ⟨h1, h2⟩ := h
  have hla : imps.idxOf a.2.1.key < imps.length := List.idxOf_lt_length_iff.mpr ha
  have hlb : imps.idxOf b.2.1.key < imps.length := List.idxOf_lt_length_iff.mpr hb
  have e1 : imps[imps.idxOf a.2.1.key] = a.2.1.key := List.getElem_idxOf hla
  have e2 : imps[imps.idxOf b.2.1.key] = b.2.1.key := List.getElem_idxOf hlb
  have hk : a.2.1.key = b.2.1.key := by
    rw [← e1, ← e2]; congr 1
  simp only [SrcRef.key, Prod.mk.injEq] at hk
  obtain ⟨hf, hi⟩ := hk
  simp only [Prod.mk.injEq]
  exact ⟨hf, by omega⟩

theorem streamRaw_mem (imps : List ImportKey) (s : StreamIn) (r : PacketRec) (hr : r ∈ streamRaw imps s) :
    (r.flags = 1 ∨ r.flags = 3) ∧ ∃ p ∈ s.packets, ∃ ref ∈ p.refs, r.imp = imps.idxOf ref.key := by
  unfold streamRaw at hr
  rw [allRecords_trips] at hr
  simp only [List.mem_flatten, List.mem_map] at hr
  obtain ⟨l, ⟨t, ht, rfl⟩, hr⟩ := hr
  simp only [grp, List.mem_map] at hr
  obtain ⟨sz, _, rfl⟩ := hr
  obtain ⟨h1, h2⟩ := mem_trips _ _ _ _ ht
  refine ⟨?_, t.1, h1, t.2.1, h2, rfl⟩
  simp only [mkRec, Trip.fl]
  by_cases h : t.1.dir = 0 <;> simp [h]

def OddFlags (l : List PacketRec) : Prop := ∀ r ∈ l, r.flags = 1 ∨ r.flags = 3

theorem setSkips_odd (l : List PacketRec) (h : OddFlags l) : OddFlags (setSkips l).1 :=
  forall_mem_of_map_eq (P := fun fl => fl = 1 ∨ fl = 3) (setSkips_map (·.flags) (fun _ _ => rfl) l) h

theorem clearLast_core (l : List PacketRec) (h : OddFlags l) : (clearLastHasNext l).map core = l.map core := by
  induction l with
  | nil => rfl
  | cons p t ih =>
    cases t with
    | nil =>
      simp only [clearLastHasNext, List.map_cons, List.map_nil, core]
      rcases h p (by simp) with hf | hf <;> simp [hf]
    | cons q r =>
      have := ih (fun x hx => h x (by simp [hx]))
      simp only [clearLastHasNext, List.map_cons] at this ⊢
      rw [this]

theorem streamRecs_core (imps : List ImportKey) (s : StreamIn) : (streamRecs imps s).map core = (streamRaw imps s).map core :=
  (clearLast_core _ (setSkips_odd _ (fun r hr => (streamRaw_mem imps s r hr).1))).trans (setSkips_map core (fun _ _ => rfl) _)

theorem walkAll_stream (imps : List ImportKey) (s : StreamIn) (p0 : PacketIn)
    (hp0 : s.packets.head? = some p0) (hkeys : s.KeysIn imps)
    (hrefs : ∀ p ∈ s.packets, p.refs ≠ [] ∧ p.dir < 2 ∧ ∀ ref ∈ p.refs, ref.index < 2 ^ 64)
    (hch : ∀ i p q, s.packets[i]? = some p → s.packets[i + 1]? = some q →
      p.ts ≤ q.ts ∧ (q.ts - p0.ts).tdiv 1000 - (p.ts - p0.ts).tdiv 1000 < 2 ^ 32)
    (hpw : ((trips s.data 0 s.packets).map (outOf p0.ts)).Pairwise (fun a b => (a.file, a.index) ≠ (b.file, b.index))) :
    walkAll imps p0.ts none 0 (streamRaw imps s) = .ok ((trips s.data 0 s.packets).map (outOf p0.ts)) := by
  have hts : s.ts0 = p0.ts := by simp [StreamIn.ts0, hp0]
  unfold streamRaw
  rw [hts, allRecords_trips]
  obtain ⟨tl, htl⟩ : ∃ tl, s.packets = p0 :: tl := by
    cases hps : s.packets with
    | nil => simp [hps] at hp0
    | cons a tl => simp [hps] at hp0; subst hp0; exact ⟨tl, rfl⟩
  have hmem : ∀ t ∈ trips s.data 0 s.packets, t.2.1.key ∈ imps ∧ t.2.1.index < 2 ^ 64 ∧ t.1.dir < 2 := by
    intro t ht
    obtain ⟨h1, h2⟩ := mem_trips _ _ _ _ ht
    exact ⟨hkeys _ h1 _ h2, (hrefs _ h1).2.2 _ h2, (hrefs _ h1).2.1⟩
  have hchain : TsChain p0.ts p0.ts s.packets := by
    rw [htl]
    refine ⟨Int.le_refl _, by simp, tsChain_of_indexed p0.ts tl p0 ?_⟩
    rw [← htl]; exact hch
  have hmu := trips_chain p0.ts s.data s.packets p0.ts 0 (Int.le_refl _) hchain (fun p hp => (hrefs p hp).1)
  have hw := walkAll_trips imps p0.ts (trips s.data 0 s.packets) 0 none hmem
    (by simpa using hmu) (by simp)
    (by
      rw [List.pairwise_map] at hpw
      refine hpw.imp_of_mem ?_
      intro a b ha hb hab heq
      exact hab (ik_inj imps a b (hmem a ha).1 (hmem b hb).1 heq))
  simpa using hw

end Pk.Index
