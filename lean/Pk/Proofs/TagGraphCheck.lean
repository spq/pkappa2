/-
  A decidable check of `GraphWF` for concrete tables (for the examples of C11More).
-/
import Pk.Model.TagGraph
import Pk.Proofs.TagGraph

namespace Pk.Proofs.TagGraphMore
open Pk.TagGraph Pk.Proofs.TagGraph

def mirrorCheck (m : TagMap) : Bool :=
  (tkeys m).all fun n =>
    match tget m n with
    | none => true
    | some t =>
      (t.referencedBy ++ tkeys m).all fun x =>
        t.referencedBy.contains x ==
          (match tget m x with
           | some u => u.refs.contains n
           | none => false)

theorem graphWF_of_check (m : TagMap) (h1 : (resolveOrder m).isSome = true) (h2 : mirrorCheck m = true) :
    GraphWF m := by
  obtain ⟨hcl, hac⟩ := (resolveOrder_isSome_iff m).mp h1
  refine ⟨hcl, hac, ?_⟩
  intro n t ht x
  have hn : n ∈ tkeys m := (mem_keys m n).mpr (by simp [ht])
  unfold mirrorCheck at h2
  rw [List.all_eq_true] at h2
  have h3 := h2 n hn
  simp only [ht] at h3
  rw [List.all_eq_true] at h3
  constructor
  · intro hx
    have h4 := h3 x (List.mem_append_left _ hx)
    have hc : t.referencedBy.contains x = true := by simpa using hx
    rw [hc] at h4
    cases hu : tget m x with
    | none => rw [hu] at h4; simp at h4
    | some u =>
      rw [hu] at h4
      refine ⟨u, rfl, ?_⟩
      simpa using h4
  · rintro ⟨u, hu, hnu⟩
    have hxk : x ∈ tkeys m := (mem_keys m x).mpr (by simp [hu])
    have h4 := h3 x (List.mem_append_right _ hxk)
    rw [hu] at h4
    have hc : u.refs.contains n = true := by simpa using hnu
    simp only [hc] at h4
    simpa using h4

end Pk.Proofs.TagGraphMore
