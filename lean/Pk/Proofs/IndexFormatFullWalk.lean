/-
  First loop of `Stream.Data`: on the records of a written stream the walk along the skip counters is the fold of
  the loop body over all of them (`dataWalk_fold`), so it collects the payload size of every record (helper lemmas for
  C01Full `roundtrip_payload'`).  The has-next chain at the head of a record list (`chainOf`) has its lemmas here.
-/
import Pk.Model.IndexFormat
import Pk.Proofs.IndexFormatSkip
import Pk.Proofs.MergeFullDefs
namespace Pk.Index
open Pk Pk.Bytes

def ptSum (l : List (Int × Nat)) : Nat := (l.map (·.2)).sum

/-- the body of the loop of `dataWalk` is cut into its wrap part (`dwWrap`) and its payload part (`dwSize`);
    `dataWalk_succ` states the loop in these terms -/
def dwWrap (st : DWalk) (p : PacketRec) : DWalk :=
  if st.expectWraps ≠ 0 then
    let st := if p.rel < st.lastRel then { st with refTime := st.refTime + wrapNs, expectWraps := st.expectWraps - 1 } else st
    { st with lastRel := p.rel }
  else st

def ptAdd (ci : List (Int × Nat)) (c : Prop) [Decidable c] (ts : Int) (size : Nat) : List (Int × Nat) :=
  match ci with
  | (t, sz) :: rest => if c then (t, sz + size) :: rest else (ts, size) :: ci
  | [] => [(ts, size)]

def dwSize (st : DWalk) (p : PacketRec) : DWalk :=
  if p.size ≠ 0 then
    let ts := st.refTime + (p.rel : Int) * 1000
    let dir := p.flags / 2 % 2
    let ci' := ptAdd (if dir = 0 then st.pt0 else st.pt1) (dir = st.prevDir ∧ ts - st.prevTs < chunkSplitNs) ts p.size
    let st := if dir = 0 then { st with pt0 := ci' } else { st with pt1 := ci' }
    { st with prevTs := ts, prevDir := dir }
  else st

def dwStep (st : DWalk) (p : PacketRec) : DWalk := dwSize (dwWrap st p) p

theorem dataWalk_succ (fuel : Nat) (st : DWalk) (p : PacketRec) (ps : List PacketRec) :
    dataWalk (fuel + 1) st (p :: ps) =
      if p.flags % 2 = 0 then .ok (dwStep st p)
      else if p.skip ≠ 0 ∧ (dwStep st p).expectWraps = 0 then
        if ps.length < p.skip then .error .err else dataWalk fuel (dwStep st p) (ps.drop p.skip)
      else dataWalk fuel (dwStep st p) ps := by
  rw [dataWalk]
  rfl

theorem dwWrap_pt (st : DWalk) (p : PacketRec) : (dwWrap st p).pt0 = st.pt0 ∧ (dwWrap st p).pt1 = st.pt1 := by
  unfold dwWrap
  split
  · split <;> exact ⟨rfl, rfl⟩
  · exact ⟨rfl, rfl⟩

def recSize (d : Nat) (p : PacketRec) : Nat := if p.flags / 2 % 2 = d then p.size else 0

theorem ptSum_cons (e : Int × Nat) (l : List (Int × Nat)) : ptSum (e :: l) = e.2 + ptSum l := by
  simp [ptSum]

theorem ptSum_ptAdd (ci : List (Int × Nat)) (c : Prop) [Decidable c] (ts : Int) (size : Nat) :
    ptSum (ptAdd ci c ts size) = ptSum ci + size := by
  unfold ptAdd
  cases ci with
  | nil => simp [ptSum]
  | cons e rest =>
    obtain ⟨t, sz⟩ := e
    simp only
    split <;> simp only [ptSum_cons] <;> omega

theorem dwSize_pt (st : DWalk) (p : PacketRec) :
    ptSum (dwSize st p).pt0 = ptSum st.pt0 + recSize 0 p ∧ ptSum (dwSize st p).pt1 = ptSum st.pt1 + recSize 1 p := by
  unfold dwSize recSize
  by_cases hs : p.size ≠ 0
  · rw [if_pos hs]
    by_cases hd : p.flags / 2 % 2 = 0
    · simp only [hd, if_true]
      exact ⟨ptSum_ptAdd _ _ _ _, by simp⟩
    · have h1 : p.flags / 2 % 2 = 1 := by omega
      have h2 : ¬ ((1 : Nat) = 0) := by omega
      simp only [h1, h2, if_true, if_false]
      exact ⟨by simp, ptSum_ptAdd _ _ _ _⟩
  · have hs' : p.size = 0 := by omega
    rw [if_neg hs]
    exact ⟨by split <;> omega, by split <;> omega⟩

theorem dwStep_pt (st : DWalk) (p : PacketRec) :
    ptSum (dwStep st p).pt0 = ptSum st.pt0 + recSize 0 p ∧ ptSum (dwStep st p).pt1 = ptSum st.pt1 + recSize 1 p := by
  have h := dwSize_pt (dwWrap st p) p
  obtain ⟨e0, e1⟩ := dwWrap_pt st p
  rw [e0, e1] at h
  exact h

theorem chainOf_cons {p : PacketRec} {ps c : List PacketRec} (h : chainOf (p :: ps) = some c) :
    (p.flags % 2 = 0 ∧ c = [p]) ∨ (p.flags % 2 = 1 ∧ ∃ c', chainOf ps = some c' ∧ c = p :: c') := by
  simp only [chainOf] at h
  split at h
  · rename_i h0
    left; simp at h; exact ⟨h0, h.symm⟩
  · rename_i h0
    right
    refine ⟨by omega, ?_⟩
    cases hc : chainOf ps with
    | none => simp [hc] at h
    | some c' => simp [hc] at h; exact ⟨c', rfl, h.symm⟩

theorem chainOf_last {p : PacketRec} {ps : List PacketRec} (h : p.flags % 2 = 0) : chainOf (p :: ps) = some [p] := by
  simp [chainOf, h]

theorem chainOf_next {p : PacketRec} {ps : List PacketRec} (h : p.flags % 2 = 1) :
    chainOf (p :: ps) = (chainOf ps).map (p :: ·) := by
  have : ¬ p.flags % 2 = 0 := by omega
  simp [chainOf, this]

theorem chainOf_split {l c : List PacketRec} (h : chainOf l = some c) : ∃ rest, l = c ++ rest := by
  induction l generalizing c with
  | nil => simp [chainOf] at h
  | cons p ps ih =>
    rcases chainOf_cons h with ⟨_, rfl⟩ | ⟨_, c', hc, rfl⟩
    · exact ⟨ps, rfl⟩
    · obtain ⟨rest, hr⟩ := ih hc
      exact ⟨rest, by rw [List.cons_append, ← hr]⟩

theorem chainOf_self {l c : List PacketRec} (h : chainOf l = some c) : chainOf c = some c := by
  induction l generalizing c with
  | nil => simp [chainOf] at h
  | cons p ps ih =>
    rcases chainOf_cons h with ⟨h0, rfl⟩ | ⟨h1, c', hc, rfl⟩
    · exact chainOf_last h0
    · rw [chainOf_next h1, ih hc]; rfl

theorem chainOf_ne_nil {l c : List PacketRec} (h : chainOf l = some c) : c ≠ [] := by
  cases l with
  | nil => simp [chainOf] at h
  | cons p ps =>
    rcases chainOf_cons h with ⟨_, rfl⟩ | ⟨_, c', _, rfl⟩ <;> simp

theorem chainOf_append {l c : List PacketRec} (h : chainOf l = some c) (t : List PacketRec) : chainOf (l ++ t) = some c := by
  induction l generalizing c with
  | nil => simp [chainOf] at h
  | cons p ps ih =>
    rcases chainOf_cons h with ⟨h0, rfl⟩ | ⟨h1, c', hc, rfl⟩
    · exact chainOf_last h0
    · rw [List.cons_append, chainOf_next h1, ih hc]; rfl

theorem chainOf_drop {l c : List PacketRec} (h : chainOf l = some c) (n : Nat) (hn : n < c.length) :
    chainOf (l.drop n) = some (c.drop n) := by
  induction n generalizing l c with
  | zero => simpa using h
  | succ n ih =>
    cases l with
    | nil => simp [chainOf] at h
    | cons p ps =>
      rcases chainOf_cons h with ⟨h0, rfl⟩ | ⟨h1, c', hc, rfl⟩
      · simp at hn
      · simp only [List.drop_succ_cons]
        exact ih hc (by simpa using hn)

def dirSum (d : Nat) (l : List PacketRec) : Nat := (l.map (recSize d)).sum

theorem SkipSound_drop (l : List PacketRec) : ∀ (k : Nat), SkipSound l → SkipSound (l.drop k) := by
  induction l with
  | nil => intro k h; simpa using h
  | cons p t ih =>
    intro k h
    cases k with
    | zero => exact h
    | succ k => exact ih k h.2

theorem dwStep_skip (st : DWalk) (p : PacketRec) (h0 : st.expectWraps = 0) (hs : p.size = 0) : dwStep st p = st := by
  simp [dwStep, dwWrap, dwSize, h0, hs]

theorem foldl_dwStep_skip (l : List PacketRec) (st : DWalk) (h0 : st.expectWraps = 0)
    (hl : l.all (fun q => q.size == 0) = true) : l.foldl dwStep st = st := by
  induction l with
  | nil => rfl
  | cons p t ih =>
    simp only [List.all_cons, Bool.and_eq_true, beq_iff_eq] at hl
    rw [List.foldl_cons, dwStep_skip st p h0 hl.1, ih hl.2]

/-- the records a skip counter jumps over have no payload (`SkipSound`), and the jump is taken only once `expectWraps = 0`:
    they would not have changed the state (`foldl_dwStep_skip`) -/
theorem dataWalk_fold (fuel : Nat) : ∀ (L : List PacketRec) (st : DWalk), L.length < fuel → chainOf L = some L → SkipSound L →
    dataWalk fuel st L = .ok (L.foldl dwStep st) := by
  induction fuel with
  | zero => intro L st h; omega
  | succ fuel ih =>
    intro L st hf hn hs
    cases L with
    | nil => simp [chainOf] at hn
    | cons p t =>
      rw [dataWalk_succ, List.foldl_cons]
      rcases chainOf_cons hn with ⟨h0, ht⟩ | ⟨h1, c', hc, ht⟩
      · cases ht; rw [if_pos h0]; rfl
      · cases ht
        obtain ⟨hz, hlt⟩ := hs.1.resolve_left (chainOf_ne_nil hc)
        simp only [List.length_cons] at hf
        rw [if_neg (by omega)]
        split
        · rename_i h
          rw [if_neg (by omega), ih _ _ (by simp; omega) (chainOf_drop hc _ hlt) (SkipSound_drop _ _ hs.2)]
          conv => rhs; rw [← List.take_append_drop p.skip t, List.foldl_append, foldl_dwStep_skip _ _ h.2 hz]
        · exact ih t _ (by omega) hc hs.2

theorem foldl_dwStep_pt (L : List PacketRec) : ∀ (st : DWalk),
    ptSum (L.foldl dwStep st).pt0 = ptSum st.pt0 + dirSum 0 L ∧ ptSum (L.foldl dwStep st).pt1 = ptSum st.pt1 + dirSum 1 L := by
  induction L with
  | nil => intro st; simp [dirSum]
  | cons p t ih =>
    intro st
    obtain ⟨s0, s1⟩ := dwStep_pt st p
    obtain ⟨t0, t1⟩ := ih (dwStep st p)
    constructor
    · rw [List.foldl_cons, t0, s0]; simp [dirSum]; omega
    · rw [List.foldl_cons, t1, s1]; simp [dirSum]; omega

end Pk.Index
