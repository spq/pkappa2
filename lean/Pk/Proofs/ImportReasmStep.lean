/-
  One segment through `assembleHalf` under the invariant `HalfInv`: the expected sequence number is
  `isn + c`, the queue holds slices of `B` strictly beyond `c` (`feed_step`).  `Fed` is what `feed` does with
  one packet of any kind, as the conversation reads it.
-/
import Pk.Proofs.ImportReasmQueue
import Pk.Proofs.ImportReasmAssemble

namespace Pk.Proofs.ImportReasm
open Pk.Import

theorem checkOverlap_queue {isn : Nat} {B : Bytes} (hl : SeqLinear isn B.length) (h : Half) (p : Pkt) (c : Nat)
    (hq : QueueOk isn B c h.queue) (hp : SegPkt isn B p) (ha : c < pOff isn p) :
    ∃ q', (checkOverlap h true p.seq p.payload p.ref false).1 = { h with queue := q' } ∧
      QueueOk isn B c q' ∧
      ∀ x, Covered isn h.queue x ∨ (pOff isn p ≤ x ∧ x < pEnd isn p) → Covered isn q' x := by
  obtain ⟨_, hge, hend, hpl⟩ := hp
  have hle := pOff_le_pEnd isn p
  have spec := overlapWalk_spec hl hle hend h.queue.reverse [] (by simpa using hq) (fun pg hm => nomatch hm)
  unfold checkOverlap
  rw [seq_eq_pOff hge, payload_length isn p, seqAdd_slice hl hle hend, hpl]
  generalize overlapWalk (isn + pOff isn p) (isn + pEnd isn p) h.queue.reverse [] (slice B (pOff isn p) (pEnd isn p)) = r
    at spec
  obtain ⟨bf, af, bs⟩ := r
  have hcov := spec.cov
  simp only [List.append_nil, covered_reverse, covered_append] at hcov ⊢
  by_cases hb : bs.length > 0
  · rw [if_pos ⟨hb, trivial⟩]
    have hbne : bs ≠ [] := List.length_pos_iff.mp hb
    rcases spec.res with ⟨e1, e2, e3⟩ | ⟨e1, _⟩
    · simp only at e1 e2 e3
      subst e1
      -- the new page, between the pages that end before it and those that start after it
      have hlt : pOff isn p < pEnd isn p := by rw [slice_length hend] at hb; omega
      obtain ⟨hnew, o1, o2⟩ := pageOk_of_slice (isn := isn) hlt hend
        (pg := { seq := isn + pOff isn p, bytes := slice B (pOff isn p) (pEnd isn p), ref := p.ref, fin := false })
        rfl rfl rfl
      generalize ({ seq := isn + pOff isn p, bytes := slice B (pOff isn p) (pEnd isn p), ref := p.ref, fin := false } : Page)
        = npg at hnew o1 o2
      have hmid : bf ++ [npg] ++ af = bf ++ npg :: af := by simp
      refine ⟨bf ++ [npg] ++ af, rfl, ?_, ?_⟩
      · rw [hmid]
        exact (queueOk_insert ..).mpr ⟨spec.ok, ⟨hnew, o1 ▸ ha⟩, fun a ha => o1 ▸ e2 a ha, fun b hb => o2 ▸ e3 b hb⟩
      · intro x hx
        simp only [hmid, covered_append, covered_cons, o1, o2]
        rcases hcov x hx with (h1 | h1) | ⟨_, h1⟩
        · exact Or.inl h1
        · exact Or.inr (Or.inr h1)
        · exact Or.inr (Or.inl h1)
    · exact absurd e1 hbne
  · rw [if_neg (fun h0 => hb h0.1)]
    have hnil : bs = [] := List.length_eq_zero_iff.mp (Nat.eq_zero_of_not_pos hb)
    refine ⟨bf ++ af, rfl, spec.ok, ?_⟩
    intro x hx
    simp only [covered_append]
    exact (hcov x hx).resolve_right fun h0 => h0.1 hnil

theorem checkOverlap_deliver {isn : Nat} {B : Bytes} (hl : SeqLinear isn B.length) (h : Half) (ref : PRef) (c e : Nat)
    (hq : QueueOk isn B c h.queue) (hce : c ≤ e) (he : e ≤ B.length) :
    ∃ q', checkOverlap h false (isn + c) (slice B c e) ref false = ({ h with queue := q' }, slice B c e) ∧
      QueueOk isn B c q' ∧ (∀ pg ∈ q', e ≤ gOff isn pg) ∧
      ∀ x, Covered isn h.queue x → Covered isn q' x ∨ (c ≤ x ∧ x < e) := by
  have spec := overlapWalk_spec hl hce he h.queue.reverse [] (by simpa using hq) (fun pg hm => nomatch hm)
  unfold checkOverlap
  rw [slice_length he, seqAdd_slice hl hce he]
  generalize overlapWalk (isn + c) (isn + e) h.queue.reverse [] (slice B c e) = r at spec
  obtain ⟨bf, af, bs⟩ := r
  have hcov := spec.cov
  simp only [List.append_nil, covered_reverse, covered_append] at hcov ⊢
  rw [if_neg (fun h0 => Bool.false_ne_true h0.2)]
  rcases spec.res with ⟨e1, e2, e3⟩ | ⟨_, pg, hm, hle⟩
  · simp only at e1 e2 e3
    subst e1
    -- a page that ends at or before `c` would not lie beyond `c`
    have hbf : bf = [] := by
      cases bf with
      | nil => rfl
      | cons a l =>
        have k1 := e2 a (List.mem_cons_self ..)
        have k2 := spec.ok.1 a (List.mem_append_left _ (List.mem_cons_self ..))
        have k3 := k2.1.lt
        omega
    subst hbf
    refine ⟨af, rfl, spec.ok, e3, ?_⟩
    intro x hx
    rcases hcov x (Or.inl hx) with (h1 | h1) | h1
    · simp at h1
    · exact Or.inl h1
    · exact Or.inr h1.2
  · exact absurd hle (Nat.not_le.mpr (hq.1 pg (List.mem_reverse.mp hm)).2)

theorem addContiguous_spec {isn : Nat} {B : Bytes} (hl : SeqLinear isn B.length) : ∀ (q : List Page) (e : Nat),
    e ≤ B.length → (∀ pg ∈ q, PageOk isn B pg ∧ e ≤ gOff isn pg) → Ascending isn q →
    ∃ taken left e', addContiguous q (isn + e) = (taken, left, isn + e') ∧ q = taken ++ left ∧
      e ≤ e' ∧ e' ≤ B.length ∧ (taken.map (·.bytes)).flatten = slice B e e' ∧
      (∀ pg ∈ left, e' < gOff isn pg) ∧ (∀ pg ∈ taken, pg.fin = false) ∧
      (∀ x, Covered isn taken x → e ≤ x ∧ x < e') ∧ (taken = [] ↔ e' = e) ∧
      ((∀ pg ∈ q, e < gOff isn pg) → e' = e) := by
  intro q
  induction q with
  | nil =>
    intro e he _ _
    exact ⟨[], [], e, rfl, rfl, Nat.le_refl _, he, (slice_self B e).symm, (by intro pg hm; cases hm),
      (by intro pg hm; cases hm), (by intro x hx; simp at hx), ⟨fun _ => rfl, fun _ => rfl⟩, fun _ => rfl⟩
  | cons pg rest ih =>
    intro e he hok hasc
    obtain ⟨hpg, hge⟩ := hok pg (List.mem_cons_self ..)
    have hlt := hpg.lt
    have hasc2 := List.pairwise_cons.mp hasc
    have hd : seqDiff (isn + e) pg.seq = (gOff isn pg : Int) - e := by
      rw [hpg.seq_eq, seqDiff_lin hl he (Nat.le_trans (Nat.le_of_lt hlt) hpg.le)]
    rw [addContiguous, hd]
    by_cases h0 : gOff isn pg = e
    · rw [if_pos (by omega), ← h0, ← hpg.seq_eq, hpg.seqEnd hl]
      obtain ⟨taken, left, e', h1, h2, h3, h4, h5, h6, h7, h8, _, _⟩ := ih (gEnd isn pg) hpg.le
        (fun pg' hm => ⟨(hok pg' (List.mem_cons_of_mem _ hm)).1, hasc2.1 pg' hm⟩) hasc2.2
      have hne : e' ≠ gOff isn pg := Nat.ne_of_gt (Nat.lt_of_lt_of_le hlt h3)
      refine ⟨pg :: taken, left, e', by rw [h1], by rw [h2]; rfl, Nat.le_trans (Nat.le_of_lt hlt) h3, h4, ?_, h6, ?_, ?_,
        ⟨fun h => (nomatch h), fun h => absurd h hne⟩,
        fun h => absurd (h pg (List.mem_cons_self ..)) (Nat.lt_irrefl _)⟩
      · rw [List.map_cons, List.flatten_cons, h5, hpg.2.2.2.2, slice_append (Nat.le_of_lt hlt) h3]
      · intro pg' hm
        rcases List.mem_cons.mp hm with rfl | hm
        · exact hpg.1
        · exact h7 pg' hm
      · intro x hx
        rcases (covered_cons ..).mp hx with hx | hx
        · exact ⟨hx.1, Nat.lt_of_lt_of_le hx.2 h3⟩
        · exact ⟨Nat.le_trans (Nat.le_of_lt hlt) (h8 x hx).1, (h8 x hx).2⟩
    · rw [if_neg (by omega)]
      refine ⟨[], pg :: rest, e, rfl, rfl, Nat.le_refl _, he, (slice_self B e).symm, ?_,
        (by intro pg hm; cases hm), (by intro x hx; simp at hx), ⟨fun _ => rfl, fun _ => rfl⟩, fun _ => rfl⟩
      intro pg' hm
      have hgt : e < gOff isn pg := Nat.lt_of_le_of_ne hge (Ne.symm h0)
      rcases List.mem_cons.mp hm with rfl | hm
      · exact hgt
      · exact Nat.lt_of_lt_of_le (Nat.lt_trans hgt hlt) (hasc2.1 pg' hm)

theorem foldr_bytes (l : List Page) :
    (l.map (fun pg => (pg.bytes, pg.ref))).foldr (fun x acc => x.1 ++ acc) ([] : Bytes) = (l.map (·.bytes)).flatten := by
  induction l with
  | nil => rfl
  | cons a l ih => simp [ih]

/-- bytes `c .. e` of `B` (possibly none) are sent with end flag `f`, together with what continues them in the queue;
    the half-connection is closed if `f` is set and nothing continues them -/
theorem sendToConnection_spec {isn : Nat} {B : Bytes} (hl : SeqLinear isn B.length) (st : Import.Stream) (h : Half) (ref : PRef)
    (f : Bool) (c e : Nat) (hce : c ≤ e) (he : e ≤ B.length)
    (hq : QueueOk isn B c h.queue) (hge : ∀ pg ∈ h.queue, e ≤ gOff isn pg) :
    ∃ left e', sendToConnection st h (isn + c) (slice B c e) ref f =
        (if e' = c then st else st.addData ref (slice B c e'),
         if f = true ∧ e' = e then { h with closed := true, queue := [] } else { h with queue := left }, isn + e') ∧
      e ≤ e' ∧ e' ≤ B.length ∧ (c < e' → c < e) ∧ QueueOk isn B e' left ∧
      (∀ x, Covered isn h.queue x → Covered isn left x ∨ x < e') := by
  obtain ⟨taken, left, e', h1, h2, h3, h4, h5, h6, h7, h8, h9, h10⟩ := addContiguous_spec hl h.queue e he
    (fun pg hm => ⟨(hq.1 pg hm).1, hge pg hm⟩) hq.2
  -- nothing continues an empty piece: the pages lie strictly beyond `c`
  have hee : c < e' → c < e := fun hlt => by
    refine Nat.lt_of_le_of_ne hce fun hc => ?_
    rw [h10 (fun pg hm => hc ▸ (hq.1 pg hm).2), ← hc] at hlt
    exact Nat.lt_irrefl _ hlt
  refine ⟨left, e', ?_, h3, h4, hee, ⟨?_, ?_⟩, ?_⟩
  · have hfr : c < e → firstNonEmptyRef ((slice B c e, ref) :: taken.map (fun pg => (pg.bytes, pg.ref))) = some ref :=
      fun hlt => by rw [firstNonEmptyRef, if_pos (by rw [slice_length he]; exact Nat.sub_pos_of_lt hlt)]
    unfold sendToConnection
    rw [slice_length he, seqAdd_slice hl hce he]
    simp only [h1, List.foldr_cons, foldr_bytes, h5, slice_append hce h3, slice_length h4]
    congr 1
    · by_cases hc : e' = c
      · rw [if_pos hc, if_pos (hc ▸ Nat.sub_self c)]
      · have hlt : c < e' := Nat.lt_of_le_of_ne (Nat.le_trans hce h3) (Ne.symm hc)
        rw [if_neg hc, if_neg (Nat.sub_ne_zero_of_lt hlt), hfr (hee hlt)]
    · congr 1
      -- the flag counts if no page is taken; the last page taken does not carry FIN
      cases hgl : taken.getLast? with
      | none => simp only [h9.mp (List.getLast?_eq_none_iff.mp hgl), and_true]
      | some pg =>
        have hne : e' ≠ e := fun h0 => by rw [h9.mpr h0] at hgl; cases hgl
        simp only [h7 pg (List.mem_of_getLast? hgl), Bool.false_eq_true, if_false, hne, and_false]
  · intro pg hm
    exact ⟨(hq.1 pg (by rw [h2]; exact List.mem_append_right _ hm)).1, h6 pg hm⟩
  · exact ((asc_append _ _).mp (h2 ▸ hq.2)).2.1
  · intro x hx
    rw [h2, covered_append] at hx
    exact hx.symm.imp id fun hx => (h8 x hx).2

/-- `c` = number of bytes of `B` delivered so far -/
structure HalfInv (isn : Nat) (B : Bytes) (c : Nat) (h : Half) : Prop where
  opn : h.closed = false
  nxt : h.nextSeq = some (isn + c)
  le : c ≤ B.length
  q : QueueOk isn B c h.queue

/-- what `feed` does with a packet `p` of a direction whose byte string is `B`, `c` bytes of it delivered: bytes
    `c .. c'` are delivered (`c' = c`: none, the packet is only recorded) and attributed to `p`, which carried byte `c` -/
structure Fed (isn : Nat) (B : Bytes) (dir : Bool) (st : Import.Stream) (h : Half) (p : Pkt) (c c' : Nat) (h' : Half) : Prop where
  eq : feed dir (st, h) p = (if c' = c then st.addPkt p.ref dir else Stream.record st p.ref dir (slice B c c'), h')
  le : c ≤ c'
  len : c' ≤ B.length
  att : c < c' → pOff isn p ≤ c ∧ c < pEnd isn p ∧ pEnd isn p ≤ c'

/-- a segment is queued, dropped (it holds nothing beyond `c`) or delivered together with what continues it in the
    queue.  The conjunct on `Covered` — no offset seen so far is lost — is what completeness of a run rests on
    (`HalfInv.full`). -/
theorem feed_step {isn : Nat} {B : Bytes} (hl : SeqLinear isn B.length) (dir : Bool) (st : Import.Stream) (h : Half) (p : Pkt)
    (c : Nat) (hinv : HalfInv isn B c h) (hp : SegPkt isn B p) :
    ∃ c' h', Fed isn B dir st h p c c' h' ∧ HalfInv isn B c' h' ∧
      ∀ x, x < c ∨ Covered isn h.queue x ∨ (pOff isn p ≤ x ∧ x < pEnd isn p) → x < c' ∨ Covered isn h'.queue x := by
  obtain ⟨hopen, hnext, hc, hq⟩ := hinv
  have hend : pEnd isn p ≤ B.length := hp.2.2.1
  have hfeed : feed dir (st, h) p = assembleHalf (st.addPkt p.ref dir) h p := rfl
  by_cases ha : c < pOff isn p
  · -- ahead of the expected sequence number: queued
    obtain ⟨q', e1, e2, e3⟩ := checkOverlap_queue hl h p c hq hp ha
    refine ⟨c, { h with queue := q' }, ⟨?_, Nat.le_refl _, hc, fun h0 => absurd h0 (Nat.lt_irrefl c)⟩,
      ⟨hopen, hnext, hc, e2⟩, fun x hx => hx.imp id (e3 x)⟩
    rw [hfeed, asm_ahead hl _ h p c hopen hnext hc hp.2.1 (Nat.le_trans (pOff_le_pEnd isn p) hend) ha, hp.1.2.1, hp.1.2.2,
      Bool.or_self, e1, if_pos rfl]
  · have ha' : pOff isn p ≤ c := Nat.not_lt.mp ha
    obtain ⟨q', e1, e2, e3, e4⟩ := checkOverlap_deliver hl h p.ref c (max c (pEnd isn p)) hq (Nat.le_max_left ..)
      (Nat.max_le.mpr ⟨hc, hend⟩)
    rw [asm_behind hl _ h p c hopen hnext hc hp.1.1 hp.2.1 hp.2.2.2 ha'] at hfeed
    simp only [hp.1.2.1, hp.1.2.2, Bool.or_self, Bool.false_eq_true, or_false, if_false, e1] at hfeed
    by_cases hb : pEnd isn p ≤ c
    · -- nothing new: dropped
      rw [Nat.max_eq_left hb] at e4 hfeed
      refine ⟨c, { h with queue := q' }, ⟨?_, Nat.le_refl _, hc, fun h0 => absurd h0 (Nat.lt_irrefl c)⟩,
        ⟨hopen, hnext, hc, e2⟩, ?_⟩
      · simpa [slice_self] using hfeed
      · rintro x (hx | hx | hx)
        · exact Or.inl hx
        · exact (e4 x hx).symm.imp (fun h1 => absurd h1.2 (Nat.not_lt.mpr h1.1)) id
        · exact Or.inl (Nat.lt_of_lt_of_le hx.2 hb)
    · -- new bytes: delivered together with what continues them in the queue
      have hlt : c < pEnd isn p := Nat.not_le.mp hb
      rw [Nat.max_eq_right (Nat.le_of_lt hlt)] at e3 e4 hfeed
      have hne : (slice B c (pEnd isn p)).length ≠ 0 := by rw [slice_length hend]; omega
      obtain ⟨left, e', s1, s2, s3, _, s4, s6⟩ := sendToConnection_spec hl (st.addPkt p.ref dir) { h with queue := q' } p.ref
        false c (pEnd isn p) (Nat.le_of_lt hlt) hend e2 e3
      have hlt' : c < e' := Nat.lt_of_lt_of_le hlt s2
      refine ⟨e', { h with queue := left, nextSeq := some (isn + e') }, ⟨?_, Nat.le_of_lt hlt', s3, fun _ => ⟨ha', hlt, s2⟩⟩,
        ⟨hopen, rfl, s3, s4⟩, ?_⟩
      · rw [hfeed, if_pos hne]
        simp only [s1, addPkt_addData, Bool.false_eq_true, false_and, if_false, if_neg (Nat.ne_of_gt hlt')]
      · rintro x (hx | hx | hx)
        · exact Or.inl (Nat.lt_trans hx hlt')
        · rcases e4 x hx with h1 | h1
          · exact (s6 x h1).symm
          · exact Or.inl (Nat.lt_of_lt_of_le h1.2 s2)
        · exact Or.inl (Nat.lt_of_lt_of_le hx.2 s2)

end Pk.Proofs.ImportReasm
