/- C02: the result accumulator.  Under `Inv` the kept streams head a sorted arrangement of everything fed (`Inv.prefix`),
   in whatever order it was fed.  A raised stop signal means `Armed`: the accumulator rejects all that is not below its
   last entry, so on events ordered by the stop comparator the early exit changes nothing (`early_exit_sound'`). -/
import Pk.Model.Search
import Pk.Proofs.SearchOrder
import Pk.Proofs.SortSearch

namespace Pk.Proofs.Search
open Pk.Search

def fed (evs : List (Rec × Bool)) : List Rec := (evs.filter (·.2)).map (·.1)

/-- what `SearchStreams` returns from the final accumulator -/
def finish (a : Acc) (skip : Nat) : List Nat × Bool :=
  if a.streams.length ≤ skip then ([], false) else ((a.streams.drop skip).map (·.id), a.dropped != 0)

theorem scan_append (lt stopLt : Rec → Rec → Bool) (limit : Nat) (a : Acc) (e1 e2 : List (Rec × Bool)) :
    scan lt stopLt limit false a (e1 ++ e2) = scan lt stopLt limit false (scan lt stopLt limit false a e1) e2 := by
  induction e1 generalizing a with
  | nil => rfl
  | cons e r ih =>
    obtain ⟨s, m⟩ := e
    simp [scan, ih]

theorem notSuperseded_iff (nw : List (List (Rec × Bool))) (s : Rec) :
    notSuperseded nw s = true ↔ ∀ g ∈ nw, ∀ x ∈ g, x.1.id ≠ s.id := by
  simp only [notSuperseded, List.all_eq_true, bne_iff_ne]

theorem shadowing_gen (files nw : List (List (Rec × Bool))) (e : Rec × Bool) :
    e ∈ visible nw files ↔
      ∃ newer f older, files = newer ++ f :: older ∧ e ∈ f ∧ ∀ g ∈ nw ++ newer, ∀ x ∈ g, x.1.id ≠ e.1.id := by
  induction files generalizing nw with
  | nil => simp [visible]
  | cons f older ih =>
    rw [visible, List.mem_append, List.mem_filter, notSuperseded_iff, ih]
    simp only [List.append_assoc, List.singleton_append]
    constructor
    · rintro (⟨hf, hn⟩ | ⟨newer, f', older', rfl, hf, hn⟩)
      · exact ⟨[], f, older, rfl, hf, by rwa [List.append_nil]⟩
      · exact ⟨f :: newer, f', older', rfl, hf, hn⟩
    · rintro ⟨newer, f', older', heq, hf, hn⟩
      cases newer with
      | nil =>
        obtain ⟨rfl, rfl⟩ := List.cons.inj heq
        exact .inl ⟨hf, by rwa [List.append_nil] at hn⟩
      | cons g newer' =>
        obtain ⟨rfl, rfl⟩ := List.cons.inj heq
        exact .inr ⟨newer', f', older', rfl, hf, hn⟩

theorem fed_append (a b : List (Rec × Bool)) : fed (a ++ b) = fed a ++ fed b := by
  simp [fed]

theorem fed_file (p : Rec → Bool) (f : List (Rec × Bool)) :
    fed (f.map (fun e => (e.1, e.2 && p e.1))) = ((f.filter (fun e => p e.1)).filter (·.2)).map (·.1) := by
  simp only [fed, List.filter_map, List.map_map, List.filter_filter, Function.comp_def]

theorem fed_flagged (files nw : List (List (Rec × Bool))) :
    fed (flagged nw files) = ((visible nw files).filter (·.2)).map (·.1) := by
  induction files generalizing nw with
  | nil => rfl
  | cons f older ih =>
    simp only [flagged, visible, fed_append, ih, fed_file, List.filter_append, List.map_append]

theorem searchFiles_eq_scan' (lt stopLt : Rec → Rec → Bool) (limit : Nat) (files newer : List (List (Rec × Bool))) (a : Acc) :
    searchFiles lt stopLt limit false newer files a = scan lt stopLt limit false a (flagged newer files) := by
  induction files generalizing newer a with
  | nil => rfl
  | cons f older ih =>
    simp only [searchFiles, flagged, scan_append, ih]

/-- there is a limit and the kept streams reach it; `last` is the entry a newcomer is compared with -/
def Full (limit : Nat) (l : List Rec) (last : Rec) : Prop :=
  l[limit - 1]? = some last ∧ limit ≠ 0 ∧ limit ≤ l.length

/-- the accumulator is full and something was dropped: the limit pre-check is armed -/
def Armed (limit : Nat) (a : Acc) (last : Rec) : Prop := Full limit a.streams last ∧ a.dropped ≠ 0

theorem step_spec (lt stopLt : Rec → Rec → Bool) (limit : Nat) (a : Acc) (s : Rec) (m : Bool) :
    (∃ last, Armed limit a last ∧ lt s last = false ∧ step lt stopLt limit a s m = (a, stopLt last s)) ∨
    (m = false ∧ step lt stopLt limit a s m = (a, false)) ∨
    (m = true ∧ (limit = 0 ∨ a.streams.length < limit) ∧
        step lt stopLt limit a s m = ({ a with streams := insertSorted lt s a.streams }, false)) ∨
    (∃ last, Full limit a.streams last ∧ m = true ∧ lt s last = true ∧
        step lt stopLt limit a s m =
          ({ streams := insertSorted lt s a.streams.dropLast, dropped := a.dropped + 1 }, false)) ∨
    (∃ last, Full limit a.streams last ∧ m = true ∧ lt s last = false ∧
        step lt stopLt limit a s m = ({ a with dropped := a.dropped + 1 }, stopLt last s)) := by
  cases hl : a.streams[limit - 1]? with
  | none =>
    have hlen : limit = 0 ∨ a.streams.length < limit := by
      rw [List.getElem?_eq_none_iff] at hl
      omega
    cases m with
    | false => right; left; simp [step, hl]
    | true => right; right; left; simp [step, hl, hlen]
  | some last =>
    by_cases hc1 : (a.dropped != 0 && limit != 0 && decide (limit ≤ a.streams.length) && !lt s last) = true
    · left
      have hc1' := hc1
      simp only [Bool.and_eq_true, bne_iff_ne, decide_eq_true_eq, Bool.not_eq_true'] at hc1'
      refine ⟨last, ⟨⟨hl, hc1'.1.1.2, hc1'.1.2⟩, hc1'.1.1.1⟩, hc1'.2, ?_⟩
      simp only [step, hl, hc1, if_true]
    · cases m with
      | false => right; left; simp only [step, hl, hc1]; simp
      | true =>
        by_cases hc2 : (limit == 0 || decide (a.streams.length < limit)) = true
        · right; right; left
          refine ⟨rfl, by simpa using hc2, ?_⟩
          simp only [step, hl, hc1, hc2]; simp
        · have hc2' : limit ≠ 0 ∧ limit ≤ a.streams.length := by
            simp at hc2; omega
          cases hc3 : lt s last with
          | true =>
            right; right; right; left
            refine ⟨last, ⟨hl, hc2'⟩, rfl, hc3, ?_⟩
            simp only [step, hl, hc2, hc3]; simp
          | false =>
            right; right; right; right
            refine ⟨last, ⟨hl, hc2'⟩, rfl, hc3, ?_⟩
            have hd : a.dropped = 0 := by
              simp [hc3] at hc1
              exact Classical.byContradiction fun h => absurd hc2'.2 (by have := hc1 h hc2'.1; omega)
            simp only [step, hl, hc2, hc3, hd]; simp

theorem step_armed (lt stopLt : Rec → Rec → Bool) (limit : Nat) (a : Acc) (last s : Rec) (m : Bool)
    (h : Armed limit a last) (hs : lt s last = false) :
    step lt stopLt limit a s m = (a, stopLt last s) := by
  obtain ⟨⟨h1, h3, h4⟩, h2⟩ := h
  simp [step, h1, h2, h3, h4, hs]

theorem step_stop (lt stopLt : Rec → Rec → Bool) (limit : Nat) (a : Acc) (s : Rec) (m : Bool)
    (h : (step lt stopLt limit a s m).2 = true) :
    ∃ last, Armed limit (step lt stopLt limit a s m).1 last ∧ stopLt last s = true := by
  rcases step_spec lt stopLt limit a s m with ⟨last, harm, _, he⟩ | ⟨_, he⟩ | ⟨_, _, he⟩ |
    ⟨last, _, _, _, he⟩ | ⟨last, hf, _, _, he⟩
  · rw [he] at h ⊢
    exact ⟨last, harm, h⟩
  · rw [he] at h; cases h
  · rw [he] at h; cases h
  · rw [he] at h; cases h
  · rw [he] at h ⊢
    exact ⟨last, ⟨hf, Nat.succ_ne_zero _⟩, h⟩

theorem scan_armed (lt stopLt : Rec → Rec → Bool) (limit : Nat) (a : Acc) (last : Rec)
    (evs : List (Rec × Bool)) (h : Armed limit a last) (hs : ∀ e ∈ evs, lt e.1 last = false) :
    scan lt stopLt limit false a evs = a := by
  induction evs with
  | nil => rfl
  | cons e r ih =>
    obtain ⟨s, m⟩ := e
    simp only [scan, step_armed lt stopLt limit a last s m h (hs (s, m) (by simp))]
    simpa using ih (fun e he => hs e (by simp [he]))

theorem early_exit_sound' (lt p : Rec → Rec → Bool) (limit : Nat) (a : Acc)
    (evs : List (Rec × Bool))
    (hp_trans : ∀ x y z, p x y = true → p z y = false → p x z = true)
    (hrefine : ∀ x y, lt x y = true → p y x = false)
    (hsorted : (evs.map (·.1)).Pairwise (fun x y => p y x = false)) :
    scan lt p limit true a evs = scan lt p limit false a evs := by
  induction evs generalizing a with
  | nil => rfl
  | cons e r ih =>
    obtain ⟨s, m⟩ := e
    simp only [List.map_cons, List.pairwise_cons] at hsorted
    simp only [scan, Bool.true_and, Bool.false_and]
    cases hstop : (step lt p limit a s m).2 with
    | false => simpa using ih _ hsorted.2
    | true =>
      obtain ⟨last, harm, hpl⟩ := step_stop _ _ _ _ _ _ hstop
      simp only [if_true]
      rw [scan_armed _ _ _ _ last r harm]
      · simp
      · intro e he
        have h1 : p e.1 s = false := hsorted.1 e.1 (List.mem_map_of_mem he)
        have h2 : p last e.1 = true := hp_trans last s e.1 hpl h1
        cases h3 : lt e.1 last with
        | false => rfl
        | true => rw [hrefine _ _ h3] at h2; cases h2

theorem searchFiles_sorted (lt p : Rec → Rec → Bool) (limit : Nat)
    (hp_trans : ∀ x y z, p x y = true → p z y = false → p x z = true)
    (hrefine : ∀ x y, lt x y = true → p y x = false)
    (files newer : List (List (Rec × Bool))) (a : Acc)
    (hsorted : ∀ f ∈ files, (f.map (·.1)).Pairwise (fun x y => p y x = false)) :
    searchFiles lt p limit true newer files a = searchFiles lt p limit false newer files a := by
  induction files generalizing newer a with
  | nil => rfl
  | cons f older ih =>
    simp only [searchFiles]
    rw [early_exit_sound' lt p limit a _ hp_trans hrefine]
    · exact ih _ _ (fun f hf => hsorted f (by simp [hf]))
    · have := hsorted f (by simp)
      simpa [List.map_map, Function.comp_def] using this

theorem insertSorted_perm (lt : Rec → Rec → Bool) (s : Rec) (l : List Rec) :
    (insertSorted lt s l).Perm (s :: l) := by
  unfold insertSorted
  refine List.perm_middle.trans ?_
  rw [List.take_append_drop]

theorem insertSorted_length (lt : Rec → Rec → Bool) (s : Rec) (l : List Rec) :
    (insertSorted lt s l).length = l.length + 1 := by
  simpa using (insertSorted_perm lt s l).length_eq

theorem insertSorted_sorted (keys : List SortKey) (s : Rec) (l : List Rec) (hl : SortedK keys l) :
    SortedK keys (insertSorted (less keys) s l) := by
  unfold insertSorted
  generalize hf : (fun (i : Nat) => match l[i]? with | some x => less keys s x | none => true) = f
  have hpw := List.pairwise_iff_getElem.mp hl
  have hfi : ∀ i (hi : i < l.length), f i = less keys s (l[i]'hi) := by
    intro i hi; rw [← hf]; simp only [List.getElem?_eq_getElem hi]
  -- on a sorted list "`s` is below the entry" is monotone in the position, so the search finds its threshold
  obtain ⟨hn, h0, h1⟩ := Pk.Index.sortSearch_threshold f l.length (fun i j hij hj hi => by
    rw [hfi j hj]
    rw [hfi i (by omega)] at hi
    by_cases e : i = j
    · subst e; exact hi
    · exact (less_swo keys).lt_of_lt_of_le s _ _ hi (hpw i j (by omega) hj (by omega)))
  rw [← sortSearch_eq] at hn h0 h1
  generalize sortSearch l.length f = pos at hn h0 h1
  rw [show SortedK keys (l.take pos ++ s :: l.drop pos) ↔ _ from List.pairwise_append]
  refine ⟨hl.sublist (List.take_sublist _ _), ?_, ?_⟩
  · rw [List.pairwise_cons]
    refine ⟨fun y hy => ?_, hl.sublist (List.drop_sublist _ _)⟩
    obtain ⟨k, hk, rfl⟩ := List.mem_drop_iff_getElem.mp hy
    have hk2 : pos + k < l.length := by omega
    exact (less_swo keys).asymm _ _ (by rw [← hfi _ hk2]; exact h1 _ (by omega) hk2)
  · intro x hx y hy
    rw [List.mem_cons] at hy
    rcases hy with rfl | hy
    · obtain ⟨k, hk, rfl⟩ := List.mem_take_iff_getElem.mp hx
      have hk2 : k < l.length := by omega
      rw [← hfi _ hk2]; exact h0 k (by omega)
    · rw [← List.take_append_drop pos l] at hl
      exact (List.pairwise_append.mp hl).2.2 x hx y hy

/-- `rest` is what the limit pre-check skipped or the full accumulator dropped: nothing in it beats a kept stream -/
structure Inv (keys : List SortKey) (limit : Nat) (a : Acc) (ms : List Rec) : Prop where
  sorted : SortedK keys a.streams
  len : limit ≠ 0 → a.streams.length ≤ limit
  rest : ∃ rest, (a.streams ++ rest).Perm ms ∧ (∀ x ∈ rest, ∀ t ∈ a.streams, less keys x t = false) ∧
    (a.dropped = 0 → rest = [])
  count : a.streams.length + a.dropped ≤ ms.length
  full : a.dropped ≠ 0 → limit ≠ 0 ∧ a.streams.length = limit

theorem Inv.empty (keys : List SortKey) (limit : Nat) : Inv keys limit {} [] :=
  ⟨List.Pairwise.nil, by simp, ⟨[], by simp⟩, by simp, by simp⟩

theorem Inv.perm {keys limit a ms ms'} (h : Inv keys limit a ms) (hp : ms.Perm ms') : Inv keys limit a ms' := by
  obtain ⟨h1, h2, ⟨rest, h3, h4, h5⟩, h6, h7⟩ := h
  exact ⟨h1, h2, ⟨rest, h3.trans hp, h4, h5⟩, by rw [← hp.length_eq]; exact h6, h7⟩

theorem Full.split {keys : List SortKey} {limit : Nat} {l : List Rec} {last : Rec} (hf : Full limit l last)
    (hs : SortedK keys l) (hlen : limit ≠ 0 → l.length ≤ limit) :
    l.length = limit ∧ l = l.dropLast ++ [last] ∧ ∀ t ∈ l, less keys last t = false := by
  obtain ⟨hl, h0, hle⟩ := hf
  have hlen' : l.length = limit := Nat.le_antisymm (hlen h0) hle
  obtain ⟨hlt, hget⟩ := List.getElem?_eq_some_iff.mp hl
  have hne : l ≠ [] := by intro h; subst h; simp at hlt
  have hlast : l.getLast hne = last := by
    rw [List.getLast_eq_getElem]
    simpa [hlen'] using hget
  have hsplit : l = l.dropLast ++ [last] := by
    rw [← hlast]; exact (List.dropLast_concat_getLast hne).symm
  refine ⟨hlen', hsplit, ?_⟩
  rw [hsplit] at hs ⊢
  exact hs.last_max

theorem step_inv (keys : List SortKey) (stopLt : Rec → Rec → Bool) (limit : Nat) (a : Acc) (ms : List Rec)
    (s : Rec) (m : Bool) (h : Inv keys limit a ms) :
    Inv keys limit (step (less keys) stopLt limit a s m).1 (if m then s :: ms else ms) := by
  obtain ⟨h1, h2, ⟨rest, h3, h4, h5⟩, h6, h7⟩ := h
  -- a match that is not below the last entry of a full accumulator joins `rest`, whichever test turns it away
  have reject : ∀ last d, Full limit a.streams last →
      less keys s last = false → d ≠ 0 → d ≤ a.dropped + 1 → Inv keys limit { a with dropped := d } (s :: ms) := by
    intro last d hf hlt hd hd1
    obtain ⟨hlen', _, hmax⟩ := hf.split h1 h2
    refine ⟨h1, h2, ⟨s :: rest, ?_, ?_, fun h => absurd h hd⟩, ?_, fun _ => ⟨hf.2.1, hlen'⟩⟩
    · exact List.perm_middle.trans (List.Perm.cons _ h3)
    · intro x hx t ht
      rw [List.mem_cons] at hx
      rcases hx with rfl | hx
      · exact (less_swo keys).incomp _ last t hlt (hmax t ht)
      · exact h4 x hx t ht
    · simp only [List.length_cons]; omega
  rcases step_spec (less keys) stopLt limit a s m with ⟨last, ⟨hf, hd⟩, hlt, he⟩ | ⟨hm, he⟩ |
    ⟨hm, hlim, he⟩ | ⟨last, hf, hm, hlt, he⟩ | ⟨last, hf, hm, hlt, he⟩
  ·
    rw [he]
    cases m with
    | false => exact ⟨h1, h2, ⟨rest, h3, h4, h5⟩, h6, h7⟩
    | true => exact reject last a.dropped hf hlt hd (Nat.le_succ _)
  ·
    rw [he]; subst hm
    exact ⟨h1, h2, ⟨rest, h3, h4, h5⟩, h6, h7⟩
  ·
    rw [he]; subst hm
    have hd : a.dropped = 0 := by
      apply Classical.byContradiction
      intro hd
      have := h7 hd
      omega
    have hr := h5 hd
    subst hr
    simp only [List.append_nil] at h3
    refine ⟨insertSorted_sorted keys s _ h1, ?_, ⟨[], ?_, by simp, fun _ => rfl⟩, ?_, ?_⟩
    · intro h0
      simp only [insertSorted_length]
      omega
    · simp only [List.append_nil, if_true]
      exact (insertSorted_perm _ s _).trans (List.Perm.cons _ h3)
    · simp only [insertSorted_length, if_true, List.length_cons]; omega
    · intro h; exact absurd hd h
  ·
    rw [he]; subst hm
    obtain ⟨hlen', hsplit, hmax⟩ := hf.split h1 h2
    have h0 := hf.2.1
    have hdl : (a.streams.dropLast).length = limit - 1 := by simp [hlen']
    have hsdl : SortedK keys a.streams.dropLast := h1.sublist (List.dropLast_sublist _)
    refine ⟨insertSorted_sorted keys s _ hsdl, ?_, ⟨last :: rest, ?_, ?_, by simp⟩, ?_, ?_⟩
    · intro _; simp only [insertSorted_length, hdl]; omega
    · simp only [if_true]
      have p1 : (insertSorted (less keys) s a.streams.dropLast ++ last :: rest).Perm
          ((s :: a.streams.dropLast) ++ last :: rest) :=
        List.Perm.append_right _ (insertSorted_perm _ s _)
      refine p1.trans ?_
      simp only [List.cons_append]
      refine List.Perm.cons _ ?_
      have : a.streams.dropLast ++ last :: rest = a.streams ++ rest := by
        conv => rhs; rw [hsplit]
        simp
      rw [this]; exact h3
    · intro x hx t ht
      have ht' := (insertSorted_perm (less keys) s a.streams.dropLast).mem_iff.mp ht
      have hmem : ∀ u ∈ a.streams.dropLast, u ∈ a.streams := fun u hu => (List.dropLast_sublist _).subset hu
      rw [List.mem_cons] at hx ht'
      rcases hx with rfl | hx
      · rcases ht' with rfl | ht'
        · exact (less_swo keys).asymm _ _ hlt
        · exact hmax t (hmem t ht')
      · rcases ht' with rfl | ht'
        · have hxl : less keys x last = false := h4 x hx last (by rw [hsplit]; simp)
          exact (less_swo keys).asymm _ _ ((less_swo keys).lt_of_lt_of_le _ last x hlt hxl)
        · exact h4 x hx t (hmem t ht')
    · simp only [insertSorted_length, hdl, if_true, List.length_cons]; omega
    · intro _; simp only [insertSorted_length, hdl]; omega
  ·
    rw [he]; subst hm
    exact reject last (a.dropped + 1) hf hlt (Nat.succ_ne_zero _) (Nat.le_refl _)

theorem scan_inv (keys : List SortKey) (stopLt : Rec → Rec → Bool) (limit : Nat) (a : Acc) (ms : List Rec)
    (evs : List (Rec × Bool)) (h : Inv keys limit a ms) :
    Inv keys limit (scan (less keys) stopLt limit false a evs) (ms ++ fed evs) := by
  induction evs generalizing a ms with
  | nil => simpa [fed, scan] using h
  | cons e r ih =>
    obtain ⟨s, m⟩ := e
    simp only [scan, Bool.false_and]
    have := ih _ _ (step_inv keys stopLt limit a ms s m h)
    refine this.perm ?_
    cases m with
    | false => simp [fed]
    | true => simpa [fed] using List.perm_middle.symm

theorem scan_prefix (lt stopLt : Rec → Rec → Bool) (limit : Nat) (sorted : Bool) (a : Acc)
    (evs : List (Rec × Bool)) :
    ∃ e1 e2, evs = e1 ++ e2 ∧ scan lt stopLt limit sorted a evs = scan lt stopLt limit false a e1 := by
  induction evs generalizing a with
  | nil => exact ⟨[], [], rfl, rfl⟩
  | cons e r ih =>
    obtain ⟨s, m⟩ := e
    by_cases hc : (sorted && (step lt stopLt limit a s m).2) = true
    · refine ⟨[(s, m)], r, rfl, ?_⟩
      simp [scan, hc]
    · obtain ⟨e1, e2, h1, h2⟩ := ih (step lt stopLt limit a s m).1
      refine ⟨(s, m) :: e1, e2, by simp [h1], ?_⟩
      simp only [scan, hc, Bool.false_and]
      simpa using h2

theorem scan_inv0 (keys : List SortKey) (stopLt : Rec → Rec → Bool) (limit : Nat) (evs : List (Rec × Bool)) :
    Inv keys limit (scan (less keys) stopLt limit false {} evs) (fed evs) := by
  simpa using scan_inv keys stopLt limit {} [] evs (Inv.empty keys limit)

theorem scan_inv_prefix (keys : List SortKey) (stopLt : Rec → Rec → Bool) (limit : Nat) (sorted : Bool)
    (evs : List (Rec × Bool)) :
    ∃ e1 e2, evs = e1 ++ e2 ∧ Inv keys limit (scan (less keys) stopLt limit sorted {} evs) (fed e1) := by
  obtain ⟨e1, e2, h1, h2⟩ := scan_prefix (less keys) stopLt limit sorted {} evs
  exact ⟨e1, e2, h1, h2 ▸ scan_inv0 keys stopLt limit e1⟩

theorem Inv.prefix {keys limit a ms} (h : Inv keys limit a ms) :
    ∃ arr : List Rec, arr.Perm ms ∧ SortedK keys arr ∧ a.streams = if limit = 0 then arr else arr.take limit := by
  obtain ⟨i1, i2, ⟨rest, i3, i4, i5⟩, _, i7⟩ := h
  obtain ⟨rest', hp, hs⟩ := exists_sorted keys rest
  refine ⟨a.streams ++ rest', (List.Perm.append_left _ hp).trans i3,
    List.pairwise_append.mpr ⟨i1, hs, fun x hx y hy => i4 y (hp.mem_iff.mp hy) x hx⟩, ?_⟩
  by_cases hd : a.dropped = 0
  · have : rest' = [] := by simpa [i5 hd] using hp
    subst this
    split
    · simp
    · rw [List.append_nil, List.take_of_length_le (i2 ‹_›)]
  · obtain ⟨h0, hlen⟩ := i7 hd
    rw [if_neg h0, List.take_left' hlen]

theorem Inv.more {keys limit a ms} (h : Inv keys limit a ms) :
    (a.dropped != 0) = (limit != 0 && decide (limit < ms.length)) := by
  obtain ⟨_, i2, ⟨rest, i3, _, i5⟩, i4, i6⟩ := h
  rw [Bool.eq_iff_iff]
  simp only [bne_iff_ne, ne_eq, Bool.and_eq_true, decide_eq_true_eq]
  constructor
  · intro hd
    have := i6 hd
    omega
  · intro ⟨h0, hlt⟩ hd
    have hlen := i3.length_eq
    simp only [i5 hd, List.append_nil] at hlen
    have := i2 h0
    omega

theorem finish_eq {keys limit skip a ms} (h : Inv keys (limit + skip) a ms) (hl : limit = 0 → skip = 0) :
    finish a skip = ((a.streams.drop skip).map (·.id), a.dropped != 0) := by
  unfold finish
  split
  · rename_i hc
    have hd : a.dropped = 0 := Classical.byContradiction fun hd => by have := h.full hd; omega
    simp [List.drop_eq_nil_of_le hc, hd]
  · rfl

end Pk.Proofs.Search
