/-
  The definition texts of marks on the level of characters: `joinIds`, `plainIdList` (`^id:\d+(,\d+)*$`) and
  the id list such a text names (`plainIds`): `plain_id_join`, `plain_append_join`; the third-branch text `orForm` is
  neither `id:-1` nor a plain id list nor the text it wraps.
-/
import Pk.Model.TagGraph
import Pk.Proofs.TagGraphSets

namespace Pk.Proofs.TagGraphMore
open Pk.TagGraph

def joinChars : List Nat → List Char
  | [] => []
  | [a] => Nat.toDigits 10 a
  | a :: b :: rest => Nat.toDigits 10 a ++ ',' :: joinChars (b :: rest)

-- a string literal is `String.ofList` of its characters for the kernel; `rfl` or `decide` on `toList` would decode UTF-8
theorem comma_chars : ",".toList = [','] := String.toList_ofList
theorem idColon_chars : "id:".toList = ['i', 'd', ':'] := String.toList_ofList
theorem idNone_chars : "id:-1".toList = ['i', 'd', ':', '-', '1'] := String.toList_ofList
theorem paren_chars : "(".toList = ['('] := String.toList_ofList

theorem intercalate_comma (l : List (List Char)) (a b : List Char) :
    [','].intercalate (a :: b :: l) = a ++ ',' :: [','].intercalate (b :: l) := by
  simp [List.intercalate, List.intersperse]

theorem joinIds_toList (ids : List Nat) : (joinIds ids).toList = joinChars ids := by
  unfold joinIds
  rw [String.toList_intercalate]
  rw [comma_chars]
  induction ids with
  | nil => rfl
  | cons a ids ih =>
    cases ids with
    | nil => simp [joinChars, List.intercalate, Nat.toString_eq_repr, Nat.toList_repr]
    | cons b rest =>
      simp only [List.map_cons] at ih ⊢
      rw [intercalate_comma, ih]
      simp [joinChars, Nat.toString_eq_repr, Nat.toList_repr]

theorem isDigit_toDigits (n : Nat) : ∀ c ∈ Nat.toDigits 10 n, c.isDigit = true :=
  fun _ hc => Nat.isDigit_of_mem_toDigits (by decide) (by decide) hc

theorem comma_not_digit : ','.isDigit = false := by decide

theorem digit_ne_comma (c : Char) (h : c.isDigit = true) : (c == ',') = false := by
  cases hc : c == ','
  · rfl
  · have : c = ',' := by simpa using hc
    subst this
    exact absurd h (by decide)

theorem digitsCsv_digits (d rest : List Char) (saw : Bool) (hd : ∀ c ∈ d, c.isDigit = true) (hne : d ≠ []) :
    digitsCsv (d ++ rest) saw = digitsCsv rest true := by
  induction d generalizing saw with
  | nil => exact absurd rfl hne
  | cons c d ih =>
    have hc := hd c List.mem_cons_self
    simp only [List.cons_append, digitsCsv, hc, if_true]
    cases d with
    | nil => rfl
    | cons c' d' => exact ih true (fun x hx => hd x (List.mem_cons_of_mem _ hx)) (by simp)

theorem digitsCsv_join (ids : List Nat) (rest : List Char) (saw : Bool) (hne : ids ≠ []) :
    digitsCsv (joinChars ids ++ rest) saw = digitsCsv rest true := by
  induction ids generalizing saw with
  | nil => exact absurd rfl hne
  | cons a ids ih =>
    cases ids with
    | nil =>
      simp only [joinChars]
      exact digitsCsv_digits _ _ _ (isDigit_toDigits a) Nat.toDigits_ne_nil
    | cons b r =>
      simp only [joinChars, List.append_assoc]
      rw [digitsCsv_digits _ _ _ (isDigit_toDigits a) Nat.toDigits_ne_nil]
      simp only [List.cons_append, digitsCsv, comma_not_digit, Bool.false_eq_true, if_false]
      simp only [beq_self_eq_true, Bool.and_self, if_true]
      exact ih false (by simp)

theorem digitsCsv_append_comma (body J : List Char) (saw : Bool) (h : digitsCsv body saw = true) :
    digitsCsv (body ++ ',' :: J) saw = digitsCsv J false := by
  fun_induction digitsCsv body saw with
  | case1 saw => subst h; simp [digitsCsv, comma_not_digit]
  | case2 c cs saw hc ih => simp only [List.cons_append, digitsCsv, hc, if_true]; exact ih h
  | case3 c cs saw hc hcomma ih => simp only [List.cons_append, digitsCsv, hc, hcomma, if_true]; exact ih h
  | case4 c cs saw hc hcomma => cases h

/-- parse `\d+(,\d+)*` -/
def csvIds : List Char → Nat → List Nat
  | [], acc => [acc]
  | c :: cs, acc => if c == ',' then acc :: csvIds cs 0 else csvIds cs (10 * acc + (c.toNat - 48))

/-- the ids a text `id:a,b,c` names; of no meaning unless `plainIdList s` -/
def plainIds (s : String) : List Nat := csvIds (s.toList.drop 3) 0

theorem csvIds_digits (d rest : List Char) (acc : Nat) (hd : ∀ c ∈ d, c.isDigit = true) :
    csvIds (d ++ rest) acc = csvIds rest (Nat.ofDigitChars 10 d acc) := by
  induction d generalizing acc with
  | nil => simp
  | cons c d ih =>
    have hc := digit_ne_comma c (hd c List.mem_cons_self)
    simp only [List.cons_append, csvIds, hc, Bool.false_eq_true, if_false]
    rw [ih _ (fun x hx => hd x (List.mem_cons_of_mem _ hx)), Nat.ofDigitChars_cons]
    rfl

theorem csvIds_join (ids : List Nat) (hne : ids ≠ []) : csvIds (joinChars ids) 0 = ids := by
  induction ids with
  | nil => exact absurd rfl hne
  | cons a ids ih =>
    cases ids with
    | nil =>
      simp only [joinChars]
      have := csvIds_digits (Nat.toDigits 10 a) [] 0 (isDigit_toDigits a)
      simp only [List.append_nil] at this
      rw [this, Nat.ofDigitChars_ten_toDigits]
      rfl
    | cons b r =>
      simp only [joinChars]
      rw [csvIds_digits _ _ _ (isDigit_toDigits a), Nat.ofDigitChars_ten_toDigits]
      simp only [csvIds, beq_self_eq_true, if_true]
      rw [ih (by simp)]

theorem csvIds_append_comma (body J : List Char) (acc : Nat) :
    csvIds (body ++ ',' :: J) acc = csvIds body acc ++ csvIds J 0 := by
  induction body generalizing acc with
  | nil => simp [csvIds]
  | cons c cs ih =>
    simp only [List.cons_append, csvIds]
    split
    · simp [ih]
    · exact ih _

theorem plainIdList_iff (s : String) :
    plainIdList s = true ↔ ∃ body, s.toList = 'i' :: 'd' :: ':' :: body ∧ digitsCsv body false = true := by
  unfold plainIdList
  simp only [Bool.and_eq_true, String.startsWith_string_iff]
  rw [idColon_chars]
  constructor
  · rintro ⟨⟨body, hb⟩, h2⟩
    refine ⟨body, by simpa using hb.symm, ?_⟩
    rw [← hb] at h2
    simpa using h2
  · rintro ⟨body, hb, h2⟩
    rw [hb]
    exact ⟨⟨body, rfl⟩, by simpa using h2⟩

theorem plainIds_of_toList (s : String) (body : List Char) (h : s.toList = 'i' :: 'd' :: ':' :: body) :
    plainIds s = csvIds body 0 := by
  simp [plainIds, h]

theorem plain_id_join (ids : List Nat) (hne : ids ≠ []) :
    plainIdList ("id:" ++ joinIds ids) = true ∧ plainIds ("id:" ++ joinIds ids) = ids := by
  have hl : ("id:" ++ joinIds ids).toList = 'i' :: 'd' :: ':' :: joinChars ids := by
    rw [String.toList_append, joinIds_toList, idColon_chars]; rfl
  constructor
  · rw [plainIdList_iff]
    refine ⟨_, hl, ?_⟩
    have := digitsCsv_join ids [] false hne
    simpa [digitsCsv] using this
  · rw [plainIds_of_toList _ _ hl, csvIds_join ids hne]

theorem plain_append_join (s : String) (ids : List Nat) (hs : plainIdList s = true) (hne : ids ≠ []) :
    plainIdList (s ++ "," ++ joinIds ids) = true ∧
    plainIds (s ++ "," ++ joinIds ids) = plainIds s ++ ids := by
  obtain ⟨body, hb, hd⟩ := (plainIdList_iff s).mp hs
  have hl : (s ++ "," ++ joinIds ids).toList = 'i' :: 'd' :: ':' :: (body ++ ',' :: joinChars ids) := by
    rw [String.toList_append, String.toList_append, joinIds_toList, hb, comma_chars]
    simp
  constructor
  · rw [plainIdList_iff]
    refine ⟨_, hl, ?_⟩
    rw [digitsCsv_append_comma _ _ _ hd]
    have := digitsCsv_join ids [] false hne
    simpa [digitsCsv] using this
  · rw [plainIds_of_toList _ _ hl, plainIds_of_toList _ _ hb, csvIds_append_comma, csvIds_join ids hne]

theorem idNone_not_plain : plainIdList "id:-1" = false := by
  cases h : plainIdList "id:-1"
  · rfl
  · obtain ⟨body, hb, hd⟩ := (plainIdList_iff _).mp h
    rw [idNone_chars] at hb
    simp only [List.cons.injEq, true_and] at hb
    subst hb
    exact absurd hd (by decide)

/-- the text of the third branch of `markAddApply` -/
def orForm (d : String) (ids : List Nat) : String := "(" ++ d ++ ") or id:" ++ joinIds ids

theorem orForm_toList (d : String) (ids : List Nat) :
    (orForm d ids).toList = '(' :: (d.toList ++ (") or id:".toList ++ joinChars ids)) := by
  unfold orForm
  rw [String.toList_append, String.toList_append, String.toList_append, joinIds_toList]
  rw [paren_chars]
  simp

theorem orForm_not_plain (d : String) (ids : List Nat) : plainIdList (orForm d ids) = false := by
  cases h : plainIdList (orForm d ids)
  · rfl
  · obtain ⟨body, hb, _⟩ := (plainIdList_iff _).mp h
    rw [orForm_toList] at hb
    simp at hb

theorem orForm_ne_idNone (d : String) (ids : List Nat) : orForm d ids ≠ "id:-1" := by
  intro h
  have := congrArg String.toList h
  rw [orForm_toList] at this
  rw [idNone_chars] at this
  simp at this

theorem orForm_ne_self (d : String) (ids : List Nat) : orForm d ids ≠ d := by
  intro h
  have := congrArg (fun s => s.toList.length) h
  simp only [orForm_toList] at this
  simp at this
  omega

end Pk.Proofs.TagGraphMore
