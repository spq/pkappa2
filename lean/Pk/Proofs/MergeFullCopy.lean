/-
  What `AddIndex` copies.  The import table under `mergeImports`: the loop of `addImports` (`addKeys`), the remap is
  the position in the table afterwards (`mergeImports_eq`).  `copyStreams`: every copied stream is located, in the
  writer's tables, at the pieces it had in the reader, import ids of the packet records remapped (`copy_one`); then
  `copyStreams` over the whole stream table of the added index (`copyStreams_full`).
-/
import Pk.Proofs.MergeFullLocated
import Pk.Proofs.MergeFullWF
import Pk.Proofs.IndexFormatImports

namespace Pk.Index
open Pk Pk.Bytes

theorem mergeImports_eq (imps ks : List ImportKey) :
    mergeImports imps ks = (addKeys imps ks, ks.map fun k => (addKeys imps ks).idxOf k % 2 ^ 32) := by
  induction ks generalizing imps with
  | nil => rfl
  | cons k ks ih =>
    have hidx : ∀ imps', k ∈ imps' → (addKeys imps' ks).idxOf k = imps'.idxOf k := by
      intro imps' hk
      obtain ⟨⟨extra, he, _⟩, _⟩ := addKeys_facts imps' ks
      rw [he, List.idxOf_append, if_pos hk]
    by_cases hc : k ∈ imps
    · simp only [mergeImports, addKeys, List.contains_iff_mem.mpr hc, if_true, ih, List.map_cons, hidx imps hc]
    · have hc' : imps.contains k = false := by simpa using hc
      simp only [mergeImports, addKeys, hc', Bool.false_eq_true, if_false, ih, List.map_cons, hidx (imps ++ [k]) (by simp)]
      rw [List.idxOf_append, if_neg hc]; simp

theorem mergeImports_spec (imps ks : List ImportKey) :
    (∃ extra, (mergeImports imps ks).1 = imps ++ extra ∧ ∀ k ∈ extra, k ∈ ks) ∧
    (mergeImports imps ks).2.length = ks.length ∧
    (imps.Nodup → (mergeImports imps ks).1.Nodup) ∧
    ((mergeImports imps ks).1.length ≤ 2 ^ 32 → ∀ i, i < ks.length →
      (mergeImports imps ks).1[(mergeImports imps ks).2.getD i 0]? = ks[i]?) := by
  obtain ⟨hext, hnd, hmem⟩ := addKeys_facts imps ks
  rw [mergeImports_eq]
  refine ⟨hext, by simp, hnd, fun hle i hi => ?_⟩
  have hlt : (addKeys imps ks).idxOf ks[i] < (addKeys imps ks).length :=
    List.idxOf_lt_length_of_mem (hmem _ (List.getElem_mem hi))
  have hle' : (addKeys imps ks).length ≤ 2 ^ 32 := hle
  simp only [List.getD_eq_getElem?_getD, List.getElem?_map, List.getElem?_eq_getElem hi, Option.map_some, Option.getD_some]
  rw [Nat.mod_eq_of_lt (by omega), List.getElem?_eq_getElem hlt, List.getElem_idxOf]

theorem addImports_spec (imps : List ImportKey) (rs : List SrcRef) :
    (∃ extra, addImports imps rs = imps ++ extra ∧ ∀ k ∈ extra, ∃ r ∈ rs, k = r.key) ∧
    (imps.Nodup → (addImports imps rs).Nodup) ∧ (∀ r ∈ rs, r.key ∈ addImports imps rs) :=
  addImports_facts imps rs

/-- what `AddIndex` knows about its remap tables when it copies the streams -/
structure CopyCtx (r : Reader) (nimp' : Nat) (importRemap : List Nat) (gs' : List HostGroup) (hgRemap : List HgRemap) : Prop where
  wf : r.WF
  remapLen : importRemap.length = r.imports.length
  impValid : ∀ i, i < r.imports.length → importRemap.getD i 0 < nimp'
  hgLen : hgRemap.length = r.hostGroups.length
  hgMap : ∀ (k : Nat) (rg : RHostGroup) (m : HgRemap), r.hostGroups[k]? = some rg → hgRemap[k]? = some m →
    m.hostRemap.length = rg.hostCount ∧ ∃ g' : HostGroup, gs'[m.group]? = some g' ∧
      ∀ (i j : Nat), m.hostRemap[i]? = some j → g'.Valid j ∧ g'.hostAt j = rg.get i

/-- the copied stream `s'` of reader stream `s`: same static fields and relative times, and located in the
    writer's tables at the pieces `s` has in the reader -/
def NewRel (r : Reader) (nimp' : Nat) (P : List PacketRec) (D : Bytes) (gs' : List HostGroup) (remap : List Nat)
    (s s' : StreamRec) : Prop :=
  Copied s s' ∧ ∃ k, Located r.imports.length r.f.packets r.f.data r.hostGroups s k ∧ k.Ok s ∧
    Located nimp' P D (gs'.map HostGroup.toReader) s' { k with chain := k.chain.map (reimp remap) }

theorem NewRel.mono {r : Reader} {n : Nat} {P : List PacketRec} {D : Bytes} {gs' : List HostGroup} {remap : List Nat}
    {s s' : StreamRec} (h : NewRel r n P D gs' remap s s') (X : List PacketRec) (Y : Bytes) :
    NewRel r n (P ++ X) (D ++ Y) gs' remap s s' := by
  obtain ⟨hc, k, h1, h2, h3⟩ := h
  exact ⟨hc, k, h1, h2, h3.mono (Nat.le_refl _) X Y⟩

theorem blobOf_spec (r : Reader) (s : StreamRec) (hsz : s.cb + s.sb < 2 ^ 64) (blob : Bytes) (h : blobOf r s = .ok blob) :
    ∃ c seg rest, blob = c ++ seg ∧ r.f.data.drop s.dataStart = c ++ seg ++ rest ∧ c.length = s.cb + s.sb ∧
      SegCovers (s.cb + s.sb) seg := by
  unfold blobOf at h
  have hcount : add64 s.cb s.sb = s.cb + s.sb := Nat.mod_eq_of_lt hsz
  simp only [hcount] at h
  split at h
  · rename_i h0
    simp at h; subst h
    exact ⟨[], [], r.f.data.drop s.dataStart, rfl, by simp, by simp at h0 ⊢; omega, ⟨1, by rw [h0]; simp [copySeg]⟩⟩
  · split at h
    · simp at h
    · rename_i hlen
      split at h
      · simp at h
      · rename_i seg hseg
        simp at h; subst h
        obtain ⟨⟨rest, hr⟩, hcov⟩ := copySeg_prefix hseg
        refine ⟨_, seg, rest, rfl, ?_, ?_, hcov⟩
        · rw [List.append_assoc, ← hr, List.take_append_drop]
        · have := hcount
          simp only [List.length_take, List.length_drop] at hlen ⊢; omega

theorem copy_one {r : Reader} {nimp' : Nat} {importRemap : List Nat} {gs' : List HostGroup} {hgRemap : List HgRemap}
    (ctx : CopyCtx r nimp' importRemap gs' hgRemap) (s : StreamRec) (hs : s ∈ r.f.streams)
    (hgr : HgRemap) (ch sh : Nat) (h1 : hgRemap[s.hg]? = some hgr) (h2 : hgr.hostRemap[s.ch]? = some ch)
    (h3 : hgr.hostRemap[s.sh]? = some sh) (ps : List PacketRec)
    (h4 : copyPackets importRemap (r.f.packets.drop s.pstart) = .ok ps) (blob : Bytes) (h5 : blobOf r s = .ok blob)
    (P : List PacketRec) (hP : P.length < 2 ^ 32) (bl : List Bytes) :
    NewRel r nimp' (P ++ ps) (bl ++ [blob]).flatten gs' importRemap s
      { s with hg := hgr.group, ch := ch, sh := sh, pstart := P.length % 2 ^ 32, dataStart := bl.flatten.length } := by
  have hsz := ctx.wf.sizes s hs
  have hlt : s.hg < r.hostGroups.length := by rw [← ctx.hgLen]; exact getElem?_lt h1
  obtain ⟨rg, hrg⟩ : ∃ rg, r.hostGroups[s.hg]? = some rg := ⟨_, List.getElem?_eq_getElem hlt⟩
  have hinv : rg.Inv := ctx.wf.hosts rg (List.mem_of_getElem? hrg)
  obtain ⟨hrl, g', hg', hmap⟩ := ctx.hgMap s.hg rg hgr hrg h1
  obtain ⟨vc, ec⟩ := hmap _ _ h2
  obtain ⟨vs, es⟩ := hmap _ _ h3
  have hch : s.ch < rg.hostCount := by rw [← hrl]; exact getElem?_lt h2
  have hsh : s.sh < rg.hostCount := by rw [← hrl]; exact getElem?_lt h3
  obtain ⟨c, hc, hps, hcv⟩ := copyPackets_spec _ _ _ h4
  obtain ⟨cc, seg, rest, hb, hd, hcl, hcov⟩ := blobOf_spec r s hsz blob h5
  refine ⟨⟨⟨rfl, rfl, rfl, rfl, rfl, rfl⟩, rfl, rfl⟩,
    { client := rg.get s.ch, server := rg.get s.sh, chain := c, c := cc, seg := seg }, ?_, ?_, ?_⟩
  · exact ⟨⟨rg, hrg, hinv.valid hch, hinv.valid hsh, rfl, rfl⟩, hc, fun p hp => by rw [← ctx.remapLen]; exact hcv p hp,
      ⟨rest, hd⟩, hcl⟩
  · exact ⟨ctx.wf.skips s hs c hc, hcov, hsz⟩
  · refine ⟨⟨g'.toReader, by simp only [List.getElem?_map, hg']; rfl, vc, vs, ?_, ?_⟩, ?_, ?_, ?_, hcl⟩
    · rw [toReader_get]; exact ec
    · rw [toReader_get]; exact es
    · simp only
      rw [Nat.mod_eq_of_lt hP, List.drop_left, hps]
      have := chainOf_self hc
      rw [chainOf_map_reimp, this]; rfl
    · intro p hp
      simp only [List.mem_map] at hp
      obtain ⟨q, hq, rfl⟩ := hp
      exact ctx.impValid _ (by rw [← ctx.remapLen]; exact hcv q hq)
    · exact ⟨[], by simp [hb]⟩

theorem copyStreams_full {r : Reader} {nimp' : Nat} {importRemap : List Nat} {gs' : List HostGroup} {hgRemap : List HgRemap}
    (ctx : CopyCtx r nimp' importRemap gs' hgRemap) (existing : List Nat) (ss : List StreamRec) (hss : ∀ s ∈ ss, s ∈ r.f.streams) :
    ∀ (acc acc' : CopyAcc), acc.dataLen = acc.blobs.flatten.length →
      copyStreams r existing importRemap hgRemap ss acc = .ok acc' → acc'.packets.length ≤ 2 ^ 32 →
      (∃ X, acc'.packets = acc.packets ++ X) ∧ (∃ Y, acc'.blobs = acc.blobs ++ Y) ∧ acc'.dataLen = acc'.blobs.flatten.length ∧
      ∃ new, acc'.streams = acc.streams ++ new ∧
        All₂ (NewRel r nimp' acc'.packets acc'.blobs.flatten gs' importRemap) (ss.filter fun s => !existing.contains s.id) new := by
  induction ss with
  | nil =>
    intro acc acc' hd h _
    cases h
    exact ⟨⟨[], (List.append_nil _).symm⟩, ⟨[], (List.append_nil _).symm⟩, hd, [], (List.append_nil _).symm, All₂.nil⟩
  | cons s ss ih =>
    intro acc acc' hd h hcap
    have hss' : ∀ x ∈ ss, x ∈ r.f.streams := fun x hx => hss x (by simp [hx])
    rw [filter_new_cons]
    obtain ⟨hmem, h⟩ | ⟨hmem, hgr, ch, sh, ps, blob, h1, h2, h3, h4, h5, h⟩ := copyStreams_step h
    · rw [if_pos hmem]
      exact ih hss' acc acc' hd h hcap
    · rw [if_neg hmem]
      obtain ⟨⟨X, hX⟩, ⟨Y, hY⟩, hdl, new, hnew, hall⟩ := ih hss' _ acc' (by simp [hd]) h hcap
      simp only at hX hY hnew
      obtain ⟨c, hc, hps, _⟩ := copyPackets_spec _ _ _ h4
      have hpsne : ps.length ≠ 0 := by
        rw [hps, List.length_map]
        exact fun h => chainOf_ne_nil hc (List.length_eq_zero_iff.mp h)
      have hP : acc.packets.length < 2 ^ 32 := by
        have := congrArg List.length hX
        simp only [List.length_append] at this
        omega
      have hone := copy_one ctx s (hss s (by simp)) hgr ch sh h1 h2 h3 ps h4 blob h5 acc.packets hP acc.blobs
      rw [← hd] at hone
      refine ⟨⟨ps ++ X, by rw [hX, List.append_assoc]⟩, ⟨[blob] ++ Y, by rw [hY, List.append_assoc]⟩, hdl,
        _ :: new, by rw [hnew, List.append_assoc]; rfl, All₂.cons ?_ hall⟩
      have := hone.mono X Y.flatten
      rw [hX, hY]
      simpa using this

def MinP (all : List StreamRec) (acc : CopyAcc) : Prop :=
  (acc.streams = [] ∧ acc.minFirst = 2 ^ 64 - 1) ∨ (∃ s ∈ all, acc.minFirst = s.first)

theorem copyStreams_minFirst (r : Reader) (existing importRemap : List Nat) (hgRemap : List HgRemap) (all : List StreamRec)
    (hall : ∀ s ∈ all, s.first < 2 ^ 64) (ss : List StreamRec) (hss : ∀ s ∈ ss, s ∈ all) :
    ∀ (acc acc' : CopyAcc), MinP all acc → copyStreams r existing importRemap hgRemap ss acc = .ok acc' → MinP all acc' := by
  induction ss with
  | nil => intro acc acc' hm h; cases h; exact hm
  | cons s ss ih =>
    intro acc acc' hm h
    have hss' : ∀ x ∈ ss, x ∈ all := fun x hx => hss x (by simp [hx])
    obtain ⟨_, h⟩ | ⟨_, _, _, _, _, _, _, _, _, _, _, h⟩ := copyStreams_step h
    · exact ih hss' acc acc' hm h
    · refine ih hss' _ acc' (Or.inr ?_) h
      have hs := hall s (hss s (by simp))
      dsimp only
      rcases hm with ⟨_, hm⟩ | ⟨x, hx, hm⟩
      · refine ⟨s, hss s (by simp), ?_⟩
        split
        · rfl
        · omega
      · split
        · exact ⟨s, hss s (by simp), rfl⟩
        · exact ⟨x, hx, hm⟩

end Pk.Index
