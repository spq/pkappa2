/-
  The saturating add; `Op.kinds`, the five kinds of instruction as the walks tell them apart (the case analysis
  of all three soundness proofs), and `Accepts.inv`, how an accepted word starts at an instruction of each kind
  (suffix and maximum walk); soundness of the `ConstantSuffix` walk.
-/
import Pk.Model.RegexProg

namespace Pk.RegexProg
open Pk.Regex

/-- the overflow trick of `add`: the carry-free half sum -/
theorem half_sum (a b : Nat) : (a >>> 1) + (b >>> 1) + (a &&& b &&& 1) = (a + b) / 2 := by
  have h := Nat.and_mod_two_eq_one (a := a) (b := b)
  rw [Nat.and_one_is_mod, Nat.shiftRight_eq_div_pow, Nat.shiftRight_eq_div_pow]
  omega

theorem satAdd_eq (a b : Nat) : satAdd a b = Nat.min (a + b) MAXU := by
  unfold satAdd MAXU
  rw [half_sum, Nat.shiftRight_eq_div_pow, Nat.div_div_eq_div_mul]
  simp only [Nat.min_def]
  split <;> split <;> omega

theorem commonPrefix_prefix (a b : List Byte) : commonPrefix a b <+: a ∧ commonPrefix a b <+: b := by
  induction a generalizing b with
  | nil => simp [commonPrefix]
  | cons x xs ih =>
    cases b with
    | nil => simp [commonPrefix]
    | cons y ys =>
      simp only [commonPrefix]
      split
      · rename_i h
        exact ⟨List.cons_prefix_cons.2 ⟨rfl, (ih ys).1⟩, List.cons_prefix_cons.2 ⟨h, (ih ys).2⟩⟩
      · exact ⟨List.nil_prefix, List.nil_prefix⟩

theorem commonSuffix_suffix (a b : List Byte) : commonSuffix a b <:+ a ∧ commonSuffix a b <:+ b := by
  have := commonPrefix_prefix a.reverse b.reverse
  unfold commonSuffix
  exact ⟨by simpa using List.reverse_suffix.2 this.1, by simpa using List.reverse_suffix.2 this.2⟩

theorem wf_get {p : Prog} (h : p.wf = true) {pc : Nat} {i : Inst} (hi : p.inst[pc]? = some i) : i.wf = true := by
  unfold Prog.wf at h
  rw [List.all_eq_true] at h
  apply h
  obtain ⟨hlt, rfl⟩ := Array.getElem?_eq_some_iff.1 hi
  simp

theorem literal_matchByte {i : Inst} (hwf : i.wf = true) (hr : i.op.isRune = true) {r b : Byte}
    (hl : i.literal? = some r) (hm : i.matchByte b = true) : b = r := by
  unfold Inst.literal? at hl
  split at hl
  · rename_i r' hrune
    split at hl
    · rename_i hc
      simp at hl
      subst hl
      unfold Inst.matchByte at hm
      unfold Inst.wf at hwf
      cases hop : i.op <;> simp [hop, Op.isRune, hrune] at hr hm hwf
      · simpa [hc.2] using hm
      · simpa [hc.2] using hm
    · simp at hl
  · simp at hl

/-- The five kinds of instruction, in the order in which the walks test them. -/
theorem Op.kinds (o : Op) :
    (o.isRune = true ∧ o.isPass = false ∧ o.isAlt = false ∧ o ≠ .match_) ∨
    (o.isRune = false ∧ o.isPass = true ∧ o.isAlt = false ∧ o ≠ .match_) ∨
    (o.isRune = false ∧ o.isPass = false ∧ o.isAlt = true ∧ o ≠ .match_) ∨
    (o.isRune = false ∧ o.isPass = false ∧ o.isAlt = false ∧ o = .match_) ∨
    (o.isRune = false ∧ o.isPass = false ∧ o.isAlt = false ∧ o ≠ .match_) := by
  cases o <;> decide

/-- How an accepted word starts, by the kind of the instruction, the kinds being tested in the order
    in which the walks test them; the last kind, `InstFail`, accepts nothing. -/
theorem Accepts.inv {p : Prog} {pc : Nat} {pre w post : List Byte} {i : Inst}
    (h : Accepts p pc pre w post) (hi : p.inst[pc]? = some i) :
    if i.op.isRune then ∃ b w', w = b :: w' ∧ i.matchByte b = true ∧ Accepts p i.out (pre ++ [b]) w' post
    else if i.op.isPass then Accepts p i.out pre w post
    else if i.op.isAlt then Accepts p i.out pre w post ∨ Accepts p i.arg pre w post
    else i.op = .match_ ∧ w = [] := by
  have alt_first : i.op.isAlt = true → i.op.isRune = false ∧ i.op.isPass = false := by cases i.op <;> decide
  cases h with
  | match_ _ i' _ _ hi' hop => cases hi.symm.trans hi'; simp [hop, Op.isRune, Op.isPass, Op.isAlt]
  | rune _ i' b _ w' _ hi' hr hm hrest =>
    cases hi.symm.trans hi'
    simp only [hr, if_true]
    exact ⟨b, w', rfl, hm, hrest⟩
  | pass _ i' _ _ _ hi' hop hrest =>
    cases hi.symm.trans hi'
    rcases hop with hop | hop <;> simpa [hop, Op.isRune, Op.isPass] using hrest
  | empty _ i' _ _ _ hi' hop _ hrest => cases hi.symm.trans hi'; simpa [hop, Op.isRune, Op.isPass] using hrest
  | altOut _ i' _ _ _ hi' hop hrest => cases hi.symm.trans hi'; simp [alt_first hop, hop, hrest]
  | altArg _ i' _ _ _ hi' hop hrest => cases hi.symm.trans hi'; simp [alt_first hop, hop, hrest]

theorem suffixEval_sound (p : Prog) (hwf : p.wf = true) :
    ∀ (fuel : Nat) (s : List Byte) (pos : Nat) (seen : List Nat) (s' : List Byte),
      suffixEval p fuel s pos seen = some s' →
      ∀ (pre w post : List Byte), Accepts p pos pre w post →
      ∀ u : List Byte, s <:+ u → s' <:+ u ++ w := by
  intro fuel
  induction fuel with
  | zero => intro s pos seen s' h; simp [suffixEval] at h
  | succ fuel ih =>
    intro s pos seen s' h pre w post hacc u hsu
    unfold suffixEval at h
    cases hi : p.inst[pos]? with
    | none => simp [hi] at h
    | some i =>
      have inv := hacc.inv hi
      simp only [hi] at h
      rcases i.op.kinds with k | k | k | k | k <;> obtain ⟨hr, hp, ha, hm⟩ := k <;>
        simp only [hr, hp, ha, if_true, if_false, Bool.false_eq_true] at h inv
      · obtain ⟨b, w', rfl, hmb, hrest⟩ := inv
        -- a literal instruction can only have consumed its literal
        have hs : (match i.literal? with | some b => s ++ [b] | none => []) <:+ u ++ [b] := by
          cases hl : i.literal? with
          | none => exact List.nil_suffix
          | some r =>
            cases literal_matchByte (wf_get hwf hi) hr hl hmb
            obtain ⟨t, rfl⟩ := hsu
            exact ⟨t, by simp⟩
        simpa using ih _ _ _ _ h _ _ _ hrest (u ++ [b]) hs
      · exact ih _ _ _ _ h _ _ _ inv u hsu
      · by_cases hseen : seen.contains pos = true
        · simp only [hseen, if_true] at h
          simp at h; subst h; exact List.nil_suffix
        · simp only [hseen] at h
          cases h2 : suffixEval p fuel s i.out (seen ++ [pos]) with
          | none => simp [h2] at h
          | some s2 =>
            cases h1 : suffixEval p fuel s i.arg (seen ++ [pos]) with
            | none => simp [h2, h1] at h
            | some s1 =>
              simp [h2, h1] at h
              subst h
              rcases inv with hrest | hrest
              · exact (commonSuffix_suffix s1 s2).2.trans (ih _ _ _ _ h2 _ _ _ hrest u hsu)
              · exact (commonSuffix_suffix s1 s2).1.trans (ih _ _ _ _ h1 _ _ _ hrest u hsu)
      · simp [hm] at h
        subst h
        simpa [inv.2] using hsu
      · exact absurd inv.1 hm

end Pk.RegexProg
