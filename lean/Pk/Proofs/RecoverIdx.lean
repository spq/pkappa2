/- `visibleIn` and `nextID` characterised through membership (`visibleIn_some_iff`, `nextID_le`), so that the
   later proofs argue about which files a disk holds and never about the recursions. -/
import Pk.Model.RecoverIdx
namespace Pk.Proofs.RecoverIdx
open Pk.Recover

theorem serves_iff (f : IndexFile) (id : Nat) :
    serves f id = true ↔ f.complete = true ∧ id ∈ f.ids := by
  simp [serves]

def Holds (d : List IndexFile) (id n : Nat) : Prop := ∃ f ∈ d, serves f id = true ∧ f.name = n

theorem holds_cons (f : IndexFile) (fs : List IndexFile) (id n : Nat) :
    Holds (f :: fs) id n ↔ (serves f id = true ∧ f.name = n) ∨ Holds fs id n := by
  simp [Holds]

theorem holds_append (a b : List IndexFile) (id n : Nat) :
    Holds (a ++ b) id n ↔ Holds a id n ∨ Holds b id n := by
  simp only [Holds, List.mem_append, or_and_right, exists_or]

theorem visibleIn_none_holds (d : List IndexFile) (id : Nat) (h : visibleIn d id = none) :
    ∀ n, ¬ Holds d id n := by
  intro n hn
  induction d with
  | nil => obtain ⟨f, hf, _⟩ := hn; cases hf
  | cons f fs ih =>
    simp only [visibleIn] at h
    split at h
    · split at h <;> cases h
    · rename_i hs
      rcases (holds_cons f fs id n).mp hn with ⟨h1, _⟩ | h2
      · exact hs h1
      · exact ih h h2

theorem visibleIn_some (d : List IndexFile) (id n : Nat) (h : visibleIn d id = some n) :
    Holds d id n ∧ ∀ m, Holds d id m → m ≤ n := by
  induction d generalizing n with
  | nil => cases h
  | cons f fs ih =>
    simp only [visibleIn] at h
    simp only [holds_cons]
    split at h
    · rename_i hs
      cases hv : visibleIn fs id with
      | none =>
        rw [hv] at h
        cases h
        exact ⟨.inl ⟨hs, rfl⟩, fun m hm => hm.elim (fun h => Nat.le_of_eq h.2.symm)
          fun h => absurd h (visibleIn_none_holds fs id hv m)⟩
      | some k =>
        rw [hv] at h
        cases h
        have ⟨hk1, hk2⟩ := ih k hv
        refine ⟨?_, fun m hm => hm.elim (fun h => h.2 ▸ Nat.le_max_left ..)
          fun h => Nat.le_trans (hk2 m h) (Nat.le_max_right ..)⟩
        rcases Nat.le_total k f.name with hle | hle
        · exact .inl ⟨hs, (Nat.max_eq_left hle).symm⟩
        · exact .inr (by rw [Nat.max_eq_right hle]; exact hk1)
    · rename_i hs
      have ⟨h1, h2⟩ := ih n h
      exact ⟨.inr h1, fun m hm => hm.elim (fun h => absurd h.1 hs) (h2 m)⟩

theorem visibleIn_some_iff (d : List IndexFile) (id n : Nat) :
    visibleIn d id = some n ↔ Holds d id n ∧ ∀ m, Holds d id m → m ≤ n := by
  refine ⟨visibleIn_some d id n, fun ⟨h1, h2⟩ => ?_⟩
  cases hv : visibleIn d id with
  | none => exact absurd h1 (visibleIn_none_holds d id hv n)
  | some k =>
    have ⟨h3, h4⟩ := visibleIn_some d id k hv
    rw [Nat.le_antisymm (h2 k h3) (h4 n h1)]
theorem visibleIn_none_iff (d : List IndexFile) (id : Nat) :
    visibleIn d id = none ↔ ∀ n, ¬ Holds d id n := by
  constructor
  · exact visibleIn_none_holds d id
  · intro h
    cases hv : visibleIn d id with
    | none => rfl
    | some k => exact absurd ((visibleIn_some_iff d id k).mp hv).1 (h k)

theorem visibleIn_congr (d d' : List IndexFile) (id : Nat)
    (h : ∀ n, Holds d id n ↔ Holds d' id n) : visibleIn d id = visibleIn d' id := by
  cases hv : visibleIn d id with
  | none =>
    symm
    rw [visibleIn_none_iff] at hv ⊢
    exact fun n hn => hv n ((h n).mpr hn)
  | some k =>
    symm
    rw [visibleIn_some_iff] at hv ⊢
    exact ⟨(h k).mp hv.1, fun m hm => hv.2 m ((h m).mpr hm)⟩

theorem visibleIn_isSome_iff (d : List IndexFile) (id : Nat) :
    (visibleIn d id).isSome = true ↔ ∃ n, Holds d id n := by
  cases hv : visibleIn d id with
  | none =>
    simp only [Option.isSome_none, Bool.false_eq_true, false_iff]
    rintro ⟨n, hn⟩
    exact (visibleIn_none_iff d id).mp hv n hn
  | some k =>
    simp only [Option.isSome_some, true_iff]
    exact ⟨k, ((visibleIn_some_iff d id k).mp hv).1⟩

theorem idsNext_le (ids : List Nat) (b : Nat) : idsNext ids ≤ b ↔ ∀ i ∈ ids, i < b := by
  induction ids with
  | nil => simp [idsNext]
  | cons i is ih =>
    simp only [idsNext, List.mem_cons, forall_eq_or_imp, ← ih]
    omega

theorem nextID_le (d : List IndexFile) (b : Nat) :
    nextID d ≤ b ↔ ∀ f ∈ d, f.complete = true → ∀ i ∈ f.ids, i < b := by
  induction d with
  | nil => simp [nextID]
  | cons f fs ih =>
    simp only [nextID, List.mem_cons, forall_eq_or_imp, ← ih]
    cases hc : f.complete with
    | false => simp
    | true =>
      simp only [if_true, forall_const, ← idsNext_le]
      omega

theorem lt_nextID (d : List IndexFile) (f : IndexFile) (hf : f ∈ d) (hc : f.complete = true)
    (i : Nat) (hi : i ∈ f.ids) : i < nextID d :=
  (nextID_le d (nextID d)).mp (Nat.le_refl _) f hf hc i hi

theorem nextID_mono (d d' : List IndexFile)
    (h : ∀ f ∈ d, f.complete = true → ∀ i ∈ f.ids, ∃ g ∈ d', g.complete = true ∧ i ∈ g.ids) :
    nextID d ≤ nextID d' := by
  rw [nextID_le]
  intro f hf hc i hi
  obtain ⟨g, hg, hgc, hig⟩ := h f hf hc i hi
  exact lt_nextID d' g hg hgc i hig

theorem nextID_congr (d d' : List IndexFile)
    (h : ∀ i, (∃ f ∈ d, f.complete = true ∧ i ∈ f.ids) ↔ (∃ g ∈ d', g.complete = true ∧ i ∈ g.ids)) :
    nextID d = nextID d' := by
  apply Nat.le_antisymm
  · exact nextID_mono d d' fun f hf hc i hi => (h i).mp ⟨f, hf, hc, hi⟩
  · exact nextID_mono d' d fun f hf hc i hi => (h i).mpr ⟨f, hf, hc, hi⟩

theorem held_iff_visible (d : List IndexFile) (i : Nat) :
    (∃ f ∈ d, f.complete = true ∧ i ∈ f.ids) ↔ (visibleIn d i).isSome = true := by
  rw [visibleIn_isSome_iff]
  constructor
  · rintro ⟨f, hf, hc, hi⟩
    exact ⟨f.name, f, hf, (serves_iff f i).mpr ⟨hc, hi⟩, rfl⟩
  · rintro ⟨_, f, hf, hs, _⟩
    exact ⟨f, hf, (serves_iff f i).mp hs⟩

end Pk.Proofs.RecoverIdx
