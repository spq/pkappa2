/- Lemmas about `C06.Inv` and the job invariant `JobInv` that hold whatever the event is; `Covers`: what an event
   has to do for both to survive it. -/
import Pk.Props.C06ReachSpec
import Pk.Proofs.MgrTerminationAcyclic
import Pk.Proofs.MgrTruthInherit
import Pk.Proofs.MgrTruthFrame
import Pk.Proofs.MgrTruthEdit
import Pk.Proofs.MgrTruthJob
import Pk.Proofs.MgrTruthMasks
import Pk.Proofs.MgrTruthVia
import Pk.Proofs.MgrTruthOrigin
import Pk.Proofs.MgrTruthInv
namespace Pk.Props.C06Reach
open Pk.Mgr Pk.Props.MgrReach Pk.Proofs.MgrTruth Pk.Proofs.MgrTags

theorem pend_keep (s : St) (e : Ev) (st : Started) (hr : Reach s) (n : String) (hn : ¬ C06.Edits e n)
    (id : Nat) (h : Pend s.tags n id) : Pend (step s e st).1.tags n id := by
  obtain ⟨t, ht, hid⟩ := h
  obtain ⟨t', h', hrel⟩ := ((step_frame s e st).2.1 n hn).1 t ht
  exact ⟨t', h', hrel.2.2 id hid (Nat.lt_of_lt_of_le (hr.uncBounded n t ht id hid) (Pk.Proofs.MgrReach.all_le_step s e st hr.importJob hr.allLeNext))⟩

/-- a referenced tag cannot be deleted or renamed, an edit of its definition makes everything pending, and a
    mark update restores the pending set: only the tagging completion is left out -/
theorem pend_mono (s : St) (e : Ev) (st : Started) (hr : Reach s) (hne : ∀ n r, e ≠ .tagDone n r)
    (r : String) (id : Nat) (href : ∃ nt, nt ∈ s.tags ∧ r ∈ nt.2.refs)
    (h : Pend s.tags r id) : Pend (step s e st).1.tags r id := by
  by_cases herr : (step s e st).2 = Res.err
  · rw [step_rejected s e st herr]; exact h
  by_cases hE : C06.Edits e r
  · obtain ⟨t, ht, hid⟩ := h
    obtain ⟨nt, hnt, hrn⟩ := href
    have hrb : nt.1 ∈ t.refBy := hr.refByWF nt hnt r hrn t ht
    cases e with
    | tagDone n res => exact absurd rfl (hne n res)
    | addTag name color defn f =>
      have hn : name = r := hE
      subst hn
      have := (addTag_ok s name color defn f st (res_ok_addTag s name color defn f st herr)).1
      rw [ht] at this; cases this
    | updQuery name defn f =>
      have hn : name = r := hE
      subst hn
      obtain ⟨t0, t', _, h', _, hall, _⟩ := updQuery_ok s name defn f st (res_ok_updQuery s name defn f st herr)
      exact ⟨t', h', hall id (hr.uncBounded name t ht id hid)⟩
    | updName name new =>
      rcases updName_ok s name new st (res_ok_updName s name new st herr) with h1 | ⟨t0, h0, hrb0, hnew, _, _⟩
      · rw [h1.1]; exact ⟨t, ht, hid⟩
      · have hn : name = r ∨ new = r := hE
        rcases hn with hn | hn
        · subst hn
          rw [ht] at h0; cases h0
          rw [hrb0] at hrb; cases hrb
        · subst hn
          rw [ht] at hnew; cases hnew
    | markAdd name ids =>
      have hn : name = r := hE
      subst hn
      obtain ⟨t', h', hu, _⟩ := step_markAdd_self s name ids st t ht
      exact ⟨t', h', hu ▸ hid⟩
    | markDel name ids =>
      have hn : name = r := hE
      subst hn
      obtain ⟨t', h', hu, _⟩ := step_markDel_self s name ids st t ht
      exact ⟨t', h', hu ▸ hid⟩
    | delTag name =>
      have hn : name = r := hE
      subst hn
      obtain ⟨t0, h0, hrb0, _⟩ := delTag_ok s name st (res_ok_delTag s name st herr)
      rw [ht] at h0; cases h0
      rw [hrb0] at hrb; cases hrb
    | _ => exact absurd hE (by simp [C06.Edits])
  · exact pend_keep s e st hr r hE id h

/-- `CovM` and `ImportBase` on three sets -/
def CovS (u r a : List Nat) (t : Tag) (id : Nat) : Prop :=
  id ∈ a ∨ (t.sfeat ≠ 0 ∧ (u ≠ [] ∨ r ≠ [] ∨ a ≠ [])) ∨ (id ∈ r ∧ F254 t) ∨ (id ∈ u ∧ FDT t)

theorem covM_iff {s : St} {t : Tag} {id : Nat} : CovM s t id ↔ CovS s.upd s.rst s.add t id := Iff.rfl

theorem CovS.mono {u r a u' r' a' : List Nat} {t : Tag} {id : Nat} (hu : ∀ x, x ∈ u → x ∈ u') (hr : ∀ x, x ∈ r → x ∈ r')
    (ha : ∀ x, x ∈ a → x ∈ a') (h : CovS u r a t id) : CovS u' r' a' t id := by
  rcases h with h | h | h | h
  · exact Or.inl (ha _ h)
  · exact Or.inr (Or.inl ⟨h.1, h.2.imp (ne_nil_of_sub hu) (Or.imp (ne_nil_of_sub hr) (ne_nil_of_sub ha))⟩)
  · exact Or.inr (Or.inr (Or.inl ⟨hr _ h.1, h.2⟩))
  · exact Or.inr (Or.inr (Or.inr ⟨hu _ h.1, h.2⟩))

/-- what `Cov` is defined for: the sets make the stream pending when `invF` is applied with them -/
theorem covS_invF {u r a : IdSet} {t : Tag} {id all : Nat} (h : CovS u r a t id) (hid : id < all) :
    id ∈ (invF all u r a t).unc := by
  rcases h with h | h | h | h
  · exact invF_add t id h hid
  · exact invF_sub t h.1 id hid
  · exact invF_rst t h.2 id h.1 hid
  · exact invF_upd t h.2 id h.1 hid

theorem importBase_covS {s : St} {a b d : List Nat} {n : String} {id : Nat} (h : ImportBase s a b d n id) :
    ∃ t, sget s.tags n = some t ∧ CovS a b d t id := h

theorem masksNE_mono {s s' : St} (hu : ∀ id, id ∈ s.upd → id ∈ s'.upd) (hrs : ∀ id, id ∈ s.rst → id ∈ s'.rst)
    (ha : ∀ id, id ∈ s.add → id ∈ s'.add) (h : masksNE s) : masksNE s' :=
  h.imp (ne_nil_of_sub hu) (Or.imp (ne_nil_of_sub hrs) (ne_nil_of_sub ha))

theorem covM_mono {s s' : St} {snap : Tag} {id : Nat}
    (hu : ∀ id, id ∈ s.upd → id ∈ s'.upd) (hrs : ∀ id, id ∈ s.rst → id ∈ s'.rst)
    (ha : ∀ id, id ∈ s.add → id ∈ s'.add) (h : CovM s snap id) : CovM s' snap id :=
  covM_iff.2 ((covM_iff.1 h).mono hu hrs ha)

theorem cov_mono {s s' : St} {snap : Tag} {id : Nat}
    (hu : ∀ id, id ∈ s.upd → id ∈ s'.upd) (hrs : ∀ id, id ∈ s.rst → id ∈ s'.rst)
    (ha : ∀ id, id ∈ s.add → id ∈ s'.add)
    (hp : ∀ r, (r ∈ snap.mainT ∨ r ∈ snap.subT) → ∀ id, Pend s.tags r id → Pend s'.tags r id)
    (h : Cov s snap id) : Cov s' snap id := by
  rcases h with h | ⟨hm, h⟩
  · exact Or.inl (covM_mono hu hrs ha h)
  · refine Or.inr ⟨masksNE_mono hu hrs ha hm, ?_⟩
    rcases h with ⟨r, hr, hp'⟩ | ⟨r, hr, id', hp'⟩
    · exact Or.inl ⟨r, hr, hp r (Or.inl hr) _ hp'⟩
    · exact Or.inr ⟨r, hr, id', hp r (Or.inr hr) _ hp'⟩

theorem masksNE_of_mem {s : St} {id : Nat} (h : id ∈ s.upd ∨ id ∈ s.rst ∨ id ∈ s.add) : masksNE s := by
  rcases h with h | h | h
  · exact Or.inl (fun h0 => by rw [h0] at h; cases h)
  · exact Or.inr (Or.inl (fun h0 => by rw [h0] at h; cases h))
  · exact Or.inr (Or.inr (fun h0 => by rw [h0] at h; cases h))

theorem masks_of_covM {s : St} {snap : Tag} {id : Nat} (h : CovM s snap id) : masksNE s := by
  rcases h with h | h | h | h
  · exact masksNE_of_mem (Or.inr (Or.inr h))
  · exact h.2
  · exact masksNE_of_mem (Or.inr (Or.inl h.1))
  · exact masksNE_of_mem (Or.inl h.1)

theorem masks_of_cov {s : St} {snap : Tag} {id : Nat} (h : Cov s snap id) : masksNE s := by
  rcases h with h | h
  · exact masks_of_covM h
  · exact h.1

/-- the three cases of `Dep` at the job's tag (base, main reference, sub-query reference) are the three ways
    of `Cov`; `hd`: the sweep of the completion runs only if some mask is non-empty -/
theorem job_cover {s s' : St} {snap ot : Tag} {jn : String} {B : String → Nat → Prop} {nx id : Nat}
    (hot : sget s.tags jn = some ot) (hm : ot.mainT = snap.mainT) (hs : ot.subT = snap.subT)
    (d : Dep s.tags nx B jn id)
    (ha : B jn id → CovM s' snap id)
    (hb : ∀ r, r ∈ snap.mainT → Dep s.tags nx B r id → CovM s' snap id ∨ Pend s'.tags r id)
    (hc : ∀ r, r ∈ snap.subT → ∀ id', id' < nx → Dep s.tags nx B r id' →
        CovM s' snap id ∨ ∃ id'', Pend s'.tags r id'')
    (hd : (∃ n0 id0, B n0 id0) → masksNE s') : Cov s' snap id := by
  cases d with
  | base hbase => exact Or.inl (ha hbase)
  | main ht hr d' =>
    rw [hot] at ht; cases ht
    rcases hb _ (hm ▸ hr) d' with h | h
    · exact Or.inl h
    · exact Or.inr ⟨hd d'.nonempty, Or.inl ⟨_, hm ▸ hr, h⟩⟩
  | sub ht hr hlt d' =>
    rw [hot] at ht; cases ht
    rcases hc _ (hs ▸ hr) _ hlt d' with h | h
    · exact Or.inl h
    · exact Or.inr ⟨hd d'.nonempty, Or.inr ⟨_, hs ▸ hr, h⟩⟩

/-- in `hpre`, `n` differs from `n'` only at a rename: the incarnation the job was started for is followed by
    its identity, not by its name -/
theorem jobInv_mono (s : St) (e : Ev) (st : Started) (T T' g : Truth) (hr : Reach s) (hjob : JobInv s T g)
    (hne : ∀ n r, e ≠ .tagDone n r)
    (jn : String) (snap : Tag) (held : List Nat) (hj : s.jTag = some (jn, snap, held))
    (hnx : ∀ id, s.next ≤ id → id < (step s e st).1.next → id ∈ (step s e st).1.add)
    (hpre : ∀ n' ot', sget (step s e st).1.tags n' = some ot' → ot'.gen = snap.gen → ot'.defn = snap.defn →
        (∀ id, id < (step s e st).1.next → CovM (step s e st).1 snap id) ∨
        ∃ n ot, sget s.tags n = some ot ∧ ot.gen = snap.gen ∧ ot.defn = snap.defn ∧ Attrs ot' = Attrs ot ∧
          (Attrs ot = Attrs snap → ∀ id, id < s.next → T' n' id ≠ T n id → Cov (step s e st).1 snap id)) :
    JobInv (step s e st).1 T' g := by
  have htag : s.tag = true := hr.jobsWF.1.2 (by rw [hj]; rfl)
  obtain ⟨hj', _, hu, hrs, ha⟩ := job_stable s e st (jn, snap, held) hj htag hne
  intro jn2 snap2 held2 n' ot' hj2 hot' hg' hd'
  rw [hj'] at hj2
  cases hj2
  rcases hpre n' ot' hot' hg' hd' with hall | ⟨n, ot, hot, hg, hd, hat, h2⟩
  · exact Or.inl hall
  rcases hjob jn snap held n ot hj hot hg hd with hall | ⟨e1, hcov⟩
  · left
    intro id hid
    rcases Nat.lt_or_ge id s.next with hlt | hge
    · exact covM_mono hu hrs ha (hall id hlt)
    · exact Or.inl (hnx id hge hid)
  · right
    refine ⟨hat.trans e1, ?_⟩
    intro id hid hne'
    rcases Nat.lt_or_ge id s.next with hlt | hge
    · by_cases hT : T' n' id = T n id
      · rw [hT] at hne'
        refine cov_mono hu hrs ha ?_ (hcov id hlt hne')
        intro r hr' id' hp
        refine pend_mono s e st hr hne r id' ⟨(n, ot), sget_mem _ _ _ hot, ?_⟩ hp
        obtain ⟨a1, a2, _⟩ := attrs_eq e1
        simp only [mem_refs, a1, a2]
        exact hr'
      · exact h2 e1 id hlt hT
    · exact Or.inl (Or.inl (hnx id hge hid))

theorem pre_of_not_edits (s : St) (e : Ev) (st : Started) (n' : String) (snap ot' : Tag)
    (hn : ¬ C06.Edits e n') (hot' : sget (step s e st).1.tags n' = some ot') (hg' : ot'.gen = snap.gen)
    (hd' : ot'.defn = snap.defn) :
    ∃ ot, sget s.tags n' = some ot ∧ ot.gen = snap.gen ∧ ot.defn = snap.defn ∧ Attrs ot' = Attrs ot := by
  have hk := (step_frame s e st).2.1 n' hn
  cases hs : sget s.tags n' with
  | none => rw [hk.2 hs] at hot'; cases hot'
  | some ot =>
    obtain ⟨t2, h2, hrel⟩ := hk.1 ot hs
    rw [hot'] at h2; cases h2
    obtain ⟨t3, h3, ha⟩ := akeep_get (step_attrs s e st n' hn) hs
    rw [hot'] at h3; cases h3
    exact ⟨ot, rfl, by rw [← (attrs_eq ha).2.2.2.2]; exact hg', by rw [← hrel.2.1]; exact hd', ha⟩

/-- `h`: the cases in which `ghostNext` sets the ghost to the truth after the event -/
theorem jobInv_fresh (s : St) (e : Ev) (st : Started) (T' : Truth) (hr : Reach s) (hev : C09.EvOK s e)
    (hgen : GenInv s) (hgen' : GenInv (step s e st).1)
    (h : s.jTag = none ∨ ∃ n r, e = .tagDone n r) (hinv' : C06.Inv (step s e st).1 T')
    (hnl' : (step s e st).1.next ≤ (step s e st).1.all) :
    JobInv (step s e st).1 T' T' := by
  intro jn snap held n ot' hj' hot' hg' _
  rcases job_started s e st jn snap held hr hev h hj' with
    ⟨ot, hot, hm, ha, hlate⟩ | ⟨he, hgone, t, ht, e5⟩
  · have hn : n = jn := hgen'.2.2 n ot' jn ot hot' hot (by rw [hg', (attrs_eq ha).2.2.2.2])
    subst hn
    rw [hot'] at hot; cases hot
    right
    refine ⟨ha, ?_⟩
    intro id hid hne
    have hidall : id < (step s e st).1.all := Nat.lt_of_lt_of_le hid hnl'
    by_cases hsu : id ∈ snap.unc
    · exfalso; apply hne; unfold Ans; rw [if_pos hsu]
    · by_cases hou : id ∈ ot'.unc
      -- pending on the entry but not in the snapshot: a later `outputDropped` of the same event (`LateCov`)
      · obtain ⟨hmk, hl⟩ := hlate id hou hsu hidall
        refine Or.inr ⟨hmk, ?_⟩
        rcases hl with ⟨r, hr', tr, htr, hu⟩ | ⟨r, hr', tr, id', htr, hu⟩
        · exact Or.inl ⟨r, hr', tr, htr, hu⟩
        · exact Or.inr ⟨r, hr', id', tr, htr, hu⟩
      · exfalso
        apply hne
        unfold Ans
        rw [if_neg hsu]
        have := hinv' n ot' hot' id hid hou
        rw [hm] at this
        by_cases hmem : id ∈ snap.mat
        · simp [hmem, this.1 hmem]
        · cases hT : T' n id with
          | false => simp [hmem]
          | true => exact absurd (this.2 hT) hmem
  · -- the job was started for the tag this `delTag` deleted: no entry carries its identity any more
    exfalso
    subst he
    rcases gen_origin s _ st hr.tagsWF n ot' hot' with ⟨u, hu, g1⟩ | ⟨m, u, he1, _⟩ | ⟨c, d, f, he1, _⟩
    · have hn : n = jn := hgen.2.2 n u jn t hu ht (by rw [← g1, hg', e5])
      subst hn
      rw [hgone] at hot'; cases hot'
    · cases he1
    · cases he1

open Pk.Proofs.MgrTermination in
theorem closed_after (s1 : St) (hs : Sorted s1.tags) (hb : Bounded s1.all s1.tags) (ht : Topo s1.tags) :
    ∀ n t', sget (inherit s1).tags n = some t' → Closed s1.all (inherit s1).tags t' :=
  fun n t' h => inherit_closed s1 hs hb (inheritLoop_ok _ _ hs ht) n t' h

theorem pend_inherit (s1 : St) {n : String} {id : Nat} (h : Pend s1.tags n id) (hid : id < s1.all) :
    Pend (inherit s1).tags n id := by
  obtain ⟨t, ht, hu⟩ := h
  obtain ⟨t', h', hrel⟩ := (inherit_keep s1 n).1 t ht
  exact ⟨t', h', hrel.2.2 id hu hid⟩

/-- `tags0` is the table the closure is taken in (the pre-state), `s1` the table the sweep runs on: an entry of
    `s1` has the references it has in `tags0`, or is pending everywhere (its definition was edited) -/
theorem sweep_pending (tags0 : List (String × Tag)) (s1 : St) (hsort : Sorted s1.tags)
    (hb : Bounded s1.all s1.tags) (ht : Pk.Proofs.MgrTermination.Topo s1.tags)
    {B : String → Nat → Prop} {nx : Nat} (hnx : nx ≤ s1.all)
    (hex : ∀ n t0, sget tags0 n = some t0 → ∃ t1, sget s1.tags n = some t1 ∧
        ((t1.mainT = t0.mainT ∧ t1.subT = t0.subT) ∨ ∀ id, id < s1.all → id ∈ t1.unc))
    (hbase : ∀ n id, B n id → id < s1.all → Pend s1.tags n id) :
    ∀ n id, Dep tags0 nx B n id → id < s1.all → Pend (inherit s1).tags n id := by
  refine dep_pending hnx (closed_after s1 hsort hb ht) ?_ (fun n id hB hid => pend_inherit s1 (hbase n id hB hid) hid)
  intro n t0 h0
  obtain ⟨t1, h1, hc⟩ := hex n t0 h0
  obtain ⟨t', h', ha⟩ := akeep_get (inherit_akeep s1 n) h1
  obtain ⟨e1, e2, _⟩ := attrs_eq ha
  refine ⟨t', h', ?_⟩
  rcases hc with hc | hc
  · left
    exact ⟨fun r hr => by rw [e1, hc.1]; exact hr, fun r hr => by rw [e2, hc.2]; exact hr⟩
  · right
    intro id hid
    obtain ⟨t2, h2, hu⟩ := pend_inherit s1 ⟨t1, h1, hc id hid⟩ hid
    rw [h'] at h2; cases h2; exact hu

theorem inherit_fq (s : St) : Pk.Proofs.MgrTermination.FQ s.tags (inherit s).tags :=
  (Pk.Proofs.MgrTags.inherit_frE (g := False) s).fq

theorem topo_before_inherit (s : St) (hs : Sorted s.tags) (ht : Pk.Proofs.MgrTermination.Topo (inherit s).tags) :
    Pk.Proofs.MgrTermination.Topo s.tags :=
  Pk.Proofs.MgrTermination.topo_of_fq (inherit_sorted s hs) (inherit_fq s).symm ht

open Pk.Proofs.MgrTermination in
theorem topo_of_acyclic (s : St) (ha : C09.Acyclic s) : Topo s.tags :=
  topo_of_full s.tags s.tags.length ha

theorem covM_congr {s : St} {a b : Tag} (hm : a.mfeat = b.mfeat) (hs : a.sfeat = b.sfeat) {id : Nat}
    (h : CovM s a id) : CovM s b id := by
  unfold CovM F254 FDT at *
  rw [← hm, ← hs]; exact h

/-- an entry the event does not edit must hold every stream that is new or whose truth moved; an edited entry is
    the caller's -/
theorem inv_of_frame' (s : St) (e : Ev) (st : Started) (T T' : Truth) (hr : Reach s) (hinv : C06.Inv s T)
    (hch : ∀ n, ¬ C06.Edits e n → ∀ t', sget (step s e st).1.tags n = some t' → ∀ id, id < (step s e st).1.next →
        (s.next ≤ id ∨ T' n id ≠ T n id) → id ∈ t'.unc)
    (hed : ∀ n, C06.Edits e n → ∀ t', sget (step s e st).1.tags n = some t' → ∀ id, id < (step s e st).1.next →
        id ∉ t'.unc → (id ∈ t'.mat ↔ T' n id = true)) :
    C06.Inv (step s e st).1 T' := fun n =>
  (Classical.em (C06.Edits e n)).elim (hed n) fun hE =>
    inv_at_step s e st T T' n (hinv n) hE hr.nextLeAll (hch n hE)

/-- What an event does, as far as "decided ⇒ correct" is concerned.  `nx` is the new `next`, `B` the base of what the
    frame contract lets change (its closure under references is `Dep`), `A` the names whose closure the event's
    sweep makes pending (all names, or those that survive the event).  `base`, `masks`, `dead` and `self` are asked
    only while a tagging job is in flight: the same base is recorded in the during-job masks.  The defaults close
    the fields that are void for an event that edits no name, adds no stream and has `A = fun _ => True`. -/
structure Covers (s : St) (e : Ev) (st : Started) (T T' : Truth) (nx : Nat) (B : String → Nat → Prop)
    (A : String → Prop) : Prop where
  next : (step s e st).1.next = nx
  changes : ∀ n t, ¬ C06.Edits e n → sget s.tags n = some t → ∀ id, id < s.next → T' n id ≠ T n id →
    Dep s.tags nx B n id
  pending : ∀ n id, A n → Dep s.tags nx B n id → id < nx → Pend (step s e st).1.tags n id
  base : s.tag = true → ∀ n ot, sget s.tags n = some ot → ¬ C06.Edits e n → ∀ id, id < s.next → B n id →
    CovM (step s e st).1 ot id
  masks : s.tag = true → (∃ n0 id0, B n0 id0) → ∀ id, id < s.next → masksNE (step s e st).1
  notDone : ∀ n r, e ≠ .tagDone n r := by intro _ _ h; cases h
  alive : ∀ n, ¬ C06.Edits e n → A n := by intros; trivial
  /-- a new stream: in the base of every tag, and in the mask `add` -/
  new : ∀ id, s.next ≤ id → id < nx →
    (∀ n t, ¬ C06.Edits e n → sget s.tags n = some t → B n id) ∧ (s.tag = true → id ∈ (step s e st).1.add) := by
      intro _ h1 h2; exact absurd h2 (Nat.not_lt.2 h1)
  edited : ∀ n, C06.Edits e n → ∀ t', sget (step s e st).1.tags n = some t' → ∀ id, id < nx →
    id ∉ t'.unc → (id ∈ t'.mat ↔ T' n id = true) := by intro _ h; exact h.elim
  /-- a referenced name outside `A` (the mark tag of a mark update) -/
  dead : s.tag = true → ∀ n ot, sget s.tags n = some ot → ¬ C06.Edits e n → ∀ r, ¬ A r →
    ∀ id, id < s.next → (r ∈ ot.mainT → Dep s.tags nx B r id → CovM (step s e st).1 ot id) ∧
      (r ∈ ot.subT → ∀ id', Dep s.tags nx B r id' → CovM (step s e st).1 ot id) := by
      intro _ _ _ _ _ _ h; exact absurd trivial h
  /-- an edited entry that carries the identity and text of the snapshot -/
  self : ∀ jn snap held, s.jTag = some (jn, snap, held) → ∀ n' ot', C06.Edits e n' →
    sget (step s e st).1.tags n' = some ot' → ot'.gen = snap.gen → ot'.defn = snap.defn →
    (∀ id, id < nx → CovM (step s e st).1 snap id) ∨
    ∃ n ot, sget s.tags n = some ot ∧ ot.gen = snap.gen ∧ ot.defn = snap.defn ∧ Attrs ot' = Attrs ot ∧
      ∀ id, id < s.next → T' n' id = T n id := by intro _ _ _ _ _ _ h; exact h.elim

theorem Covers.good {s : St} {e : Ev} {st : Started} {T T' g : Truth} {nx : Nat} {B : String → Nat → Prop}
    {A : String → Prop} (hg : Good s T g) (c : Covers s e st T T' nx B A) :
    C06.Inv (step s e st).1 T' ∧
    (∀ jn snap held, s.jTag = some (jn, snap, held) → JobInv (step s e st).1 T' g) := by
  have hr := hg.reach
  have hnx := c.next
  subst hnx
  have hle : s.next ≤ (step s e st).1.next := Pk.Proofs.MgrReach.next_mono s e st hr.importJob
  have hdep : ∀ n t, ¬ C06.Edits e n → sget s.tags n = some t → ∀ id, id < (step s e st).1.next →
      (s.next ≤ id ∨ T' n id ≠ T n id) → Dep s.tags (step s e st).1.next B n id := by
    intro n t hE ht id hid hc
    rcases Nat.lt_or_ge id s.next with hlt | hge
    · exact hc.elim (fun h => absurd hlt (Nat.not_lt.2 h)) (c.changes n t hE ht id hlt)
    · exact .base ((c.new id hge hid).1 n t hE ht)
  refine ⟨inv_of_frame' s e st T T' hr hg.inv ?_ c.edited, ?_⟩
  · intro n hE t' h' id hid hc
    have hk := (step_frame s e st).2.1 n hE
    cases hsn : sget s.tags n with
    | none => rw [hk.2 hsn] at h'; cases h'
    | some t =>
      obtain ⟨t2, h2, hu⟩ := c.pending n id (c.alive n hE) (hdep n t hE hsn id hid hc) hid
      rw [h'] at h2; cases h2; exact hu
  · intro jn snap held hj
    have htag : s.tag = true := hr.jobsWF.1.2 (by rw [hj]; rfl)
    refine jobInv_mono s e st T T' g hr hg.job c.notDone jn snap held hj (fun id h1 h2 => (c.new id h1 h2).2 htag) ?_
    intro n' ot' hot' hg' hd'
    by_cases hE : C06.Edits e n'
    · rcases c.self jn snap held hj n' ot' hE hot' hg' hd' with h | ⟨n, ot, h1, h2, h3, h4, h5⟩
      · exact Or.inl h
      · exact Or.inr ⟨n, ot, h1, h2, h3, h4, fun _ id hid hT => absurd (h5 id hid) hT⟩
    · obtain ⟨ot, hot, hg0, hd, ha⟩ := pre_of_not_edits s e st n' snap ot' hE hot' hg' hd'
      refine Or.inr ⟨n', ot, hot, hg0, hd, ha, ?_⟩
      intro hA id hid hT
      obtain ⟨r1, r2, e1, e2, _⟩ := attrs_eq hA
      have hid' : id < (step s e st).1.next := Nat.lt_of_lt_of_le hid hle
      refine job_cover hot r1 r2 (c.changes n' ot hE hot id hid hT) ?_ ?_ ?_ ?_
      · exact fun hB => covM_congr e1 e2 (c.base htag n' ot hot hE id hid hB)
      · intro r hrm d
        by_cases hAr : A r
        · exact Or.inr (c.pending r id hAr d hid')
        · exact Or.inl (covM_congr e1 e2 ((c.dead htag n' ot hot hE r hAr id hid).1 (r1 ▸ hrm) d))
      · intro r hrs id2 hid2 d
        by_cases hAr : A r
        · exact Or.inr ⟨id2, c.pending r id2 hAr d hid2⟩
        · exact Or.inl (covM_congr e1 e2 ((c.dead htag n' ot hot hE r hAr id hid).2 (r2 ▸ hrs) id2 d))
      · exact fun h => c.masks htag h id hid

/-- an event after which the truth of the tags it does not edit is the same (void events; `addTag`, `updName`,
    `delTag`, which edit a tag that has no referrers): no closure to make pending -/
theorem good_edit_simple (s : St) (e : Ev) (st : Started) (T T' g : Truth) (hg : Good s T g)
    (hne : ∀ n r, e ≠ .tagDone n r) (hnext : (step s e st).1.next = s.next)
    (hsame : ∀ n, ¬ C06.Edits e n → SameAt s T T' n)
    (hed : ∀ n, C06.Edits e n → ∀ t', sget (step s e st).1.tags n = some t' → ∀ id, id < s.next →
        id ∉ t'.unc → (id ∈ t'.mat ↔ T' n id = true))
    (hself : ∀ jn snap held, s.jTag = some (jn, snap, held) → ∀ n' ot', C06.Edits e n' →
        sget (step s e st).1.tags n' = some ot' → ot'.gen = snap.gen → ot'.defn = snap.defn →
        ∃ n ot, sget s.tags n = some ot ∧ ot.gen = snap.gen ∧ ot.defn = snap.defn ∧ Attrs ot' = Attrs ot ∧
          ∀ id, id < s.next → T' n' id = T n id) :
    C06.Inv (step s e st).1 T' ∧
    (∀ jn' snap held', s.jTag = some (jn', snap, held') → JobInv (step s e st).1 T' g) :=
  Covers.good hg (nx := s.next) (B := fun _ _ => False) (A := fun _ => True)
    { next := hnext
      changes := fun n t hE ht id hid h => absurd (hsame n hE t ht id hid) h
      pending := fun _ _ _ d _ => let ⟨_, _, h⟩ := d.nonempty; h.elim
      base := fun _ _ _ _ _ _ _ h => h.elim
      masks := fun _ ⟨_, _, h⟩ => h.elim
      notDone := hne
      edited := hed
      self := fun jn snap held hj n' ot' hE hot' hg' hd' => Or.inr (hself jn snap held hj n' ot' hE hot' hg' hd') }

open Pk.Proofs.MgrReach Pk.Proofs.MgrTermination

theorem f2_of_attrs {t t' : Tag} (h : Attrs t' = Attrs t) : F2 t' = F2 t :=
  congrArg (fun a : List String × List String × Nat × Nat × Nat => (a.1, a.2.1)) h

theorem fq_of_akeep {T0 T1 : List (String × Tag)} (h : ∀ n, AKeep n T0 T1) : FQ T0 T1 := by
  intro n
  have := congrArg (Option.map fun a : List String × List String × Nat × Nat × Nat => (a.1, a.2.1)) (h n)
  rwa [Option.map_map, Option.map_map] at this

theorem fq_map (T0 : List (String × Tag)) (f : Tag → Tag) (hf : ∀ t, F2 (f t) = F2 t) :
    FQ T0 (T0.map fun q => (q.1, f q.2)) := by
  intro n
  rw [sget_map (fun _ t => f t), Option.map_map]
  exact congrArg (Option.map · (sget T0 n)) (funext hf)

theorem fq_sins {T0 : List (String × Tag)} {name : String} {t X : Tag} (ht : sget T0 name = some t)
    (ha : F2 X = F2 t) : FQ T0 (sins name X T0) := by
  intro n
  rw [sget_sins]
  split
  · next hn => subst hn; rw [ht]; exact congrArg some ha
  · rfl

theorem bounded_map {all : Nat} {T0 : List (String × Tag)} (f : Tag → Tag)
    (hb : ∀ n t, sget T0 n = some t → ∀ x, x ∈ (f t).unc → x < all) : Bounded all (T0.map fun q => (q.1, f q.2)) := by
  intro n t' h
  rw [sget_map (fun _ t => f t)] at h
  obtain ⟨t, ht, rfl⟩ := Option.map_eq_some_iff.1 h
  exact hb n t ht

theorem bounded_sins {all : Nat} {T0 : List (String × Tag)} (hb : Bounded all T0) (name : String) {X : Tag}
    (hX : ∀ x, x ∈ X.unc → x < all) : Bounded all (sins name X T0) := by
  intro n t' h
  rw [sget_sins] at h
  split at h
  · cases h; exact hX
  · exact hb n t' h

/-- the sweep over a table `s1` that has the references of the pre-state's table (`FQ`) -/
theorem sweep_rel_pending {s : St} {T g : Truth} (hg : Good s T g) (s1 : St) (hsort : Sorted s1.tags)
    (hfq : FQ s.tags s1.tags) (hb : Bounded s1.all s1.tags)
    {B : String → Nat → Prop} {nx : Nat} (hnx : nx ≤ s1.all)
    (hbase : ∀ n id, B n id → id < s1.all → Pend s1.tags n id) :
    ∀ n id, Dep s.tags nx B n id → id < s1.all → Pend (inherit s1).tags n id := by
  refine sweep_pending s.tags s1 hsort hb (topo_of_fq hg.reach.tagsWF hfq (topo_of_acyclic s hg.acyclic)) hnx ?_ hbase
  intro n t0 h0
  have h := hfq n
  rw [h0] at h
  obtain ⟨t1, h1, ha⟩ := Option.map_eq_some_iff.1 h
  exact ⟨t1, h1, Or.inl ⟨congrArg Prod.fst ha, congrArg Prod.snd ha⟩⟩

end Pk.Props.C06Reach
