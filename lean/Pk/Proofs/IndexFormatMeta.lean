/-
  Stream records keep the metadata and the absolute first/last time of their stream across every later
  `AddStream`, whichever way the reference second moves (helper lemmas for C01 `roundtrip_meta`).
-/
import Pk.Proofs.IndexFormatRoundtrip
namespace Pk.Index
open Pk Pk.Bytes

theorem u64_of_nonneg (x : Int) (h0 : 0 ≤ x) (h1 : x < 2 ^ 64) : (u64 x : Int) = x := by
  unfold u64
  have : x % (2 ^ 64 : Int) = x := Int.emod_eq_of_lt h0 h1
  rw [this]; omega

theorem unixSec_eq (ts : Int) (h0 : 0 ≤ ts) (h1 : ts < 2 ^ 63) : (unixSec ts : Int) = ts / 1000000000 :=
  u64_of_nonneg _ (by omega) (by omega)

theorem i64_small (x : Nat) (h : x < 2 ^ 63) : i64 x = x := by
  unfold i64
  have : x % 2 ^ 64 = x := Nat.mod_eq_of_lt (by omega)
  simp [this, h]

theorem i64_modEq (x : Nat) : ((x : Int) - i64 x) % 2 ^ 64 = 0 := by
  unfold i64; omega

theorem i64_of_modEq (x : Nat) (v : Int) (h0 : -(2 ^ 63) ≤ v) (h1 : v < 2 ^ 63) (h : ((x : Int) - v) % 2 ^ 64 = 0) :
    i64 x = v := by
  unfold i64; omega

/-- `pl.ts < 2^62` (ns since 1970: the year 2116) keeps every sum of a reference time and a relative time inside int64 -/
def StreamIn.TimeWF (s : StreamIn) : Prop :=
  ∃ p0 pl, s.packets.head? = some p0 ∧ s.packets.getLast? = some pl ∧ 0 ≤ p0.ts ∧ p0.ts ≤ pl.ts ∧ pl.ts < 2 ^ 62

def RecOf (ref : Nat) (s : StreamIn) (rec_ : StreamRec) : Prop :=
  rec_.id = s.id ∧ rec_.cp = s.cport ∧ rec_.sp = s.sport ∧ rec_.flags = protoFlags s.flags ∧
  (∃ cds, chunkDirs s.packets s.data = some cds ∧ rec_.cb = (dirBytes 0 cds).length ∧ rec_.sb = (dirBytes 1 cds).length) ∧
  ∃ p0 pl, s.packets.head? = some p0 ∧ s.packets.getLast? = some pl ∧
    (ref : Int) * 1000000000 + rec_.first = p0.ts ∧ (ref : Int) * 1000000000 + rec_.last = pl.ts ∧
    rec_.first < 2 ^ 62 ∧ rec_.last < 2 ^ 62 ∧ 0 ≤ p0.ts ∧ p0.ts ≤ pl.ts ∧ pl.ts < 2 ^ 62

theorem RecOf.times {r : Reader} {s : StreamIn} {rec_ : StreamRec} (h : RecOf r.f.ref s rec_) :
    ∃ p0 pl, s.packets.head? = some p0 ∧ s.packets.getLast? = some pl ∧
      r.firstPacket rec_ = p0.ts ∧ r.lastPacket rec_ = pl.ts := by
  obtain ⟨_, _, _, _, _, p0, pl, hp0, hpl, hf, hl, hbf, hbl, _, _, _⟩ := h
  refine ⟨p0, pl, hp0, hpl, ?_, ?_⟩
  · unfold Reader.firstPacket; rw [i64_small _ (Nat.lt_trans hbf (by decide))]; exact hf
  · unfold Reader.lastPacket; rw [i64_small _ (Nat.lt_trans hbl (by decide))]; exact hl

/- `Recs ref ss rs`: position by position, the records `rs` are the records of the streams `ss` under the reference
   second `ref` (`RecOf`).  It is the relation `Zip (RecOf ref)` written out as an inductive of its own, with its two list
   facts `Recs.append` and `Recs.nil_right`; `MetaInv` and the C01 theorems speak of `Zip (RecOf ref)`. -/
inductive Recs (ref : Nat) : List StreamIn → List StreamRec → Prop
  | nil : Recs ref [] []
  | cons {s r ss rs} : RecOf ref s r → Recs ref ss rs → Recs ref (s :: ss) (r :: rs)

theorem Recs.append {ref : Nat} {ss : List StreamIn} {rs : List StreamRec} (h : Recs ref ss rs) {s : StreamIn} {r : StreamRec}
    (hr : RecOf ref s r) : Recs ref (ss ++ [s]) (rs ++ [r]) := by
  induction h with
  | nil => exact Recs.cons hr Recs.nil
  | cons h1 _ ih => exact Recs.cons h1 ih

theorem rebase_small {ref ref' t : Nat} {T : Int} (hle : ref' < ref) (hf : (ref : Int) * 1000000000 + t = T) (hT : T < 2 ^ 62) :
    (ref' : Int) * 1000000000 + (add64 t (u64 (((ref : Int) - ref') * 1000000000)) : Nat) = T ∧
    add64 t (u64 (((ref : Int) - ref') * 1000000000)) < 2 ^ 62 := by
  have hd := u64_of_nonneg (((ref : Int) - ref') * 1000000000) (by omega) (by omega)
  generalize u64 (((ref : Int) - ref') * 1000000000) = u at hd ⊢
  rw [add64, Nat.mod_eq_of_lt (by omega)]
  omega

theorem RecOf.rebase {ref ref' : Nat} {s : StreamIn} {r : StreamRec} (h : RecOf ref s r) (hle : ref' < ref) :
    RecOf ref' s { r with first := add64 r.first (u64 (((ref : Int) - ref') * 1000000000)),
                          last := add64 r.last (u64 (((ref : Int) - ref') * 1000000000)) } := by
  obtain ⟨h1, h2, h3, h4, h5, p0, pl, hp0, hpl, hf, hl, hbf, hbl, h0, hle2, hhi⟩ := h
  obtain ⟨a1, a2⟩ := rebase_small hle hf (by omega)
  obtain ⟨b1, b2⟩ := rebase_small hle hl hhi
  exact ⟨h1, h2, h3, h4, h5, p0, pl, hp0, hpl, a1, b1, a2, b2, h0, hle2, hhi⟩

/-- first clause: while it has no packets `rebase` takes the new reference second without moving any record -/
def MetaInv (w : Writer) (ss : List StreamIn) : Prop :=
  (w.packets.length = 0 → w.streams = []) ∧ Zip (RecOf w.ref) ss w.streams

theorem Recs.nil_right {ref : Nat} {ss : List StreamIn} (h : Recs ref ss []) : ss = [] := by
  cases h; rfl

theorem u64_sub_ref {ref : Nat} {t : Int} (h : (ref : Int) * 1000000000 ≤ t) (ht : t < 2 ^ 62) :
    (ref : Int) * 1000000000 + (u64 (t - (ref : Int) * 1000000000) : Nat) = t ∧ u64 (t - (ref : Int) * 1000000000) < 2 ^ 62 := by
  have := u64_of_nonneg (t - (ref : Int) * 1000000000) (by omega) (by omega)
  omega

theorem addStream_meta (w w' : Writer) (ss : List StreamIn) (s : StreamIn) (hinv : MetaInv w ss) (hs : s.TimeWF)
    (h : w.addStream s = .ok (w', true)) : MetaInv w' (ss ++ [s]) := by
  obtain ⟨p0, pl, gid, cid, sid, cds, hp0, hpl, _, hcd, href, hst, _, _, _, hpk, hne, _⟩ := addStream_spec w w' s h
  obtain ⟨q0, ql, hq0, hql, h0, hle, hhi⟩ := hs
  rw [hp0] at hq0; rw [hpl] at hql
  cases hq0; cases hql
  obtain ⟨hemp, hrecs⟩ := hinv
  have hfs := unixSec_eq p0.ts h0 (by omega)
  constructor
  · intro hl
    rw [hpk, List.length_append] at hl
    exact absurd (setSkips_eq_nil _ (clearLast_eq_nil _ (List.length_eq_zero_iff.mp (Nat.eq_zero_of_add_eq_zero_left hl)))) hne
  · rw [hst]
    have hold : Zip (RecOf w'.ref) ss (w.rebase (unixSec p0.ts)).2 ∧ (w'.ref : Int) ≤ unixSec p0.ts := by
      rw [href]
      obtain ⟨hz, e⟩ | ⟨_, hgt, e⟩ | ⟨_, hge, e⟩ := rebase_cases w (unixSec p0.ts) <;> rw [e]
      · have := hemp hz
        rw [this] at hrecs ⊢
        cases hrecs
        exact ⟨Zip.nil, Int.le_refl _⟩
      · exact ⟨hrecs.mono _ (fun _ _ h => h.rebase hgt), Int.le_refl _⟩
      · exact ⟨hrecs, Int.ofNat_le.mpr hge⟩
    obtain ⟨hold, hreffs⟩ := hold
    have hlow : (w'.ref : Int) * 1000000000 ≤ p0.ts := by omega
    obtain ⟨a1, a2⟩ := u64_sub_ref hlow (by omega)
    obtain ⟨b1, b2⟩ := u64_sub_ref (Int.le_trans hlow hle) hhi
    exact hold.append ⟨rfl, rfl, rfl, rfl, ⟨cds, hcd, rfl, rfl⟩, p0, pl, hp0, hpl, a1, b1, a2, b2, h0, hle, hhi⟩

theorem addAll_meta (ss : List StreamIn) (w : Writer) (hwf : ∀ s ∈ ss, s.TimeWF) (h : ({} : Writer).addAll ss = some w) :
    MetaInv w ss :=
  addAll_induct ss (fun w w' done s hs hinv h => addStream_meta w w' done s hinv (hwf s hs) h) {} w []
    ⟨fun _ => rfl, Zip.nil⟩ h

end Pk.Index
