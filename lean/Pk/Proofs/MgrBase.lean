/-
  The containers of the service-loop model (`Pk/Model/Manager.lean`): id sets as sorted lists, sets
  of names, and the assoc tables keyed by `String` (`sget/sins/sdel`) and by `Nat` (`nget/nins/ndel`).
  Each operation gets the one lemma through which the proofs use it (membership, lookup).  Only
  `mem_sget_of_sorted`, `sins_of_sget` and `keys_sins_of_sget` need the keys of a table to be sorted.
-/
import Pk.Model.Manager
import Pk.Proofs.Lib
namespace Pk.Mgr

export Pk.Lib (foldl_inv_mem foldl_inv foldl_rel foldl_keep ite_cases nodup_subset_length split3 count_splice)
open Pk.Lib (assoc_find_cons assoc_find_filter)

theorem ite_same {α β} (g : α → β) {c : Prop} [Decidable c] {a b : α} {v : β} (ha : g a = v) (hb : g b = v) :
    g (if c then a else b) = v :=
  ite_cases (fun x => g x = v) c (fun _ => ha) (fun _ => hb)

@[simp] theorem mem_ins (x y : Nat) (l : List Nat) : x ∈ ins y l ↔ x = y ∨ x ∈ l := by
  induction l with
  | nil => simp [ins]
  | cons z zs ih =>
    simp only [ins]
    split
    · simp
    · split
      · subst_vars; simp
      · simp [ih]; grind

@[simp] theorem mem_union (a b : IdSet) (x : Nat) : x ∈ union a b ↔ x ∈ a ∨ x ∈ b := by
  unfold union
  induction b generalizing a with
  | nil => simp
  | cons y ys ih => simp [ih]; grind

@[simp] theorem mem_diff (a b : IdSet) (x : Nat) : x ∈ diff a b ↔ x ∈ a ∧ x ∉ b := by
  simp [diff]
@[simp] theorem mem_inter (a b : IdSet) (x : Nat) : x ∈ inter a b ↔ x ∈ a ∧ x ∈ b := by
  simp [inter]
@[simp] theorem mem_rangeSet (n x : Nat) : x ∈ rangeSet n ↔ x < n := by
  simp [rangeSet]
@[simp] theorem mem_ofList (l : List Nat) (x : Nat) : x ∈ ofList l ↔ x ∈ l := by
  simp [ofList]

theorem mem_foldl_union {β} (g : β → IdSet) (l : List β) (u0 : IdSet) (id : Nat) :
    id ∈ l.foldl (fun u r => union u (g r)) u0 ↔ id ∈ u0 ∨ ∃ r ∈ l, id ∈ g r := by
  induction l generalizing u0 with
  | nil => simp
  | cons a r ih => simp only [List.foldl_cons, ih, mem_union, or_assoc, List.mem_cons, exists_eq_or_imp]

@[simp] theorem mem_strIns (x y : String) (l : List String) : x ∈ strIns y l ↔ x = y ∨ x ∈ l := by
  induction l with
  | nil => simp [strIns]
  | cons z zs ih =>
    simp only [strIns]
    split
    · simp
    · split
      · subst_vars; simp
      · simp [ih]; grind

@[simp] theorem mem_strSet (l : List String) (x : String) : x ∈ strSet l ↔ x ∈ l := by
  unfold strSet
  suffices h : ∀ acc, x ∈ l.foldl (fun acc x => strIns x acc) acc ↔ x ∈ acc ∨ x ∈ l by simpa using h []
  induction l with
  | nil => simp
  | cons y ys ih => intro acc; simp [ih]; grind

@[simp] theorem mem_refs (t : Tag) (r : String) : r ∈ t.refs ↔ r ∈ t.mainT ∨ r ∈ t.subT := by
  simp [Tag.refs]

theorem refs_congr {t t' : Tag} (e1 : t'.mainT = t.mainT) (e2 : t'.subT = t.subT) : t'.refs = t.refs := by
  unfold Tag.refs; rw [e1, e2]

/-! `sget`/`nget` and `sdel`/`ndel` are the same `find?`/`filter` expressions at two key types: their lemmas are
`Pk.Lib.assoc_find_cons` and `Pk.Lib.assoc_find_filter`, specialised by unfolding. -/

@[simp] theorem sget_nil {α} (k : String) : sget ([] : List (String × α)) k = none := rfl

theorem sget_cons {α} (k' : String) (v' : α) (r : List (String × α)) (k : String) :
    sget ((k', v') :: r) k = if k' = k then some v' else sget r k := assoc_find_cons (k', v') r k

theorem sget_sins {α} (k : String) (v : α) (l : List (String × α)) (k' : String) :
    sget (sins k v l) k' = if k = k' then some v else sget l k' := by
  induction l with
  | nil => simp [sins, sget_cons]
  | cons p r ih =>
    obtain ⟨k2, v2⟩ := p
    simp only [sins]
    split
    · simp [sget_cons]
    · split
      · subst_vars; simp only [sget_cons]; grind
      · simp only [sget_cons, ih]; grind

theorem sget_sdel {α} (l : List (String × α)) (k k' : String) :
    sget (sdel l k) k' = if k = k' then none else sget l k' := assoc_find_filter l k k'

theorem sget_map {α β} (f : String → α → β) (l : List (String × α)) (k : String) :
    sget (l.map fun p => (p.1, f p.1 p.2)) k = (sget l k).map (f k) := by
  induction l with
  | nil => simp
  | cons p r ih =>
    obtain ⟨k2, v2⟩ := p
    simp only [List.map_cons, sget_cons, ih]
    split <;> simp_all

theorem sget_mem {α} (l : List (String × α)) (k : String) (v : α) (h : sget l k = some v) :
    (k, v) ∈ l := by
  induction l with
  | nil => simp at h
  | cons p r ih =>
    obtain ⟨k2, v2⟩ := p
    rw [sget_cons] at h
    split at h
    · simp_all
    · exact List.mem_cons_of_mem _ (ih h)

theorem sget_mem_keys {α} (l : List (String × α)) (k : String) (v : α) (h : sget l k = some v) :
    k ∈ l.map (·.1) :=
  List.mem_map.2 ⟨_, sget_mem l k v h, rfl⟩

theorem sget_of_mem_keys {α} (l : List (String × α)) (k : String) (h : k ∈ l.map (·.1)) :
    ∃ v, sget l k = some v := by
  induction l with
  | nil => simp at h
  | cons p r ih =>
    obtain ⟨k2, v2⟩ := p
    rw [sget_cons]
    by_cases hk : k2 = k
    · simp [hk]
    · simp only [hk, if_false]; apply ih; simp at h; grind

theorem length_of_keys {α β} {l : List (String × α)} {l' : List (String × β)}
    (h : l'.map (·.1) = l.map (·.1)) : l'.length = l.length := by
  have := congrArg List.length h
  simpa using this

theorem mem_keys_sins {α} (k : String) (v : α) (l : List (String × α)) (x : String) :
    x ∈ (sins k v l).map (·.1) ↔ x = k ∨ x ∈ l.map (·.1) := by
  induction l with
  | nil => simp [sins]
  | cons p r ih =>
    obtain ⟨k2, v2⟩ := p
    simp only [sins]
    split
    · simp
    · split
      · subst_vars; simp
      · simp only [List.map_cons, List.mem_cons, ih]; grind

theorem mem_sins {α} (k : String) (v : α) (l : List (String × α)) (x : String × α)
    (h : x ∈ sins k v l) : x = (k, v) ∨ x ∈ l := by
  induction l with
  | nil => simpa [sins] using h
  | cons a r ih =>
    obtain ⟨ka, va⟩ := a
    simp only [sins] at h
    split at h
    · simpa using h
    · split at h
      · exact (List.mem_cons.1 h).imp_right (List.mem_cons_of_mem _)
      · rcases List.mem_cons.1 h with e | e
        · exact Or.inr (by simp [e])
        · exact (ih e).imp_right (List.mem_cons_of_mem _)

theorem mem_sdel {α} (l : List (String × α)) (k : String) (x : String × α) :
    x ∈ sdel l k ↔ x ∈ l ∧ x.1 ≠ k := by
  simp [sdel]

@[simp] theorem nget_nil {α} (k : Nat) : nget ([] : List (Nat × α)) k = none := rfl

theorem nget_cons {α} (k' : Nat) (v' : α) (r : List (Nat × α)) (k : Nat) :
    nget ((k', v') :: r) k = if k' = k then some v' else nget r k := assoc_find_cons (k', v') r k

theorem nget_nins {α} (k : Nat) (v : α) (l : List (Nat × α)) (k' : Nat) :
    nget (nins k v l) k' = if k = k' then some v else nget l k' := by
  induction l with
  | nil => simp [nins, nget_cons]
  | cons p r ih =>
    obtain ⟨k2, v2⟩ := p
    simp only [nins]
    split
    · simp [nget_cons]
    · split
      · subst_vars; simp only [nget_cons]; grind
      · simp only [nget_cons, ih]; grind

theorem nget_ndel {α} (l : List (Nat × α)) (k k' : Nat) :
    nget (ndel l k) k' = if k = k' then none else nget l k' := assoc_find_filter l k k'

theorem nget_foldl_nins_of_not_mem {α} (cr : List (Nat × α)) (files : List (Nat × α)) (f : Nat)
    (hf : f ∉ cr.map (·.1)) :
    nget (cr.foldl (fun fs (x : Nat × α) => nins x.1 x.2 fs) files) f = nget files f := by
  induction cr generalizing files with
  | nil => rfl
  | cons c cr ih =>
    simp only [List.map_cons, List.mem_cons, not_or] at hf
    rw [List.foldl_cons, ih _ hf.2, nget_nins, if_neg (Ne.symm hf.1)]

theorem nget_foldl_nins_of_mem {α} (cr : List (Nat × α)) (files : List (Nat × α))
    (hnd : (cr.map (·.1)).Nodup) (c : Nat × α) (hc : c ∈ cr) :
    nget (cr.foldl (fun fs (x : Nat × α) => nins x.1 x.2 fs) files) c.1 = some c.2 := by
  induction cr generalizing files with
  | nil => cases hc
  | cons d cr ih =>
    simp only [List.map_cons, List.nodup_cons] at hnd
    rw [List.foldl_cons]
    rcases List.mem_cons.mp hc with h | h
    · subst h
      rw [nget_foldl_nins_of_not_mem _ _ _ hnd.1, nget_nins, if_pos rfl]
    · exact ih _ hnd.2 h

theorem nget_foldl_nins_cases {α} (cr : List (Nat × α)) (files : List (Nat × α)) (f : Nat) (v : α)
    (h : nget (cr.foldl (fun fs (x : Nat × α) => nins x.1 x.2 fs) files) f = some v) :
    nget files f = some v ∨ (f, v) ∈ cr := by
  induction cr generalizing files with
  | nil => exact Or.inl h
  | cons c cr ih =>
    rw [List.foldl_cons] at h
    rcases ih _ h with h' | h'
    · rw [nget_nins] at h'
      by_cases hf : c.1 = f
      · rw [if_pos hf] at h'
        cases h'
        exact Or.inr (by rw [← hf]; exact List.mem_cons_self)
      · rw [if_neg hf] at h'; exact Or.inl h'
    · exact Or.inr (List.mem_cons_of_mem _ h')

theorem mem_sget_of_sorted {α} (l : List (String × α)) (hw : (l.map (·.1)).Pairwise (· < ·))
    (k : String) (v : α) (h : (k, v) ∈ l) : sget l k = some v := by
  induction l with
  | nil => simp at h
  | cons a r ih =>
    simp only [List.map_cons, List.pairwise_cons] at hw
    rw [sget_cons]
    rcases List.mem_cons.1 h with e | e
    · subst e; simp
    · have : a.1 < k := hw.1 k (List.mem_map.2 ⟨(k, v), e, rfl⟩)
      have hne : ¬ a.1 = k := fun e => by subst e; exact absurd this (String.lt_irrefl _)
      rw [if_neg hne]; exact ih hw.2 e

theorem sins_of_sget {α} {l : List (String × α)} (hs : (l.map (·.1)).Pairwise (· < ·)) {k : String} {v0 : α} (v : α)
    (h : sget l k = some v0) : ∃ l1 l2, l = l1 ++ (k, v0) :: l2 ∧ sins k v l = l1 ++ (k, v) :: l2 := by
  induction l with
  | nil => simp at h
  | cons p r ih =>
    obtain ⟨k2, v2⟩ := p
    obtain ⟨hlt, hs'⟩ := List.pairwise_cons.mp hs
    rw [sget_cons] at h
    by_cases he : k2 = k
    · subst he
      rw [if_pos rfl] at h
      cases h
      exact ⟨[], r, rfl, by simp [sins, String.lt_irrefl]⟩
    · rw [if_neg he] at h
      obtain ⟨l1, l2, e1, e2⟩ := ih hs' h
      have hk : k2 < k := hlt k (sget_mem_keys _ _ _ h)
      have h1 : ¬ k < k2 := fun h' => String.lt_irrefl _ (String.lt_trans h' hk)
      have h2 : ¬ k = k2 := fun e => he e.symm
      refine ⟨(k2, v2) :: l1, l2, by rw [e1]; rfl, ?_⟩
      simp only [sins, h1, h2, if_false, e2, List.cons_append]

theorem keys_sins_of_sget {α} (l : List (String × α)) (hs : (l.map (·.1)).Pairwise (· < ·)) (k : String) (v v0 : α)
    (h : sget l k = some v0) : (sins k v l).map (·.1) = l.map (·.1) := by
  obtain ⟨l1, l2, e1, e2⟩ := sins_of_sget hs v h
  rw [e2, e1]; simp

theorem tagUnc_sins (n : String) (t : Tag) (l : List (String × Tag)) (r : String) :
    tagUnc (sins n t l) r = if n = r then t.unc else tagUnc l r := by
  unfold tagUnc; rw [sget_sins]; split <;> rfl

theorem tagUnc_sdel (n : String) (l : List (String × Tag)) (r : String) :
    tagUnc (sdel l n) r = if n = r then [] else tagUnc l r := by
  unfold tagUnc; rw [sget_sdel]; split <;> rfl

end Pk.Mgr
