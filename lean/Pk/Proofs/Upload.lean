/-
  C19: a request only ever touches its own target path, whatever the facts are (`step_spec`), so a path
  that every request `Spares` keeps its entry under every schedule (`Sys.run_spares`).  Under the expected
  facts, what a step does at each program counter: equations, and for `start` the alternative `step_start`.
-/
import Pk.Model.Upload
import Pk.Proofs.Lib
import Pk.Proofs.Path

namespace Pk.Upload
open Pk.Path

theorem erase_cons (k0 : P) (e0 : Entry) (t : Disk) (k : P) :
    Disk.erase ((k0, e0) :: t) k = if k0 = k then Disk.erase t k else (k0, e0) :: Disk.erase t k := by
  by_cases h : k0 = k <;> simp [Disk.erase, h]

theorem lookup_cons (k0 : P) (e0 : Entry) (t : Disk) (k : P) :
    Disk.lookup ((k0, e0) :: t) k = if k0 = k then some e0 else Disk.lookup t k := rfl

theorem lookup_erase_self (d : Disk) (k : P) : (Disk.erase d k).lookup k = none := by
  induction d with
  | nil => rfl
  | cons x t ih =>
    obtain ⟨k0, e0⟩ := x
    by_cases h : k0 = k
    · simp [erase_cons, h, ih]
    · simp [erase_cons, lookup_cons, h, ih]

theorem lookup_erase_ne (d : Disk) (k k' : P) (h : k' ≠ k) : (Disk.erase d k).lookup k' = d.lookup k' := by
  induction d with
  | nil => rfl
  | cons x t ih =>
    obtain ⟨k0, e0⟩ := x
    by_cases hx : k0 = k
    · have : k0 ≠ k' := fun e => h (e ▸ hx ▸ rfl)
      simp [erase_cons, lookup_cons, hx, ih]
      intro e; exact absurd e.symm h
    · by_cases hx' : k0 = k'
      · subst hx'
        simp [erase_cons, lookup_cons, hx]
      · simp [erase_cons, lookup_cons, hx, hx', ih]

theorem lookup_insert_self (d : Disk) (k : P) (e : Entry) : (Disk.insert d k e).lookup k = some e := by
  simp [Disk.insert, Disk.lookup]

theorem lookup_insert_ne (d : Disk) (k k' : P) (e : Entry) (h : k' ≠ k) :
    (Disk.insert d k e).lookup k' = d.lookup k' := by
  have : k ≠ k' := fun e => h e.symm
  simp [Disk.insert, Disk.lookup, this, lookup_erase_ne d k k' h]

theorem step_spec (c : Cfg) (w : World) (r : Req) :
    (∃ pc code, (step c w r).2 = { r with pc := pc, code := code }) ∧
    ∀ k, k ≠ c.full r.param → (step c w r).1.disk.lookup k = w.disk.lookup k := by
  -- what every branch is checked against; `ok`: the request keeps its identity, the disk changes as `h` says
  let P : World × Req → Prop := fun x =>
    (∃ pc code, x.2 = { r with pc := pc, code := code }) ∧
    ∀ k, k ≠ c.full r.param → x.1.disk.lookup k = w.disk.lookup k
  have ok : ∀ (w' : World) (pc : Pc) (code : Nat),
      (∀ k, k ≠ c.full r.param → w'.disk.lookup k = w.disk.lookup k) → P (w', { r with pc := pc, code := code }) :=
    fun _ pc code h => ⟨⟨pc, code, rfl⟩, h⟩
  have same : ∀ k, k ≠ c.full r.param → w.disk.lookup k = w.disk.lookup k := fun _ _ => rfl
  have ins : ∀ e k, k ≠ c.full r.param → (w.disk.insert (c.full r.param) e).lookup k = w.disk.lookup k :=
    fun e k hk => lookup_insert_ne _ _ _ _ hk
  have ers : ∀ k, k ≠ c.full r.param → (w.disk.erase (c.full r.param)).lookup k = w.disk.lookup k :=
    fun k hk => lookup_erase_ne _ _ _ hk
  show P (step c w r)
  unfold step
  cases r.pc <;> dsimp only [finish]
  · refine Pk.Lib.ite_cases P _ (fun _ => ok _ _ _ same) fun _ => Pk.Lib.ite_cases P _ (fun _ => ok _ _ _ same) fun _ => ?_
    cases w.disk.lookup (c.full r.param) with
    | none => exact Pk.Lib.ite_cases P _ (fun _ => ok _ _ _ (ins _)) fun _ => ok _ _ _ same
    | some e =>
      cases e with
      | dir => exact ok _ _ _ same
      | file f =>
        exact Pk.Lib.ite_cases P _ (fun _ => ok _ _ _ same) fun _ =>
          Pk.Lib.ite_cases P _ (fun _ => ok _ _ _ (ins _)) fun _ => ok _ _ _ same
  · refine ok _ _ _ ?_
    cases w.disk.lookup (c.full r.param) with
    | none => exact same
    | some e => cases e <;> first | exact same | exact ins _
  · exact ok _ _ _ same
  · refine Pk.Lib.ite_cases P _ (fun _ => ok _ _ _ ?_) fun _ => ok _ _ _ same
    cases w.disk.lookup (c.full r.param) with
    | none => exact same
    | some e => cases e <;> first | exact same | exact ers
  · exact ok _ _ _ same
  · exact ok _ _ _ same
  · exact ok _ _ _ same

theorem step_param (c : Cfg) (w : World) (r : Req) : (step c w r).2.param = r.param := by
  obtain ⟨_, _, h⟩ := (step_spec c w r).1; rw [h]

theorem step_id (c : Cfg) (w : World) (r : Req) : (step c w r).2.id = r.id := by
  obtain ⟨_, _, h⟩ := (step_spec c w r).1; rw [h]

theorem step_frame (c : Cfg) (w : World) (r : Req) (k : P) (hk : k ≠ c.full r.param) :
    (step c w r).1.disk.lookup k = w.disk.lookup k :=
  (step_spec c w r).2 k hk

section
variable {c : Cfg} (w : World) {r : Req}

theorem step_done (h : r.pc = .done) : step c w r = (w, r) := by simp [step, h]

theorem step_copyFailed (h : r.pc = .copyFailed) : step c w r = (w, { r with pc := .cfClosed }) := by
  simp [step, h]

theorem step_copied (h : r.pc = .copied) : step c w r = (w, { r with pc := .closed }) := by simp [step, h]

theorem step_opened (h : r.pc = .opened) {f : File} (hl : w.disk.lookup (c.full r.param) = some (.file f)) :
    step c w r = ({ w with disk := w.disk.insert (c.full r.param) (.file { f with body := r.body, upto := r.failAt }) },
      { r with pc := if r.failAt.isSome then .copyFailed else .copied }) := by
  simp [step, h, hl]

variable (hf : c.facts = Facts.expected)
include hf

theorem step_closed (h : r.pc = .closed) :
    step c w r = ({ w with queue := w.queue ++ [r.param] }, { r with pc := .done, code := 200 }) := by
  simp [step, h, hf, Facts.expected, finish]

theorem step_cfClosed (h : r.pc = .cfClosed) {f : File} (hl : w.disk.lookup (c.full r.param) = some (.file f)) :
    step c w r = ({ w with disk := w.disk.erase (c.full r.param) }, { r with pc := .done, code := 500 }) := by
  simp [step, h, hf, Facts.expected, finish, hl]

/-- the three refusals at `start` (guard 400, OS 500, EEXIST/EISDIR 500) are one alternative: `Inv` needs only
    a code other than 200 of it, `Live` that a name the guard and the OS accept is refused because the path is taken -/
theorem step_start (h : r.pc = .start) :
    (∃ code, code ≠ 200 ∧ step c w r = (w, finish r code) ∧
      (r.param = base r.param → sysRejects (c.full r.param) = false →
        code = 500 ∧ ∃ e, w.disk.lookup (c.full r.param) = some e)) ∨
    (w.disk.lookup (c.full r.param) = none ∧
      step c w r = ({ w with disk := w.disk.insert (c.full r.param) (.file ⟨r.body, some 0, r.id⟩) },
        { r with pc := .opened })) := by
  simp only [step, h, hf, Facts.expected]
  by_cases hg : r.param ≠ base r.param
  · exact Or.inl ⟨400, by decide, by simp [hg], fun h => absurd h hg⟩
  · cases hs : sysRejects (c.full r.param)
    · cases hl : w.disk.lookup (c.full r.param) with
      | none => exact Or.inr ⟨rfl, by simp [hg]⟩
      | some e => exact Or.inl ⟨500, by decide, by cases e <;> simp [hg], fun _ _ => ⟨rfl, e, rfl⟩⟩
    · exact Or.inl ⟨500, by decide, by simp [hg], fun _ h => nomatch h⟩

end

/-- whatever the download handler hands to `http.ServeFile` is the joined path of its parameter, and with the
    guard the parameter is its own base name: no route pattern is needed for that -/
theorem download_path {c : Cfg} {d : Disk} {urlPath param path : P} {res : DownResult}
    (h : download c d urlPath param = (some path, res)) :
    path = c.full param ∧ (c.facts.downGuard = true → base param = param) := by
  unfold download at h
  split at h
  · cases h
  · rename_i hg
    refine ⟨?_, fun hd => Classical.byContradiction fun hb => hg (by simp [hd, Ne.symm hb])⟩
    dsimp only at h
    split at h
    · cases h
    · split at h
      · cases h
      · split at h
        · injection h with h1 _; injection h1 with h1; exact h1.symm
        · split at h <;> (injection h with h1 _; injection h1 with h1; exact h1.symm)

/-- request `r` leaves path `k` alone for good: `k` is not its target, or it has finished, or the
    guard is about to reject it -/
def Spares (c : Cfg) (k : P) (r : Req) : Prop :=
  k ≠ c.full r.param ∨ r.pc = .done ∨ (c.facts.upGuard = true ∧ r.pc = .start ∧ r.param ≠ base r.param)

theorem step_spares (c : Cfg) (w : World) (r : Req) (k : P) (h : Spares c k r) :
    (step c w r).1.disk.lookup k = w.disk.lookup k ∧ Spares c k (step c w r).2 := by
  rcases h with h | h | ⟨hg, hs, hb⟩
  · exact ⟨step_frame c w r k h, Or.inl (by rw [step_param]; exact h)⟩
  · rw [step_done w h]; exact ⟨rfl, Or.inr (Or.inl h)⟩
  · have : step c w r = (w, finish r 400) := by simp [step, hs, hg, hb]
    rw [this]; exact ⟨rfl, Or.inr (Or.inl rfl)⟩

theorem mem_setAt (l : List Req) (i : Nat) (r x : Req) (h : x ∈ setAt l i r) : x = r ∨ x ∈ l := by
  induction l generalizing i with
  | nil => simp [setAt] at h
  | cons a t ih =>
    cases i with
    | zero =>
      simp only [setAt, List.mem_cons] at h ⊢
      exact h.imp_right Or.inr
    | succ j =>
      simp only [setAt, List.mem_cons] at h ⊢
      rcases h with h | h
      · exact Or.inr (Or.inl h)
      · exact (ih j h).imp_right Or.inr

theorem Sys.step_spares (c : Cfg) (s : Sys) (i : Nat) (k : P) (hk : ∀ r ∈ s.reqs, Spares c k r) :
    (Sys.step c s i).world.disk.lookup k = s.world.disk.lookup k ∧
    ∀ r ∈ (Sys.step c s i).reqs, Spares c k r := by
  unfold Sys.step
  cases hr : s.reqs[i]? with
  | none => exact ⟨rfl, hk⟩
  | some r =>
    have h := Upload.step_spares c s.world r k (hk r (List.mem_of_getElem? hr))
    refine ⟨h.1, fun x hx => ?_⟩
    rcases mem_setAt _ _ _ _ hx with rfl | hx
    · exact h.2
    · exact hk x hx

theorem Sys.run_spares (c : Cfg) (s : Sys) (sched : List Nat) (k : P) (hk : ∀ r ∈ s.reqs, Spares c k r) :
    (Sys.run c s sched).world.disk.lookup k = s.world.disk.lookup k := by
  induction sched generalizing s with
  | nil => rfl
  | cons i t ih =>
    have h := Sys.step_spares c s i k hk
    exact (ih (Sys.step c s i) h.2).trans h.1

theorem Sys.run_frame (c : Cfg) (s : Sys) (sched : List Nat) (k : P)
    (hk : ∀ r ∈ s.reqs, k ≠ c.full r.param) :
    (Sys.run c s sched).world.disk.lookup k = s.world.disk.lookup k :=
  Sys.run_spares c s sched k fun r hr => Or.inl (hk r hr)

end Pk.Upload
