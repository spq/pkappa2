/-
  Soundness of the breadth-first MinLength search of `AcceptedLength` (`minBfs`), for EVERY program.
  `Closed`: every visited instruction has its successors visited or queued, so a word accepted from a
  visited instruction leaves the visited set through a queue, and a bound for the queued instructions
  holds for the visited ones too (`visited_bound`).  The bound `Good` is obtained from the END of the
  search backwards: the induction on the fuel gives it for the queues after a step, `Good.of_later`
  carries it to the queues before.
-/
import Pk.Model.RegexProg
import Pk.Proofs.RegexProg

namespace Pk.RegexProg
open Pk.Regex

def Vis (vis : Array Bool) (pc : Nat) : Prop := vis[pc]? = some true

def Cur (vis : Array Bool) (level : List Nat) (pc : Nat) : Prop := Vis vis pc ∨ pc ∈ level

def Edges (vis : Array Bool) (level next : List Nat) (i : Inst) : Prop :=
  i.op ≠ .match_ ∧
  (i.op.isRune = true → Cur vis level i.out ∨ i.out ∈ next) ∧
  (i.op.isPass = true → Cur vis level i.out) ∧
  (i.op.isAlt = true → Cur vis level i.out ∧ Cur vis level i.arg)

def Closed (p : Prog) (vis : Array Bool) (level next : List Nat) : Prop :=
  ∀ pc i, Vis vis pc → p.inst[pc]? = some i → Edges vis level next i

def Good (p : Prog) (level next : List Nat) (n m : Nat) : Prop :=
  ∀ pc pre w post, Accepts p pc pre w post →
    (pc ∈ level → m ≤ n + w.length) ∧ (pc ∈ next → m ≤ n + 1 + w.length)

theorem Edges.mono {vis vis' : Array Bool} {level level' next next' : List Nat} {i : Inst}
    (h : Edges vis level next i) (hl : ∀ x, Cur vis level x → Cur vis' level' x)
    (hn : ∀ x, x ∈ next → Cur vis' level' x ∨ x ∈ next') : Edges vis' level' next' i :=
  ⟨h.1, fun c => (h.2.1 c).elim (fun h => .inl (hl _ h)) (hn _), fun c => hl _ (h.2.2.1 c),
    fun c => ⟨hl _ (h.2.2.2 c).1, hl _ (h.2.2.2 c).2⟩⟩

theorem vis_set {vis : Array Bool} {pos : Nat} (h : vis[pos]? = some false) (pc : Nat) :
    Vis (vis.setIfInBounds pos true) pc ↔ pc = pos ∨ Vis vis pc := by
  unfold Vis
  obtain ⟨hlt, _⟩ := Array.getElem?_eq_some_iff.1 h
  rw [Array.getElem?_setIfInBounds]
  by_cases e : pos = pc
  · subst e
    simp [hlt]
  · simp [e, Ne.symm e]

theorem visited_bound {p : Prog} {vis : Array Bool} {level next : List Nat} {n m : Nat}
    (hc : Closed p vis level next) (g : Good p level next n m)
    {pc : Nat} {pre w post : List Byte} (hacc : Accepts p pc pre w post) (hv : Cur vis level pc) :
    m ≤ n + w.length := by
  rcases hv with hv | hv
  · induction hacc with
    | match_ pc i pre post hi hop => exact absurd hop (hc pc i hv hi).1
    | rune pc i b pre w post hi hr _ hrest ih =>
      rcases (hc pc i hv hi).2.1 hr with (h | h) | h
      · exact Nat.le_trans (ih h) (by simp)
      · exact Nat.le_trans ((g _ _ _ _ hrest).1 h) (by simp)
      · exact Nat.le_trans ((g _ _ _ _ hrest).2 h) (by simp; omega)
    | pass pc i pre w post hi hop hrest ih =>
      have hp : i.op.isPass = true := by rcases hop with hop | hop <;> simp [hop, Op.isPass]
      exact ((hc pc i hv hi).2.2.1 hp).elim ih (g _ _ _ _ hrest).1
    | empty pc i pre w post hi hop _ hrest ih =>
      have hp : i.op.isPass = true := by simp [hop, Op.isPass]
      exact ((hc pc i hv hi).2.2.1 hp).elim ih (g _ _ _ _ hrest).1
    | altOut pc i pre w post hi hop hrest ih =>
      exact ((hc pc i hv hi).2.2.2 hop).1.elim ih (g _ _ _ _ hrest).1
    | altArg pc i pre w post hi hop hrest ih =>
      exact ((hc pc i hv hi).2.2.2 hop).2.elim ih (g _ _ _ _ hrest).1
  · exact (g _ _ _ _ hacc).1 hv

theorem Good.of_later {p : Prog} {vis' : Array Bool} {level level' next next' : List Nat} {n m : Nat}
    (hc : Closed p vis' level' next') (g : Good p level' next' n m)
    (hl : ∀ x, x ∈ level → Cur vis' level' x) (hn : ∀ x, x ∈ next → x ∈ next') : Good p level next n m :=
  fun pc pre w post hacc =>
    ⟨fun h => visited_bound hc g hacc (hl pc h), fun h => (g pc pre w post hacc).2 (hn pc h)⟩

theorem minBfs_good (p : Prog) :
    ∀ (fuel n : Nat) (level : List Nat) (vis : Array Bool) (next : List Nat) (m : Nat),
      minBfs p fuel n level vis next = some m → Closed p vis level next → Good p level next n m := by
  intro fuel
  induction fuel with
  | zero => intro n level vis next m h; simp [minBfs] at h
  | succ fuel ih =>
    intro n level vis next m h hc
    cases level with
    | nil =>
      cases next with
      | nil => intro pc pre w post _; simp
      | cons q next =>
        simp only [minBfs] at h
        have hc' : Closed p vis (q :: next) [] := fun pc i hv hi =>
          (hc pc i hv hi).mono (fun x hx => hx.elim .inl (fun h => nomatch h)) (fun x hx => .inl (.inr hx))
        intro pc pre w post hacc
        exact ⟨(nomatch ·), (ih (n + 1) (q :: next) vis [] m h hc' pc pre w post hacc).1⟩
    | cons pos level =>
      simp only [minBfs] at h
      split at h
      ·
        rename_i hvis
        have hl : ∀ x, Cur vis (pos :: level) x → Cur vis level x := by
          rintro x (hx | hx)
          · exact .inl hx
          · rcases List.mem_cons.1 hx with rfl | hx
            · exact .inl hvis
            · exact .inr hx
        have hc' : Closed p vis level next := fun pc i hv hi =>
          (hc pc i hv hi).mono hl (fun x hx => .inr hx)
        exact Good.of_later hc' (ih n level vis next m h hc') (fun x hx => hl x (.inr hx)) (fun _ h => h)
      · -- every kind of instruction marks `pos` and goes on with queues `level'`, `next'` that hold its successors
        rename_i i hvis hi
        have hset := vis_set hvis
        have step : ∀ (level' next' : List Nat), minBfs p fuel n level' (vis.setIfInBounds pos true) next' = some m →
            (∀ x, x ∈ level → x ∈ level') → (∀ x, x ∈ next → x ∈ next') →
            Edges (vis.setIfInBounds pos true) level' next' i → Good p (pos :: level) next n m := by
          intro level' next' h hl hn he
          have hl' : ∀ x, Cur vis (pos :: level) x → Cur (vis.setIfInBounds pos true) level' x := by
            rintro x (hx | hx)
            · exact .inl ((hset x).2 (.inr hx))
            · rcases List.mem_cons.1 hx with rfl | hx
              · exact .inl ((hset x).2 (.inl rfl))
              · exact .inr (hl x hx)
          have hc' : Closed p (vis.setIfInBounds pos true) level' next' := by
            intro pc j hv hj
            rcases (hset pc).1 hv with rfl | hv'
            · rw [hi] at hj; cases hj; exact he
            · exact (hc pc j hv' hj).mono hl' (fun x hx => .inr (hn x hx))
          exact Good.of_later hc' (ih n _ _ _ m h hc') (fun x hx => hl' x (.inr hx)) hn
        rcases i.op.kinds with k | k | k | k | k <;> obtain ⟨hr, hp, ha, hm⟩ := k <;>
          simp only [hr, hp, ha, if_true, if_false, Bool.false_eq_true] at h
        · exact step _ _ h (fun _ h => h) (fun _ h => List.mem_cons_of_mem _ h)
            ⟨hm, fun _ => .inr List.mem_cons_self, by simp [hp], by simp [ha]⟩
        · exact step _ _ h (fun _ h => List.mem_cons_of_mem _ h) (fun _ h => h)
            ⟨hm, by simp [hr], fun _ => .inr List.mem_cons_self, by simp [ha]⟩
        · exact step _ _ h (fun _ h => List.mem_cons_of_mem _ (List.mem_cons_of_mem _ h)) (fun _ h => h)
            ⟨hm, by simp [hr], by simp [hp],
              fun _ => ⟨.inr (List.mem_cons_of_mem _ List.mem_cons_self), .inr List.mem_cons_self⟩⟩
        · simp [hm] at h
          subst h
          intro pc pre w post _
          exact ⟨fun _ => by omega, fun _ => by omega⟩
        · simp [hm] at h
          exact step _ _ h (fun _ h => h) (fun _ h => h) ⟨hm, by simp [hr], by simp [hp], by simp [ha]⟩
      · simp at h

end Pk.RegexProg
