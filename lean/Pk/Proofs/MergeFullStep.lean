/-
  One `AddIndex`: the writer invariant is kept, the streams the writer holds keep their view (`OldOk`, `WView.old`,
  `WView.groups`), the streams that are new get the view they have in the added index (`NewOk`, `WView.new`), and the
  stream table afterwards is the one followed by the other (`addIndex_step`).
-/
import Pk.Proofs.MergeFullCopy

namespace Pk.Index
open Pk Pk.Bytes

theorem sub64_shift (a b d : Nat) : sub64 (add64 a d) (add64 b d) = sub64 a b := by
  unfold sub64 add64; omega

theorem expWraps_shift (d : Nat) (s : StreamRec) : expWraps (shiftRec d s) = expWraps s := by
  unfold expWraps shiftRec
  simp only [sub64_shift]

theorem newRef_ok (w : Writer) (r : Reader) (m : Nat) (hw : w.ref * 1000000000 < 2 ^ 63) (s : StreamRec)
    (ht : TimeOk r.f.ref s) (hm : m = s.first) : newRefOf w r m * 1000000000 < 2 ^ 63 := by
  obtain ⟨h1, _, h3, h4, _, _⟩ := ht
  unfold newRefOf
  simp only
  have : unixSec ((r.f.ref : Int) * 1000000000 + i64 m) * 1000000000 < 2 ^ 63 := by
    rw [hm]
    generalize (r.f.ref : Int) * 1000000000 + i64 s.first = A at h3 h4
    have e := unixSec_eq A h3 h4
    generalize unixSec A = u at e ⊢
    clear hw hm
    omega
  split
  · exact hw
  · exact this

theorem shiftRec_id (d : Nat) (s : StreamRec) : (shiftRec d s).id = s.id := rfl

theorem compView_shift (imps : List (Bytes × Nat)) (fp lp ew : Int) (d : Nat) (s : StreamRec) (k : Comp) :
    compView imps fp lp ew (shiftRec d s) k = compView imps fp lp ew s k := by
  unfold compView
  simp only [shiftRec]

theorem compView_imports (imps imps' : List (Bytes × Nat)) (fp lp ew : Int) (s : StreamRec) (k : Comp)
    (h : packetsWalk imps' fp none 0 k.chain = packetsWalk imps fp none 0 k.chain) :
    compView imps' fp lp ew s k = compView imps fp lp ew s k := by
  unfold compView
  rw [h]

theorem compView_times (imps : List (Bytes × Nat)) {fp lp ew fp' lp' ew' : Int} (s : StreamRec) (k : Comp)
    (h1 : fp' = fp) (h2 : lp' = lp) (h3 : ew' = ew) :
    compView imps fp' lp' ew' s k = compView imps fp lp ew s k := by
  rw [h1, h2, h3]

theorem compView_copy (imps imps' : List (Bytes × Nat)) (fp lp ew : Int) (s s0 : StreamRec) (k : Comp) (remap : List Nat)
    (hst : SameStatic s s0)
    (hp : packetsWalk imps' fp none 0 (k.chain.map (reimp remap)) = packetsWalk imps fp none 0 k.chain) :
    compView imps' fp lp ew s0 { k with chain := k.chain.map (reimp remap) } = compView imps fp lp ew s k := by
  obtain ⟨_, hcp, hsp, hfl, hcb, hsb⟩ := hst
  unfold compView dataOf
  simp only [List.length_map, dataWalk_map_reimp, hp, ← hcp, ← hsp, ← hfl, ← hcb, ← hsb]

/-- a record `s` the writer held before `AddIndex` and the record `s'` in its place afterwards: whatever view it
    showed it shows -/
def OldOk (w w' : Writer) (s s' : StreamRec) : Prop :=
  s'.id = s.id ∧ TimeOk w'.ref s' ∧ ∀ v, WView w s v → WView w' s' v

/-- a record `s` of the added file and its copy `s'`: the writer shows the view the file shows -/
def NewOk (r : Reader) (w' : Writer) (s s' : StreamRec) : Prop :=
  s'.id = s.id ∧ TimeOk w'.ref s' ∧ ∃ v, r.view s = some v ∧ WView w' s' v

theorem WView.old {w w' : Writer} (himp : ∃ extra, w'.imports = w.imports ++ extra) (hpk : ∃ X, w'.packets = w.packets ++ X)
    (hbl : ∃ Y, w'.blobs.flatten = w.blobs.flatten ++ Y) (hext : GroupsExt w.hostGroups w'.hostGroups)
    (href : w'.ref * 1000000000 < 2 ^ 63) {s : StreamRec} (ht : TimeOk w.ref s) :
    OldOk w w' s (shiftRec (mul64 (sub64 w.ref w'.ref) 1000000000) s) := by
  obtain ⟨extra, himp⟩ := himp
  obtain ⟨X, hX⟩ := hpk
  obtain ⟨Y, hY⟩ := hbl
  obtain ⟨ht', e1, e2⟩ := ht.shift href
  refine ⟨shiftRec_id _ s, ht', fun v hv => ?_⟩
  obtain ⟨k, hl, hk, rfl⟩ := hv
  refine ⟨k, ?_, hk.shift _, ?_⟩
  · have := (hl.mono (n' := w'.imports.length) (by rw [himp]; simp) X Y).groups hext
    rw [hX, hY]
    exact this.shift _
  · refine Eq.symm ((compView_times _ _ k e1 e2 (expWraps_shift _ s)).trans ?_)
    refine (compView_shift _ _ _ _ _ s k).trans ?_
    apply compView_imports
    rw [himp]
    exact packetsWalk_append_imports _ _ _ hl.2.2.1 _ _ _

/-- the "no new streams" path of `AddIndex`: only the host groups grow -/
theorem WView.groups {w w' : Writer} (himp : w'.imports = w.imports) (hpk : w'.packets = w.packets)
    (hbl : w'.blobs = w.blobs) (hext : GroupsExt w.hostGroups w'.hostGroups) (href : w'.ref = w.ref)
    {s : StreamRec} {v : StreamView} (hv : WView w s v) : WView w' s v := by
  obtain ⟨k, hl, hk, rfl⟩ := hv
  refine ⟨k, ?_, hk, ?_⟩
  · rw [himp, hpk, hbl]; exact hl.groups hext
  · unfold Writer.fp Writer.lp; rw [himp, href]

theorem WView.new {w' : Writer} {r : Reader} {importRemap : List Nat} (hr : r.WF)
    (hmap : ∀ i, i < r.imports.length → w'.imports[importRemap.getD i 0]? = r.imports[i]?)
    (href : w'.ref * 1000000000 < 2 ^ 63) {s s0 : StreamRec} (hs : s ∈ r.f.streams)
    (hn : NewRel r w'.imports.length w'.packets w'.blobs.flatten w'.hostGroups importRemap s s0) :
    NewOk r w' s (shiftRec (mul64 (sub64 r.f.ref w'.ref) 1000000000) s0) := by
  obtain ⟨⟨⟨hid, hcp, hsp, hfl, hcb, hsb⟩, hf, hl⟩, k, hlr, hk, hlw⟩ := hn
  have ht0 : TimeOk r.f.ref s0 := by
    have := hr.times s hs
    unfold TimeOk at this ⊢
    rw [hf, hl]; exact this
  obtain ⟨ht', e1, e2⟩ := ht0.shift href
  have hk' : Comp.Ok { k with chain := k.chain.map (reimp importRemap) } s0 := by
    obtain ⟨a, b, c⟩ := hk
    exact ⟨(SkipsOk_map_reimp _ _).mpr a, by rw [← hcb, ← hsb]; exact b, by rw [← hcb, ← hsb]; exact c⟩
  refine ⟨(shiftRec_id _ _).trans hid.symm, ht', _, view_of_located r s k hlr hk, _, hlw.shift _, hk'.shift _, ?_⟩
  have hexp : expWraps s0 = expWraps s := by unfold expWraps; rw [hf, hl]
  have t1 : w'.fp (shiftRec (mul64 (sub64 r.f.ref w'.ref) 1000000000) s0) = r.firstPacket s := by
    refine Eq.trans e1 ?_
    unfold Reader.firstPacket; rw [hf]
  have t2 : w'.lp (shiftRec (mul64 (sub64 r.f.ref w'.ref) 1000000000) s0) = r.lastPacket s := by
    refine Eq.trans e2 ?_
    unfold Reader.lastPacket; rw [hl]
  refine Eq.symm ((compView_times _ _ _ t1 t2 ((expWraps_shift _ s0).trans hexp)).trans ?_)
  refine (compView_shift _ _ _ _ _ s0 _).trans ?_
  apply compView_copy _ _ _ _ _ _ _ _ _ ⟨hid, hcp, hsp, hfl, hcb, hsb⟩
  exact packetsWalk_remap r.imports w'.imports importRemap hr.importsNodup hmap k.chain hlr.2.2.1 _ _ none
    (fun _ _ h => nomatch h)

/-- the stream clause of `WInv` afterwards: every record shows a view -/
theorem streams_ok {w w' : Writer} {r : Reader} {fl olds new : List StreamRec} (hw : WInv w)
    (ho : All₂ (OldOk w w') w.streams olds) (hn : All₂ (NewOk r w') fl new) :
    ∀ s' ∈ olds ++ new, TimeOk w'.ref s' ∧
      ∃ k, Located w'.imports.length w'.packets w'.blobs.flatten (w'.hostGroups.map HostGroup.toReader) s' k ∧ k.Ok s' := by
  intro s' hs'
  rcases List.mem_append.mp hs' with h | h
  · obtain ⟨s, hs, _, ht, hv⟩ := ho.mem_right h
    obtain ⟨_, k, hl, hk⟩ := hw.streams s hs
    obtain ⟨k', hl', hk', _⟩ := hv _ ⟨k, hl, hk, rfl⟩
    exact ⟨ht, k', hl', hk'⟩
  · obtain ⟨_, _, _, ht, _, _, k', hl', hk', _⟩ := hn.mem_right h
    exact ⟨ht, k', hl', hk'⟩

theorem addIndex_step (w w' : Writer) (r : Reader) (b : Bool) (hw : WInv w) (hr : r.WF)
    (h : w.addIndex r = .ok (w', b)) (hfit : w'.Fits) :
    WInv w' ∧ ∃ olds new, w'.streams = olds ++ new ∧ All₂ (OldOk w w') w.streams olds ∧
      All₂ (NewOk r w') (r.f.streams.filter fun s => !(w.streams.map (·.id)).contains s.id) new := by
  obtain ⟨_, acc, hc, hcase⟩ := addIndex_unfold w w' r b h
  obtain ⟨hpg1, hpg2, hpg3, hpg4⟩ := placeGroups_spec r.hostGroups hr.hosts w.hostGroups hw.groups
  obtain ⟨⟨extra, hmi1, hmi1'⟩, hmi2, hmi3, hmi4⟩ := mergeImports_spec w.imports r.imports
  rcases hcase with ⟨hemp, hW⟩ | ⟨hne, hW⟩
  · obtain ⟨new0, h1, h2⟩ := copyStreams_spec _ _ _ _ _ _ _ hc
    simp only [List.nil_append] at h1
    rw [← h1, hemp] at h2
    have hext : GroupsExt w.hostGroups w'.hostGroups := by rw [hW]; exact GroupsExt_take _ _ hpg2
    have ho : All₂ (OldOk w w') w.streams w.streams :=
      All₂.of_index _ _ rfl fun j s hj => ⟨s, hj, rfl, by rw [hW]; exact (hw.streams s (List.mem_of_getElem? hj)).1,
        fun v hv => WView.groups (by rw [hW]) (by rw [hW]) (by rw [hW]) hext (by rw [hW]) hv⟩
    have hn : All₂ (NewOk r w') (r.f.streams.filter fun s => !(w.streams.map (·.id)).contains s.id) [] := by
      rw [h2.nil_right]; exact All₂.nil
    have hs := streams_ok hw ho hn
    rw [List.append_nil] at hs
    subst hW
    exact ⟨⟨take_inv _ hpg1 _, hw.dataLen, hw.importsNodup, hw.importsNoNul, hw.ref, hs⟩,
      w.streams, [], (List.append_nil _).symm, ho, hn⟩
  · have hfp := hfit.packets
    have hfi := hfit.imports
    have hfg := hfit.groups
    rw [hW] at hfp hfi hfg
    simp only at hfp hfi hfg
    have hmap := hmi4 hfi
    have ctx : CopyCtx r (mergeImports w.imports r.imports).1.length (mergeImports w.imports r.imports).2
        (placeGroups r.hostGroups w.hostGroups).1 (placeGroups r.hostGroups w.hostGroups).2 := by
      refine ⟨hr, hmi2, ?_, hpg3, hpg4 hfg⟩
      intro i hi
      have := hmap i hi
      rw [List.getElem?_eq_getElem hi] at this
      exact getElem?_lt this
    obtain ⟨⟨X, hX⟩, ⟨Y, hY⟩, hdl, new0, hnew, hall⟩ :=
      copyStreams_full ctx (w.streams.map (·.id)) r.f.streams (fun s hs => hs) _ acc hw.dataLen hc hfp
    simp only [List.nil_append] at hX hY hnew
    have hmin := copyStreams_minFirst r _ _ _ r.f.streams (fun s hs => (hr.times s hs).1) r.f.streams (fun s hs => hs) _ acc
      (Or.inl ⟨rfl, rfl⟩) hc
    have href : newRefOf w r acc.minFirst * 1000000000 < 2 ^ 63 := by
      rcases hmin with ⟨he, _⟩ | ⟨s, hs, hm⟩
      · exact absurd he hne
      · exact newRef_ok w r _ hw.ref s (hr.times s hs) hm
    have eg : w'.hostGroups = (placeGroups r.hostGroups w.hostGroups).1 := by rw [hW]
    have ei : w'.imports = (mergeImports w.imports r.imports).1 := by rw [hW]
    have ep : w'.packets = acc.packets := by rw [hW]
    have eb : w'.blobs = acc.blobs := by rw [hW]
    have ed : w'.dataLen = acc.dataLen := by rw [hW]
    have er : w'.ref = newRefOf w r acc.minFirst := by rw [hW]
    have es : w'.streams = w.streams.map (shiftRec (mul64 (sub64 w.ref w'.ref) 1000000000)) ++
                          acc.streams.map (shiftRec (mul64 (sub64 r.f.ref w'.ref) 1000000000)) := by rw [hW]
    have href' : w'.ref * 1000000000 < 2 ^ 63 := by rw [er]; exact href
    have ho : All₂ (OldOk w w') w.streams (w.streams.map (shiftRec (mul64 (sub64 w.ref w'.ref) 1000000000))) :=
      All₂.of_index _ _ (List.length_map _) fun j s hj => ⟨_, by rw [List.getElem?_map, hj]; rfl,
        WView.old ⟨extra, by rw [ei, hmi1]⟩ ⟨X, by rw [ep, hX]⟩ ⟨Y.flatten, by rw [eb, hY]; simp⟩
          (by rw [eg]; exact hpg2) href' (hw.streams s (List.mem_of_getElem? hj)).1⟩
    have hn : All₂ (NewOk r w') (r.f.streams.filter fun s => !(w.streams.map (·.id)).contains s.id)
        (acc.streams.map (shiftRec (mul64 (sub64 r.f.ref w'.ref) 1000000000))) := by
      rw [hnew]
      refine hall.map_right _ ?_
      intro s s0 hs hn
      have hn' : NewRel r w'.imports.length w'.packets w'.blobs.flatten w'.hostGroups (mergeImports w.imports r.imports).2 s s0 := by
        rw [ei, ep, eb, eg]; exact hn
      exact WView.new hr (by rw [ei]; exact hmap) href' (List.mem_filter.mp hs).1 hn'
    refine ⟨⟨by rw [eg]; exact hpg1, by rw [ed, eb]; exact hdl, by rw [ei]; exact hmi3 hw.importsNodup, ?_, href',
      by rw [es]; exact streams_ok hw ho hn⟩, _, _, es, ho, hn⟩
    rw [ei, hmi1]
    intro k hk
    rcases List.mem_append.mp hk with hk | hk
    · exact hw.importsNoNul k hk
    · exact hr.importsNoNul k (hmi1' k hk)

end Pk.Index
