/-
  C15: the varint round trip; the size loop and the split loop of `data` on what `setData` wrote (`entries`, `readBack`,
  under `ChunkOk`, `TimesOk`), with the arithmetic of the relative times; a store read back in a single state.
-/
import Pk.Model.CacheFile

namespace Pk.Proofs.CacheFile
open Pk.CacheFile

/-- one group: with the higher groups `n / 128` read, the byte of the lowest group completes `n` -/
theorem read_group (n flag : Nat) (bs : List Nat) (h : n < 2 ^ 64) (hf : flag = 0 ∨ flag = 128) :
    readVarIntAux ((n % 128 + flag) :: bs) (n / 128) = if flag = 0 then some (n, bs) else readVarIntAux bs n := by
  rw [readVarIntAux]
  rcases hf with rfl | rfl
  · rw [Nat.add_zero, Nat.mod_mod, Nat.div_add_mod', Nat.mod_eq_of_lt h, if_pos (Nat.mod_lt _ (by decide)),
      if_pos rfl]
  · rw [Nat.add_mod_right, Nat.mod_mod, Nat.div_add_mod', Nat.mod_eq_of_lt h, if_neg (by omega),
      if_neg (by decide)]

theorem varintHi_read (rest : List Nat) : ∀ (fuel n : Nat) (acc : List Nat), n < 128 ^ fuel → n < 2 ^ 64 →
    readVarIntAux (varintHi fuel n acc ++ rest) 0 = readVarIntAux (acc ++ rest) n := by
  intro fuel
  induction fuel with
  | zero =>
    intro n acc h _
    obtain rfl : n = 0 := by simpa using h
    rfl
  | succ fuel ih =>
    intro n acc h h64
    rw [varintHi]
    split
    · rename_i hn; rw [hn]
    · rw [ih (n / 128) _ (by rw [Nat.pow_succ] at h; omega) (by omega), List.cons_append,
        read_group n 128 _ h64 (Or.inr rfl), if_neg (by decide)]

theorem varint_roundtrip (n : Nat) (rest : List Nat) (h : n < 2 ^ 64) :
    readVarInt (writeVarInt n ++ rest) = some (n, rest) := by
  rw [readVarInt, writeVarInt, varintHi_read rest 10 (n / 128) [n % 128] (by omega) (by omega)]
  exact read_group n 0 rest h (Or.inl rfl)

theorem writeVarInt_length_pos (n : Nat) : 0 < (writeVarInt n).length := by
  unfold writeVarInt
  have : ∀ fuel m acc, acc.length ≤ (varintHi fuel m acc).length := by
    intro fuel
    induction fuel with
    | zero => intro m acc; simp [varintHi]
    | succ f ih =>
      intro m acc; unfold varintHi
      by_cases hm : m = 0
      · simp [hm]
      · simp only [hm, if_false]
        have := ih (m / 128) ((m % 128 + 128) :: acc)
        simp only [List.length_cons] at this; omega
  have := this 10 (n / 128) [n % 128]
  simp only [List.length_cons, List.length_nil] at this; omega

/-- what the size loop of `data` reads back for a chunk list: a `(want, 0)` marker entry wherever the
    direction is not the expected one -/
def entries : List Chunk → Bool → List (Bool × Nat)
  | [], _ => []
  | c :: cs, want =>
    (if c.dir != want then [(want, 0)] else []) ++ (c.dir, c.content.length) :: entries cs (!c.dir)

/-- the direction the size loop expects when it meets the closing `[0, 0]`; the entry `readSizes` returns for it
    (dropped again by `decodeRecord`) carries it -/
def endDir : List Chunk → Bool → Bool
  | [], want => want
  | c :: cs, _ => endDir cs (!c.dir)

def ChunkOk (c : Chunk) : Prop := c.content ≠ [] ∧ c.content.length < 2 ^ 64

theorem readVarInt_zero (rest : List Nat) : readVarInt (0 :: rest) = some (0, rest) := by
  simp [readVarInt, readVarIntAux]

theorem readSizes_size (f : Nat) {n : Nat} (rest : List Nat) (pz dir : Bool) (hn : n ≠ 0) (h64 : n < 2 ^ 64) :
    readSizes (f + 1) (writeVarInt n ++ rest) pz dir
      = (readSizes f rest false (!dir)).map fun r => ((dir, n) :: r.1, r.2) := by
  rw [readSizes, varint_roundtrip _ _ h64]
  simp only [hn, false_and, if_false, beq_eq_false_iff_ne.mpr hn]

theorem readSizes_zero (f : Nat) (rest : List Nat) (pz dir : Bool) :
    readSizes (f + 1) (0 :: rest) pz dir
      = if pz then some ([], rest) else (readSizes f rest true (!dir)).map fun r => ((dir, 0) :: r.1, r.2) := by
  rw [readSizes, readVarInt_zero]
  simp

theorem sizes_read (rest : List Nat) : ∀ (cs : List Chunk) (want : Bool) (fuel : Nat),
    (∀ c ∈ cs, ChunkOk c) → (encodeSizes cs want).length ≤ fuel →
    readSizes fuel (encodeSizes cs want ++ rest) false want
      = some (entries cs want ++ [(endDir cs want, 0)], rest) := by
  intro cs
  induction cs with
  | nil =>
    intro want fuel _ hf
    obtain ⟨f, rfl⟩ : ∃ f, fuel = f + 2 := ⟨fuel - 2, Nat.eq_add_of_sub_eq hf rfl⟩
    rw [encodeSizes, List.cons_append, readSizes_zero, List.cons_append, readSizes_zero]
    rfl
  | cons c cs ih =>
    intro want fuel hok hf
    obtain ⟨hc, hcs⟩ := List.forall_mem_cons.mp hok
    have hlen : c.content.length ≠ 0 := fun h => hc.1 (List.length_eq_zero_iff.mp h)
    have hpos := writeVarInt_length_pos c.content.length
    rw [encodeSizes, entries, endDir]
    rw [encodeSizes, List.length_append, List.length_append] at hf
    by_cases hd : c.dir = want
    · subst hd
      rw [bne_self_eq_false, if_neg Bool.false_ne_true] at hf ⊢
      obtain ⟨f, rfl⟩ : ∃ f, fuel = f + 1 := ⟨fuel - 1, by omega⟩
      rw [if_neg Bool.false_ne_true, List.nil_append, List.append_assoc, readSizes_size f _ _ _ hlen hc.2,
        ih _ f hcs (by rw [List.length_nil] at hf; omega)]
      rfl
    · have hne : (c.dir != want) = true := bne_iff_ne.mpr hd
      rw [hne, if_pos rfl] at hf ⊢
      obtain ⟨f, rfl⟩ : ∃ f, fuel = f + 2 := ⟨fuel - 2, by rw [List.length_singleton] at hf; omega⟩
      rw [if_pos rfl, List.append_assoc, List.append_assoc, List.singleton_append, readSizes_zero,
        ← Bool.eq_not_of_ne hd, readSizes_size f _ _ _ hlen hc.2,
        ih _ f hcs (by rw [List.length_singleton] at hf; omega)]
      rfl

theorem tdiv_spec (d : Int) : (0 ≤ d → d.tdiv 1000 = d / 1000) ∧ (d < 0 → d.tdiv 1000 = -((-d) / 1000)) := by
  constructor
  · intro h; exact Int.tdiv_eq_ediv_of_nonneg h
  · intro h
    have : d = -(-d) := by omega
    rw [this, Int.neg_tdiv, Int.tdiv_eq_ediv_of_nonneg (by omega)]
    simp

theorem toI64_toU64 (r : Int) (h1 : -2 ^ 63 ≤ r) (h2 : r < 2 ^ 63) : toI64 (toU64 r) = r := by
  unfold toI64 toU64
  split <;> omega

theorem wrapI64_id (x : Int) (h1 : -2 ^ 63 ≤ x) (h2 : x < 2 ^ 63) : wrapI64 x = x := by
  unfold wrapI64; omega

theorem reltime_back (d : Int) (h1 : -2 ^ 62 < d) (h2 : d < 2 ^ 62) :
    wrapI64 (toI64 (toU64 (d.tdiv 1000)) * 1000) = d.tdiv 1000 * 1000 := by
  obtain ⟨hp, hn⟩ := tdiv_spec d
  have hb : -2 ^ 62 < d.tdiv 1000 * 1000 ∧ d.tdiv 1000 * 1000 < 2 ^ 62 := by
    by_cases h : 0 ≤ d
    · rw [hp h]; omega
    · rw [hn (by omega)]; omega
  rw [toI64_toU64 _ (by omega) (by omega), wrapI64_id _ (by omega) (by omega)]

theorem time_error (d : Int) : -1000 < d - d.tdiv 1000 * 1000 ∧ d - d.tdiv 1000 * 1000 < 1000 := by
  obtain ⟨hp, hn⟩ := tdiv_spec d
  by_cases h : 0 ≤ d
  · rw [hp h]; omega
  · rw [hn (by omega)]; omega

/-- what `data` hands back for a written chunk list (before content types are applied): same directions
    and bytes, times rebuilt from the stored whole microseconds -/
def readBack : List Chunk → Int → List Chunk
  | [], _ => []
  | c :: cs, last =>
    let t := last + (c.time - last).tdiv 1000 * 1000
    { c with time := t, ctype := [] } :: readBack cs t

/-- consecutive times (starting from the first-packet time) are less than 2^62 ns (146 years) apart -/
def TimesOk : List Chunk → Int → Prop
  | [], _ => True
  | c :: cs, last => (-2 ^ 62 < c.time - last ∧ c.time - last < 2 ^ 62) ∧
      TimesOk cs (last + (c.time - last).tdiv 1000 * 1000)

theorem mem_dropEmpty {c : Chunk} {cs : List Chunk} : c ∈ dropEmpty cs ↔ c ∈ cs ∧ c.content ≠ [] := by
  simp only [dropEmpty, List.mem_filter, decide_eq_true_eq]

theorem dataOf_cons (c : Chunk) (cs : List Chunk) (d : Bool) :
    dataOf (c :: cs) d = if c.dir = d then c.content ++ dataOf cs d else dataOf cs d := by
  unfold dataOf
  by_cases h : c.dir = d <;> simp [h]

theorem toU64_lt (r : Int) : toU64 r < 2 ^ 64 := by
  unfold toU64
  omega

theorem splitChunks_zero (d : Bool) (ds : List (Bool × Nat)) (cd sd rest : List Nat) (last : Int) :
    splitChunks ((d, 0) :: ds) cd sd rest last = splitChunks ds cd sd rest last := by
  simp [splitChunks]

theorem split_read (rest : List Nat) : ∀ (cs : List Chunk) (want : Bool) (cd sd : List Nat) (last : Int),
    (∀ c ∈ cs, ChunkOk c) → TimesOk cs last →
    splitChunks (entries cs want) (dataOf cs false ++ cd) (dataOf cs true ++ sd)
        (encodeTimes cs last ++ rest) last
      = some (readBack cs last, rest) := by
  intro cs
  induction cs with
  | nil => intro want cd sd last _ _; simp [entries, splitChunks, encodeTimes, readBack]
  | cons c cs ih =>
    intro want cd sd last hok ht
    have hc : ChunkOk c := hok c (by simp)
    have hcs : ∀ c ∈ cs, ChunkOk c := fun x hx => hok x (by simp [hx])
    have hlen : c.content.length ≠ 0 := by
      intro h; exact hc.1 (List.length_eq_zero_iff.mp h)
    obtain ⟨⟨ht1, ht2⟩, ht3⟩ := ht
    have hu : toU64 ((c.time - last).tdiv 1000) < 2 ^ 64 := toU64_lt _
    have main : splitChunks ((c.dir, c.content.length) :: entries cs (!c.dir)) (dataOf (c :: cs) false ++ cd)
        (dataOf (c :: cs) true ++ sd) (encodeTimes (c :: cs) last ++ rest) last
          = some (readBack (c :: cs) last, rest) := by
      simp only [splitChunks, hlen, if_false, encodeTimes, List.append_assoc, varint_roundtrip _ _ hu,
        reltime_back _ ht1 ht2, dataOf_cons]
      cases hd : c.dir
      · simp only [Bool.false_eq_true, if_false, if_true, List.append_assoc, List.take_left',
          List.drop_left']
        rw [ih _ cd sd _ hcs ht3]
        simp [readBack, hd]
      · simp only [Bool.true_eq_false, if_false, if_true, List.append_assoc, List.take_left',
          List.drop_left']
        rw [ih _ cd sd _ hcs ht3]
        simp [readBack, hd]
    by_cases hd : c.dir = want
    · subst hd
      have e : entries (c :: cs) c.dir = (c.dir, c.content.length) :: entries cs (!c.dir) := by
        simp [entries]
      rw [e]; exact main
    · have hne : (c.dir != want) = true := by simpa using hd
      have e : entries (c :: cs) want = (want, 0) :: (c.dir, c.content.length) :: entries cs (!c.dir) := by
        simp [entries, hne]
      rw [e, splitChunks_zero]; exact main

theorem foldl_add (l : List (Bool × Nat)) : ∀ a, l.foldl (fun a e => a + e.2) a = a + l.foldl (fun a e => a + e.2) 0 := by
  induction l with
  | nil => intro a; simp
  | cons x xs ih => intro a; simp only [List.foldl_cons]; rw [ih (a + x.2), ih (0 + x.2)]; omega

theorem sumDir_cons (e : Bool × Nat) (ds : List (Bool × Nat)) (d : Bool) :
    sumDir (e :: ds) d = (if e.1 = d then e.2 else 0) + sumDir ds d := by
  unfold sumDir
  by_cases h : e.1 = d
  · simp only [List.filter_cons, h, beq_self_eq_true, if_true, List.foldl_cons]
    rw [foldl_add]; omega
  · have : (e.1 == d) = false := by simpa using h
    simp [this, h]

theorem sumDir_nil (d : Bool) : sumDir [] d = 0 := by simp [sumDir]

theorem sumDir_entries (d : Bool) : ∀ (cs : List Chunk) (want e : Bool),
    sumDir (entries cs want ++ [(e, 0)]) d = (dataOf cs d).length := by
  intro cs
  induction cs with
  | nil => intro want e; simp [entries, sumDir_cons, sumDir_nil, dataOf]
  | cons c cs ih =>
    intro want e
    by_cases hd : c.dir = want
    · subst hd
      simp only [entries, bne_self_eq_false, Bool.false_eq_true, if_false, List.nil_append, List.cons_append,
        sumDir_cons, ih, dataOf_cons]
      by_cases h : c.dir = d <;> simp [h]
    · have hne : (c.dir != want) = true := by simpa using hd
      simp only [entries, hne, if_true, List.cons_append, List.nil_append, sumDir_cons, ih, dataOf_cons]
      by_cases h : c.dir = d <;> simp [h]

theorem countP_entries : ∀ (cs : List Chunk) (want e : Bool), (∀ c ∈ cs, ChunkOk c) →
    (entries cs want ++ [(e, 0)]).countP (fun x : Bool × Nat => x.2 ≠ 0) = cs.length := by
  intro cs
  induction cs with
  | nil => intro _ _ _; rfl
  | cons c cs ih =>
    intro want e hok
    obtain ⟨hc, hcs⟩ := List.forall_mem_cons.mp hok
    have hlen : c.content.length ≠ 0 := fun h => hc.1 (List.length_eq_zero_iff.mp h)
    rw [entries, List.append_assoc, List.countP_append, List.cons_append, List.countP_cons, ih _ e hcs]
    split <;> simp [hlen]

theorem readVarBytes_zero (rest : List Nat) : readVarBytes (0 :: rest) = some ([], rest) := by
  simp [readVarBytes, readVarBytesAux]

theorem lookup_insert_self (m : List (Nat × Info)) (id : Nat) (i : Info) : lookup (insert m id i) id = some i := by
  simp [lookup, Pk.CacheFile.insert]

theorem lookup_erase_self (m : List (Nat × Info)) (id : Nat) : lookup (erase m id) id = none := by
  simp [lookup, erase, List.find?_eq_none]

theorem le64_length (n : Nat) : (le64 n).length = 8 := by simp [le64]

theorem drop_patch (bs new : List Nat) (off n : Nat) (h1 : off + new.length ≤ n) (h2 : n ≤ bs.length) :
    (patch bs off new).drop n = bs.drop n := by
  unfold patch
  have hl : (bs.take off).length = off := by simp [List.length_take]; omega
  rw [List.drop_append, List.drop_append, hl]
  have a1 : (bs.take off).drop n = [] := List.drop_eq_nil_of_le (by omega)
  have a2 : new.drop (n - off) = [] := List.drop_eq_nil_of_le (by omega)
  rw [a1, a2, List.drop_drop]
  simp only [List.nil_append]
  congr 1; omega

theorem section_after_store (bytes record : List Nat) (hdr : List Nat) (h8 : hdr.length = 8) :
    ((bytes ++ (hdr ++ record)).drop (bytes.length + 8)).take record.length = record := by
  rw [List.drop_append]
  have a1 : bytes.drop (bytes.length + 8) = [] := List.drop_eq_nil_of_le (by omega)
  have a2 : bytes.length + 8 - bytes.length = hdr.length := by omega
  rw [a1, a2, List.nil_append, List.drop_left, List.take_length]

theorem store_then_read (st : St) (id : Nat) (t0 : Int) (cs : List Chunk)
    (hsz : st.fileSize = st.bytes.length)
    (hno : ¬ (st.freeSize ≥ cleanupMinFreeSize ∧ st.freeSize ≥ st.fileSize / 2))
    (hold : ∀ o, lookup st.infos id = some o → 8 ≤ o.offset ∧ o.offset ≤ st.fileSize) :
    ∃ st', setData st id t0 cs = some st' ∧
      data st' id t0 = (decodeRecord (encodeRecord cs t0) t0).map some := by
  unfold setData
  simp only [hno, if_false]
  cases ho : lookup st.infos id with
  | none =>
    refine ⟨_, rfl, ?_⟩
    simp only [data, lookup_insert_self, section_, streamHeaderSize, hsz]
    rw [section_after_store _ _ _ (le64_length id)]
  | some o =>
    refine ⟨_, rfl, ?_⟩
    obtain ⟨ho1, ho2⟩ := hold o ho
    simp only [data, freeStream, lookup_insert_self, section_, streamHeaderSize, hsz]
    rw [drop_patch _ _ _ _ (by rw [le64_length]; omega)
      (by simp only [List.length_append, le64_length]; omega)]
    rw [section_after_store _ _ _ (le64_length id)]

theorem invalidate_then_read (st : St) (id : Nat) (t0 : Int) :
    data (invalidateOne st id).1 id t0 = some none ∧ contains (invalidateOne st id).1 id = false := by
  unfold invalidateOne
  cases ho : lookup st.infos id with
  | none => simp [data, contains, ho]
  | some o => simp [data, contains, lookup_erase_self]

end Pk.Proofs.CacheFile
