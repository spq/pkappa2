/-
  `Writer.addStream` preserves the writer invariant `WInv` (`addStream_winv`), for the full C07 statement: the records
  held are re-based and stay located, the new one is located by the placement layer (`located_of_written`).
-/
import Pk.Proofs.IndexFormatFullPieces
import Pk.Proofs.MergeFullWF
import Pk.Proofs.MergeFullLocated
namespace Pk.Index
open Pk Pk.Bytes

structure StreamIn.WF (s : StreamIn) : Prop where
  addr : s.AddrWF
  times : ∀ p ∈ s.packets, 0 ≤ p.ts ∧ p.ts < 2 ^ 63
  names : ∀ p ∈ s.packets, ∀ rf ∈ p.refs, (0 : UInt8) ∉ rf.file
  size : (s.data.map (·.bytes.length)).sum < 2 ^ 64
  dirs : ∀ p ∈ s.packets, p.dir = 0 ∨ p.dir = 1

theorem u64_i64 (x : Int) (h0 : -(2 ^ 63) ≤ x) (h1 : x < 2 ^ 63) : u64 x < 2 ^ 64 ∧ i64 (u64 x) = x := by
  refine ⟨by unfold u64; omega, i64_of_modEq _ x h0 h1 ?_⟩
  unfold u64; omega

theorem timeOk_new (ref : Nat) (t0 tl : Int) (r : StreamRec) (href : (ref : Int) * 1000000000 ≤ t0)
    (h1 : t0 < 2 ^ 63) (hl0 : 0 ≤ tl) (hl1 : tl < 2 ^ 63)
    (hf : r.first = u64 (t0 - (ref : Int) * 1000000000)) (hl : r.last = u64 (tl - (ref : Int) * 1000000000)) :
    TimeOk ref r := by
  obtain ⟨a1, a2⟩ := u64_i64 (t0 - (ref : Int) * 1000000000) (by omega) (by omega)
  obtain ⟨b1, b2⟩ := u64_i64 (tl - (ref : Int) * 1000000000) (by omega) (by omega)
  unfold TimeOk
  rw [hf, hl, a2, b2]
  refine ⟨a1, b1, ?_, ?_, ?_, ?_⟩ <;> omega

theorem winv_no_packets (w : Writer) (hw : WInv w) (h : w.packets.length = 0) : w.streams = [] := by
  cases hs : w.streams with
  | nil => rfl
  | cons s t =>
    obtain ⟨_, k, hloc, _⟩ := hw.streams s (by simp [hs])
    have hch := hloc.2.1
    rw [List.length_eq_zero_iff.mp h] at hch
    simp [chainOf] at hch

theorem rebase_spec (w : Writer) (hw : WInv w) (t0 : Int) (h0 : 0 ≤ t0) (h1 : t0 < 2 ^ 63) :
    ((w.rebase (unixSec t0)).1 : Int) * 1000000000 ≤ t0 ∧
    (∀ s' ∈ (w.rebase (unixSec t0)).2, TimeOk (w.rebase (unixSec t0)).1 s' ∧
      ∃ s ∈ w.streams, ∃ a b, s' = { s with first := a, last := b }) := by
  have hfs := unixSec_eq t0 h0 h1
  have href := hw.ref
  obtain ⟨hz, e⟩ | ⟨_, hgt, e⟩ | ⟨_, hge, e⟩ := rebase_cases w (unixSec t0) <;> rw [e]
  · rw [winv_no_packets w hw hz]
    refine ⟨?_, ?_⟩
    · omega
    · intro s' hs'; cases hs'
  · refine ⟨by omega, ?_⟩
    intro s' hs'
    obtain ⟨s, hs, rfl⟩ := List.mem_map.mp hs'
    have hfs' : unixSec t0 * 1000000000 < 2 ^ 63 := Nat.lt_trans ((Nat.mul_lt_mul_right (by decide)).mpr hgt) href
    have hd := u64_of_nonneg (((w.ref : Int) - unixSec t0) * 1000000000) (by omega) (by omega)
    exact ⟨((hw.streams s hs).1.shift_gen (by rw [hd, Int.sub_self]; rfl) hfs').1, s, hs, _, _, rfl⟩
  · exact ⟨by omega, fun s hs => ⟨(hw.streams s hs).1, s, hs, s.first, s.last, rfl⟩⟩

theorem addStream_winv (w w' : Writer) (s : StreamIn) (b : Bool) (hw : WInv w) (hs : s.WF)
    (h : w.addStream s = .ok (w', b)) (hfit : w'.Fits) : WInv w' := by
  cases b with
  | false =>
    obtain ⟨_, rfl⟩ | ⟨hb, _⟩ := addStream_cases w w' s false h
    · exact hw
    · cases hb
  | true =>
    obtain ⟨p0, pl, gid, cid, sid, cds, more, hp0, hpl, hcd, hph, himp, hnd, hmore, hpk, _, hflat, hdl, href, hst, hpa, hba⟩ :=
      addStream_new w w' s h hw.dataLen
    have ht0 := hs.times p0 (List.mem_of_head? hp0)
    have htl := hs.times pl (List.mem_of_getLast? hpl)
    obtain ⟨hgroups, hext, g', hg', v1, v2, e1, e2⟩ := placeHosts_spec w.hostGroups s.client s.server hs.addr.1 hw.groups hph
    obtain ⟨hrefle, hold⟩ := rebase_spec w hw p0.ts ht0.1 ht0.2
    rw [← href] at hrefle hold
    refine ⟨hgroups, hdl, hnd hw.importsNodup, ?_, by omega, ?_⟩
    · intro k hk
      rw [himp] at hk
      rcases List.mem_append.mp hk with hk | hk
      · exact hw.importsNoNul k hk
      · obtain ⟨p, hp, ref, hr, rfl⟩ := hmore k hk
        exact hs.names p hp ref hr
    · intro s' hs'
      rw [hst] at hs'
      rcases List.mem_append.mp hs' with hs' | hs'
      · -- an old record: re-based, and its pieces stay where they are while the tables grow
        obtain ⟨htime, s0, hs0, a, b, rfl⟩ := hold s' hs'
        obtain ⟨_, k, hloc, hok⟩ := hw.streams s0 hs0
        have := (hloc.mono (n' := w'.imports.length) (by rw [himp]; simp) (streamRecs w'.imports s) (streamBlob cds)).groups hext
        rw [← hpk, ← hflat] at this
        exact ⟨htime, k, this, hok⟩
      · -- the new record: placed by `addStream_new`, hence `Located`
        cases List.mem_singleton.mp hs'
        have hmod : gid % 65536 = gid := Nat.mod_eq_of_lt (Nat.lt_of_lt_of_le (getElem?_lt hg') hfit.groups)
        obtain ⟨k, hl, hk, _⟩ := located_of_written (gs := w'.hostGroups)
          ⟨g', by simp only [mkStreamRec, hmod]; exact hg', v1, v2, e1, e2⟩ hpa hba
          (fun cds' h' => by rw [hcd] at h'; cases h'; exact ⟨rfl, rfl⟩) hs.dirs hs.size
        exact ⟨timeOk_new _ p0.ts pl.ts _ hrefle ht0.2 htl.1 htl.2 rfl rfl, k, hl, hk⟩

end Pk.Index
