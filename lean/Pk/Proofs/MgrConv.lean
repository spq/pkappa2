/- The invariant behind `C16.accounted_step` (`Good b`), helper by helper.  Most helpers of the model are `Same`
   (converter queues, caches and served files untouched, tags only lose converters / matches) or `Grow` (nothing
   cached-or-queued gets lost), and either relation carries `Good` across.  The helpers that do move the bookkeeping:
   `startConverter` (what a started converter job is, is said once: `JobStart`, `startConverter_spec`), the detach
   (written out: `dc2`, `dc3`), the import completion (`Good_idApply`), and the three that store a tag and queue
   streams for its converters (attach, mark update, published tagging result), which are one relation, `Store`.
   `step_ac`, which puts the helpers together, stands in MgrConvRun, after `step_walk`. -/
import Pk.Proofs.MgrFrame
import Pk.Proofs.MgrTagsFrame
import Pk.Proofs.MgrLocks
import Pk.Props.MgrSpec
namespace Pk.Proofs.MgrConv
open Pk.Mgr

theorem sget_nil {α} (k : String) : sget ([] : List (String × α)) k = none := rfl
theorem nget_nil {α} (k : Nat) : nget ([] : List (Nat × α)) k = none := rfl

theorem sget_map' {α} (f : String × α → String × α) (hf : ∀ x, (f x).1 = x.1)
    (l : List (String × α)) (k : String) :
    sget (l.map f) k = (sget l k).map (fun v => (f (k, v)).2) := by
  have e : l.map f = l.map fun p => (p.1, (f (p.1, p.2)).2) :=
    List.map_congr_left fun x _ => Prod.ext (hf x) rfl
  rw [e, sget_map fun k v => (f (k, v)).2]

/- `C16.cachedOf`, `C16.queuedOf`, `C16.Accounted`, `C16.ConvsWF` (Pk/Props/C16.lean, which imports this module) unfold to
   `cOf`, `qOf`, `Acc`, `CWF`. -/
def cOf (s : St) (c : String) : IdSet := (sget s.cached c).getD []
def qOf (s : St) (c : String) : IdSet := (sget s.toconv c).getD []

/-- every tag of `tags'` stems from a tag of `tags` with at least its converters and matches
    (or has no converter attached) -/
def TagsLe (tags' tags : List (String × Tag)) : Prop :=
  ∀ n t', sget tags' n = some t' →
    t'.convs = [] ∨ ∃ n0 t, sget tags n0 = some t ∧ (∀ c ∈ t'.convs, c ∈ t.convs) ∧ ∀ id ∈ t'.mat, id ∈ t.mat

theorem TagsLe.refl (tags : List (String × Tag)) : TagsLe tags tags :=
  fun n t' h => Or.inr ⟨n, t', h, fun _ h => h, fun _ h => h⟩

theorem TagsLe.trans {a b c : List (String × Tag)} (h1 : TagsLe b a) (h2 : TagsLe c b) : TagsLe c a := by
  intro n t'' h
  rcases h2 n t'' h with h0 | ⟨n', t', ht', hc, hm⟩
  · exact Or.inl h0
  · rcases h1 n' t' ht' with h0 | ⟨n0, t, ht, hc', hm'⟩
    · left
      cases hcs : t''.convs with
      | nil => rfl
      | cons x xs => have := hc x (by simp [hcs]); simp [h0] at this
    · exact Or.inr ⟨n0, t, ht, fun c h => hc' c (hc c h), fun i h => hm' i (hm i h)⟩

theorem le_of_eq {tags : List (String × Tag)} {n : String} {t t' : Tag} (ht : sget tags n = some t)
    (hc : t'.convs = t.convs) (hm : t'.mat = t.mat) :
    t'.convs = [] ∨ ∃ n0 t, sget tags n0 = some t ∧ (∀ c ∈ t'.convs, c ∈ t.convs) ∧ ∀ id ∈ t'.mat, id ∈ t.mat :=
  Or.inr ⟨n, t, ht, hc ▸ fun _ h => h, hm ▸ fun _ h => h⟩

theorem TagsLe_sins {tags' tags : List (String × Tag)} (hle : TagsLe tags' tags) (n : String) {t' : Tag}
    (h : t'.convs = [] ∨
      ∃ n0 t, sget tags n0 = some t ∧ (∀ c ∈ t'.convs, c ∈ t.convs) ∧ ∀ id ∈ t'.mat, id ∈ t.mat) :
    TagsLe (sins n t' tags') tags := by
  intro m u hu
  rw [sget_sins] at hu
  split at hu
  · cases hu; exact h
  · exact hle m u hu

theorem TagsLe_sdel (tags : List (String × Tag)) (n : String) : TagsLe (sdel tags n) tags := by
  intro m u hu
  rw [sget_sdel] at hu
  split at hu
  · cases hu
  · exact TagsLe.refl _ m u hu

def eraseU (p : String × Tag) : String × Tag := (p.1, { p.2 with unc := [] })

theorem eraseU_inj {p q : String × Tag} (h : eraseU p = eraseU q) :
    p.1 = q.1 ∧ p.2.convs = q.2.convs ∧ p.2.mat = q.2.mat :=
  ⟨(congrArg Prod.fst h :), (congrArg (·.2.convs) h :), (congrArg (·.2.mat) h :)⟩

theorem TagsLe_map (tags : List (String × Tag)) (f : String × Tag → String × Tag)
    (hf : ∀ x, eraseU (f x) = eraseU x) : TagsLe (tags.map f) tags := by
  intro m u hu
  rw [sget_map' f fun x => (eraseU_inj (hf x)).1] at hu
  cases h : sget tags m with
  | none => simp [h] at hu
  | some t =>
    simp only [h, Option.map_some, Option.some.injEq] at hu
    subst hu
    exact le_of_eq h (eraseU_inj (hf (m, t))).2.1 (eraseU_inj (hf (m, t))).2.2

/-- same converter state; tags only lose converters / matches -/
structure SameK (s s' : St) : Prop where
  cached : s'.cached = s.cached
  toconv : s'.toconv = s.toconv
  convs : s'.convs = s.convs
  next : s'.next = s.next
  convert : s'.convert = s.convert
  tags : TagsLe s'.tags s.tags

theorem SameK.refl (s : St) : SameK s s := ⟨rfl, rfl, rfl, rfl, rfl, TagsLe.refl _⟩
theorem SameK.trans {a b c : St} (h1 : SameK a b) (h2 : SameK b c) : SameK a c :=
  ⟨h2.cached.trans h1.cached, h2.toconv.trans h1.toconv, h2.convs.trans h1.convs,
   h2.next.trans h1.next, h2.convert.trans h1.convert, h1.tags.trans h2.tags⟩

def Same (s s' : St) : Prop := SameK s s' ∧ s'.idx = s.idx ∧ s'.files = s.files

theorem Same.refl (s : St) : Same s s := ⟨SameK.refl s, rfl, rfl⟩
theorem Same.trans {a b c : St} (h1 : Same a b) (h2 : Same b c) : Same a c :=
  ⟨h1.1.trans h2.1, h2.2.1.trans h1.2.1, h2.2.2.trans h1.2.2⟩

theorem Same_foldl {β} (f : St → β → St) (l : List β) (hf : ∀ s x, Same s (f s x)) (s : St) :
    Same s (l.foldl f s) :=
  foldl_rel Same Same.refl (fun _ _ _ => Same.trans) f l (fun s x _ => hf s x) s

theorem SameK_foldl {β} (f : St → β → St) (l : List β) (hf : ∀ s x, SameK s (f s x)) (s : St) :
    SameK s (l.foldl f s) :=
  foldl_rel SameK SameK.refl (fun _ _ _ => SameK.trans) f l (fun s x _ => hf s x) s

/-- converter state may change, but nothing that was cached-or-queued gets lost -/
structure Grow (s s' : St) : Prop where
  convs : s'.convs = s.convs
  next : s'.next = s.next
  idx : s'.idx = s.idx
  files : s'.files = s.files
  tags : TagsLe s'.tags s.tags
  cov : ∀ c id, id ∈ cOf s c ∨ id ∈ qOf s c → id ∈ cOf s' c ∨ id ∈ qOf s' c

theorem Grow.refl (s : St) : Grow s s := ⟨rfl, rfl, rfl, rfl, TagsLe.refl _, fun _ _ h => h⟩
theorem Grow.trans {a b c : St} (h1 : Grow a b) (h2 : Grow b c) : Grow a c :=
  ⟨h2.convs.trans h1.convs, h2.next.trans h1.next, h2.idx.trans h1.idx, h2.files.trans h1.files,
   h1.tags.trans h2.tags, fun c id h => h2.cov c id (h1.cov c id h)⟩
theorem Same.grow {s s' : St} (h : Same s s') : Grow s s' :=
  ⟨h.1.convs, h.1.next, h.2.1, h.2.2, h.1.tags, fun c id hh => by
    simpa only [cOf, qOf, h.1.cached, h.1.toconv] using hh⟩

theorem Grow_foldl {β} (f : St → β → St) (l : List β) (hf : ∀ s x, Grow s (f s x)) (s : St) :
    Grow s (l.foldl f s) :=
  foldl_rel Grow Grow.refl (fun _ _ _ => Grow.trans) f l (fun s x _ => hf s x) s

/-! `Good b s`: the converters of tags are configured ones (`CWF`); if `b` holds, matching streams are accounted for
(`Acc`) and every stream is stored in a served file.  `b := False` gives the bare `CWF` preservation
(`C16.convsWF_step`), `b := True` gives `C16.accounted_step`. -/

def Acc (s : St) : Prop :=
  ∀ n t, sget s.tags n = some t → ∀ c ∈ t.convs, ∀ id, id ∈ t.mat → id < s.next →
    id ∈ cOf s c ∨ id ∈ qOf s c
def CWF (s : St) : Prop := ∀ n t, sget s.tags n = some t → ∀ c ∈ t.convs, c ∈ s.convs

def Good (b : Prop) (s : St) : Prop := CWF s ∧ (b → Acc s ∧ Props.C10.Covered s)

theorem covered_of_eq {s s' : St} (hn : s'.next = s.next) (hi : s'.idx = s.idx) (hf : s'.files = s.files)
    (h : Props.C10.Covered s) : Props.C10.Covered s' := by
  unfold Props.C10.Covered Props.C10.content at h ⊢
  rw [hn, hi, hf]; exact h

theorem CWF_of_le {s s' : St} (ht : TagsLe s'.tags s.tags) (hc : s'.convs = s.convs) (h : CWF s) :
    CWF s' := by
  intro n t' ht' c hc'
  rcases ht n t' ht' with h0 | ⟨n0, t, htt, hcs, _⟩
  · simp [h0] at hc'
  · rw [hc]; exact h n0 t htt c (hcs c hc')

theorem Acc_of_le {s s' : St} (ht : TagsLe s'.tags s.tags) (hn : s'.next = s.next)
    (hcov : ∀ c id, id ∈ cOf s c ∨ id ∈ qOf s c → id ∈ cOf s' c ∨ id ∈ qOf s' c) (h : Acc s) :
    Acc s' := by
  intro n t' ht' c hc' id hid hlt
  rcases ht n t' ht' with h0 | ⟨n0, t, htt, hcs, hm⟩
  · simp [h0] at hc'
  · exact hcov c id (h n0 t htt c (hcs c hc') id (hm id hid) (hn ▸ hlt))

theorem Good_of_grow {b : Prop} {s s' : St} (g : Grow s s') (h : Good b s) : Good b s' :=
  ⟨CWF_of_le g.tags g.convs h.1, fun hb =>
    ⟨Acc_of_le g.tags g.next g.cov (h.2 hb).1, covered_of_eq g.next g.idx g.files (h.2 hb).2⟩⟩
theorem Good_of_same {b : Prop} {s s' : St} (g : Same s s') (h : Good b s) : Good b s' :=
  Good_of_grow g.grow h

theorem Acc_of_sameK {s s' : St} (g : SameK s s') (h : Acc s) : Acc s' :=
  Acc_of_le g.tags g.next (fun c id hh => by
    simpa only [cOf, qOf, g.cached, g.toconv] using hh) h
theorem CWF_of_sameK {s s' : St} (g : SameK s s') (h : CWF s) : CWF s' :=
  CWF_of_le g.tags g.convs h

/-- the fields `Same` compares -/
def CB (s : St) := (s.tags, s.cached, s.toconv, s.convs, s.next, s.convert, s.idx, s.files)

theorem Same.of_eq {s s' : St} (h : CB s' = CB s) : Same s s' := by
  simp only [CB, Prod.mk.injEq] at h
  exact ⟨⟨h.2.1, h.2.2.1, h.2.2.2.1, h.2.2.2.2.1, h.2.2.2.2.2.1, h.1 ▸ TagsLe.refl _⟩, h.2.2.2.2.2.2⟩
theorem SameK.of_eq {s s' : St} (h : CB s' = CB s) : SameK s s' := (Same.of_eq h).1

theorem Same_queue (s : St) (q : List String) : Same s { s with queue := q } := .of_eq rfl
theorem Same_tagflag (s : St) (b : Bool) : Same s { s with tag := b } := .of_eq rfl

theorem Same_getIndexesCopy (s : St) (i : Nat) : Same s (getIndexesCopy s i).1 := .of_eq rfl

theorem Same_startTagging (s : St) (ch : Option String) : Same s (startTagging s ch) :=
  .of_eq (startTagging_frame CB s ch)

theorem Same_invDuring (s : St) (ids : IdSet) : Same s (invalidatedDuringTaggingJob s ids) :=
  .of_eq (invalidatedDuringTaggingJob_frame CB s ids)

theorem Same_tags (s : St) (tags : List (String × Tag)) (h : TagsLe tags s.tags) :
    Same s { s with tags := tags } :=
  ⟨⟨rfl, rfl, rfl, rfl, rfl, h⟩, rfl, rfl⟩

theorem Same_setTag {s s' : St} (g : Same s s') (n : String) {t' : Tag}
    (h : t'.convs = [] ∨
      ∃ n0 t, sget s.tags n0 = some t ∧ (∀ c ∈ t'.convs, c ∈ t.convs) ∧ ∀ id ∈ t'.mat, id ∈ t.mat) :
    Same s (setTag s' n t') :=
  ⟨⟨g.1.cached, g.1.toconv, g.1.convs, g.1.next, g.1.convert, TagsLe_sins g.1.tags n h⟩, g.2.1, g.2.2⟩

theorem Same_addRefBy (s : St) (a b : String) : Same s (addRefBy s a b) := by
  unfold addRefBy
  split
  · next t ht => exact Same_setTag (Same.refl s) a (le_of_eq ht rfl rfl)
  · exact Same.refl _

theorem Same_delRefBy (s : St) (a b : String) : Same s (delRefBy s a b) := by
  unfold delRefBy
  split
  · next t ht => exact Same_setTag (Same.refl s) a (le_of_eq ht rfl rfl)
  · exact Same.refl _

theorem inheritOne_eu (all : Nat) (tags : List (String × Tag)) (n : String) (t : Tag) :
    eraseU (n, inheritOne all tags t) = eraseU (n, t) := by
  obtain ⟨_, e, _⟩ := MgrTags.inheritOne_spec all tags t
  rw [e]; rfl

theorem Same_inherit (s : St) : Same s (inherit s) :=
  ⟨⟨rfl, rfl, rfl, rfl, rfl, MgrTags.inherit_inv s (fun T => TagsLe T s.tags)
    (fun _ _ _ h ht => h.trans (TagsLe_sins (TagsLe.refl _) _
      (le_of_eq ht (MgrTags.inheritOne_convs_mat _ _ _).1 (MgrTags.inheritOne_convs_mat _ _ _).2))) (TagsLe.refl _)⟩, rfl, rfl⟩

theorem Same_invalidateTags (s : St) (u r a : IdSet) : Same s (invalidateTags s u r a) := by
  rw [MgrTags.invalidateTags_eq]
  refine (Same_tags s _ (TagsLe_map _ (fun p => (p.1, MgrTags.invF s.all u r a p.2)) fun p => ?_)).trans (Same_inherit _)
  obtain ⟨_, e, _⟩ := MgrTags.invF_spec s.all u r a p.2
  rw [e]; rfl

theorem eraseU_odF (all : Nat) (p : String × Tag) : eraseU (p.1, MgrTags.odF all p.2) = eraseU p := by
  unfold MgrTags.odF
  split <;> rfl

theorem Same_outputDropped (s : St) (choice : Option String) : Same s (outputDropped s choice) := by
  rw [MgrTags.outputDropped_eq]
  split
  · exact (((Same_tags s _ (TagsLe_map _ _ (eraseU_odF s.all))).trans (Same_inherit _)).trans
      (Same_invDuring _ _)).trans (Same_startTagging _ _)
  · exact Same.refl _

theorem outputDropped_q (s : St) (choice : Option String) (c : String) :
    qOf (outputDropped s choice) c = qOf s c := by
  simp only [qOf, (Same_outputDropped s choice).1.toconv]
theorem outputDropped_c (s : St) (choice : Option String) (c : String) :
    cOf (outputDropped s choice) c = cOf s c := by
  simp only [cOf, (Same_outputDropped s choice).1.cached]

/-- tags, converter bookkeeping and the two jobs: what `release` and the events that only move files, locks or
    the import queue leave alone -/
def JB (s : St) := (s.tags, s.cached, s.toconv, s.convs, s.next, s.convert, s.jConv, s.jTag)

theorem SameK.of_jb {s s' : St} (h : JB s' = JB s) : SameK s s' := by
  simp only [JB, Prod.mk.injEq] at h
  exact ⟨h.2.1, h.2.2.1, h.2.2.2.1, h.2.2.2.2.1, h.2.2.2.2.2.1, h.1 ▸ TagsLe.refl _⟩
theorem release_sameK (s : St) (fs : List Nat) : SameK s (release s fs) ∧ (release s fs).idx = s.idx :=
  ⟨.of_jb (release_frame JB s fs), release_frame (·.idx) s fs⟩


/-- one step of `invalidateConverters` -/
def ic1 (u : IdSet) (s : St) (c : String) : St :=
  let cache := (sget s.cached c).getD []
  let inv := inter u cache
  { s with cached := sins c (diff cache inv) s.cached,
           toconv := sins c (union ((sget s.toconv c).getD []) inv) s.toconv }

theorem cOf_ic1 (u : IdSet) (s : St) (c c' : String) (id : Nat) :
    id ∈ cOf (ic1 u s c) c' ↔ id ∈ cOf s c' ∧ (c' = c → id ∉ u) := by
  simp only [cOf, ic1, sget_sins]
  by_cases h : c = c'
  · subst h; simp [mem_diff, mem_inter]; grind
  · have h' : ¬ c' = c := fun e => h e.symm
    simp [h, h']

theorem qOf_ic1 (u : IdSet) (s : St) (c c' : String) (id : Nat) :
    id ∈ qOf (ic1 u s c) c' ↔ id ∈ qOf s c' ∨ (c' = c ∧ id ∈ u ∧ id ∈ cOf s c) := by
  simp only [qOf, cOf, ic1, sget_sins]
  by_cases h : c = c'
  · subst h; simp [mem_union, mem_inter]
  · have h' : ¬ c' = c := fun e => h e.symm
    simp [h, h']

theorem ic1_grow (u : IdSet) (s : St) (c : String) : Grow s (ic1 u s c) := by
  refine ⟨rfl, rfl, rfl, rfl, TagsLe.refl _, ?_⟩
  intro c' id h
  rw [cOf_ic1, qOf_ic1]
  by_cases hc : c' = c
  · subst hc; by_cases hu : id ∈ u <;> simp_all <;> grind
  · simp_all

theorem ic_fold (u : IdSet) (l : List String) (s : St) :
    Grow s (l.foldl (ic1 u) s) ∧
    ∀ c id, id ∈ cOf (l.foldl (ic1 u) s) c → id ∈ cOf s c ∧ (c ∈ l → id ∉ u) := by
  induction l generalizing s with
  | nil => exact ⟨Grow.refl _, fun c id h => ⟨h, by simp⟩⟩
  | cons a r ih =>
    simp only [List.foldl_cons]
    obtain ⟨g, hs⟩ := ih (ic1 u s a)
    refine ⟨(ic1_grow u s a).trans g, fun c id h => ?_⟩
    obtain ⟨h1, h2⟩ := hs c id h
    rw [cOf_ic1] at h1
    exact ⟨h1.1, fun hmem => (List.mem_cons.1 hmem).elim h1.2 h2⟩

theorem invalidateConverters_grow (s : St) (u : IdSet) : Grow s (invalidateConverters s u) :=
  (ic_fold u s.convs s).1
theorem invalidateConverters_cached (s : St) (u : IdSet) (c : String) (id : Nat)
    (h : id ∈ cOf (invalidateConverters s u) c) : id ∈ cOf s c ∧ (c ∈ s.convs → id ∉ u) :=
  (ic_fold u s.convs s).2 c id h

private def activeOf (s : St) : List (String × IdSet) :=
  s.convs.filterMap fun c =>
    let req := (sget s.toconv c).getD []
    if req.isEmpty then none else some (c, req)
private def clr1 (s : St) (x : String × IdSet) : St := { s with toconv := sins x.1 [] s.toconv }
private def add1 (found : IdSet) (s : St) (x : String × IdSet) : St :=
  { s with cached := sins x.1 (union ((sget s.cached x.1).getD []) (inter x.2 found)) s.cached }
def foundOf (files : List (Nat × List Nat)) (fs : List Nat) : IdSet :=
  fs.foldl (fun acc f => union acc ((nget files f).getD [])) []

private def sc2 (s : St) : St :=
  let act := activeOf s
  let s1 := act.foldl clr1 s
  let s2 := { s1 with used := lock s1.used (s1.idx.drop 0) }
  let found := foundOf s2.files (s1.idx.drop 0)
  let remaining := act.map fun x => (x.1, inter (diff x.2 ((sget s2.cached x.1).getD [])) found)
  let s3 := act.foldl (add1 found) s2
  { s3 with convert := true, jConv := some (remaining, s1.idx.drop 0) }

private theorem startConverter_eq (s : St) :
    startConverter s = if s.convert then s else if (activeOf s).isEmpty then s else sc2 s := rfl

theorem mem_foundOf (files : List (Nat × List Nat)) (fs : List Nat) (id : Nat) :
    id ∈ foundOf files fs ↔ ∃ f ∈ fs, id ∈ (nget files f).getD [] :=
  (mem_foldl_union _ fs [] id).trans (by simp)

private theorem mem_activeOf (s : St) (c : String) (req : IdSet) :
    (c, req) ∈ activeOf s ↔ c ∈ s.convs ∧ req = qOf s c ∧ req ≠ [] := by
  simp only [activeOf, List.mem_filterMap, qOf]
  constructor
  · rintro ⟨a, ha, h⟩
    split at h
    · cases h
    · next hne => cases h; exact ⟨ha, rfl, by simpa using hne⟩
  · rintro ⟨h1, h2, h3⟩
    subst h2
    refine ⟨c, h1, ?_⟩
    rw [if_neg (by simpa using h3)]

/-- what a helper that writes only the queues keeps, as far as `Store` reads it -/
def NQ (s : St) := (s.tags, s.convs, s.next, s.idx, s.files, s.cached, s.convert, s.jConv)

private theorem clr_fold_q (l : List (String × IdSet)) (s : St) (c : String) :
    qOf (l.foldl clr1 s) c = if c ∈ l.map (·.1) then [] else qOf s c := by
  induction l generalizing s with
  | nil => simp
  | cons a r ih =>
    simp only [List.foldl_cons, ih, List.map_cons, List.mem_cons]
    by_cases h1 : c ∈ r.map (·.1)
    · simp [h1]
    · simp only [h1, if_false, or_false, qOf, clr1, sget_sins]
      by_cases h2 : a.1 = c
      · simp [h2]
      · have : ¬ c = a.1 := fun e => h2 e.symm
        simp [h2, this]

private theorem add_fold_c (found : IdSet) (l : List (String × IdSet)) (s : St) (c : String) (id : Nat) :
    id ∈ cOf (l.foldl (add1 found) s) c ↔
      id ∈ cOf s c ∨ ∃ x ∈ l, x.1 = c ∧ id ∈ x.2 ∧ id ∈ found := by
  induction l generalizing s with
  | nil => simp
  | cons a r ih =>
    have : id ∈ cOf (add1 found s a) c ↔ id ∈ cOf s c ∨ (a.1 = c ∧ id ∈ a.2 ∧ id ∈ found) := by
      simp only [cOf, add1, sget_sins]
      by_cases h2 : a.1 = c
      · simp [h2, mem_union, mem_inter]
      · simp [h2]
    simp only [List.foldl_cons, ih, this, or_assoc, List.mem_cons, exists_eq_or_imp]

private theorem sc2_cached (s : St) (c : String) (id : Nat) :
    id ∈ cOf (sc2 s) c ↔
      id ∈ cOf s c ∨ (c ∈ s.convs ∧ id ∈ qOf s c ∧ id ∈ foundOf s.files s.idx) := by
  have : cOf (sc2 s) c = cOf ((activeOf s).foldl (add1 (foundOf s.files s.idx))
      { ((activeOf s).foldl clr1 s) with
        used := lock ((activeOf s).foldl clr1 s).used (((activeOf s).foldl clr1 s).idx.drop 0) }) c := by
    simp only [sc2, cOf, List.drop_zero, foldl_keep (·.files) clr1 (fun _ _ => rfl),
      foldl_keep (·.idx) clr1 (fun _ _ => rfl)]
  rw [this, add_fold_c]
  have hc : cOf { ((activeOf s).foldl clr1 s) with
        used := lock ((activeOf s).foldl clr1 s).used (((activeOf s).foldl clr1 s).idx.drop 0) } c = cOf s c :=
    foldl_keep (cOf · c) clr1 (fun _ _ => rfl) _ _
  rw [hc]
  constructor
  · rintro (h | ⟨⟨c', req⟩, hx, rfl, h2, h3⟩)
    · exact Or.inl h
    · rw [mem_activeOf] at hx
      obtain ⟨hx1, hx2, _⟩ := hx
      exact Or.inr ⟨hx1, hx2 ▸ h2, h3⟩
  · rintro (h | ⟨h1, h2, h3⟩)
    · exact Or.inl h
    · refine Or.inr ⟨(c, qOf s c), ?_, rfl, h2, h3⟩
      rw [mem_activeOf]
      exact ⟨h1, rfl, fun e => by simp [e] at h2⟩

/-- every field but those a job start writes is kept -/
def JobStart.Rest (s s' : St) : Prop :=
  s' = { s with toconv := s'.toconv, used := s'.used, cached := s'.cached, convert := s'.convert, jConv := s'.jConv }

/-- `s'` is `s` after `startConverterJobIfNeeded` started a job -/
structure JobStart (s s' : St) : Prop where
  off : s.convert = false
  on : s'.convert = true
  active : ∃ c ∈ s.convs, qOf s c ≠ []
  queue : ∀ c, qOf s' c = if c ∈ s.convs then [] else qOf s c
  entries : ∀ p ∈ s'.toconv, p ∈ s.toconv ∨ p.2 = []
  cached : ∀ c id, id ∈ cOf s' c ↔ id ∈ cOf s c ∨ (c ∈ s.convs ∧ id ∈ qOf s c ∧ id ∈ foundOf s.files s.idx)
  job : ∃ sets, s'.jConv = some (sets, s.idx) ∧ ∀ p, p ∈ sets ↔
    p.1 ∈ s.convs ∧ qOf s p.1 ≠ [] ∧ p.2 = inter (diff (qOf s p.1) (cOf s p.1)) (foundOf s.files s.idx)
  rest : JobStart.Rest s s'

theorem startConverter_spec (s : St) : startConverter s = s ∨ JobStart s (startConverter s) := by
  have hrest : JobStart.Rest s (startConverter s) :=
    startConverter_cases (P := JobStart.Rest s) s (fun _ => rfl) fun _ _ _ _ => rfl
  unfold JobStart.Rest at hrest
  rw [startConverter_eq] at hrest ⊢
  by_cases hc : s.convert = true
  · rw [if_pos hc]; exact .inl rfl
  rw [if_neg hc] at hrest ⊢
  by_cases ha : (activeOf s).isEmpty = true
  · rw [if_pos ha]; exact .inl rfl
  rw [if_neg ha] at hrest ⊢
  have hact : ∀ c, c ∈ (activeOf s).map (·.1) ↔ c ∈ s.convs ∧ qOf s c ≠ [] := fun c =>
    ⟨fun h => let ⟨x, hx, e⟩ := List.mem_map.1 h; let ⟨h1, h2, h3⟩ := (mem_activeOf s x.1 x.2).1 hx
      e ▸ ⟨h1, h2 ▸ h3⟩,
     fun h => List.mem_map.2 ⟨(c, qOf s c), (mem_activeOf s c _).2 ⟨h.1, rfl, h.2⟩, rfl⟩⟩
  have hj : (sc2 s).jConv = some ((activeOf s).map fun x =>
      (x.1, inter (diff x.2 (cOf s x.1)) (foundOf s.files s.idx)), s.idx) := by
    simp only [sc2, cOf, List.drop_zero, foldl_keep (·.cached) clr1 (fun _ _ => rfl),
      foldl_keep (·.files) clr1 (fun _ _ => rfl), foldl_keep (·.idx) clr1 (fun _ _ => rfl)]
  -- the caches are filled after the queues were cleared
  have hq : (sc2 s).toconv = ((activeOf s).foldl clr1 s).toconv := by
    unfold sc2
    dsimp only
    rw [foldl_keep (·.toconv) (add1 _) (fun _ _ => rfl)]
  refine .inr ⟨by simpa using hc, rfl, ?_, fun c => ?_, ?_, sc2_cached s, ⟨_, hj, fun p => ?_⟩, hrest⟩
  · obtain ⟨x, hx⟩ := List.exists_mem_of_ne_nil _ (by simpa [List.isEmpty_iff] using ha : activeOf s ≠ [])
    exact ⟨x.1, ((hact x.1).1 (List.mem_map.2 ⟨x, hx, rfl⟩))⟩
  · have e : qOf (sc2 s) c = qOf ((activeOf s).foldl clr1 s) c := by unfold qOf; rw [hq]
    rw [e, clr_fold_q]
    by_cases hcs : c ∈ s.convs
    · by_cases hq : qOf s c = []
      · rw [if_pos hcs, hq]; split <;> rfl
      · rw [if_pos ((hact c).2 ⟨hcs, hq⟩), if_pos hcs]
    · rw [if_neg (fun h => hcs ((hact c).1 h).1), if_neg hcs]
  · rw [hq]
    exact foldl_inv (fun X : St => ∀ p ∈ X.toconv, p ∈ s.toconv ∨ p.2 = []) clr1
      (fun X x hX p hp => (mem_sins _ _ _ _ hp).elim (fun e => .inr (e ▸ rfl)) (hX p)) _ s fun _ h => .inl h
  · constructor
    · intro h
      obtain ⟨x, hx, rfl⟩ := List.mem_map.1 h
      obtain ⟨h1, h2, h3⟩ := (mem_activeOf s x.1 x.2).1 hx
      exact ⟨h1, h2 ▸ h3, by rw [← h2]⟩
    · intro ⟨h1, h2, h3⟩
      exact List.mem_map.2 ⟨(p.1, qOf s p.1), (mem_activeOf s _ _).2 ⟨h1, rfl, h2⟩, Prod.ext rfl h3.symm⟩

theorem Good_startConverter {b : Prop} (s : St) (h : Good b s) : Good b (startConverter s) := by
  rcases startConverter_spec s with e | j
  · rw [e]; exact h
  · generalize startConverter s = s' at j
    have ht : s'.tags = s.tags := by rw [j.rest]
    have hcv : s'.convs = s.convs := by rw [j.rest]
    have hn : s'.next = s.next := by rw [j.rest]
    refine ⟨fun n t ht' c hc => hcv ▸ h.1 n t (ht ▸ ht') c hc, fun hb => ?_⟩
    obtain ⟨hacc, hcov⟩ := h.2 hb
    refine ⟨fun n t ht' c hc id hid hlt => .inl ((j.cached c id).2 ?_), fun id hid => by
      rw [j.rest]; exact hcov id (hn ▸ hid)⟩
    -- the job converts what was queued: every stream is in a served file
    exact (hacc n t (ht ▸ ht') c hc id hid (hn ▸ hlt)).imp_right fun hq =>
      ⟨h.1 n t (ht ▸ ht') c hc, hq, (mem_foundOf _ _ _).2 (hcov id (hn ▸ hlt))⟩

def othersOf (tags : List (String × Tag)) (n c : String) : IdSet :=
  tags.foldl (fun acc (x : String × Tag) =>
      if x.1 != n && x.2.convs.contains c then union acc x.2.mat else acc) ([] : IdSet)

/-- the state after the converter was taken off the tag: only what the other tags with `c` still match
    stays queued, the cache is cleared when no other tag has `c` -/
def dc2 (s : St) (n c : String) (t : Tag) : St :=
  let t' := { t with convs := t.convs.filter (· != c) }
  let s1 := setTag s n t'
  let others := othersOf s1.tags n c
  let s2 := { s1 with toconv := sins c (inter ((sget s1.toconv c).getD []) others) s1.toconv }
  if others.isEmpty then { s2 with cached := sins c [] s2.cached } else s2

/-- `dc2` and the dropped-output step of the model -/
def dc3 (s : St) (n c : String) (t : Tag) (choice : Option String) : St :=
  let t' := { t with convs := t.convs.filter (· != c) }
  let s1 := setTag s n t'
  let others := othersOf s1.tags n c
  let s2 := { s1 with toconv := sins c (inter ((sget s1.toconv c).getD []) others) s1.toconv }
  if others.isEmpty then outputDropped { s2 with cached := sins c [] s2.cached } choice else s2

theorem detachConv_eq (s : St) (n c : String) (choice : Option String) :
    detachConv s n c choice = match sget s.tags n with | none => s | some t => dc3 s n c t choice := rfl

theorem dc3_cases (s : St) (n c : String) (t : Tag) (choice : Option String) :
    dc3 s n c t choice = dc2 s n c t ∨ dc3 s n c t choice = outputDropped (dc2 s n c t) choice := by
  by_cases h : (othersOf (setTag s n { t with convs := t.convs.filter (· != c) }).tags n c).isEmpty = true
  · exact Or.inr ((if_pos h).trans (congrArg (outputDropped · choice) (if_pos h).symm))
  · exact Or.inl ((if_neg h).trans (if_neg h).symm)

theorem Same_dc3 (s : St) (n c : String) (t : Tag) (choice : Option String) :
    Same (dc2 s n c t) (dc3 s n c t choice) := by
  rcases dc3_cases s n c t choice with e | e <;> rw [e]
  · exact Same.refl _
  · exact Same_outputDropped _ _

theorem mem_othersOf (tags : List (String × Tag)) (n c : String) (id : Nat) :
    id ∈ othersOf tags n c ↔ ∃ x ∈ tags, x.1 ≠ n ∧ c ∈ x.2.convs ∧ id ∈ x.2.mat := by
  unfold othersOf
  rw [← List.foldl_filter, mem_foldl_union]
  simp only [List.mem_filter, Bool.and_eq_true, bne_iff_ne, List.contains_iff_mem, List.not_mem_nil,
    false_or, and_assoc]

theorem dc2_eq (s : St) (n c : String) (t : Tag) :
    dc2 s n c t =
      { s with
        tags := sins n { t with convs := t.convs.filter (· != c) } s.tags,
        toconv := sins c (inter (qOf s c)
          (othersOf (sins n { t with convs := t.convs.filter (· != c) } s.tags) n c)) s.toconv,
        cached := if (othersOf (sins n { t with convs := t.convs.filter (· != c) } s.tags) n c).isEmpty
          then sins c [] s.cached else s.cached } := by
  by_cases h : (othersOf (sins n { t with convs := t.convs.filter (· != c) } s.tags) n c).isEmpty = true
  · rw [if_pos h]; exact if_pos h
  · rw [if_neg h]; exact if_neg h

theorem dc2_frame (s : St) (n c : String) (t : Tag) :
    (dc2 s n c t).tags = sins n { t with convs := t.convs.filter (· != c) } s.tags ∧
    (dc2 s n c t).convs = s.convs ∧ (dc2 s n c t).next = s.next ∧
    (dc2 s n c t).idx = s.idx ∧ (dc2 s n c t).files = s.files := by
  rw [dc2_eq]; exact ⟨rfl, rfl, rfl, rfl, rfl⟩

theorem dc2_q (s : St) (n c : String) (t : Tag) (c' : String) :
    qOf (dc2 s n c t) c' = if c = c' then
      inter (qOf s c) (othersOf (sins n { t with convs := t.convs.filter (· != c) } s.tags) n c)
      else qOf s c' := by
  rw [dc2_eq]
  simp only [qOf, sget_sins]
  split <;> rfl

theorem dc2_c (s : St) (n c : String) (t : Tag) (c' : String) :
    cOf (dc2 s n c t) c' = if c = c' ∧
        othersOf (sins n { t with convs := t.convs.filter (· != c) } s.tags) n c = [] then []
      else cOf s c' := by
  rw [dc2_eq]
  simp only [cOf, List.isEmpty_iff]
  by_cases h : othersOf (sins n { t with convs := t.convs.filter (· != c) } s.tags) n c = []
  · simp only [h, if_true, and_true, sget_sins]; split <;> rfl
  · simp only [h, if_false, and_false]

theorem dc3_q (s : St) (n c : String) (t : Tag) (choice : Option String) (c' : String) :
    qOf (dc3 s n c t choice) c' = if c = c' then
      inter (qOf s c) (othersOf (sins n { t with convs := t.convs.filter (· != c) } s.tags) n c)
      else qOf s c' := by
  rw [← dc2_q]
  simp only [qOf, (Same_dc3 s n c t choice).1.toconv]

theorem dc3_c (s : St) (n c : String) (t : Tag) (choice : Option String) (c' : String) :
    cOf (dc3 s n c t choice) c' = if c = c' ∧
        othersOf (sins n { t with convs := t.convs.filter (· != c) } s.tags) n c = [] then []
      else cOf s c' := by
  rw [← dc2_c]
  simp only [cOf, (Same_dc3 s n c t choice).1.cached]

theorem dc2_le (s : St) (n c : String) (t : Tag) (ht : sget s.tags n = some t) :
    TagsLe (dc2 s n c t).tags s.tags := by
  rw [(dc2_frame s n c t).1]
  exact TagsLe_sins (TagsLe.refl _) n (Or.inr ⟨n, t, ht, fun _ h => (List.mem_filter.1 h).1, fun _ h => h⟩)

theorem Good_dc2 {b : Prop} (s : St) (n c : String) (t : Tag) (ht : sget s.tags n = some t) (h : Good b s) :
    Good b (dc2 s n c t) := by
  obtain ⟨f1, f2, f3, f4, f5⟩ := dc2_frame s n c t
  have hle := dc2_le s n c t ht
  refine ⟨CWF_of_le hle f2 h.1, fun hb => ?_⟩
  obtain ⟨hacc, hcov⟩ := h.2 hb
  refine ⟨fun m u hu c' hc' id hid hlt => ?_, covered_of_eq f3 f4 f5 hcov⟩
  rw [f3] at hlt
  rw [dc2_q, dc2_c]
  by_cases hcc : c = c'
  · subst hcc
    -- the tag is another one, so its matches are among those of the other tags with `c`
    have hmn : m ≠ n := by
      intro e; subst e
      rw [f1, sget_sins, if_pos rfl] at hu
      cases hu
      simp at hc'
    have hu' : sget s.tags m = some u := by
      rw [f1, sget_sins, if_neg (fun e => hmn e.symm)] at hu; exact hu
    have hoth : id ∈ othersOf (sins n { t with convs := t.convs.filter (· != c) } s.tags) n c := by
      rw [mem_othersOf]
      refine ⟨(m, u), sget_mem _ _ _ ?_, hmn, hc', hid⟩
      rw [sget_sins, if_neg (fun e => hmn e.symm)]; exact hu'
    have hne : ¬ othersOf (sins n { t with convs := t.convs.filter (· != c) } s.tags) n c = [] :=
      fun e => by simp [e] at hoth
    simp only [hne, and_false, if_false, if_true, mem_inter]
    exact (hacc m u hu' c hc' id hid hlt).imp_right fun h => ⟨h, hoth⟩
  · simp only [hcc, false_and, if_false]
    rcases hle m u hu with h0 | ⟨n0, t0, ht0, hcs, hm⟩
    · simp [h0] at hc'
    · exact hacc n0 t0 ht0 c' (hcs c' hc') id (hm id hid) hlt

theorem Good_detachConv {b : Prop} (s : St) (n c : String) (choice : Option String) (h : Good b s) :
    Good b (detachConv s n c choice) := by
  rw [detachConv_eq]
  split
  · exact h
  · next t ht => exact Good_of_same (Same_dc3 s n c t choice) (Good_dc2 s n c t ht h)

theorem mem_others_detach (s : St) (n c : String) (t' : Tag) (hw : (s.tags.map (·.1)).Pairwise (· < ·)) (id : Nat) :
    id ∈ othersOf (sins n t' s.tags) n c ↔
      ∃ n2 t2, sget s.tags n2 = some t2 ∧ n2 ≠ n ∧ c ∈ t2.convs ∧ id ∈ t2.mat := by
  rw [mem_othersOf]
  constructor
  · rintro ⟨⟨n2, t2⟩, hx, h1, h2, h3⟩
    rcases mem_sins _ _ _ _ hx with e | e
    · cases e; exact absurd rfl h1
    · exact ⟨n2, t2, mem_sget_of_sorted _ hw _ _ e, h1, h2, h3⟩
  · rintro ⟨n2, t2, h0, h1, h2, h3⟩
    refine ⟨(n2, t2), sget_mem _ _ _ ?_, h1, h2, h3⟩
    rw [sget_sins, if_neg (Ne.symm h1)]; exact h0

theorem detach_queued_iff (s : St) (n c : String) (t : Tag) (hw : (s.tags.map (·.1)).Pairwise (· < ·))
    (ht : sget s.tags n = some t) (id : Nat) (choice : Option String) :
    id ∈ qOf (detachConv s n c choice) c ↔
      id ∈ qOf s c ∧ ∃ n2 t2, sget s.tags n2 = some t2 ∧ n2 ≠ n ∧ c ∈ t2.convs ∧ id ∈ t2.mat := by
  rw [detachConv_eq, ht]
  simp only [dc3_q, if_true, mem_inter, mem_others_detach s n c _ hw]

private def qadd1 (X : IdSet) (s : St) (c : String) : St :=
  { s with toconv := sins c (union ((sget s.toconv c).getD []) X) s.toconv }

theorem mem_qOf_qConv (s : St) (cs : List String) (X : IdSet) (c : String) (id : Nat) :
    id ∈ qOf (qConv s cs X) c ↔ id ∈ qOf s c ∨ (c ∈ cs ∧ id ∈ X) := by
  show id ∈ qOf (cs.foldl (qadd1 X) s) c ↔ _
  induction cs generalizing s with
  | nil => simp
  | cons a r ih =>
    have : id ∈ qOf (qadd1 X s a) c ↔ id ∈ qOf s c ∨ (c = a ∧ id ∈ X) := by
      simp only [qOf, qadd1, sget_sins]
      by_cases h2 : a = c
      · simp [h2, mem_union]
      · have : ¬ c = a := fun e => h2 e.symm
        simp [h2, this]
    simp only [List.foldl_cons, ih, this, or_assoc, List.mem_cons, or_and_right]

/-- the common shape of an attach, a mark update and a published tagging result: a tag `t'` is stored in a state `s1`
    that is `s` with the streams `X` queued for the converters `cs`, attached ones (`A`) or converters of an existing
    tag `ot`; a converter of `t'` is one of `cs` or of `ot`, and what `t'` matches is queued for it or matched by `ot` -/
inductive Store (A : String → Prop) (s : St) : St → Prop
  | mk {s1 : St} {name n0 : String} {ot t' : Tag} {cs : List String} {X : IdSet} :
      sget s.tags n0 = some ot → (∀ c ∈ cs, A c ∨ c ∈ ot.convs) → NQ s1 = NQ s →
      (∀ c id, id ∈ qOf s1 c ↔ id ∈ qOf s c ∨ (c ∈ cs ∧ id ∈ X)) →
      (∀ c ∈ t'.convs, (c ∈ cs ∨ c ∈ ot.convs) ∧ ∀ id ∈ t'.mat, (c ∈ cs ∧ id ∈ X) ∨ (c ∈ ot.convs ∧ id ∈ ot.mat)) →
      Store A s (setTag s1 name t')

theorem Store.good {b : Prop} {A : String → Prop} {s s' : St} (st : Store A s s') (hA : ∀ c, A c → c ∈ s.convs)
    (h : Good b s) : Good b s' := by
  cases st with
  | @mk s1 name n0 ot t' cs X ht hcs h1 hq hm =>
  simp only [NQ, Prod.mk.injEq] at h1
  obtain ⟨e1, e2, e3, e4, e5, e6, _⟩ := h1
  have htags : ∀ m u, sget (setTag s1 name t').tags m = some u → u = t' ∨ sget s.tags m = some u := by
    intro m u hu
    simp only [setTag, sget_sins, e1] at hu
    split at hu
    · exact Or.inl (Option.some.inj hu).symm
    · exact Or.inr hu
  refine ⟨fun m u hu c hcu => ?_, fun hb => ⟨fun m u hu c hcu id hid hlt => ?_, fun id hid => ?_⟩⟩
  · show c ∈ s1.convs
    rw [e2]
    rcases htags m u hu with e | hu
    · subst e
      exact (hm c hcu).1.elim (fun hc => (hcs c hc).elim (hA c) (h.1 n0 ot ht c)) (h.1 n0 ot ht c)
    · exact h.1 m u hu c hcu
  · have hlt' : id < s.next := e3 ▸ hlt
    have hc' : cOf (setTag s1 name t') c = cOf s c := by simp only [cOf, setTag, e6]
    rw [hc', show qOf (setTag s1 name t') c = qOf s1 c from rfl, hq]
    rcases htags m u hu with e | hu
    · subst e
      rcases (hm c hcu).2 id hid with h1 | h1
      · exact Or.inr (Or.inr h1)
      · exact ((h.2 hb).1 n0 ot ht c h1.1 id h1.2 hlt').imp_right Or.inl
    · exact ((h.2 hb).1 m u hu c hcu id hid hlt').imp_right Or.inl
  · show ∃ f ∈ s1.idx, id ∈ (nget s1.files f).getD []
    rw [e4, e5]; exact (h.2 hb).2 id (e3 ▸ hid)

theorem attachConv_store {A : String → Prop} (s : St) (n c : String) (hA : A c) :
    (attachConv s n c).1 = s ∨ Store A s (attachConv s n c).1 := by
  refine attachConv_cases (P := fun x => x = s ∨ Store A s x) s n c (.inl rfl) fun t ht _ _ => .inr ?_
  exact .mk (s1 := qConv s [c] t.mat) ht (fun c' hc' => .inl (List.mem_singleton.1 hc' ▸ hA)) rfl
    (mem_qOf_qConv s [c] t.mat) fun c' hc' => (List.mem_append.1 hc').elim
      (fun h => ⟨.inr h, fun id hid => .inr ⟨h, hid⟩⟩) fun h => ⟨.inl h, fun id hid => .inl ⟨h, hid⟩⟩

section markUpdate
open MgrTags (muAdd muDel muFin muFresh markUpdate_eq)

theorem muAdd_props (t : Tag) (s : St) (a : List Nat) :
    ∃ fresh : IdSet, (muAdd t s a).1.convs = t.convs ∧
      (∀ id ∈ (muAdd t s a).1.mat, id ∈ t.mat ∨ id ∈ fresh) ∧
      NQ (muAdd t s a).2 = NQ s ∧
      ∀ c id, id ∈ qOf (muAdd t s a).2 c ↔ id ∈ qOf s c ∨ (c ∈ t.convs ∧ id ∈ fresh) := by
  obtain ⟨d, e⟩ := MgrTags.muAdd_fst t s a
  refine ⟨muFresh t a, by rw [e],
    fun id h => ?_, ?_, fun c id => ?_⟩
  · rw [e] at h; exact (mem_union _ _ _).1 h
  · rw [MgrTags.muAdd_snd]
    split
    · rfl
    · exact qConv_frame NQ _ _ _
  · rw [MgrTags.muAdd_snd]
    split
    · next ha => obtain rfl := List.isEmpty_iff.1 ha; simp [muFresh]
    · exact mem_qOf_qConv _ _ _ _ _

theorem muDel_props (t : Tag) (d : List Nat) :
    (muDel t d).convs = t.convs ∧ ∀ id ∈ (muDel t d).mat, id ∈ t.mat := by
  obtain ⟨m, u, df, e, _⟩ := MgrTags.muDel_spec t d
  exact ⟨by rw [e], fun id h => ((MgrTags.muDel_mat t d id).1 h).1⟩

theorem muFin_same (s : St) (name : String) (t : Tag) (u : IdSet) :
    Same (setTag s name t) (muFin (invalidatedDuringTaggingJob (inherit (setTag s name t)) t.unc) name u) := by
  have h1 : Same (setTag s name t) (invalidatedDuringTaggingJob (inherit (setTag s name t)) t.unc) :=
    (Same_inherit _).trans (Same_invDuring _ _)
  unfold muFin
  split
  · next t' ht' => exact h1.trans (Same_setTag (Same.refl _) _ (le_of_eq ht' rfl rfl))
  · exact h1

end markUpdate

theorem Grow_flags (s : St) (b : Bool) (j : Option (List (String × IdSet) × List Nat)) :
    Grow s { s with convert := b, jConv := j } :=
  ⟨rfl, rfl, rfl, rfl, TagsLe.refl _, fun _ _ h => h⟩

section events
variable {b : Prop}

theorem Acc_release (s : St) (fs : List Nat) (h : Acc s) : Acc (release s fs) :=
  Acc_of_sameK (release_sameK s fs).1 h
theorem CWF_release (s : St) (fs : List Nat) (h : CWF s) : CWF (release s fs) :=
  CWF_of_sameK (release_sameK s fs).1 h

/-- what remains of `Good` after files were released -/
def AC (b : Prop) (s : St) : Prop := CWF s ∧ (b → Acc s)
theorem AC_of_sameK {s s' : St} (g : SameK s s') (h : AC b s) : AC b s' :=
  ⟨CWF_of_sameK g h.1, fun hb => Acc_of_sameK g (h.2 hb)⟩
theorem Good.ac {s : St} (h : Good b s) : AC b s := ⟨h.1, fun hb => (h.2 hb).1⟩

theorem JB_importPcaps (s : St) (names : List String) (st : Started) :
    JB (step s (.importPcaps names) st).1 = JB s := by
  rw [step_importPcaps_eq]
  split
  · rfl
  · dsimp only
    split <;> rfl

theorem JB_viewOpen (s : St) (k : Nat) (st : Started) :
    JB (step s (.viewOpen k) st).1 = JB s := by
  rw [step_viewOpen_eq]
  split <;> rfl

theorem JB_viewRelease (s : St) (k : Nat) (st : Started) : JB (step s (.viewRelease k) st).1 = JB s := by
  rw [step_viewRelease_eq]
  split
  · rfl
  · exact release_frame JB _ _

theorem JB_mergeDone (s : St) (merged : List (Nat × List Nat)) (st : Started) :
    JB (step s (.mergeDone merged) st).1 = JB s := by
  refine step_mergeDone_cases (P := fun r => JB r.1 = JB s) _ _ _ (fun _ => rfl) fun off held _ => ?_
  unfold mergeDoneSt
  rw [release_frame JB _ _, startMerge_frame JB _]
  show JB (mdApply { s with jMerge := none } off held merged) = JB s
  unfold mdApply
  split
  · rfl
  · exact release_frame JB { s with jMerge := none } _

theorem atNew_convs (s : St) (color defn : String) (f : Facts) (m : Bool) : (atNew s color defn f m).convs = [] := by
  unfold atNew
  split <;> rfl

theorem eraseU_cdF (all : Nat) (ids : IdSet) (p : String × Tag) : eraseU (p.1, cdF all ids p.2) = eraseU p := by
  unfold cdF
  split
  · split <;> rfl
  · split <;> rfl

theorem Same_cdMark (s : St) (p : String × IdSet) : Same s (cdMark s p) := by
  unfold cdMark
  split
  · exact Same.refl _
  · exact ⟨⟨rfl, rfl, rfl, rfl, rfl, TagsLe_map _ _ (eraseU_cdF _ _)⟩, rfl, rfl⟩

theorem Same_idQueue (s : St) : Same s (idQueue s) := by
  unfold idQueue
  split
  · exact Same.refl _
  · exact .of_eq rfl

theorem Same_sdelRefs (x : St) (name : String) (refs : List String) :
    Same x (refs.foldl (fun s r => delRefBy s r name) { x with tags := sdel x.tags name }) :=
  (Same_tags x _ (TagsLe_sdel _ name)).trans (Same_foldl _ _ (fun s r => Same_delRefBy s r name) _)

end events

theorem CWF_idApply (s : St) (next' : Nat) (created : List (Nat × List Nat)) (u r a : IdSet) (h : CWF s) :
    CWF (idApply s next' created u r a) := by
  unfold idApply
  split
  · exact h
  · have g1 := invalidateConverters_grow
    refine CWF_of_le (g1 _ _).tags (g1 _ _).convs (CWF_of_le (g1 _ _).tags (g1 _ _).convs ?_)
    exact CWF_of_sameK (Same_invalidateTags _ _ _ _).1 h

/-- the state an import completion publishes (`idApply` after the release of the job's files): the streams the
    job added are in the files it created, the files of the older streams stay open -/
theorem Good_idApply {b : Prop} (s : St) (jn : Nat) (held : List Nat) (usednew : Nat)
    (created : List (Nat × List Nat)) (u r a : IdSet)
    (h : Good b s)
    (hmb : b → ∀ n t, sget s.tags n = some t → ∀ id ∈ t.mat, id < s.next)
    (hused : b → ∀ f ∈ s.idx, held.count f < (nget s.used f).getD 0)
    (hfresh : b → (created.map (·.1)).Nodup ∧ ∀ o ∈ created.map (·.1), nget s.files o = none)
    (hpay : b → jn = s.next ∧ ∀ id, jn ≤ id → id < jn + usednew → ∃ c ∈ created, id ∈ c.2) :
    Good b (idApply (release { s with all := jn + usednew, jImport := none } held) (jn + usednew) created u r a) := by
  have g1 := release_sameK { s with all := jn + usednew, jImport := none } held
  refine ⟨CWF_idApply _ _ _ _ _ _ (CWF_of_sameK g1.1 (CWF_of_sameK (.of_eq rfl) h.1)), fun hb => ?_⟩
  obtain ⟨hacc, hcov⟩ := h.2 hb
  have hfiles : ∀ f ∈ s.idx, nget (release { s with all := jn + usednew, jImport := none } held).files f =
      nget s.files f :=
    fun f hf => MgrLocks.release_nget_files_of_pos { s with all := jn + usednew, jImport := none } held f (hused hb f hf)
  have hnone : ∀ o ∈ created.map (·.1),
      nget (release { s with all := jn + usednew, jImport := none } held).files o = none :=
    fun o ho => MgrLocks.release_files_none { s with all := jn + usednew, jImport := none } held o ((hfresh hb).2 o ho)
  generalize release { s with all := jn + usednew, jImport := none } held = s1 at g1 hfiles hnone ⊢
  have g : SameK s s1 := SameK.trans (b := { s with all := jn + usednew, jImport := none }) (.of_eq rfl) g1.1
  have hacc1 : Acc s1 := Acc_of_sameK g hacc
  have hcov1 : Props.C10.Covered s1 := by
    unfold Props.C10.Covered Props.C10.content at hcov ⊢
    intro id hid
    rw [g.next] at hid
    obtain ⟨f, hf, hm⟩ := hcov id hid
    exact ⟨f, g1.2 ▸ hf, by rw [hfiles f hf]; exact hm⟩
  unfold idApply
  split
  · exact ⟨hacc1, hcov1⟩
  suffices h : Good True (invalidateConverters (invalidateConverters (invalidateTags
      (idCreated s1 (jn + usednew) created u r a) u r a) u) r) from h.2 trivial
  refine Good_of_grow (invalidateConverters_grow _ _) (Good_of_grow (invalidateConverters_grow _ _)
    (Good_of_same (Same_invalidateTags _ _ _ _) ⟨show CWF s1 from CWF_of_sameK g h.1, fun _ => ⟨?_, ?_⟩⟩))
  · -- the matches are old streams, so the new bound on `next` asks nothing new
    intro n t ht c hc id hid _
    rcases g.tags n t ht with h0 | ⟨n0, t0, ht0, _, hm⟩
    · simp [h0] at hc
    · exact hacc1 n t ht c hc id hid (by rw [g.next]; exact hmb hb n0 t0 ht0 id (hm id hid))
  · intro id hid
    change id < jn + usednew at hid
    change ∃ f ∈ s1.idx ++ created.map (·.1),
      id ∈ (nget (created.foldl (fun fs (x : Nat × List Nat) => nins x.1 x.2 fs) s1.files) f).getD []
    by_cases hlt : id < s.next
    · obtain ⟨f, hf, hm⟩ := hcov1 id (by rw [g.next]; exact hlt)
      unfold Props.C10.content at hm
      refine ⟨f, List.mem_append_left _ hf, ?_⟩
      have hnot : f ∉ created.map (·.1) := by
        intro hin
        rw [hnone f hin] at hm
        simp at hm
      rw [nget_foldl_nins_of_not_mem _ _ _ hnot]; exact hm
    · obtain ⟨c, hc, hm⟩ := (hpay hb).2 id (by have := (hpay hb).1; omega) hid
      refine ⟨c.1, List.mem_append_right _ (List.mem_map.2 ⟨c, hc, rfl⟩), ?_⟩
      rw [nget_foldl_nins_of_mem _ _ (hfresh hb).1 c hc]; exact hm

/-- what the completion of an import needs beyond `Good` (only for the accounting part) -/
def ImportOK (s : St) : Ev → Prop
  | .importDone _ usednew created _ _ _ =>
    (∀ n t, sget s.tags n = some t → ∀ id ∈ t.mat, id < s.next) ∧
    (∀ jn held, s.jImport = some (jn, held) → ∀ f ∈ s.idx, held.count f < (nget s.used f).getD 0) ∧
    ((created.map (·.1)).Nodup ∧ ∀ o ∈ created.map (·.1), nget s.files o = none) ∧
    (∀ jn held, s.jImport = some (jn, held) → jn = s.next ∧
      ∀ id, jn ≤ id → id < jn + usednew → ∃ c ∈ created, id ∈ c.2)
  | _ => True

/-- same keys in the same order; corresponding entries differ in `unc` only -/
def TagsU (tags tags' : List (String × Tag)) : Prop := tags'.map eraseU = tags.map eraseU

theorem TagsU.refl (tags : List (String × Tag)) : TagsU tags tags := rfl
theorem TagsU.trans {a b c : List (String × Tag)} (h1 : TagsU a b) (h2 : TagsU b c) : TagsU a c :=
  Eq.trans h2 h1
theorem TagsU.symm {a b : List (String × Tag)} (h : TagsU a b) : TagsU b a := Eq.symm h

theorem TagsU.keys {a b : List (String × Tag)} (h : TagsU a b) : b.map (·.1) = a.map (·.1) := by
  have := congrArg (List.map (·.1)) h
  simpa [List.map_map, Function.comp_def, eraseU] using this

theorem TagsU.entry {a b : List (String × Tag)} (h : TagsU a b) (n : String) (t' : Tag)
    (ht : sget b n = some t') :
    ∃ t, sget a n = some t ∧ t' = { t with unc := t'.unc } := by
  have e1 := sget_map' eraseU (fun _ => rfl) a n
  have e2 := sget_map' eraseU (fun _ => rfl) b n
  rw [h, e1, ht] at e2
  cases ha : sget a n with
  | none => rw [ha] at e2; cases e2
  | some t =>
    rw [ha] at e2
    simp only [Option.map_some, Option.some.injEq, eraseU] at e2
    refine ⟨t, rfl, ?_⟩
    have : ({ t' with unc := [] } : Tag) = { t with unc := [] } := e2.symm
    cases t; cases t'
    simp only [Tag.mk.injEq] at this ⊢
    simp_all

theorem TagsU_map (tags : List (String × Tag)) (f : String × Tag → String × Tag)
    (hf : ∀ x, eraseU (f x) = eraseU x) : TagsU tags (tags.map f) := by
  unfold TagsU
  rw [List.map_map]
  exact List.map_congr_left (fun x _ => hf x)

theorem TagsU_sins (l : List (String × Tag)) (hw : (l.map (·.1)).Pairwise (· < ·)) (n : String) (t t' : Tag)
    (ht : sget l n = some t) (he : eraseU (n, t') = eraseU (n, t)) : TagsU l (sins n t' l) := by
  induction l with
  | nil => simp at ht
  | cons a r ih =>
    obtain ⟨ka, va⟩ := a
    simp only [List.map_cons, List.pairwise_cons] at hw
    simp only [sins]
    split
    · next hlt =>
      exfalso
      have hm := sget_mem _ _ _ ht
      rcases List.mem_cons.1 hm with e | e
      · cases e; exact absurd hlt (String.lt_irrefl _)
      · have := hw.1 n (List.mem_map.2 ⟨(n, t), e, rfl⟩)
        exact absurd (String.lt_trans hlt this) (String.lt_irrefl _)
    · split
      · next _ e =>
        subst e
        rw [sget_cons, if_pos rfl] at ht
        cases ht
        unfold TagsU
        simp only [List.map_cons, he]
      · next _ hne =>
        rw [sget_cons, if_neg (fun e => hne e.symm)] at ht
        unfold TagsU
        simp only [List.map_cons]
        rw [ih hw.2 ht]

theorem inherit_tagsU (s : St) (hw : (s.tags.map (·.1)).Pairwise (· < ·)) : TagsU s.tags (inherit s).tags :=
  (MgrTags.inherit_inv s (fun T => MgrTags.Sorted T ∧ TagsU s.tags T)
    (fun _ _ t h ht => ⟨MgrTags.sorted_sins _ _ _ h.1,
      h.2.trans (TagsU_sins _ h.1 _ t _ ht (inheritOne_eu s.all _ _ t))⟩) ⟨hw, TagsU.refl _⟩).2

theorem outputDropped_tagsU (s : St) (choice : Option String) (hw : (s.tags.map (·.1)).Pairwise (· < ·)) :
    TagsU s.tags (outputDropped s choice).tags := by
  rw [MgrTags.outputDropped_eq]
  split
  · rw [(MgrTags.startTagging_same _ _).1, (MgrTags.invalidatedDuring_same _ _).1]
    have h1 := TagsU_map s.tags _ (eraseU_odF s.all)
    refine h1.trans (inherit_tagsU _ ?_)
    show List.Pairwise _ (List.map _ (List.map _ s.tags))
    rw [h1.keys]; exact hw
  · exact TagsU.refl _

theorem dc3_tagsU (s : St) (n c : String) (t : Tag) (choice : Option String)
    (hw : (s.tags.map (·.1)).Pairwise (· < ·)) :
    TagsU (sins n { t with convs := t.convs.filter (· != c) } s.tags) (dc3 s n c t choice).tags := by
  have f1 := (dc2_frame s n c t).1
  rcases dc3_cases s n c t choice with e | e <;> rw [e]
  · rw [f1]; exact TagsU.refl _
  · rw [← f1]
    apply outputDropped_tagsU
    rw [f1]; exact MgrTags.sorted_sins _ _ _ hw

/- The bound of `C16.MatInv` on the table alone, for any bound `k`, and the changes of state that keep it. -/
def MB (k : Nat) (tags : List (String × Tag)) : Prop := ∀ nt ∈ tags, ∀ id ∈ nt.2.mat, id < k

structure SameM (k : Nat) (s s' : St) : Prop where
  next : s'.next = s.next
  jTag : s'.jTag = s.jTag
  tags : MB k s.tags → MB k s'.tags

theorem SameM_rec {k : Nat} (s s' : St) (h1 : s'.tags = s.tags) (h2 : s'.next = s.next)
    (h3 : s'.jTag = s.jTag) : SameM k s s' := ⟨h2, h3, fun h => h1 ▸ h⟩

end Pk.Proofs.MgrConv
