/-
  C13: every event of `step` preserves `CInv []` (Pk/Proofs/MgrLocks.lean); through a completion event the
  invariant is carried with the locks of the completed job pending.
-/
import Pk.Proofs.MgrLocks

namespace Pk.Proofs.MgrLocks
open Pk.Mgr

theorem CInv_startTagging {p : List Nat} {s : St} (c : Option String) (h : CInv p s) :
    CInv p (startTagging s c) :=
  startTagging_cases (P := CInv p) s c (fun _ => h) fun _ _ _ ht _ _ => CInvK.start_tag (k := proj s) 0 h ht

theorem CInv_startMerge {p : List Nat} {s : St} (h : CInv p s) : CInv p (startMerge s) :=
  startMerge_cases (P := CInv p) s h fun i hm _ => CInvK.start_merge (k := proj s) i h hm

theorem CInv_startImport {p : List Nat} {s : St} (h : CInv p s) (hj : (proj s).jI = none)
    (hq : s.queue.isEmpty = false) : CInv p (startImport s) :=
  CInvK.start_import (k := proj s) 0 h hj hq

theorem CInv_startConverter {p : List Nat} {s : St} (h : CInv p s) : CInv p (startConverter s) :=
  startConverter_cases (P := CInv p) s (fun _ => h) fun _ _ _ hc => CInvK.start_conv (k := proj s) 0 h hc

theorem Starts.cinv {p : List Nat} {s s' : St} (h : Starts s s') (hi : CInv p s) : CInv p s' := by
  induction h with
  | refl => exact hi
  | same _ e ih => exact CInv_same e ih
  | tag c _ ih => exact CInv_startTagging c ih
  | conv _ ih => exact CInv_startConverter ih
  | merge _ ih => exact CInv_startMerge ih

theorem CInv_idApply {p : List Nat} {s : St} (n : Nat) (cr : List (Nat × List Nat)) (u r a : IdSet)
    (h : CInv p s) : CInv p (idApply s n cr u r a) := by
  unfold idApply
  split
  · exact h
  · exact CInv_same ((((SameCore.refl _).invalidateTags u r a).invalidateConverters u).invalidateConverters r)
      (CInvK.add_files (k := proj s) cr h)

/-- this `release` (of `mdApply`) gives back the locks of the SERVICE LIST on the replaced run; those of the merge
    job stay pending in `p` (the `mergeDone` case of `CInv_step`) -/
theorem CInv_merge_replace {p : List Nat} {s : St} (off n : Nat) (merged : List (Nat × List Nat))
    (h : CInv p s) :
    CInvK p { proj (release s ((s.idx.drop off).take n)) with
      used := lock (release s ((s.idx.drop off).take n)).used (merged.map (·.1)),
      files := merged.foldl (fun fs (x : Nat × List Nat) => nins x.1 x.2 fs) (release s ((s.idx.drop off).take n)).files,
      idx := s.idx.take off ++ merged.map (·.1) ++ s.idx.drop (off + n) } := by
  obtain ⟨h1, h2, h3, hw⟩ := h
  rw [proj_release]
  refine ⟨?_, lock_ne_zero _ _ (release_ne_zero s _ h2), ?_, hw⟩
  · intro f
    have := h1 f
    have hs := count_splice s.idx off n f
    simp only [LK.holders, LK.held, proj, List.count_append] at this ⊢
    simp only [lock_getD, release_getD]
    omega
  · intro f
    simp only [nget_insFiles_isSome, lock_isSome, release_sync s _ h3]

theorem CInv_mdApply {p : List Nat} {s : St} (off : Nat) (held : List Nat) (merged : List (Nat × List Nat))
    (h : CInv p s) : CInv p (mdApply s off held merged) := by
  unfold mdApply
  split
  · exact h
  · dsimp only
    rw [release_idx]
    exact CInv_merge_replace off held.length merged h

theorem proj_withTags (s : St) (t : List (String × Tag)) : proj { s with tags := t } = proj s := rfl

/- The lemmas about `CInvK` get `k` explicitly: the expected type alone does not give it. -/
theorem CInv_step (s : St) (e : Ev) (st : Started) (h : CInv [] s) : CInv [] (step s e st).1 := by
  cases e with
  | importPcaps names =>
    have hq : names ≠ [] → CInv [] { s with queue := s.queue ++ names } := fun hn => by
      show CInvK [] { proj s with qE := (s.queue ++ names).isEmpty }
      rw [show (s.queue ++ names).isEmpty = false by simp [hn]]
      exact h.set_queue false nofun
    refine step_importPcaps_cases (P := fun r => CInv [] r.1) s names st h (fun hn _ => hq hn) fun hn he => ?_
    exact CInv_startImport (hq hn) (h.2.2.2.2.1 (by simp [proj, he])) (by simp [hn])
  | importDone pr un cr u r a =>
    refine step_importDone_starts s pr un cr u r a st h fun jn held fin hj hs => hs.cinv ?_
    have h1 : CInv (held ++ []) { s with all := jn + un, jImport := none } :=
      CInvK.done_import (k := proj s) h (by simp [proj, hj])
    have h2 := CInv_idApply (jn + un) cr (ofList u) (ofList r) (ofList a) (CInv_release h1)
    have hj2 := (idApply_frame (fun x => (proj x).jI) _ (jn + un) cr (ofList u) (ofList r) (ofList a)).trans
      (release_frame (fun x => (proj x).jI) { s with all := jn + un, jImport := none } held)
    unfold idQueue
    split
    · exact CInvK.set_queue (k := proj _) _ h2 fun _ => hj2
    · next hne => exact CInv_startImport (CInvK.set_queue (k := proj _) _ h2 fun _ => hj2) hj2 (by simpa using hne)
  | tagDone name res =>
    refine step_tagDone_starts s name res st h h fun snap held mid hj hs => CInv_release (hs.cinv ?_)
    have h1 : CInv (held ++ []) { s with jTag := none } := CInvK.done_tag (k := proj s) h (by simp [proj, hj])
    exact CInvK.clear_tag (k := proj { s with jTag := none }) h1 rfl
  | mergeDone merged =>
    refine step_mergeDone_starts s merged st h fun off held mid hj hs => CInv_release (hs.cinv ?_)
    have h1 : CInv (held ++ []) { s with jMerge := none } := CInvK.done_merge (k := proj s) h (by simp [proj, hj])
    exact CInvK.clear_merge (k := proj _) (CInv_mdApply off held merged h1) (mdApply_frame (fun x => (proj x).jM) ..)
  | convertDone =>
    refine step_convertDone_starts s st h fun sets held mid hj hs => CInv_release (hs.cinv ?_)
    have h1 : CInv (held ++ []) { s with jConv := none } := CInvK.done_conv (k := proj s) h (by simp [proj, hj])
    exact CInvK.clear_conv (k := proj { s with jConv := none }) h1 rfl
  | viewOpen k =>
    exact step_viewOpen_cases (P := fun r => CInv [] r.1) s k st h fun hv _ => CInvK.open_view (k := proj s) 0 k h hv
  | viewRelease k =>
    exact step_viewRelease_cases (P := fun r => CInv [] r.1) s k st h fun fs hv =>
      CInv_release (CInvK.close_view (k := proj s) h hv)
  | _ => exact (step_api_starts s _ st rfl).cinv h


end Pk.Proofs.MgrLocks
