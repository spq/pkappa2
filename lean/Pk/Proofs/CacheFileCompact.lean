/-
  C15 helper lemmas: `truncateFile` (compaction) on a file that satisfies the invariant.
-/
import Pk.Model.CacheFile
import Pk.Proofs.CacheFile
import Pk.Proofs.CacheFileInv

namespace Pk.Proofs.CacheFile
open Pk.CacheFile

def lives (rs : List Rec) : List Rec := rs.filter fun r => r.id != invalidStreamID

theorem lives_cons (r : Rec) (rs : List Rec) :
    lives (r :: rs) = if r.id = invalidStreamID then lives rs else r :: lives rs := by
  unfold lives
  by_cases h : r.id = invalidStreamID <;> simp [h]

theorem liveIds_lives (rs : List Rec) : liveIds (lives rs) = liveIds rs := by
  induction rs with
  | nil => rfl
  | cons r rs ih =>
    rw [lives_cons, liveIds_cons]
    split
    · exact ih
    · rename_i h; rw [liveIds_cons, if_neg h, ih]

theorem view_lives (rs : List Rec) (y : Nat) : view (lives rs) y = view rs y := by
  induction rs with
  | nil => rfl
  | cons r rs ih =>
    rw [lives_cons]
    by_cases h : r.id = invalidStreamID
    · have : ¬ (r.id = y ∧ y ≠ invalidStreamID) := fun hh => hh.2 (hh.1 ▸ h)
      rw [if_pos h, ih]; simp only [view, if_neg this]
    · rw [if_neg h]; simp only [view, ih]

theorem length_le_recsLen (rs : List Rec) : rs.length ≤ recsLen rs := by
  induction rs with
  | nil => simp [recsLen]
  | cons r rs ih => simp only [List.length_cons, recsLen]; omega

theorem recBytes_facts (r : Rec) (tl : List Nat) (hid : r.id < 2 ^ 64) :
    let bs := le64 r.id ++ (r.body ++ tl)
    bs ≠ [] ∧ ¬ bs.length < 8 ∧ readLe64 bs = r.id ∧ bs.drop 8 = r.body ++ tl ∧ bs.take 8 = le64 r.id := by
  refine ⟨?_, ?_, readLe64_le64 _ _ hid, List.drop_left' (le64_length _), List.take_left' (le64_length _)⟩
  · simp [le64]
  · simp [le64_length]

/-- The loop invariant has the shape of `Inv.infos`: the table is that of the records written so far (`pre`, which
    end at `newSize`) followed by the records still to be read (`post`, at their old offsets). -/
theorem compact_spec : ∀ (post pre : List Rec) (oldOff : Nat) (infos : List (Nat × Info)) (newSize fuel : Nat),
    post.length < fuel → (∀ r ∈ post, RecOk r) → (liveIds (pre ++ post)).Nodup → newSize = 8 + recsLen pre →
    (∀ y, lookup infos y = (find 8 pre y).or (find oldOff post y)) →
    ∃ infos', compactLoop fuel (recsBytes post) oldOff infos newSize
        = some (infos', newSize + recsLen (lives post), recsBytes (lives post)) ∧
      ∀ y, lookup infos' y = find 8 (pre ++ lives post) y := by
  intro post
  induction post with
  | nil =>
    intro pre oldOff infos newSize fuel hfuel _ _ _ hinf
    obtain ⟨f, rfl⟩ := Nat.exists_eq_add_one_of_ne_zero (Nat.ne_zero_of_lt hfuel)
    exact ⟨infos, by simp [compactLoop, recsBytes, lives, recsLen], fun y => by rw [hinf y]; simp [lives, find]⟩
  | cons r post ih =>
    intro pre oldOff infos newSize fuel hfuel hok hnd hnew hinf
    obtain ⟨f, rfl⟩ := Nat.exists_eq_add_one_of_ne_zero (Nat.ne_zero_of_lt hfuel)
    have hr : RecOk r := hok r (by simp)
    have hok' : ∀ r ∈ post, RecOk r := fun x hx => hok x (by simp [hx])
    obtain ⟨b1, b2, b3, b4, b5⟩ := recBytes_facts r (recsBytes post) hr.1
    rw [liveIds_append, liveIds_cons] at hnd
    rw [recsBytes, compactLoop]
    simp only [b1, b2, if_false, b3, b4, b5]
    by_cases hdead : r.id = invalidStreamID
    · -- a dead record: skipped by parsing it
      rw [if_pos hdead, ← liveIds_append] at hnd
      rw [hinf, hdead, find_invalid, find_invalid]
      simp only [Option.or_none, hr.2 (recsBytes post)]
      have hl : (r.body ++ recsBytes post).length - (recsBytes post).length = r.body.length := by
        simp
      rw [hl, lives_cons, if_pos hdead]
      apply ih _ _ _ _ _ (by simp at hfuel; omega) hok' hnd hnew
      intro y
      have : ¬ (r.id = y ∧ y ≠ invalidStreamID) := fun hh => hh.2 (hh.1 ▸ hdead)
      rw [hinf y]
      simp only [find, if_neg this, streamHeaderSize]
    · -- a live record: the table points at it, it is copied and becomes the last record of `pre`
      rw [if_neg hdead] at hnd
      have hpre : find 8 pre r.id = none :=
        find_eq_none.mpr fun hm => (List.nodup_append.mp hnd).2.2 _ hm _ List.mem_cons_self rfl
      rw [hinf, hpre]
      simp only [find, hdead, ne_eq, not_false_eq_true, and_self, if_true, Option.none_or, streamHeaderSize]
      have hlen : ¬ (r.body ++ recsBytes post).length < r.body.length := by simp
      rw [if_neg hlen, List.drop_left, List.take_left, lives_cons, if_neg hdead]
      obtain ⟨infos', e1, e2⟩ := ih (pre ++ [r]) (oldOff + 8 + r.body.length)
        (insert infos r.id { offset := newSize + 8, size := r.body.length }) (newSize + 8 + r.body.length) f
        (by simp at hfuel; omega) hok' (by simpa [liveIds_append, liveIds_cons, hdead] using hnd)
        (by rw [hnew, recsLen_append]; simp only [recsLen]; omega)
        (by
          intro y
          rw [lookup_insert, find_append, hinf y, hnew]
          by_cases hy : y = r.id
          · subst hy; simp [hpre, find, hdead]
          · have : ¬ (r.id = y ∧ y ≠ invalidStreamID) := fun hh => hy hh.1.symm
            simp [hy, find, this])
      refine ⟨infos', ?_, fun y => by rw [e2 y, List.append_assoc]; rfl⟩
      generalize hc : compactLoop f _ _ _ _ = c at e1 ⊢
      subst e1
      simp only [Option.map_some, recsBytes, recsLen]
      have e : newSize + 8 + r.body.length + recsLen (lives post)
          = newSize + (8 + r.body.length + recsLen (lives post)) := by omega
      rw [e]

theorem truncateFile_inv (st : St) (rs : List Rec) (h : Inv st rs) :
    ∃ st' rs', truncateFile st = some st' ∧ Inv st' rs' ∧ ∀ y, view rs' y = view rs y := by
  obtain ⟨a, b, hrs, hfs⟩ := h.fs
  subst hrs
  have hsz := h.fileSize_eq
  have hbytes : st.bytes = layout a ++ recsBytes b := by rw [h.bytes, layout_append]
  have hla : (layout a).length = st.freeStart := by rw [layout_length, hfs]
  have hregion : ((st.bytes.drop st.freeStart).take (st.fileSize - st.freeStart)) = recsBytes b := by
    rw [hbytes, List.drop_left' hla, List.take_of_length_le]
    rw [recsBytes_length, hsz, hfs, recsLen_append]; omega
  obtain ⟨infos', e1, e2⟩ := compact_spec b a st.freeStart st.infos st.freeStart ((recsBytes b).length + 1)
    (by rw [recsBytes_length]; have := length_le_recsLen b; omega)
    (fun r hr => h.ok r (by simp [hr])) h.nodup hfs (fun y => by rw [h.infos y, find_append, hfs])
  refine ⟨{ bytes := st.bytes.take st.freeStart ++ recsBytes (lives b), infos := infos',
             fileSize := st.freeStart + recsLen (lives b), freeSize := 0,
             freeStart := st.freeStart + recsLen (lives b) }, a ++ lives b, ?_, ?_, ?_⟩
  · unfold truncateFile
    simp only [hregion]
    generalize hc : compactLoop _ _ _ _ _ = c at e1 ⊢
    subst e1
    rfl
  · have hend : st.freeStart + recsLen (lives b) = 8 + recsLen (a ++ lives b) := by
      rw [hfs, recsLen_append]; omega
    refine Inv.mk' ?_ hend ?_ e2 ?_ (boundary_end hend)
    · show st.bytes.take st.freeStart ++ recsBytes (lives b) = _
      rw [hbytes, List.take_left' hla, layout_append]
    · intro r hr
      rcases List.mem_append.mp hr with hr | hr
      · exact h.ok r (by simp [hr])
      · exact h.ok r (by simp [(List.mem_filter.mp hr).1])
    · rw [liveIds_append, liveIds_lives, ← liveIds_append]; exact h.nodup
  · intro y
    rw [view_append, view_append, view_lives]

end Pk.Proofs.CacheFile
