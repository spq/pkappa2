/-
  A positive witness for the full C07 statement: two well-formed single-stream index files that both contain
  stream 7 (different hosts, ports, times, source packets and payload), whose merge succeeds, fits the format
  limits, is well-formed again, and shows the stream of the newer file — before and after the merge.
  So the hypotheses of `MergeViewEq'` are jointly satisfiable and "newest wins" is visible.

  Both inputs are files the writer model produces (`mfx_a_written`, `mfx_b_written`: `AddStream` of one stream
  with three resp. two packets, `Finalize`, `NewReader`).  All computations by kernel reduction (`decide +kernel`).
-/
import Pk.Proofs.MergeFullCex

namespace Pk.Index
open Pk Pk.Bytes

/-- older file: stream 7 = 10.0.0.1:1000 → 10.0.0.2:80, three packets of capture `a.p` at 1700000000 s + 5 ns,
    + 3 µs, + 4 µs; payload `[1,2]` client → server, `[3]` back; segmentation varints `[2,1]` -/
def mfx_a : Reader :=
  { f := { ref := 1700000000, data := [1, 2, 3, 2, 1], importNames := [97, 46, 112, 0],
           imports := [{ filename := 0, offset := 0 }],
           packets := [{ rel := 0, imp := 0, idx := 5, size := 2, skip := 0, flags := 1 },
                       { rel := 3, imp := 0, idx := 6, size := 1, skip := 0, flags := 3 },
                       { rel := 4, imp := 0, idx := 8, size := 0, skip := 255, flags := 0 }],
           v4 := [10, 0, 0, 1, 10, 0, 0, 2], v6 := [], hostGroups := [{ start := 0, count := 1, flags := 0 }],
           streams := [{ id := 7, first := 5, last := 4009, dataStart := 0, cb := 2, sb := 1, pstart := 0, flags := 1,
                         hg := 0, ch := 0, sh := 1, cp := 1000, sp := 80 }],
           lkId := [0], lkSrc := [0], lkFt := [0], lkLt := [0] },
    imports := [([97, 46, 112], 0)],
    hostGroups := [{ hosts := [10, 0, 0, 1, 10, 0, 0, 2], hostSize := 4, hostCount := 2 }],
    idMin := 7, idMax := 7 }

/-- newer file: stream 7 = 10.0.0.3:2000 → 10.0.0.4:443, two packets of capture `b.p` at 1700000100 s + 7 ns, + 2 µs;
    payload `[9,8,7]` client → server, `[6,5]` back; segmentation varints `[3,2]` -/
def mfx_b : Reader :=
  { f := { ref := 1700000100, data := [9, 8, 7, 6, 5, 3, 2], importNames := [98, 46, 112, 0],
           imports := [{ filename := 0, offset := 0 }],
           packets := [{ rel := 0, imp := 0, idx := 1, size := 3, skip := 0, flags := 1 },
                       { rel := 2, imp := 0, idx := 2, size := 2, skip := 255, flags := 2 }],
           v4 := [10, 0, 0, 3, 10, 0, 0, 4], v6 := [], hostGroups := [{ start := 0, count := 1, flags := 0 }],
           streams := [{ id := 7, first := 7, last := 2007, dataStart := 0, cb := 3, sb := 2, pstart := 0, flags := 1,
                         hg := 0, ch := 0, sh := 1, cp := 2000, sp := 443 }],
           lkId := [0], lkSrc := [0], lkFt := [0], lkLt := [0] },
    imports := [([98, 46, 112], 0)],
    hostGroups := [{ hosts := [10, 0, 0, 3, 10, 0, 0, 4], hostSize := 4, hostCount := 2 }],
    idMin := 7, idMax := 7 }

def mfx_sa : StreamIn :=
  { id := 7, client := [10, 0, 0, 1], server := [10, 0, 0, 2], cport := 1000, sport := 80, flags := 0,
    packets := [ { ts := 1700000000000000005, dir := 0, refs := [{ file := [97, 46, 112], index := 5 }] },
                 { ts := 1700000000000003005, dir := 1, refs := [{ file := [97, 46, 112], index := 6 }] },
                 { ts := 1700000000000004009, dir := 0, refs := [{ file := [97, 46, 112], index := 8 }] } ],
    data := [ { pos := 0, bytes := [1, 2] }, { pos := 1, bytes := [3] } ] }

def mfx_sb : StreamIn :=
  { id := 7, client := [10, 0, 0, 3], server := [10, 0, 0, 4], cport := 2000, sport := 443, flags := 0,
    packets := [ { ts := 1700000100000000007, dir := 0, refs := [{ file := [98, 46, 112], index := 1 }] },
                 { ts := 1700000100000002007, dir := 1, refs := [{ file := [98, 46, 112], index := 2 }] } ],
    data := [ { pos := 0, bytes := [9, 8, 7] }, { pos := 1, bytes := [6, 5] } ] }

def mfx_write (s : StreamIn) : Option Reader :=
  match ({} : Writer).addStream s with
  | .ok (w, true) => (match newReader w.finalize with | .ok r => some r | .error _ => none)
  | _ => none

theorem mfx_a_written : mfx_write mfx_sa = some mfx_a := by decide +kernel
theorem mfx_b_written : mfx_write mfx_sb = some mfx_b := by decide +kernel

/-- the merged file: the stream of the newer file; the hosts of the older file stay in the host table
    (`AddIndex` does not take hosts back when it finds no new stream) -/
def mfx_m : Reader :=
  { f := { ref := 1700000100, data := [9, 8, 7, 6, 5, 3, 2], importNames := [98, 46, 112, 0],
           imports := [{ filename := 0, offset := 0 }],
           packets := [{ rel := 0, imp := 0, idx := 1, size := 3, skip := 0, flags := 1 },
                       { rel := 2, imp := 0, idx := 2, size := 2, skip := 255, flags := 2 }],
           v4 := [10, 0, 0, 3, 10, 0, 0, 4, 10, 0, 0, 1, 10, 0, 0, 2], v6 := [],
           hostGroups := [{ start := 0, count := 3, flags := 0 }],
           streams := [{ id := 7, first := 7, last := 2007, dataStart := 0, cb := 3, sb := 2, pstart := 0, flags := 1,
                         hg := 0, ch := 0, sh := 1, cp := 2000, sp := 443 }],
           lkId := [0], lkSrc := [0], lkFt := [0], lkLt := [0] },
    imports := [([98, 46, 112], 0)],
    hostGroups := [{ hosts := [10, 0, 0, 3, 10, 0, 0, 4, 10, 0, 0, 1, 10, 0, 0, 2], hostSize := 4, hostCount := 4 }],
    idMin := 7, idMax := 7 }

theorem mfx_merge_ab : merge [mfx_a, mfx_b] = .ok [mfx_m] := mfc_merge_of_out (by decide +kernel)

/-- what the user sees of stream 7, before and after the merge: the stream of the newer file -/
def mfx_v : StreamView :=
  { client := [10, 0, 0, 3], cport := 2000, server := [10, 0, 0, 4], sport := 443, proto := "TCP",
    first := 1700000100000000007, last := 1700000100000002007, cb := 3, sb := 2,
    packets := .ok [{ file := [98, 46, 112], index := 1, dir := 0, ts := 1700000100000000007 },
                    { file := [98, 46, 112], index := 2, dir := 1, ts := 1700000100000002007 }],
    data := .ok [{ dir := 0, content := [9, 8, 7], ts := 1700000100000000007 },
                 { dir := 1, content := [6, 5], ts := 1700000100000002007 }] }

/-- the stream of the older file, shadowed -/
def mfx_va : StreamView :=
  { client := [10, 0, 0, 1], cport := 1000, server := [10, 0, 0, 2], sport := 80, proto := "TCP",
    first := 1700000000000000005, last := 1700000000000004009, cb := 2, sb := 1,
    packets := .ok [{ file := [97, 46, 112], index := 5, dir := 0, ts := 1700000000000000005 },
                    { file := [97, 46, 112], index := 6, dir := 1, ts := 1700000000000003005 },
                    { file := [97, 46, 112], index := 8, dir := 0, ts := 1700000000000004005 }],
    data := .ok [{ dir := 0, content := [1, 2], ts := 1700000000000000005 },
                 { dir := 1, content := [3], ts := 1700000000000003005 }] }

theorem mfx_view_a : stackView [mfx_a] 7 = some (some mfx_va) := by decide +kernel
theorem mfx_view_b : stackView [mfx_b] 7 = some (some mfx_v) := by decide +kernel
theorem mfx_view_ab : stackView [mfx_a, mfx_b] 7 = some (some mfx_v) := by decide +kernel
theorem mfx_view_m : stackView [mfx_m] 7 = some (some mfx_v) := by decide +kernel

theorem mfx_a_wf : mfx_a.WF := by decide +kernel
theorem mfx_b_wf : mfx_b.WF := by decide +kernel
theorem mfx_m_wf : mfx_m.WF := by decide +kernel
theorem mfx_m_fits : ∀ m ∈ [mfx_m], m.Fits := by decide +kernel

end Pk.Index
