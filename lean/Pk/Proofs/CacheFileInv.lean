/-
  C15 helper lemmas: the file as a list of records (`layout`), the invariant `Inv` that links a state
  of the model to such a list, and its preservation by reset, by a store without compaction (`storeCore_inv`)
  and by invalidation; compaction and the load scan follow in CacheFileCompact and CacheFileOpen.
-/
import Pk.Model.CacheFile
import Pk.Proofs.CacheFile
import Pk.Proofs.Lib

namespace Pk.Proofs.CacheFile
open Pk.CacheFile

theorem lookup_erase (m : List (Nat × Info)) (id x : Nat) :
    lookup (erase m id) x = if x = id then none else lookup m x := by
  refine (Lib.assoc_find_filter m id x).trans ?_
  by_cases h : x = id
  · rw [if_pos h, if_pos h.symm]
  · rw [if_neg h, if_neg (Ne.symm h)]; rfl

theorem lookup_insert (m : List (Nat × Info)) (id x : Nat) (i : Info) :
    lookup (insert m id i) x = if x = id then some i else lookup m x := by
  refine (Lib.assoc_find_cons (id, i) (erase m id) x).trans ?_
  by_cases h : x = id
  · rw [if_pos h, if_pos h.symm]
  · rw [if_neg h, if_neg (Ne.symm h)]; exact (lookup_erase m id x).trans (if_neg h)

/-- positional notation: `← Nat.mod_mul` puts the eight base-256 digits `n / 256 ^ k % 256` back together,
    one at a time, into `n % 256 ^ 8` -/
theorem readLe64_le64 (n : Nat) (rest : List Nat) (h : n < 2 ^ 64) : readLe64 (le64 n ++ rest) = n := by
  rw [readLe64, List.take_left' (le64_length n)]
  simp only [le64, List.foldr_cons, List.foldr_nil, Nat.pow_succ, Nat.pow_zero, Nat.one_mul,
    ← Nat.div_div_eq_div_mul, Nat.mul_zero, Nat.add_zero, ← Nat.mod_mul]
  exact Nat.mod_eq_of_lt h

structure Rec where
  id : Nat
  body : List Nat

def GoodBody (b : List Nat) : Prop := ∀ rest, skipStream (b ++ rest) = some rest

def RecOk (r : Rec) : Prop := r.id < 2 ^ 64 ∧ GoodBody r.body

def recsBytes : List Rec → List Nat
  | [] => []
  | r :: rs => le64 r.id ++ (r.body ++ recsBytes rs)

def recsLen : List Rec → Nat
  | [] => 0
  | r :: rs => 8 + r.body.length + recsLen rs

def layout (rs : List Rec) : List Nat := headerBytes ++ recsBytes rs

/-- the offset table that belongs to a record list that starts at file offset `off` -/
def find (off : Nat) : List Rec → Nat → Option Info
  | [], _ => none
  | r :: rs, x =>
    if r.id = x ∧ x ≠ invalidStreamID then some { offset := off + 8, size := r.body.length }
    else find (off + 8 + r.body.length) rs x

def view : List Rec → Nat → Option (List Nat)
  | [], _ => none
  | r :: rs, x => if r.id = x ∧ x ≠ invalidStreamID then some r.body else view rs x

def liveIds (rs : List Rec) : List Nat := (rs.map (·.id)).filter (· != invalidStreamID)

def Boundary (rs : List Rec) (off : Nat) : Prop := ∃ a b, rs = a ++ b ∧ off = 8 + recsLen a

theorem recsBytes_length (rs : List Rec) : (recsBytes rs).length = recsLen rs := by
  induction rs with
  | nil => rfl
  | cons r rs ih => simp only [recsBytes, recsLen, List.length_append, le64_length, ih]; omega

theorem recsBytes_append (a b : List Rec) : recsBytes (a ++ b) = recsBytes a ++ recsBytes b := by
  induction a with
  | nil => rfl
  | cons r a ih => simp [recsBytes, ih]

theorem recsLen_append (a b : List Rec) : recsLen (a ++ b) = recsLen a + recsLen b := by
  induction a with
  | nil => simp [recsLen]
  | cons r a ih => simp only [List.cons_append, recsLen, ih]; omega

theorem layout_length (rs : List Rec) : (layout rs).length = 8 + recsLen rs := by
  simp only [layout, headerBytes, List.length_append, recsBytes_length, List.length_cons, List.length_nil]

theorem layout_append (a b : List Rec) : layout (a ++ b) = layout a ++ recsBytes b := by
  simp [layout, recsBytes_append]

theorem liveIds_cons (r : Rec) (rs : List Rec) :
    liveIds (r :: rs) = if r.id = invalidStreamID then liveIds rs else r.id :: liveIds rs := by
  unfold liveIds
  by_cases h : r.id = invalidStreamID <;> simp [h]

theorem liveIds_append (a b : List Rec) : liveIds (a ++ b) = liveIds a ++ liveIds b := by
  simp [liveIds]

theorem find_eq_none : ∀ {rs : List Rec} {off x : Nat}, find off rs x = none ↔ x ∉ liveIds rs := by
  intro rs
  induction rs with
  | nil => intro off x; simp [find, liveIds]
  | cons r rs ih =>
    intro off x
    rw [find, liveIds_cons]
    by_cases h : r.id = x ∧ x ≠ invalidStreamID
    · obtain ⟨rfl, h2⟩ := h
      simp [h2]
    · rw [if_neg h, ih]
      split
      · rfl
      · rename_i hr
        rw [List.mem_cons, not_or, and_iff_right (fun e : x = r.id => h ⟨e.symm, e ▸ hr⟩)]

theorem mem_liveIds_of_find {rs : List Rec} {off x : Nat} {i : Info} (h : find off rs x = some i) :
    x ∈ liveIds rs :=
  Classical.byContradiction fun hn => by rw [find_eq_none.mpr hn] at h; cases h

theorem find_invalid (rs : List Rec) (off : Nat) : find off rs invalidStreamID = none :=
  find_eq_none.mpr (by simp [liveIds])

theorem find_append : ∀ (a b : List Rec) (off x : Nat),
    find off (a ++ b) x = (find off a x).or (find (off + recsLen a) b x) := by
  intro a
  induction a with
  | nil => intro b off x; simp [find, recsLen]
  | cons r a ih =>
    intro b off x
    simp only [List.cons_append, find, recsLen]
    split
    · rfl
    · rw [ih]; congr 2; omega

theorem view_append : ∀ (a b : List Rec) (x : Nat), view (a ++ b) x = (view a x).or (view b x) := by
  intro a
  induction a with
  | nil => intro b x; simp [view]
  | cons r a ih =>
    intro b x
    simp only [List.cons_append, view]
    split
    · rfl
    · rw [ih]

/-- `freeStream` on the record list: the header of every record of `x` is overwritten with the invalid id -/
def kill (x : Nat) (rs : List Rec) : List Rec :=
  rs.map fun r => if r.id = x then { r with id := invalidStreamID } else r

theorem kill_cons (x : Nat) (r : Rec) (rs : List Rec) :
    kill x (r :: rs) = (if r.id = x then { r with id := invalidStreamID } else r) :: kill x rs := rfl

theorem kill_append (x : Nat) (a b : List Rec) : kill x (a ++ b) = kill x a ++ kill x b := by
  simp [kill]

theorem recsLen_kill (x : Nat) (rs : List Rec) : recsLen (kill x rs) = recsLen rs := by
  induction rs with
  | nil => rfl
  | cons r rs ih =>
    rw [kill_cons]
    split <;> simp [recsLen, ih]

theorem boundary_kill (x : Nat) (rs : List Rec) (off : Nat) (h : Boundary rs off) : Boundary (kill x rs) off := by
  obtain ⟨a, b, rfl, rfl⟩ := h
  exact ⟨kill x a, kill x b, kill_append x a b, by rw [recsLen_kill]⟩

theorem ok_kill (x : Nat) (rs : List Rec) (h : ∀ r ∈ rs, RecOk r) : ∀ r ∈ kill x rs, RecOk r := by
  intro r hr
  simp only [kill, List.mem_map] at hr
  obtain ⟨r0, hr0, rfl⟩ := hr
  split
  · exact ⟨(by decide : invalidStreamID < 2 ^ 64), (h r0 hr0).2⟩
  · exact h r0 hr0

theorem liveIds_kill (x : Nat) (rs : List Rec) : liveIds (kill x rs) = (liveIds rs).filter (· != x) := by
  induction rs with
  | nil => rfl
  | cons r rs ih =>
    rw [kill_cons]
    by_cases h1 : r.id = x
    · rw [if_pos h1, liveIds_cons, liveIds_cons, ih]
      simp only [if_true]
      split
      · rfl
      · rw [List.filter_cons]; simp [h1]
    · rw [if_neg h1, liveIds_cons, liveIds_cons, ih]
      split
      · rfl
      · rw [List.filter_cons]; simp [h1]

theorem kill_hit (x y : Nat) (r : Rec) :
    ((if r.id = x then { r with id := invalidStreamID } else r).id = y ∧ y ≠ invalidStreamID)
      ↔ (r.id = y ∧ y ≠ invalidStreamID) ∧ y ≠ x := by
  split
  · rename_i h
    exact ⟨fun h' => absurd h'.1.symm h'.2, fun h' => absurd (h'.1.1 ▸ h) h'.2⟩
  · rename_i h
    exact ⟨fun h' => ⟨h', fun e => h (e ▸ h'.1)⟩, fun h' => h'.1⟩

theorem kill_body (x : Nat) (r : Rec) : (if r.id = x then { r with id := invalidStreamID } else r).body = r.body := by
  split <;> rfl

theorem find_kill (x : Nat) : ∀ (rs : List Rec) (off y : Nat),
    find off (kill x rs) y = if y = x then none else find off rs y := by
  intro rs
  induction rs with
  | nil => intro off y; simp [kill, find]
  | cons r rs ih =>
    intro off y
    simp only [kill_cons, find, kill_hit, kill_body, ih]
    by_cases h : y = x <;> simp [h]

theorem view_kill (x : Nat) : ∀ (rs : List Rec) (y : Nat),
    view (kill x rs) y = if y = x then none else view rs y := by
  intro rs
  induction rs with
  | nil => intro y; simp [kill, view]
  | cons r rs ih =>
    intro y
    simp only [kill_cons, view, kill_hit, kill_body, ih]
    by_cases h : y = x <;> simp [h]

theorem kill_of_not_mem (x : Nat) (hx : x ≠ invalidStreamID) : ∀ rs : List Rec, x ∉ liveIds rs → kill x rs = rs := by
  intro rs
  induction rs with
  | nil => intro _; rfl
  | cons r rs ih =>
    intro h
    rw [liveIds_cons] at h
    rw [kill_cons]
    by_cases h1 : r.id = x
    · exfalso
      simp [h1, hx] at h
    · rw [if_neg h1, ih]
      split at h
      · exact h
      · exact fun hm => h (List.mem_cons_of_mem _ hm)

theorem find_split : ∀ (rs : List Rec) (off x : Nat) (info : Info), find off rs x = some info →
    ∃ a r b, rs = a ++ r :: b ∧ x ∉ liveIds a ∧ r.id = x ∧
      info = { offset := off + recsLen a + 8, size := r.body.length } := by
  intro rs
  induction rs with
  | nil => intro off x info h; cases h
  | cons r rs ih =>
    intro off x info h
    rw [find] at h
    split at h
    · rename_i hc
      cases h
      exact ⟨[], r, rs, rfl, List.not_mem_nil, hc.1, rfl⟩
    · rename_i hc
      obtain ⟨a, r', b, rfl, h1, h2, rfl⟩ := ih _ x info h
      refine ⟨r :: a, r', b, rfl, ?_, h2, ?_⟩
      · rw [liveIds_cons]
        split
        · exact h1
        · rename_i hr
          exact fun hm => (List.mem_cons.mp hm).elim (fun e => hc ⟨e.symm, e ▸ hr⟩) h1
      · rw [recsLen, Nat.add_assoc off, Nat.add_assoc off]

/-- the in-place header overwrite of `freeStream` turns the record list into `kill x rs` -/
theorem patch_kill (x : Nat) (hx : x ≠ invalidStreamID) (rs : List Rec) (off : Nat) (pre tl : List Nat) (info : Info)
    (hp : pre.length = off) (hnd : (liveIds rs).Nodup) (hf : find off rs x = some info) :
    patch (pre ++ (recsBytes rs ++ tl)) (info.offset - streamHeaderSize) (le64 invalidStreamID)
      = pre ++ (recsBytes (kill x rs) ++ tl) := by
  obtain ⟨a, r, b, rfl, hna, rfl, rfl⟩ := find_split rs off x info hf
  rw [liveIds_append, liveIds_cons, if_neg hx] at hnd
  have hnb : r.id ∉ liveIds b := (List.nodup_cons.mp (List.nodup_append.mp hnd).2.1).1
  have hl : (pre ++ recsBytes a).length = off + recsLen a := by rw [List.length_append, hp, recsBytes_length]
  rw [kill_append, kill_cons, if_pos rfl, kill_of_not_mem _ hx a hna, kill_of_not_mem _ hx b hnb,
    recsBytes_append, recsBytes_append, recsBytes, recsBytes, patch, le64_length]
  simp only [streamHeaderSize, Nat.add_sub_cancel, List.append_assoc]
  rw [← List.append_assoc pre, List.take_left' hl, ← List.append_assoc (pre ++ recsBytes a) (le64 r.id),
    List.drop_left' (by rw [List.length_append, hl, le64_length]), List.append_assoc]

theorem ne_invalid_of_mem_liveIds (rs : List Rec) (x : Nat) (h : x ∈ liveIds rs) : x ≠ invalidStreamID := by
  simp only [liveIds, List.mem_filter] at h
  simpa using h.2

theorem view_eq_none {rs : List Rec} {x : Nat} (h : x ∉ liveIds rs) : view rs x = none := by
  induction rs with
  | nil => rfl
  | cons r rs ih =>
    rw [liveIds_cons] at h
    rw [view]
    split
    · rename_i hc
      rw [if_neg (hc.1 ▸ hc.2)] at h
      exact absurd (hc.1 ▸ List.mem_cons_self) h
    · split at h
      · exact ih h
      · exact ih fun hm => h (List.mem_cons_of_mem _ hm)

theorem find_view (rs : List Rec) (off : Nat) (pre : List Nat) (x : Nat) (hp : pre.length = off) :
    view rs x = (find off rs x).map fun info => ((pre ++ recsBytes rs).drop info.offset).take info.size := by
  cases hf : find off rs x with
  | none => exact view_eq_none (find_eq_none.mp hf)
  | some info =>
    have hx := ne_invalid_of_mem_liveIds rs x (mem_liveIds_of_find hf)
    obtain ⟨a, r, b, rfl, hna, rfl, rfl⟩ := find_split rs off x info hf
    rw [view_append, view_eq_none hna, Option.none_or, view, if_pos ⟨rfl, hx⟩, Option.map_some,
      recsBytes_append, recsBytes, ← List.append_assoc, ← List.append_assoc,
      List.drop_left' (by rw [List.length_append, List.length_append, hp, recsBytes_length, le64_length]),
      List.take_left' rfl]

/-- Nothing is said about `freeSize`: it only decides WHEN `setData` compacts; `truncateFile` is right from any record
    boundary `freeStart`, whatever the counter holds. -/
structure Inv (st : St) (rs : List Rec) : Prop where
  bytes : st.bytes = layout rs
  size : st.fileSize = st.bytes.length
  ok : ∀ r ∈ rs, RecOk r
  infos : ∀ x, lookup st.infos x = find 8 rs x
  nodup : (liveIds rs).Nodup
  fs : Boundary rs st.freeStart

theorem Inv.fileSize_eq {st : St} {rs : List Rec} (h : Inv st rs) : st.fileSize = 8 + recsLen rs := by
  rw [h.size, h.bytes, layout_length]

theorem Inv.lookup_view {st : St} {rs : List Rec} (h : Inv st rs) (x : Nat) :
    view rs x = (lookup st.infos x).map (section_ st) := by
  rw [h.infos x, find_view rs 8 headerBytes x rfl]
  unfold section_
  rw [h.bytes]
  rfl

theorem Inv.data_eq {st : St} {rs : List Rec} (h : Inv st rs) (x : Nat) (t0 : Int) :
    data st x t0 = match view rs x with
      | none => some none
      | some b => (decodeRecord b t0).map some := by
  rw [h.lookup_view x, data]
  cases lookup st.infos x <;> rfl

theorem Inv.contains_eq {st : St} {rs : List Rec} (h : Inv st rs) (x : Nat) (hv : view rs x = none) :
    contains st x = false ∧ dataForSearch st x = some none ∧ ∀ t0, data st x t0 = some none := by
  rw [h.lookup_view x, Option.map_eq_none_iff] at hv
  simp [contains, dataForSearch, data, hv]

theorem reset_inv : Inv reset [] := by
  refine ⟨rfl, rfl, by simp, fun x => rfl, by simp [liveIds], ⟨[], [], rfl, rfl⟩⟩

theorem Inv.mk' {st : St} {rs : List Rec} (hb : st.bytes = layout rs) (hs : st.fileSize = 8 + recsLen rs)
    (ok : ∀ r ∈ rs, RecOk r) (infos : ∀ x, lookup st.infos x = find 8 rs x) (nodup : (liveIds rs).Nodup)
    (fs : Boundary rs st.freeStart) : Inv st rs :=
  ⟨hb, by rw [hs, hb, layout_length], ok, infos, nodup, fs⟩

theorem boundary_append_right (rs t : List Rec) (off : Nat) (h : Boundary rs off) : Boundary (rs ++ t) off := by
  obtain ⟨a, b, rfl, rfl⟩ := h
  exact ⟨a, b ++ t, by simp, rfl⟩

theorem boundary_end {rs : List Rec} {off : Nat} (h : off = 8 + recsLen rs) : Boundary rs off :=
  ⟨rs, [], (List.append_nil rs).symm, h⟩

theorem boundary_of_find (rs : List Rec) (x : Nat) (info : Info) (h : find 8 rs x = some info) :
    Boundary rs (info.offset - streamHeaderSize) := by
  obtain ⟨a, r, b, rfl, _, _, rfl⟩ := find_split rs 8 x info h
  exact ⟨a, r :: b, rfl, rfl⟩

theorem freeStream_spec (s : St) (rs t : List Rec) (x : Nat) (info : Info)
    (hb : s.bytes = layout (rs ++ t)) (hnd : (liveIds rs).Nodup) (hf : find 8 rs x = some info)
    (hfs : Boundary (kill x rs ++ t) s.freeStart) :
    (freeStream s info).bytes = layout (kill x rs ++ t) ∧ Boundary (kill x rs ++ t) (freeStream s info).freeStart := by
  have hx : x ≠ invalidStreamID := ne_invalid_of_mem_liveIds rs x (mem_liveIds_of_find hf)
  refine ⟨?_, ?_⟩
  · simp only [freeStream, hb, layout, recsBytes_append]
    exact patch_kill x hx rs 8 headerBytes _ info rfl hnd hf
  · simp only [freeStream]
    split
    · exact boundary_append_right _ _ _ (boundary_kill x rs _ (boundary_of_find rs x info hf))
    · exact hfs

def appendRecord (st : St) (id : Nat) (record : List Nat) : St :=
  { bytes := st.bytes ++ (le64 id ++ record)
    infos := insert st.infos id { offset := st.fileSize + streamHeaderSize, size := record.length }
    fileSize := st.fileSize + streamHeaderSize + record.length
    freeSize := st.freeSize
    freeStart := if st.freeStart = st.fileSize then st.freeStart + streamHeaderSize + record.length else st.freeStart }

def storeCore (st : St) (id : Nat) (record : List Nat) : St :=
  match lookup st.infos id with
  | none => appendRecord st id record
  | some o => freeStream (appendRecord st id record) o

theorem setData_eq (st : St) (id : Nat) (t0 : Int) (cs : List Chunk) :
    setData st id t0 cs
      = (if st.freeSize ≥ cleanupMinFreeSize ∧ st.freeSize ≥ st.fileSize / 2 then truncateFile st else some st).map
          fun s => storeCore s id (encodeRecord cs t0) := by
  unfold setData
  cases (if st.freeSize ≥ cleanupMinFreeSize ∧ st.freeSize ≥ st.fileSize / 2 then truncateFile st else some st) with
  | none => rfl
  | some s =>
    simp only [Option.map_some, storeCore]
    cases lookup s.infos id <;> rfl

theorem view_store (x : Nat) (hx : x ≠ invalidStreamID) (rs : List Rec) (b : List Nat) (y : Nat) :
    view (kill x rs ++ [⟨x, b⟩]) y = if y = x then some b else view rs y := by
  rw [view_append, view_kill]
  by_cases h : y = x
  · subst h; simp [view, hx]
  · have : ¬ (x = y ∧ y ≠ invalidStreamID) := fun hh => h hh.1.symm
    simp [view, h, this]

theorem storeCore_inv (st : St) (rs : List Rec) (h : Inv st rs) (x : Nat) (b : List Nat)
    (hx : x < 2 ^ 64 - 1) (hgood : GoodBody b) :
    Inv (storeCore st x b) (kill x rs ++ [⟨x, b⟩]) := by
  have hxi : x ≠ invalidStreamID := by simp only [invalidStreamID]; omega
  have hfsz := h.fileSize_eq
  -- what the appended state satisfies whether or not an older record exists
  have hok : ∀ r ∈ kill x rs ++ [⟨x, b⟩], RecOk r := by
    intro r hr
    rcases List.mem_append.mp hr with hr | hr
    · exact ok_kill x rs h.ok r hr
    · simp only [List.mem_singleton] at hr; subst hr; exact ⟨by simp only; omega, hgood⟩
  have hnd : (liveIds (kill x rs ++ [⟨x, b⟩])).Nodup := by
    rw [liveIds_append, liveIds_kill, List.nodup_append]
    refine ⟨h.nodup.filter _, by simp [liveIds, hxi], ?_⟩
    intro a ha c hc
    simp only [List.mem_filter] at ha
    simp only [liveIds, List.map_cons, List.map_nil, List.mem_filter, List.mem_singleton] at hc
    rw [hc.1]; simpa using ha.2
  have hinf : ∀ y, lookup (appendRecord st x b).infos y = find 8 (kill x rs ++ [⟨x, b⟩]) y := by
    intro y
    simp only [appendRecord]
    rw [lookup_insert, find_append, find_kill, recsLen_kill, h.infos y]
    by_cases hy : y = x
    · subst hy; simp [find, hxi, hfsz, streamHeaderSize]
    · have : ¬ (x = y ∧ y ≠ invalidStreamID) := fun hh => hy hh.1.symm
      simp [find, hy, this]
  have hsize : (appendRecord st x b).fileSize = 8 + recsLen (kill x rs ++ [⟨x, b⟩]) := by
    simp only [appendRecord, hfsz, recsLen_append, recsLen_kill, recsLen, streamHeaderSize]; omega
  have hbnd : Boundary (kill x rs ++ [⟨x, b⟩]) (appendRecord st x b).freeStart := by
    simp only [appendRecord]
    split
    · rename_i he
      rw [he]; exact boundary_end hsize
    · exact boundary_append_right _ _ _ (boundary_kill x rs _ h.fs)
  have hbytes : (appendRecord st x b).bytes = layout (rs ++ [⟨x, b⟩]) := by
    simp only [appendRecord, h.bytes, layout, recsBytes_append, recsBytes, List.append_assoc, List.append_nil]
  unfold storeCore
  cases ho : lookup st.infos x with
  | none =>
    have hnm : x ∉ liveIds rs := find_eq_none.mp (by rw [← h.infos x]; exact ho)
    refine Inv.mk' ?_ hsize hok hinf hnd hbnd
    rw [kill_of_not_mem x hxi rs hnm]; exact hbytes
  | some o =>
    have hf : find 8 rs x = some o := by rw [← h.infos x]; exact ho
    obtain ⟨f1, f2⟩ := freeStream_spec (appendRecord st x b) rs [⟨x, b⟩] x o hbytes h.nodup hf hbnd
    exact Inv.mk' f1 hsize hok hinf hnd f2

theorem invalidateOne_inv (st : St) (rs : List Rec) (h : Inv st rs) (x : Nat) :
    ∃ rs', Inv (invalidateOne st x).1 rs' ∧ ∀ y, view rs' y = if y = x then none else view rs y := by
  unfold invalidateOne
  cases ho : lookup st.infos x with
  | none =>
    refine ⟨rs, h, ?_⟩
    intro y
    by_cases hy : y = x
    · subst hy
      rw [h.lookup_view y, ho, if_pos rfl]; rfl
    · simp [hy]
  | some o =>
    have hf : find 8 rs x = some o := by rw [← h.infos x]; exact ho
    obtain ⟨f1, f2⟩ := freeStream_spec st rs [] x o (by simp [h.bytes]) h.nodup hf
      (by simpa using boundary_kill x rs _ h.fs)
    simp only [List.append_nil] at f1 f2
    refine ⟨kill x rs, Inv.mk' f1 ?_ (ok_kill x rs h.ok) ?_ ?_ f2, view_kill x rs⟩
    · show st.fileSize = _
      rw [h.fileSize_eq, recsLen_kill]
    · intro y
      show lookup (erase st.infos x) y = _
      rw [lookup_erase, find_kill, h.infos y]
    · rw [liveIds_kill]; exact h.nodup.filter _

theorem invalidate_inv : ∀ (ids : List Nat) (st : St) (rs : List Rec), Inv st rs →
    ∃ rs', Inv (invalidate st ids).1 rs' ∧ ∀ y, view rs' y = if y ∈ ids then none else view rs y := by
  intro ids
  induction ids with
  | nil => intro st rs h; exact ⟨rs, h, by simp⟩
  | cons x ids ih =>
    intro st rs h
    obtain ⟨rs1, h1, v1⟩ := invalidateOne_inv st rs h x
    obtain ⟨rs2, h2, v2⟩ := ih _ rs1 h1
    refine ⟨rs2, h2, ?_⟩
    intro y
    rw [v2, v1]
    by_cases hy : y = x
    · subst hy; simp
    · simp [hy]

end Pk.Proofs.CacheFile
