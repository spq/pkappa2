/- The snapshot of a tagging job that an event starts is the table entry the job was started for (`job_started`). -/
import Pk.Props.MgrReach
import Pk.Proofs.MgrTruthFrame
import Pk.Proofs.MgrTruthJob
namespace Pk.Proofs.MgrTruth
open Pk.Mgr Pk.Proofs.MgrTags

theorem attrs_eq {t t' : Tag} (h : Attrs t' = Attrs t) :
    t'.mainT = t.mainT ∧ t'.subT = t.subT ∧ t'.mfeat = t.mfeat ∧ t'.sfeat = t.sfeat ∧ t'.gen = t.gen := by
  simp only [Attrs, Prod.mk.injEq] at h
  exact h

theorem attrs_mk {t t' : Tag} (h1 : t'.mainT = t.mainT) (h2 : t'.subT = t.subT) (h3 : t'.mfeat = t.mfeat)
    (h4 : t'.sfeat = t.sfeat) (h5 : t'.gen = t.gen) : Attrs t' = Attrs t := by
  simp only [Attrs, h1, h2, h3, h4, h5]

/-- A job in flight after an event that began without one (or after a tagging completion) was started during
    that event, so its snapshot is the table entry.  Only `updConv` / `delTag` weaken this: a later
    `outputDropped` of the same detach fold runs after the start of the job and may make streams pending for the
    entry that are not pending in the snapshot; each of them is justified by the references of the snapshot, and
    a during-job mask is then not empty (`LateCov`). -/
theorem job_started (s : St) (e : Ev) (st : Started) (jn : String) (snap : Tag) (held : List Nat)
    (hr : Pk.Props.MgrReach.Reach s) (hev : Pk.Props.C09.EvOK s e) (h : s.jTag = none ∨ ∃ n r, e = .tagDone n r)
    (hj' : (step s e st).1.jTag = some (jn, snap, held)) :
    (∃ ot, sget (step s e st).1.tags jn = some ot ∧ ot.mat = snap.mat ∧ Attrs ot = Attrs snap ∧
      (∀ id, id ∈ ot.unc → id ∉ snap.unc → id < (step s e st).1.all → LateCov (step s e st).1 snap id)) ∨
    (e = .delTag jn ∧ sget (step s e st).1.tags jn = none ∧ ∃ t, sget s.tags jn = some t ∧ t.gen = snap.gen) := by
  have hw := hr.tagsWF
  have h0 : s.tag = false ∨ ∃ n r, e = .tagDone n r := h.imp_left fun hn => by
    cases ht : s.tag with
    | false => rfl
    | true => have := hr.jobsWF.1.1 ht; rw [hn] at this; cases this
  have hnojob : (∀ n r, e ≠ .tagDone n r) → s.tag = false ∧ s.jTag = none := fun hne =>
    ⟨h0.resolve_right fun ⟨n, r, he⟩ => hne n r he, h.resolve_right fun ⟨n, r, he⟩ => hne n r he⟩
  have fin : ∀ (X : St), X.all = s.all → X.jTag = some (jn, snap, held) → JInv s.all X →
      ∃ ot, sget X.tags jn = some ot ∧ ot.mat = snap.mat ∧ Attrs ot = Attrs snap ∧
        (∀ id, id ∈ ot.unc → id ∉ snap.unc → id < X.all → LateCov X snap id) := by
    intro X hall hj hi
    obtain ⟨ot, hot, ⟨⟨f1, _, f3, f4, f5, f6, f7⟩, _⟩, hl⟩ := hi.started hj
    rw [hall]
    exact ⟨ot, hot, f1, attrs_mk f5 f6 f3 f4 f7, hl⟩
  by_cases hu : ∃ name convs, e = .updConv name convs
  · obtain ⟨name, convs, rfl⟩ := hu
    obtain ⟨ht, hjn⟩ := hnojob (by intro _ _ h; cases h)
    exact Or.inl (fin _ (step_updConv_frE (g := False) s name convs st).all hj'
      (step_updConv_jinv s name convs st (FI.init s hw hr.uncBounded ht hjn)))
  by_cases hd : ∃ name, e = .delTag name
  · obtain ⟨name, rfl⟩ := hd
    obtain ⟨ht, hjn⟩ := hnojob (by intro _ _ h; cases h)
    -- `refBy` mirrors the references (`Reach.refByWF`): nobody references a tag that `delTag` accepts
    have href : ∀ t', sget s.tags name = some t' → t'.refBy = [] → ∀ n t, sget s.tags n = some t → name ∉ t.refs := by
      intro t' ht' hrb n t ht hmem
      have := hr.refByWF (n, t) (sget_mem _ _ _ ht) name hmem t' ht'
      rw [hrb] at this; cases this
    rcases step_delTag_jinv s name st hw hr.uncBounded ht hjn href jn snap held hj' with
      ⟨_, hi⟩ | ⟨hn, h1, t, h2, f1, f2, f3, f4, f5, f6, f7⟩
    · exact Or.inl (fin _ (step_delTag_frE s name st).all hj' hi)
    · subst hn
      exact Or.inr ⟨rfl, h1, t, h2, f7.symm⟩
  · obtain ⟨ot, h1, h2, h3, h4, h5, h6, h7, h8, h12⟩ :=
      job_started_plain s _ st jn snap held hw hr.jobsWF.1 (fun n r he => by subst he; exact hev) h0 ⟨fun n cs h => hu ⟨n, cs, h⟩, fun n h => hd ⟨n, h⟩⟩ hj'
    exact Or.inl ⟨ot, h1, h2, attrs_mk h7 h8 h5 h6 h12, fun id hid hns _ => absurd (h3 ▸ hid) hns⟩

end Pk.Proofs.MgrTruth
