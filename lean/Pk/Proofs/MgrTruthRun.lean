/- What the concrete runs of C06Reach (MgrTruthExample, MgrTruthCex*, MgrTruthAba) share: a run follows its step lemmas, and
   `Good` as a finite check on a concrete state with a computable truth function. -/
import Pk.Props.C06ReachSpec
import Pk.Proofs.MgrConcrete
namespace Pk.Props.C06Reach
open Pk.Mgr Pk.Props.MgrReach Pk.Proofs.MgrTruth Pk.Proofs.MgrTags

theorem sameOn_refl (s : St) (T : Truth) : SameOn s T T := fun _ _ _ _ _ => rfl

theorem ghostNext_self (s : St) (e : Ev) (T : Truth) : ghostNext s e T T = T := by
  unfold ghostNext
  split
  · rfl
  · split <;> rfl

theorem runSt_step {s s' : St} {e : Ev} {st : Started} {T : Truth} {r : Res} {rest : Hist} (h : step s e st = (s', r)) :
    runSt s ((e, st, T) :: rest) = runSt s' rest := by
  show runSt (step s e st).1 rest = _
  rw [h]

theorem runOK_step {s s' : St} {e : Ev} {st : Started} {r : Res} {T g T' g' : Truth} {rest : Hist}
    (h : step s e st = (s', r)) (hg : ghostNext s e T' g = g') (ok : StepOK s T g e st T')
    (hr : RunOK s' T' g' rest) : RunOK s T g ((e, st, T') :: rest) := by
  subst hg
  refine ⟨ok, ?_⟩
  rw [h]
  exact hr

/-- the search-result contract `ResultOK` of a tagging completion with its quantifier over stream ids bounded by the
    result and by the streams the job was asked about: decidable for a computable ghost -/
def ResultCheck (s : St) (name : String) (result : List Nat) (g : Truth) : Prop :=
  ∀ j ∈ s.jTag, j.1 = name → (∀ id ∈ result, id ∈ j.2.1.unc ∧ g name id = true) ∧
    ∀ id ∈ j.2.1.unc, g name id = true → id ∈ result

instance (s : St) (name : String) (result : List Nat) (g : Truth) : Decidable (ResultCheck s name result g) := by
  unfold ResultCheck; infer_instance

theorem resultOK_of_check {s : St} {name : String} {result : List Nat} {g : Truth} (c : ResultCheck s name result g) :
    ResultOK s (.tagDone name result) g := by
  intro snap held hj id
  obtain ⟨a, b⟩ := c (name, snap, held) (Option.mem_def.2 hj) rfl
  exact ⟨a id, fun h => b id h.1 h.2⟩

/-- `Reach`, `Acyclic`, `GenInv`, `TagFeatInv` and `C06.Inv` with quantifiers over the entries of the table and of
    the job slot (cf. `ReachCheck`); last, the snapshot of the job in flight is the entry of its tag (the job has just
    started) -/
def GoodCheck (s : St) (T : Truth) : Prop :=
  ReachCheck s ∧ C09.Acyclic s ∧
  ((∀ p ∈ s.tags, p.2.gen < s.ngen) ∧ (∀ j ∈ s.jTag, j.2.1.gen < s.ngen) ∧
    (∀ p1 ∈ s.tags, ∀ p2 ∈ s.tags, p1.2.gen = p2.2.gen → p1.1 = p2.1)) ∧
  ((∀ p ∈ s.tags, TagFeat p.2) ∧ (∀ j ∈ s.jTag, TagFeat j.2.1)) ∧
  (∀ p ∈ s.tags, ∀ id, id < s.next → id ∉ p.2.unc → (id ∈ p.2.mat ↔ T p.1 id = true)) ∧
  (∀ j ∈ s.jTag, sget s.tags j.1 = some j.2.1)

theorem inv_of_check {s : St} {T : Truth}
    (c : ∀ p ∈ s.tags, ∀ id, id < s.next → id ∉ p.2.unc → (id ∈ p.2.mat ↔ T p.1 id = true)) : C06.Inv s T := forall_sget c

instance (s : St) : Decidable (C09.Acyclic s) := by unfold C09.Acyclic; infer_instance
instance (t : Tag) : Decidable (TagFeat t) := by unfold TagFeat; infer_instance
instance (s : St) (T : Truth) : Decidable (GoodCheck s T) := by unfold GoodCheck; infer_instance

/-- `Good` with the truth as ghost.  The job invariant: the entry with the snapshot's identity is the snapshot, so the
    answer to be published is the truth on the pending streams and the entry's decision, right by `C06.Inv`, on the
    others. -/
theorem good_of_check {s : St} {T : Truth} (c : GoodCheck s T) : Good s T T := by
  obtain ⟨reach, acyclic, ⟨g1, g2, g3⟩, ⟨f1, f2⟩, inv, job⟩ := c
  refine ⟨reach_of_check reach, acyclic,
    ⟨forall_sget g1, forall_job g2, fun n1 t1 n2 t2 h1 h2 => g3 (n1, t1) (sget_mem _ _ _ h1) (n2, t2) (sget_mem _ _ _ h2)⟩,
    ⟨forall_sget f1, forall_job f2⟩, inv_of_check inv, fun jn snap held n ot hj hot hg _ => ?_⟩
  have hs : sget s.tags jn = some snap := job (jn, snap, held) (Option.mem_def.2 hj)
  obtain rfl : n = jn := g3 (n, ot) (sget_mem _ _ _ hot) (jn, snap) (sget_mem _ _ _ hs) hg
  obtain rfl : ot = snap := Option.some.inj (hot.symm.trans hs)
  refine Or.inr ⟨rfl, fun id hid hne => absurd ?_ hne⟩
  by_cases hu : id ∈ ot.unc
  · rw [Ans, if_pos hu]
  · rw [Ans, if_neg hu, Bool.eq_iff_iff, decide_eq_true_iff]
    exact (inv (n, ot) (sget_mem _ _ _ hs) id hid hu).symm

end Pk.Props.C06Reach
