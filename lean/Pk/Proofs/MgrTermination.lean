/-
  The termination measure `mu` of the service loop (C09 `settles`): a lexicographic product of seven natural
  numbers, most significant first:
   m1  captures queued;
   m2  (converter, stream) pairs not yet in a converter cache;
   m3  the converter job in flight will hand back a non-empty set of converted streams;
   m4  2·(tainted tags) + (the tagging job in flight will not decide its tag) + a surcharge while a
       tagging job is in flight and something was invalidated during the job;
   m5  2·(converters with queued streams) + (converter job in flight);
   m6  tags with pending streams;
   m7  2·(files the merger has not given up on) + (merge job in flight).

  Starting a converter job may raise `m3` (the job will hand back streams), but only when the job has cached
  a stream that was not cached before, and that lowers the more significant `m2`.
-/
import Pk.Proofs.MgrTerminationCycle
import Pk.Proofs.MgrConv

namespace Pk.Proofs.MgrTermination
open Pk.Mgr Pk.Proofs.MgrTags
open Pk.Proofs.MgrConv (cOf qOf)

abbrev M7 := Nat × Nat × Nat × Nat × Nat × Nat × Nat

def LexLt : M7 → M7 → Prop :=
  Prod.Lex (· < ·) (Prod.Lex (· < ·) (Prod.Lex (· < ·) (Prod.Lex (· < ·) (Prod.Lex (· < ·)
    (Prod.Lex (· < ·) (· < ·))))))

theorem lexLt_wf : WellFounded LexLt :=
  (Prod.lex Nat.lt_wfRel (Prod.lex Nat.lt_wfRel (Prod.lex Nat.lt_wfRel (Prod.lex Nat.lt_wfRel
    (Prod.lex Nat.lt_wfRel (Prod.lex Nat.lt_wfRel Nat.lt_wfRel)))))).wf

theorem plex {β} {rb : β → β → Prop} {a' a : Nat} {b' b : β}
    (h : a' < a ∨ (a' = a ∧ rb b' b)) : Prod.Lex (· < ·) rb (a', b') (a, b) := by
  rcases h with h | ⟨rfl, h⟩
  · exact Prod.Lex.left _ _ h
  · exact Prod.Lex.right _ h

theorem lex7 {a' a b' b c' c d' d e' e f' f g' g : Nat}
    (h : a' < a ∨ (a' = a ∧ (b' < b ∨ (b' = b ∧ (c' < c ∨ (c' = c ∧ (d' < d ∨ (d' = d ∧
      (e' < e ∨ (e' = e ∧ (f' < f ∨ (f' = f ∧ g' < g)))))))))))) :
    LexLt (a', b', c', d', e', f', g') (a, b, c, d, e, f, g) := by
  unfold LexLt
  refine plex (h.imp id (And.imp id fun h => ?_))
  refine plex (h.imp id (And.imp id fun h => ?_))
  refine plex (h.imp id (And.imp id fun h => ?_))
  refine plex (h.imp id (And.imp id fun h => ?_))
  refine plex (h.imp id (And.imp id fun h => ?_))
  exact plex h

def m1 (s : St) : Nat := s.queue.length

def m2 (s : St) : Nat :=
  (s.convs.map fun c => (List.range s.all).countP (fun id => !(cOf s c).contains id)).sum

def m3 (s : St) : Nat :=
  match s.jConv with
  | some (sets, _) => if sets.any (fun p => s.convs.contains p.1 && !p.2.isEmpty) then 1 else 0
  | none => 0

def masksEmpty (s : St) : Bool := s.upd.isEmpty && s.rst.isEmpty && s.add.isEmpty

/-- the tagging job in flight will not take its tag out of the pending ones: its completion leaves alone a
    tag that was deleted, redefined or created again (`gen`) while the job ran -/
def jobBad (s : St) : Bool :=
  match s.jTag with
  | none => false
  | some (n, snap, _) =>
    match sget s.tags n with
    | some ot => !(ot.defn == snap.defn && ot.gen == snap.gen && !ot.unc.isEmpty)
    | none => true

def jb (s : St) : Nat := if jobBad s then 1 else 0
def sur (s : St) : Nat := if s.tag && !masksEmpty s then 2 * s.tags.length + 2 else 0

noncomputable def m4 (s : St) : Nat := 2 * tcount s.tags + jb s + sur s

def m5 (s : St) : Nat :=
  2 * (s.convs.filter fun c => !(qOf s c).isEmpty).length + (if s.convert then 1 else 0)

def m6 (s : St) : Nat := (s.tags.filter fun nt => !nt.2.unc.isEmpty).length

def m7 (s : St) : Nat := 2 * (s.idx.length - s.unm) + (if s.merge then 1 else 0)

noncomputable def mu (s : St) : M7 := (m1 s, m2 s, m3 s, m4 s, m5 s, m6 s, m7 s)

def coreC (s : St) := (s.convs, s.all, s.cached, s.jConv, s.toconv, s.convert)
def coreT (s : St) := (s.tags, s.jTag, s.tag, s.upd, s.rst, s.add)
def coreM (s : St) := (s.idx, s.unm, s.merge)
/-- what `m1` … `m6` read -/
def core6 (s : St) := (s.queue, coreC s, coreT s)

theorem mC_congr {a b : St} (h : coreC a = coreC b) : m2 a = m2 b ∧ m3 a = m3 b ∧ m5 a = m5 b := by
  simp only [coreC, Prod.mk.injEq] at h
  obtain ⟨h1, h2, h3, h4, h5, h6⟩ := h
  simp only [m2, m3, m5, cOf, qOf, h1, h2, h3, h4, h5, h6, and_self]

theorem mT_congr {a b : St} (h : coreT a = coreT b) : m4 a = m4 b ∧ m6 a = m6 b := by
  simp only [coreT, Prod.mk.injEq] at h
  obtain ⟨h1, h2, h3, h4, h5, h6⟩ := h
  obtain ⟨⟩ := a
  obtain ⟨⟩ := b
  simp only at h1 h2 h3 h4 h5 h6
  subst h1 h2 h3 h4 h5 h6
  exact ⟨rfl, rfl⟩

theorem m7_congr {a b : St} (h : coreM a = coreM b) : m7 a = m7 b := by
  simp only [coreM, Prod.mk.injEq] at h
  obtain ⟨h1, h2, h3⟩ := h
  simp only [m7, h1, h2, h3]

theorem startTagging_coreM (s : St) (c) : coreM (startTagging s c) = coreM s :=
  startTagging_frame coreM s c
theorem startTagging_meas (X : St) (c : Option String) (hs : Sorted X.tags) :
    jb (startTagging X c) ≤ jb X ∧ sur (startTagging X c) ≤ sur X := by
  refine startTagging_cases (P := fun X' => jb X' ≤ jb X ∧ sur X' ≤ sur X) X c
    (fun _ => ⟨Nat.le_refl _, Nat.le_refl _⟩) fun n t bc htag hm hel => ?_
  · have hget : sget (getIndexesCopy X 0).1.tags n = some t := mem_sget_of_sorted _ hs _ _ hm
    have hu : t.unc ≠ [] := ((MgrSettle.eligT_iff _ _).mp hel).1
    constructor
    · have : jobBad { (getIndexesCopy X 0).1 with
          tag := true, upd := [], rst := [], add := [], jTag := some (n, t, (getIndexesCopy X 0).2),
          badChoice := bc } = false := by
        simp only [jobBad, hget]
        simp [hu]
      simp only [jb, this]
      simp
    · simp [sur, masksEmpty]

theorem startTagging_sur_zero (X : St) (c : Option String) (hs : Sorted X.tags) (ht : X.tag = false) :
    sur (startTagging X c) = 0 := by
  have _ := hs
  exact startTagging_cases (P := fun X' => sur X' = 0) X c (fun _ => by simp [sur, ht])
    fun _ _ _ _ _ _ => by simp [sur, masksEmpty]

open Pk.Proofs.MgrConv (foundOf startConverter_spec)

theorem miss_imp {s s' : St} (hm : ∀ c id, id ∈ cOf s c → id ∈ cOf s' c) (c : String) (l : List Nat) :
    ∀ id ∈ l, (!(cOf s' c).contains id) = true → (!(cOf s c).contains id) = true := by
  intro id _ h
  simp only [Bool.not_eq_true', List.contains_eq_mem, decide_eq_false_iff_not] at h ⊢
  exact fun h' => h (hm c id h')

theorem m2_mono (s s' : St) (hc : s'.convs = s.convs) (ha : s'.all = s.all)
    (hm : ∀ c id, id ∈ cOf s c → id ∈ cOf s' c) : m2 s' ≤ m2 s := by
  unfold m2
  rw [hc, ha]
  exact Pk.Lib.wsum_mono fun c _ => List.countP_mono_left (miss_imp hm c _)

theorem m2_lt (s s' : St) (hc : s'.convs = s.convs) (ha : s'.all = s.all)
    (hm : ∀ c id, id ∈ cOf s c → id ∈ cOf s' c) (c0 : String) (hc0 : c0 ∈ s.convs) (id0 : Nat)
    (hid : id0 < s.all) (h1 : id0 ∉ cOf s c0) (h2 : id0 ∈ cOf s' c0) : m2 s' < m2 s := by
  unfold m2
  rw [hc, ha]
  refine Pk.Lib.wsum_lt (fun c _ => List.countP_mono_left (miss_imp hm c _)) hc0 ?_
  exact Pk.Lib.countP_lt_of _ _ _ (miss_imp hm c0 _) id0 (List.mem_range.mpr hid) (by simpa using h1) (by simpa using h2)

theorem startConverter_coreM (s : St) : coreM (startConverter s) = coreM s :=
  startConverter_frame coreM s

/-- the sets of the converter job in flight hold existing streams (a clause of `MgrReach.JobUncBounded`) -/
def JConvLt (s : St) : Prop := ∀ sets held, s.jConv = some (sets, held) → ∀ p ∈ sets, ∀ id ∈ p.2, id < s.all

theorem startConverter_meas (X : St) (hb : JConvLt (startConverter X)) :
    m2 (startConverter X) ≤ m2 X ∧ (m3 (startConverter X) ≤ m3 X ∨ m2 (startConverter X) < m2 X) ∧
    m5 (startConverter X) ≤ m5 X := by
  rcases startConverter_spec X with e | j
  · rw [e]; exact ⟨Nat.le_refl _, .inl (Nat.le_refl _), Nat.le_refl _⟩
  · generalize startConverter X = Y at j hb
    have hconvs : Y.convs = X.convs := by rw [j.rest]
    have hall : Y.all = X.all := by rw [j.rest]
    have hmono := fun c id (h : id ∈ cOf X c) => (j.cached c id).2 (.inl h)
    refine ⟨m2_mono X Y hconvs hall hmono, ?_, ?_⟩
    · obtain ⟨sets, hj, hs⟩ := j.job
      by_cases h3 : m3 Y = 0
      · left; omega
      · right
        simp only [m3, hj, hconvs] at h3
        split at h3
        · rename_i hany
          obtain ⟨p, hp, hpp⟩ := List.any_eq_true.mp hany
          simp only [Bool.and_eq_true, List.contains_eq_mem, decide_eq_true_eq, Bool.not_eq_true',
            List.isEmpty_eq_false_iff] at hpp
          obtain ⟨id, hid⟩ := List.exists_mem_of_ne_nil _ hpp.2
          have hlt := hall ▸ hb _ _ hj p hp id hid
          obtain ⟨h1, _, h3'⟩ := (hs p).1 hp
          rw [h3'] at hid
          simp only [mem_inter, mem_diff] at hid
          exact m2_lt X Y hconvs hall hmono p.1 h1 id hlt hid.1.2 ((j.cached _ id).2 (.inr ⟨h1, hid.1.1, hid.2⟩))
        · exact absurd rfl h3
    · -- some queue was not empty and the started job empties them all: `m5` goes from at least 2 to 1
      obtain ⟨c, hc, hq⟩ := j.active
      have hlen : 0 < (X.convs.filter fun c => !(qOf X c).isEmpty).length :=
        List.length_pos_iff.mpr (List.ne_nil_of_mem (List.mem_filter.2 ⟨hc, by simpa using hq⟩))
      have hnil : (Y.convs.filter fun c => !(qOf Y c).isEmpty) = [] := by
        rw [List.filter_eq_nil_iff, hconvs]
        intro c hc
        simp [j.queue c, hc]
      simp only [m5, hnil, j.on, j.off]
      simp only [List.length_nil, if_true, Bool.false_eq_true, if_false]
      omega

end Pk.Proofs.MgrTermination
