/-
  Second loop of `Stream.Data`: the segmentation varints cut the two content blocks back into the
  runs that were written (helper lemmas for C01Full `roundtrip_payload'`).  What is kept is the direction of every
  byte in order (`dirSeq`), of which `mRuns` is the run-length encoding.
-/
import Pk.Model.IndexFormat
import Pk.Proofs.Bytes
import Pk.Proofs.IndexFormatFullWalk
namespace Pk.Index
open Pk Pk.Bytes

def cm (x : Nat × Nat) : List (Nat × Nat) → List (Nat × Nat)
  | (d', n') :: rs => if x.1 = d' then (x.1, x.2 + n') :: rs else x :: (d', n') :: rs
  | [] => [x]

/-- `mergedRuns` of Props/C01.lean with its cons step named (`cm`); the two agree by `mergedRuns_eq` -/
def mRuns : List (Nat × Nat) → List (Nat × Nat)
  | [] => []
  | (d, n) :: rest => if n = 0 then mRuns rest else cm (d, n) (mRuns rest)

theorem cm_cm (d a b : Nat) (X : List (Nat × Nat)) : cm (d, a) (cm (d, b) X) = cm (d, a + b) X := by
  cases X with
  | nil => simp [cm]
  | cons y ys =>
    obtain ⟨d', n'⟩ := y
    simp only [cm]
    by_cases h : d = d'
    · simp [h]; omega
    · simp [h]

/-- the direction of every payload byte, in order; `mRuns` is its run-length encoding (`mRuns_eq_rle`) -/
def dirSeq (R : List (Nat × Nat)) : List Nat := R.flatMap fun x => List.replicate x.2 x.1

def rle : List Nat → List (Nat × Nat)
  | [] => []
  | d :: t => cm (d, 1) (rle t)

theorem dirSeq_cons (x : Nat × Nat) (R : List (Nat × Nat)) : dirSeq (x :: R) = List.replicate x.2 x.1 ++ dirSeq R :=
  List.flatMap_cons

theorem rle_replicate (d : Nat) (E : List Nat) : ∀ (n : Nat), rle (List.replicate (n + 1) d ++ E) = cm (d, n + 1) (rle E) := by
  intro n
  induction n with
  | zero => rfl
  | succ n ih =>
    rw [List.replicate_succ, List.cons_append, rle, ih, cm_cm]
    congr 2; omega

theorem mRuns_eq_rle (R : List (Nat × Nat)) : mRuns R = rle (dirSeq R) := by
  induction R with
  | nil => rfl
  | cons x rest ih =>
    obtain ⟨d, n⟩ := x
    rw [mRuns, dirSeq_cons, ih]
    cases n with
    | zero => rfl
    | succ n => rw [if_neg (by omega), rle_replicate]

theorem dirSeq_segRuns (l : List (Nat × Nat)) : dirSeq (segRuns l) = dirSeq l := by
  induction l with
  | nil => rfl
  | cons x rest ih =>
    obtain ⟨d, n⟩ := x
    rw [dirSeq_cons, ← ih]
    simp only [segRuns]
    cases segRuns rest with
    | nil => rfl
    | cons y rs =>
      obtain ⟨d', n'⟩ := y
      simp only
      split
      · rename_i h
        subst h
        simp only [dirSeq_cons, ← List.append_assoc, List.replicate_append_replicate]
      · rfl

theorem dirSeq_block (d : Nat) (cs : List (Nat × Nat)) (h : ∀ c ∈ cs, c.1 = d) :
    dirSeq cs = List.replicate (cs.map (·.2)).sum d := by
  induction cs with
  | nil => rfl
  | cons c t ih =>
    rw [dirSeq_cons, ih (fun c hc => h c (by simp [hc])), h c (by simp), List.replicate_append_replicate]
    rfl

def runSum (d : Nat) (R : List (Nat × Nat)) : Nat := (R.map fun x => if x.1 = d then x.2 else 0).sum

theorem runSum_cons (d : Nat) (x : Nat × Nat) (R : List (Nat × Nat)) :
    runSum d (x :: R) = (if x.1 = d then x.2 else 0) + runSum d R := by
  simp [runSum]

theorem dirSeq_nil (R : List (Nat × Nat)) (hd : ∀ x ∈ R, x.1 < 2) (h0 : runSum 0 R = 0) (h1 : runSum 1 R = 0) : dirSeq R = [] := by
  induction R with
  | nil => rfl
  | cons x rs ih =>
    obtain ⟨d, n⟩ := x
    rw [runSum_cons] at h0 h1
    have hd' : d < 2 := hd (d, n) (by simp)
    have hn : n = 0 := by
      simp only at h0 h1
      split at h0 <;> split at h1 <;> omega
    subst hn
    rw [dirSeq_cons]
    exact ih (fun x hx => hd x (by simp [hx])) (by omega) (by omega)

theorem consume_ok (dir : Nat) (pt : List (Int × Nat)) : ∀ (sz : Nat) (content : Bytes), 0 < sz → sz ≤ content.length →
    sz ≤ ptSum pt →
    ∃ cs pt', consume dir sz content pt = .ok (cs, content.drop sz, pt') ∧
      (cs.map (·.content)).flatten = content.take sz ∧ (∀ c ∈ cs, c.dir = dir) ∧
      ptSum pt' + sz = ptSum pt := by
  induction pt with
  | nil => intro sz content h0 _ h2; simp [ptSum] at h2; omega
  | cons e rest ih =>
    intro sz content h0 h1 h2
    obtain ⟨ts, psz⟩ := e
    rw [ptSum_cons] at h2
    simp only at h2
    unfold consume
    by_cases hgt : sz > psz
    · simp only [hgt, if_true]
      have hc : ¬ (psz > content.length) := by omega
      simp only [hc, if_false]
      have hne : ¬ (sz - psz = 0) := by omega
      simp only [hne, if_false]
      obtain ⟨cs, pt', hcons, hflat, hdir, hsum⟩ := ih (sz - psz) (content.drop psz) (by omega) (by simp; omega) (by omega)
      rw [hcons]
      refine ⟨({ dir, content := content.take psz, ts } : DataOut) :: cs, pt', ?_, ?_, ?_, ?_⟩
      · simp only [List.drop_drop]
        have : psz + (sz - psz) = sz := by omega
        rw [this]
      · simp only [List.map_cons, List.flatten_cons, hflat]
        have : sz = psz + (sz - psz) := by omega
        conv => rhs; rw [this, List.take_add]
      · intro c hc
        simp at hc
        rcases hc with rfl | hc
        · rfl
        · exact hdir c hc
      · rw [ptSum_cons]; simp only; omega
    · simp only [hgt, if_false]
      have hc : ¬ (sz > content.length) := by omega
      simp only [hc, if_false, Nat.sub_self, if_true]
      refine ⟨_, _, rfl, by simp, by simp, ?_⟩
      split
      · rw [ptSum_cons]; simp only; omega
      · rw [ptSum_cons, ptSum_cons]; simp only; omega

def dirFlat (d : Nat) (ds : List DataOut) : Bytes := ((ds.filter (·.dir == d)).map (·.content)).flatten
def outRuns (ds : List DataOut) : List (Nat × Nat) := ds.map fun d => (d.dir, d.content.length)

theorem dirFlat_append (d : Nat) (a b : List DataOut) : dirFlat d (a ++ b) = dirFlat d a ++ dirFlat d b := by
  simp [dirFlat]

theorem dirFlat_of_dir (d e : Nat) (cs : List DataOut) (h : ∀ c ∈ cs, c.dir = d) :
    dirFlat e cs = if e = d then (cs.map (·.content)).flatten else [] := by
  unfold dirFlat
  by_cases hed : e = d
  · rw [if_pos hed, List.filter_eq_self.mpr (fun c hc => by simp [h c hc, hed])]
  · rw [if_neg hed, List.filter_eq_nil_iff.mpr (fun c hc => by simp [h c hc, Ne.symm hed])]
    rfl

theorem outRuns_sum (cs : List DataOut) : ((outRuns cs).map (·.2)).sum = ((cs.map (·.content)).flatten).length := by
  induction cs with
  | nil => rfl
  | cons c t ih => simp [outRuns] at ih ⊢; omega

theorem encVarint_zero : encVarint 0 = [0] := by
  unfold encVarint
  rw [encVarintAux]
  simp

theorem encVarint_pos (n : Nat) (h : n < 2 ^ 64) : 0 < (encVarint n).length := by
  cases he : encVarint n with
  | nil =>
    have := varint_roundtrip n h []
    rw [he] at this
    simp [decVarint, decVarintAux] at this
  | cons a t => simp

/-- the component of direction `d` of a pair: `dataRuns` carries one content block and one packet-time list per
    direction, and addressing them by direction makes the two directions one case in `dataRuns_sel` -/
def sel {α : Type} (d : Nat) (a0 a1 : α) : α := if d = 0 then a0 else a1

theorem sel_upd {α : Type} {e d : Nat} (he : e < 2) (hd : d < 2) (x a0 a1 : α) :
    sel e (sel d x a0) (sel d a1 x) = if e = d then x else sel e a0 a1 := by
  have he' : e = 0 ∨ e = 1 := by omega
  have hd' : d = 0 ∨ d = 1 := by omega
  rcases he' with rfl | rfl <;> rcases hd' with rfl | rfl <;> rfl

theorem dataRuns_succ (fuel dir : Nat) (hd : dir < 2) (c0 c1 seg : Bytes) (pt0 pt1 : List (Int × Nat)) :
    dataRuns (fuel + 1) dir c0 c1 seg pt0 pt1 =
      if c0.length = 0 ∧ c1.length = 0 then .ok [] else
      match decVarint seg with
      | none => .error .err
      | some (sz, seg') =>
        if sz = 0 then dataRuns fuel (1 - dir) c0 c1 seg' pt0 pt1 else
        match consume dir sz (sel dir c0 c1) (sel dir pt0 pt1) with
        | .error e => .error e
        | .ok (cs, c, pt) =>
          match dataRuns fuel (1 - dir) (sel dir c c0) (sel dir c1 c) seg' (sel dir pt pt0) (sel dir pt1 pt) with
          | .error e => .error e
          | .ok more => .ok (cs ++ more) := by
  have hd' : dir = 0 ∨ dir = 1 := by omega
  rcases hd' with rfl | rfl <;> (rw [dataRuns]; rfl)

theorem dataRuns_sel (R : List (Nat × Nat)) : ∀ (want : Nat) (c0 c1 : Bytes) (pt0 pt1 : List (Int × Nat)) (fuel : Nat),
    (∀ x ∈ R, x.1 < 2) → (R.map (·.2)).sum < 2 ^ 64 → want < 2 →
    (∀ e, e < 2 → (sel e c0 c1).length = runSum e R ∧ (sel e c0 c1).length ≤ ptSum (sel e pt0 pt1)) →
    (segBytes want R).length < fuel →
    ∃ ds, dataRuns fuel want c0 c1 (segBytes want R) pt0 pt1 = .ok ds ∧ (∀ e, e < 2 → dirFlat e ds = sel e c0 c1) ∧
      dirSeq (outRuns ds) = dirSeq R := by
  induction R with
  | nil =>
    intro want c0 c1 pt0 pt1 fuel _ _ hwant h hf
    cases fuel with
    | zero => omega
    | succ f =>
      have h0 := (h 0 (by omega)).1
      have h1 := (h 1 (by omega)).1
      rw [dataRuns_succ _ _ hwant, if_pos ⟨h0, h1⟩]
      exact ⟨[], rfl, fun e he => (List.length_eq_zero_iff.mp (h e he).1).symm, rfl⟩
  | cons x rs ih =>
    intro want c0 c1 pt0 pt1 fuel hR hsum hwant h hf
    obtain ⟨d, n⟩ := x
    have hd : d < 2 := hR (d, n) (by simp)
    simp only [List.map_cons, List.sum_cons] at hsum
    have hn64 : n < 2 ^ 64 := Nat.lt_of_le_of_lt (Nat.le_add_right _ _) hsum
    have hRs : ∀ x ∈ rs, x.1 < 2 := fun x hx => hR x (by simp [hx])
    have hsums := Nat.lt_of_le_of_lt (Nat.le_add_left _ _) hsum
    by_cases hemp : c0.length = 0 ∧ c1.length = 0
    · cases fuel with
      | zero => omega
      | succ f =>
        rw [dataRuns_succ _ _ hwant, if_pos hemp]
        have hz : ∀ e, e < 2 → (sel e c0 c1).length = 0 := by
          intro e he
          have he' : e = 0 ∨ e = 1 := by omega
          rcases he' with rfl | rfl
          · exact hemp.1
          · exact hemp.2
        refine ⟨[], rfl, fun e he => (List.length_eq_zero_iff.mp (hz e he)).symm, ?_⟩
        rw [dirSeq_nil _ hR (by rw [← (h 0 (by omega)).1]; exact hemp.1)
          (by rw [← (h 1 (by omega)).1]; exact hemp.2)]
        rfl
    · -- the part common to both cases: the varint of the run, read in direction `d`; when `d ≠ want` the writer puts a
      -- zero varint before it, which only flips the reader's direction
      have hA : ∀ f, (encVarint n ++ segBytes (1 - d) rs).length < f →
          ∃ ds, dataRuns f d c0 c1 (encVarint n ++ segBytes (1 - d) rs) pt0 pt1 = .ok ds ∧
            (∀ e, e < 2 → dirFlat e ds = sel e c0 c1) ∧ dirSeq (outRuns ds) = dirSeq ((d, n) :: rs) := by
        intro f hf
        cases f with
        | zero => omega
        | succ f =>
          have hvl := encVarint_pos n hn64
          simp only [List.length_append] at hf
          rw [dataRuns_succ _ _ hd, if_neg hemp, varint_roundtrip n hn64]
          simp only
          by_cases hn : n = 0
          · subst hn
            simp only [if_true]
            obtain ⟨ds, hds, e0, em⟩ := ih (1 - d) c0 c1 pt0 pt1 f hRs hsums (by omega)
              (fun e he => by
                have := h e he
                rwa [runSum_cons, ite_self, Nat.zero_add] at this)
              (by omega)
            exact ⟨ds, hds, e0, by rw [em, dirSeq_cons]; rfl⟩
          · simp only [hn, if_false]
            obtain ⟨hl, hp⟩ := h d hd
            rw [runSum_cons, if_pos rfl] at hl
            obtain ⟨cs, pt', hcons, hflat, hdir, hsum⟩ :=
              consume_ok d (sel d pt0 pt1) n (sel d c0 c1) (by omega) (by simp only at hl; omega) (by simp only at hl; omega)
            rw [hcons]
            simp only
            obtain ⟨more, hm, e0, em⟩ := ih (1 - d) (sel d ((sel d c0 c1).drop n) c0) (sel d c1 ((sel d c0 c1).drop n))
              (sel d pt' pt0) (sel d pt1 pt') f hRs hsums (by omega)
              (fun e he => by
                rw [sel_upd he hd, sel_upd he hd]
                have := h e he
                rw [runSum_cons] at this
                by_cases hed : e = d
                · subst hed
                  simp only [if_true, List.length_drop] at this ⊢
                  exact ⟨by omega, by omega⟩
                · rw [if_neg (fun h => hed h.symm), Nat.zero_add] at this
                  rwa [if_neg hed, if_neg hed])
              (by omega)
            rw [hm]
            refine ⟨cs ++ more, rfl, ?_, ?_⟩
            · intro e he
              rw [dirFlat_append, dirFlat_of_dir d e cs hdir, e0 e he, sel_upd he hd]
              by_cases hed : e = d
              · subst hed
                rw [if_pos rfl, if_pos rfl, hflat, List.take_append_drop]
              · rw [if_neg hed, if_neg hed]; rfl
            · have hb := dirSeq_block d (outRuns cs)
                (by intro c hc; simp only [outRuns, List.mem_map] at hc; obtain ⟨x, hx, rfl⟩ := hc; exact hdir x hx)
              rw [outRuns_sum, hflat, List.length_take, Nat.min_eq_left (by simp only at hl; omega)] at hb
              rw [outRuns, List.map_append, dirSeq, List.flatMap_append, dirSeq_cons]
              show dirSeq (outRuns cs) ++ dirSeq (outRuns more) = _
              rw [hb, em]
      by_cases hdw : d = want
      · subst hdw
        have hseg : segBytes d ((d, n) :: rs) = encVarint n ++ segBytes (1 - d) rs := by
          simp only [segBytes, ne_eq, not_true_eq_false, if_false, List.nil_append]
        rw [hseg] at hf ⊢
        exact hA fuel hf
      · have hseg : segBytes want ((d, n) :: rs) = encVarint 0 ++ (encVarint n ++ segBytes (1 - d) rs) := by
          simp only [segBytes, ne_eq, hdw, not_false_eq_true, if_true, encVarint_zero, List.append_assoc]
        rw [hseg] at hf ⊢
        cases fuel with
        | zero => omega
        | succ f =>
          rw [dataRuns_succ _ _ hwant, if_neg hemp, varint_roundtrip 0 (by omega)]
          simp only [if_true]
          have : 1 - want = d := by omega
          rw [this]
          apply hA f
          rw [encVarint_zero] at hf
          simp only [List.length_append, List.length_cons, List.length_nil] at hf ⊢
          omega

theorem dataRuns_ok (R : List (Nat × Nat)) (c0 c1 : Bytes) (pt0 pt1 : List (Int × Nat)) (fuel : Nat)
    (hR : ∀ x ∈ R, x.1 < 2) (hsum : (R.map (·.2)).sum < 2 ^ 64) (h0 : c0.length = runSum 0 R) (h1 : c1.length = runSum 1 R)
    (hp0 : c0.length ≤ ptSum pt0) (hp1 : c1.length ≤ ptSum pt1)
    (hf : (segBytes 0 R).length < fuel) :
    ∃ ds, dataRuns fuel 0 c0 c1 (segBytes 0 R) pt0 pt1 = .ok ds ∧ dirFlat 0 ds = c0 ∧ dirFlat 1 ds = c1 ∧
      dirSeq (outRuns ds) = dirSeq R := by
  obtain ⟨ds, hds, e, em⟩ := dataRuns_sel R 0 c0 c1 pt0 pt1 fuel hR hsum (by omega)
    (fun e he => by
      have he' : e = 0 ∨ e = 1 := by omega
      rcases he' with rfl | rfl
      · exact ⟨h0, hp0⟩
      · exact ⟨h1, hp1⟩) hf
  exact ⟨ds, hds, e 0 (by omega), e 1 (by omega), em⟩

end Pk.Index
