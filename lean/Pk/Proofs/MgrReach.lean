/- What Pk/Props/MgrReach.lean needs besides `pb_step`, `g_step`, `fj_step`: how `all` and `next` move in a
   step, and the passage between `G` (in terms of `sget`) and the two invariants it joins, which the
   Props files state by membership. -/
import Pk.Proofs.MgrReachBound
import Pk.Proofs.MgrReachGraph
namespace Pk.Proofs.MgrReach
open Pk.Mgr

theorem step_all_next_other (s : St) (e : Ev) (st : Started)
    (h : ∀ p u c a b d, e ≠ .importDone p u c a b d) :
    (step s e st).1.all = s.all ∧ (step s e st).1.next = s.next :=
  (MgrTags.step_frame s e st).2.2 h

theorem step_importDone_all_next (s : St) (processed usednew : Nat) (created : List (Nat × List Nat))
    (upd rst add : List Nat) (st : Started) (jn : Nat) (held : List Nat) (hj : s.jImport = some (jn, held)) :
    (step s (.importDone processed usednew created upd rst add) st).1.all = jn + usednew ∧
    (step s (.importDone processed usednew created upd rst add) st).1.next =
      if created = [] then s.next else jn + usednew := by
  obtain ⟨s1, _, e2, e3, _, hf⟩ := MgrTags.step_importDone_some (g := False) s processed usednew created upd rst add st jn held hj
  exact ⟨hf.all.trans e2, hf.next.trans e3⟩

theorem step_all_next_cases {P : Nat → Nat → Prop} (s : St) (e : Ev) (st : Started)
    (same : (∀ p u c a b d jn held, e = .importDone p u c a b d → s.jImport ≠ some (jn, held)) → P s.all s.next)
    (imp : ∀ p u c a b d jn held, e = .importDone p u c a b d → s.jImport = some (jn, held) →
      P (jn + u) (if c = [] then s.next else jn + u)) :
    P (step s e st).1.all (step s e st).1.next := by
  by_cases himp : ∃ p u c a b d, e = .importDone p u c a b d
  · obtain ⟨p, u, c, a, b, d, rfl⟩ := himp
    cases hji : s.jImport with
    | none =>
      rw [MgrTags.step_importDone_none _ _ _ _ _ _ _ _ hji]
      exact same fun _ _ _ _ _ _ _ _ _ h => nomatch hji.symm.trans h
    | some q =>
      obtain ⟨jn, held⟩ := q
      obtain ⟨e1, e2⟩ := step_importDone_all_next s p u c a b d st jn held hji
      rw [e1, e2]
      exact imp p u c a b d jn held rfl hji
  · obtain ⟨e1, e2⟩ := step_all_next_other s e st fun p u c a b d h => himp ⟨p, u, c, a, b, d, h⟩
    rw [e1, e2]
    exact same fun p u c a b d _ _ h => absurd ⟨p, u, c, a, b, d, h⟩ himp

theorem next_mono (s : St) (e : Ev) (st : Started)
    (hj : ∀ jn held, s.jImport = some (jn, held) → jn = s.next) : s.next ≤ (step s e st).1.next := by
  refine step_all_next_cases (P := fun _ n => s.next ≤ n) s e st (fun _ => Nat.le_refl _)
    fun p u c a b d jn held _ hji => ?_
  have := hj jn held hji
  split <;> omega

theorem all_le_step (s : St) (e : Ev) (st : Started)
    (hj : ∀ jn held, s.jImport = some (jn, held) → jn = s.next) (hal : s.all ≤ s.next) :
    s.all ≤ (step s e st).1.all := by
  refine step_all_next_cases (P := fun a _ => s.all ≤ a) s e st (fun _ => Nat.le_refl _)
    fun p u c a b d jn held _ hji => ?_
  have := hj jn held hji
  omega

theorem mem_iff_sget {L : List (String × Tag)} (hw : (L.map (·.1)).Pairwise (· < ·)) (n : String) (t : Tag) :
    (n, t) ∈ L ↔ sget L n = some t :=
  ⟨mem_sget_of_sorted L hw n t, Pk.Mgr.sget_mem L n t⟩

theorem G_of_props {L : List (String × Tag)}
    (hrb : ∀ nt ∈ L, ∀ r ∈ nt.2.refs, ∀ tr, sget L r = some tr → nt.1 ∈ tr.refBy)
    (hre : ∀ nt ∈ L, ∀ r ∈ nt.2.refs, (sget L r).isSome = true) : G L := by
  intro n t ht r hr
  have hm := Pk.Mgr.sget_mem L n t ht
  have h1 := hre (n, t) hm r hr
  cases e : sget L r with
  | none => rw [e] at h1; cases h1
  | some tr => exact ⟨tr, rfl, hrb (n, t) hm r hr tr e⟩

theorem props_of_G {L : List (String × Tag)} (hw : (L.map (·.1)).Pairwise (· < ·)) (g : G L) :
    (∀ nt ∈ L, ∀ r ∈ nt.2.refs, ∀ tr, sget L r = some tr → nt.1 ∈ tr.refBy) ∧
    (∀ nt ∈ L, ∀ r ∈ nt.2.refs, (sget L r).isSome = true) := by
  constructor
  · intro nt hm r hr tr htr
    obtain ⟨tr', h', hn⟩ := g nt.1 nt.2 (mem_sget_of_sorted L hw nt.1 nt.2 hm) r hr
    rw [htr] at h'; cases h'; exact hn
  · intro nt hm r hr
    obtain ⟨tr', h', _⟩ := g nt.1 nt.2 (mem_sget_of_sorted L hw nt.1 nt.2 hm) r hr
    rw [h']; rfl

end Pk.Proofs.MgrReach
