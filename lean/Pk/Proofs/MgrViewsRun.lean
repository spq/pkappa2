/-
  For Pk/Props/C10Reach.lean: which file serves a stream id (newest file first) and the version it stores
  there, as functions of the served stack `withCont s.files s.idx` (the listed files with their contents, oldest
  first).  An import appends its files to the stack (`stack_importBase`), a merge replaces the run it held by its
  outputs (`stack_mergeBase`); `verIn_append` reads both off for `Newest`, stated through the version served
  (`newest_iff`).  Coverage is the same statement without versions (`covered_iff_newest`, `covered_iff_stack`).

  The model has no payload bytes; the version of the data a file stores for a stream is a GHOST
  `fver : Nat → Nat → Nat` (file ordinal → stream id → version), the current version of a stream is a
  ghost `ver : Nat → Nat`.  All lemmas here take the relation between the ghosts before and after as
  explicit hypotheses; the contracts that provide them are `C10Reach.FVerStep` and `C16Reach.VerStep`.

  Index files are immutable (`files_step`): a file that is open after a step of the service loop was open before
  with the same content, or it is one of the files the event reports (created by the import job / written by
  the merge job that completes).
-/
import Pk.Proofs.MgrViewsStep

namespace Pk.Proofs.MgrViewsRun
open Pk.Mgr Pk.Proofs.MgrLocks Pk.Proofs.MgrViews

abbrev Ver := Nat → Nat
abbrev FVer := Nat → Nat → Nat

/-- `C10.content s f = cont s.files f` -/
def cont (files : List (Nat × List Nat)) (f : Nat) : List Nat := (nget files f).getD []

/-- `View.Stream(id)` on a list of files (oldest first) given with their contents: the LAST file that
    contains the id serves it -/
def servedIn : List (Nat × List Nat) → Nat → Option Nat
  | [], _ => none
  | (o, ids) :: rest, id =>
    match servedIn rest id with
    | some g => some g
    | none => if id ∈ ids then some o else none

def withCont (files : List (Nat × List Nat)) (l : List Nat) : List (Nat × List Nat) :=
  l.map (fun o => (o, cont files o))

def verIn (fver : FVer) (l : List (Nat × List Nat)) (id : Nat) : Option Nat :=
  (servedIn l id).map (fun o => fver o id)

theorem servedIn_cons (p : Nat × List Nat) (rest : List (Nat × List Nat)) (id : Nat) :
    servedIn (p :: rest) id =
      match servedIn rest id with
      | some g => some g
      | none => if id ∈ p.2 then some p.1 else none := by
  obtain ⟨o, ids⟩ := p; rfl

theorem servedIn_eq_find (l : List (Nat × List Nat)) (id : Nat) :
    servedIn l id = (l.reverse.find? (fun p => decide (id ∈ p.2))).map (·.1) := by
  induction l with
  | nil => rfl
  | cons p l ih =>
    rw [servedIn_cons, ih, List.reverse_cons, List.find?_append]
    cases l.reverse.find? (fun p => decide (id ∈ p.2)) with
    | some q => rfl
    | none => by_cases hm : id ∈ p.2 <;> simp [hm]

theorem servedIn_append (a b : List (Nat × List Nat)) (id : Nat) :
    servedIn (a ++ b) id =
      match servedIn b id with
      | some g => some g
      | none => servedIn a id := by
  simp only [servedIn_eq_find, List.reverse_append, List.find?_append]
  cases b.reverse.find? (fun p => decide (id ∈ p.2)) <;> rfl

theorem servedIn_none_iff (l : List (Nat × List Nat)) (id : Nat) :
    servedIn l id = none ↔ ∀ p ∈ l, id ∉ p.2 := by
  simp [servedIn_eq_find]

theorem servedIn_some_mem {l : List (Nat × List Nat)} {id o : Nat} (h : servedIn l id = some o) :
    ∃ p ∈ l, p.1 = o ∧ id ∈ p.2 := by
  rw [servedIn_eq_find, Option.map_eq_some_iff] at h
  obtain ⟨p, hp, rfl⟩ := h
  exact ⟨p, List.mem_reverse.1 (List.mem_of_find?_eq_some hp), rfl, by simpa using List.find?_some hp⟩

theorem servedIn_isSome_of_mem {l : List (Nat × List Nat)} {id : Nat} {p : Nat × List Nat} (hp : p ∈ l)
    (hm : id ∈ p.2) : ∃ o, servedIn l id = some o := by
  cases h : servedIn l id with
  | some o => exact ⟨o, rfl⟩
  | none => exact absurd hm ((servedIn_none_iff l id).1 h p hp)

theorem verIn_append (fver : FVer) (a b : List (Nat × List Nat)) (id : Nat) :
    verIn fver (a ++ b) id =
      match verIn fver b id with
      | some v => some v
      | none => verIn fver a id := by
  unfold verIn
  rw [servedIn_append]
  cases servedIn b id <;> rfl

theorem verIn_none_iff (fver : FVer) (l : List (Nat × List Nat)) (id : Nat) :
    verIn fver l id = none ↔ servedIn l id = none := by
  unfold verIn; simp

theorem verIn_ext_of_bound {f1 f2 : FVer} {l1 l2 : List (Nat × List Nat)} (n : Nat)
    (h1 : ∀ p ∈ l1, ∀ x ∈ p.2, x < n) (h2 : ∀ p ∈ l2, ∀ x ∈ p.2, x < n)
    (h : ∀ id, id < n → verIn f1 l1 id = verIn f2 l2 id) (id : Nat) : verIn f1 l1 id = verIn f2 l2 id := by
  by_cases hid : id < n
  · exact h id hid
  · have hn : ∀ {f : FVer} {l : List (Nat × List Nat)}, (∀ p ∈ l, ∀ x ∈ p.2, x < n) → verIn f l id = none :=
      fun hl => (verIn_none_iff _ _ _).2 ((servedIn_none_iff _ _).2 fun p hp hm => hid (hl p hp id hm))
    rw [hn h1, hn h2]

theorem verIn_congr {fver fver' : FVer} {l : List (Nat × List Nat)} (h : ∀ p ∈ l, fver' p.1 = fver p.1)
    (id : Nat) : verIn fver' l id = verIn fver l id := by
  unfold verIn
  cases hs : servedIn l id with
  | none => rfl
  | some o =>
    obtain ⟨p, hp, h1, _⟩ := servedIn_some_mem hs
    simp only [Option.map_some, Option.some.injEq]
    rw [← h1, h p hp]

theorem withCont_append (fl : List (Nat × List Nat)) (a b : List Nat) :
    withCont fl (a ++ b) = withCont fl a ++ withCont fl b := by
  simp [withCont]

theorem withCont_congr {fl fl' : List (Nat × List Nat)} {l : List Nat} (h : ∀ f ∈ l, nget fl' f = nget fl f) :
    withCont fl' l = withCont fl l := by
  unfold withCont
  apply List.map_congr_left
  intro f hf
  simp only [cont, h f hf]

theorem mem_withCont {fl : List (Nat × List Nat)} {l : List Nat} {p : Nat × List Nat} (h : p ∈ withCont fl l) :
    p.1 ∈ l ∧ p.2 = cont fl p.1 := by
  simp only [withCont, List.mem_map] at h
  obtain ⟨o, ho, rfl⟩ := h
  exact ⟨ho, rfl⟩

theorem withCont_new {fl : List (Nat × List Nat)} {cr : List (Nat × List Nat)}
    (h : ∀ c ∈ cr, nget fl c.1 = some c.2) : withCont fl (cr.map (·.1)) = cr := by
  unfold withCont
  rw [List.map_map]
  conv => rhs; rw [← List.map_id cr]
  apply List.map_congr_left
  intro c hc
  simp only [Function.comp, cont, h c hc, Option.getD_some, id]

/-- every stream id handed out so far is served through the service list by a file that stores its
    CURRENT version -/
def Newest (s : St) (fver : FVer) (ver : Ver) : Prop :=
  ∀ id, id < s.next → ∃ f, servedIn (withCont s.files s.idx) id = some f ∧ fver f id = ver id

/-- in terms of the version served: stated so, `verIn_append` moves `Newest` along an equation between stacks -/
theorem newest_iff (s : St) (fver : FVer) (ver : Ver) :
    Newest s fver ver ↔ ∀ id, id < s.next → verIn fver (withCont s.files s.idx) id = some (ver id) := by
  refine forall_congr' fun id => imp_congr_right fun _ => ?_
  unfold verIn
  cases servedIn (withCont s.files s.idx) id <;> simp

theorem newest_serves {b s' : St} {fver : FVer} {ver : Ver} (h : Serves b s') (hn : Newest b fver ver) :
    Newest s' fver ver := by
  intro id hid
  rw [h.next] at hid
  rw [h.idx, withCont_congr h.files]
  exact hn id hid

theorem idx_not_fresh {s : St} {held : List Nat} (hh : Holds s held) {cr : List (Nat × List Nat)}
    (hfresh : ∀ o ∈ cr.map (·.1), nget s.used o = none ∧ nget s.files o = none) {f : Nat} (hf : f ∈ s.idx) :
    f ∉ cr.map (·.1) := by
  intro hmem
  have h0 := hh.lt f hf
  rw [(hfresh f hmem).1] at h0
  simp at h0

theorem withCont_base {s : St} {rel : List Nat} (hh : Holds s rel) {cr : List (Nat × List Nat)}
    (hfresh : ∀ o ∈ cr.map (·.1), nget s.used o = none ∧ nget s.files o = none) {l : List Nat} (hl : ∀ f ∈ l, f ∈ s.idx) :
    withCont (cr.foldl (fun fs (x : Nat × List Nat) => nins x.1 x.2 fs) (release s rel).files) l = withCont s.files l :=
  withCont_congr fun f hf => (nget_foldl_nins_of_not_mem _ _ _ (idx_not_fresh hh hfresh (hl f hf))).trans
    (release_nget_files_of_pos _ _ _ (hh.lt f (hl f hf)))

theorem stack_importBase (s : St) (jn : Nat) (held : List Nat) (un : Nat) (cr : List (Nat × List Nat)) (u r a : IdSet)
    (hh : Holds s held) (hnd : (cr.map (·.1)).Nodup)
    (hfresh : ∀ o ∈ cr.map (·.1), nget s.used o = none ∧ nget s.files o = none) :
    withCont (importBase s jn held un cr u r a).files (importBase s jn held un cr u r a).idx =
      withCont s.files s.idx ++ cr := by
  obtain ⟨h1, h2, _⟩ := importBase_stack s jn held un cr u r a
  rw [h1, h2, withCont_append, withCont_new fun c hc => nget_foldl_nins_of_mem _ _ hnd c hc]
  exact congrArg (· ++ cr) (withCont_base (s := { s with all := jn + un, jImport := none }) hh hfresh fun _ h => h)

/-- `hver` is what `C16Reach.VerStep` and `C10Reach.ImportStoresChanged` give together; `hf1` and `hf2` are
    `C10Reach.FVerStep` at an import completion -/
theorem newest_importBase (s : St) (jn : Nat) (held : List Nat) (un : Nat) (cr : List (Nat × List Nat))
    (u r a : IdSet) (fver fver' : FVer) (ver ver' : Ver)
    (hn : Newest s fver ver) (hh : Holds s held)
    (hnd : (cr.map (·.1)).Nodup)
    (hfresh : ∀ o ∈ cr.map (·.1), nget s.used o = none ∧ nget s.files o = none)
    (hjn : jn = s.next)
    (hnew : ∀ id, jn ≤ id → id < jn + un → ∃ c ∈ cr, id ∈ c.2)
    (hver : ∀ id, id < s.next → (∀ c ∈ cr, id ∉ c.2) → ver' id = ver id)
    (hf1 : ∀ c ∈ cr, ∀ id ∈ c.2, fver' c.1 id = ver' id)
    (hf2 : ∀ o, o ∉ cr.map (·.1) → fver' o = fver o) :
    Newest (importBase s jn held un cr u r a) fver' ver' := by
  rw [newest_iff] at hn ⊢
  intro id hid
  rw [stack_importBase s jn held un cr u r a hh hnd hfresh, verIn_append]
  cases hs : servedIn cr id with
  | some g =>
    obtain ⟨p, hp, h1, h2⟩ := servedIn_some_mem hs
    rw [show verIn fver' cr id = some (fver' g id) from congrArg (Option.map _) hs, ← h1, hf1 p hp id h2]
  | none =>
    rw [(verIn_none_iff fver' cr id).2 hs]
    have hnone := (servedIn_none_iff cr id).1 hs
    have hlt : id < s.next := by
      rcases Nat.lt_or_ge id s.next with hc | hc
      · exact hc
      · rcases (importBase_stack s jn held un cr u r a).2.2 with h | h
        · omega
        · obtain ⟨c, hc1, hc2⟩ := hnew id (by omega) (h ▸ hid)
          exact absurd hc2 (hnone c hc1)
    rw [hver id hlt hnone, ← hn id hlt]
    exact verIn_congr (fun p hp => hf2 p.1 (idx_not_fresh hh hfresh (mem_withCont hp).1)) id

theorem stack_mergeBase (s : St) (off : Nat) (held : List Nat) (mg : List (Nat × List Nat))
    (hh : Holds s held) (hnd : (mg.map (·.1)).Nodup)
    (hfresh : ∀ o ∈ mg.map (·.1), nget s.used o = none ∧ nget s.files o = none)
    (hheld : held = (s.idx.drop off).take held.length) (hne : mg ≠ []) :
    withCont (mergeBase s off held mg).files (mergeBase s off held mg).idx =
      withCont s.files (s.idx.take off) ++ (mg ++ withCont s.files (s.idx.drop (off + held.length))) ∧
    withCont s.files s.idx =
      withCont s.files (s.idx.take off) ++ (withCont s.files held ++ withCont s.files (s.idx.drop (off + held.length))) := by
  have hidx := split3 s.idx off held.length
  rw [← hheld] at hidx
  refine ⟨?_, by rw [← withCont_append, ← withCont_append, ← hidx]⟩
  unfold mergeBase mdApply; dsimp only
  rw [if_neg (by simpa using hne), ← hheld]
  simp only [release_idx]
  rw [withCont_append, withCont_append,
    withCont_base (s := { s with jMerge := none }) hh hfresh fun _ => List.mem_of_mem_take,
    withCont_base (s := { s with jMerge := none }) hh hfresh fun _ => List.mem_of_mem_drop,
    withCont_new (fun c hc => nget_foldl_nins_of_mem _ _ hnd c hc), List.append_assoc]

/-- `hkeep` is `C10Reach.MergeKeepsVersions`, `hf2` the first clause of `C10Reach.FVerStep`, `hver` is
    `C16Reach.VerStep` (a merge completion changes no stream) -/
theorem newest_mergeBase (s : St) (off : Nat) (held : List Nat) (mg : List (Nat × List Nat))
    (fver fver' : FVer) (ver ver' : Ver)
    (hn : Newest s fver ver) (hh : Holds s held)
    (hnd : (mg.map (·.1)).Nodup)
    (hfresh : ∀ o ∈ mg.map (·.1), nget s.used o = none ∧ nget s.files o = none)
    (hheld : held = (s.idx.drop off).take held.length)
    (hkeep : mg ≠ [] → ∀ id, verIn fver' mg id = verIn fver (withCont s.files held) id)
    (hf2 : ∀ o, o ∉ mg.map (·.1) → fver' o = fver o)
    (hver : ∀ id, id < s.next → ver' id = ver id) :
    Newest (mergeBase s off held mg) fver' ver' := by
  rw [newest_iff] at hn ⊢
  intro id hid
  rw [next_mergeBase] at hid
  rw [hver id hid, ← hn id hid]
  have hold : ∀ {l}, (∀ f ∈ l, f ∈ s.idx) →
      verIn fver' (withCont s.files l) id = verIn fver (withCont s.files l) id :=
    fun hl => verIn_congr (fun p hp => hf2 p.1 (idx_not_fresh hh hfresh (hl _ (mem_withCont hp).1))) id
  by_cases hne : mg = []
  · subst hne; exact hold fun _ h => h
  obtain ⟨h1, h2⟩ := stack_mergeBase s off held mg hh hnd hfresh hheld hne
  rw [h1, h2, verIn_append, verIn_append, verIn_append, verIn_append, hkeep hne id,
    hold fun _ => List.mem_of_mem_take, hold fun _ => List.mem_of_mem_drop]

theorem covered_iff_newest (s : St) : Pk.Props.C10.Covered s ↔ Newest s (fun _ _ => 0) (fun _ => 0) := by
  refine forall_congr' fun id => imp_congr_right fun _ => ⟨fun ⟨f, hf, hm⟩ => ?_, fun ⟨f, hf, _⟩ => ?_⟩
  · obtain ⟨o, ho⟩ := servedIn_isSome_of_mem (l := withCont s.files s.idx) (p := (f, cont s.files f))
      (List.mem_map.2 ⟨f, hf, rfl⟩) hm
    exact ⟨o, ho, rfl⟩
  · obtain ⟨p, hp, rfl, hm⟩ := servedIn_some_mem hf
    exact ⟨p.1, (mem_withCont hp).1, show id ∈ cont s.files p.1 from (mem_withCont hp).2 ▸ hm⟩

theorem cov_importBase (s : St) (jn : Nat) (held : List Nat) (un : Nat) (cr : List (Nat × List Nat))
    (u r a : IdSet) (hc : Pk.Props.C10.Covered s) (hh : Holds s held) (hnd : (cr.map (·.1)).Nodup)
    (hfresh : ∀ o ∈ cr.map (·.1), nget s.used o = none ∧ nget s.files o = none) (hjn : jn = s.next)
    (hnew : ∀ id, jn ≤ id → id < jn + un → ∃ c ∈ cr, id ∈ c.2) :
    Pk.Props.C10.Covered (importBase s jn held un cr u r a) :=
  (covered_iff_newest _).2 (newest_importBase s jn held un cr u r a _ _ _ _ ((covered_iff_newest s).1 hc) hh hnd hfresh
    hjn hnew (fun _ _ _ => rfl) (fun _ _ _ _ => rfl) (fun _ _ => rfl))

theorem covered_iff_stack (s : St) :
    Pk.Props.C10.Covered s ↔ ∀ id, id < s.next → ∃ p ∈ withCont s.files s.idx, id ∈ p.2 :=
  forall_congr' fun id => imp_congr_right fun _ =>
    ⟨fun ⟨f, hf, hm⟩ => ⟨(f, cont s.files f), List.mem_map.2 ⟨f, hf, rfl⟩, hm⟩,
     fun ⟨p, hp, hm⟩ => ⟨p.1, (mem_withCont hp).1, show id ∈ cont s.files p.1 from (mem_withCont hp).2 ▸ hm⟩⟩

theorem cov_mergeBase (s : St) (off : Nat) (held : List Nat) (mg : List (Nat × List Nat))
    (hc : Pk.Props.C10.Covered s) (hh : Holds s held) (hnd : (mg.map (·.1)).Nodup)
    (hfresh : ∀ o ∈ mg.map (·.1), nget s.used o = none ∧ nget s.files o = none)
    (hheld : held = (s.idx.drop off).take held.length)
    (hids : mg ≠ [] → ∀ id, (∃ f ∈ held, id ∈ (nget s.files f).getD []) → ∃ m ∈ mg, id ∈ m.2) :
    Pk.Props.C10.Covered (mergeBase s off held mg) := by
  by_cases hne : mg = []
  · subst hne; exact hc
  obtain ⟨h1, h2⟩ := stack_mergeBase s off held mg hh hnd hfresh hheld hne
  rw [covered_iff_stack] at hc ⊢
  intro id hid
  rw [next_mergeBase] at hid
  obtain ⟨p, hp, hm⟩ := hc id hid
  rw [h2] at hp
  rw [h1]
  simp only [List.mem_append] at hp ⊢
  rcases hp with hp | hp | hp
  · exact ⟨p, .inl hp, hm⟩
  · obtain ⟨m, hm1, hm2⟩ := hids hne id ⟨p.1, (mem_withCont hp).1, show id ∈ cont s.files p.1 from (mem_withCont hp).2 ▸ hm⟩
    exact ⟨m, .inr (.inl hm1), hm2⟩
  · exact ⟨p, .inr (.inr hp), hm⟩

/-- the step closes files (`release`) and, in its base, inserts the reported ones -/
theorem files_step (s : St) (e : Ev) (st : Started) (f : Nat) (ids : List Nat)
    (h : nget (step s e st).1.files f = some ids) : nget s.files f = some ids ∨ (f, ids) ∈ reported s e := by
  obtain ⟨b, mid, held, hb, hf, he, _⟩ := step_vwalk s e st
  rw [he] at h
  have h := hf.files ▸ release_open h
  have ins : ∀ {x : St} {rel : List Nat} {cr : List (Nat × List Nat)},
      nget (cr.foldl (fun fs (x : Nat × List Nat) => nins x.1 x.2 fs) (release x rel).files) f = some ids →
      x.files = s.files → nget s.files f = some ids ∨ (f, ids) ∈ cr :=
    fun h hx => (nget_foldl_nins_cases _ _ _ _ h).imp_left fun h => hx ▸ release_open h
  cases hb with
  | same | vrel => exact .inl h
  | imp hj =>
    rw [reported_importDone hj]
    rw [(importBase_stack ..).2.1] at h
    exact ins h rfl
  | @mrg m _ _ hj =>
    rw [reported_mergeDone hj]
    unfold mergeBase mdApply at h
    split at h
    · exact .inl h
    · exact ins h rfl

end Pk.Proofs.MgrViewsRun
