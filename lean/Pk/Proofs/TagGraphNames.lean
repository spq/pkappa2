/-
  The two tests the code uses to recognise a mark name agree on every string (`markPrefix_eq_isMark`):
  `markPrefix` (`strings.HasPrefix` with `"mark/"` or `"generated/"`) and `parseTagName` (cut at the first `/`).
  The model's `parseTagName` goes through the legacy `String.splitOn`, which `splitOn_slash` (SplitSlash)
  turns into `List.splitOnP`; a prefix `w/` with no `/` in `w` is then a test on the first of at least two
  pieces (`slashPrefix`).
-/
import Pk.Model.TagGraph
import Pk.Proofs.TagGraphText
import Pk.Proofs.SplitSlash

namespace Pk.Proofs.TagGraphMore
open Pk.TagGraph
open String


theorem first_unique (c : Char) : ∀ (w a t b : List Char), c ∉ w → c ∉ a → w ++ c :: t = a ++ c :: b → w = a := by
  intro w
  induction w with
  | nil =>
    intro a t b _ ha h
    cases a with
    | nil => rfl
    | cons x a =>
      simp only [List.nil_append, List.cons_append, List.cons.injEq] at h
      exact absurd (h.1 ▸ List.mem_cons_self) ha
  | cons y w ih =>
    intro a t b hw ha h
    cases a with
    | nil =>
      simp only [List.nil_append, List.cons_append, List.cons.injEq] at h
      exact absurd (h.1 ▸ List.mem_cons_self) hw
    | cons x a =>
      simp only [List.cons_append, List.cons.injEq] at h
      rw [h.1, ih a t b (fun hm => hw (List.mem_cons_of_mem _ hm)) (fun hm => ha (List.mem_cons_of_mem _ hm)) h.2]

theorem prefix_iff_first (w a b : List Char) (hw : '/' ∉ w) (ha : '/' ∉ a) :
    (w ++ ['/']).isPrefixOf (a ++ '/' :: b) = decide (a = w) := by
  rw [Bool.eq_iff_iff]
  simp only [List.isPrefixOf_iff_prefix, decide_eq_true_eq]
  constructor
  · rintro ⟨t, ht⟩
    simp only [List.append_assoc, List.cons_append, List.nil_append] at ht
    exact (first_unique '/' w a t b hw ha ht).symm
  · rintro rfl
    exact ⟨b, by simp⟩

theorem ofList_beq (a : List Char) (w : String) : (ofList a == w) = decide (a = w.toList) := by
  rw [Bool.eq_iff_iff]
  simp only [beq_iff_eq, decide_eq_true_eq]
  constructor
  · rintro rfl; simp
  · rintro rfl; simp

theorem startsWith_eq_isPrefixOf (s pat : String) : s.startsWith pat = pat.toList.isPrefixOf s.toList := by
  rw [Bool.eq_iff_iff]; simp

theorem markPrefix_eq (n : Name) :
    markPrefix n = ("mark/".toList.isPrefixOf n.toList || "generated/".toList.isPrefixOf n.toList) := by
  unfold markPrefix; rw [startsWith_eq_isPrefixOf, startsWith_eq_isPrefixOf]

theorem slashPrefix (w l : List Char) (hw : '/' ∉ w) :
    (w ++ ['/']).isPrefixOf l =
      match List.splitOnP (· == '/') l with
      | a :: _ :: _ => decide (a = w)
      | _ => false := by
  by_cases hs : '/' ∈ l
  · obtain ⟨a, b, rfl, ha⟩ := List.eq_append_cons_of_mem hs
    rw [List.splitOnP_append_cons_of_forall_mem (by intro x hx; simp; rintro rfl; exact ha hx) '/' (by simp) b]
    obtain ⟨s1, rest, hrest⟩ := List.exists_cons_of_ne_nil (List.splitOnP_ne_nil (· == '/') b)
    rw [hrest]
    exact prefix_iff_first w a b hw ha
  · rw [List.splitOnP_eq_singleton (by intro x hx; simp; rintro rfl; exact hs hx), Bool.eq_false_iff]
    intro h
    obtain ⟨t, ht⟩ := List.isPrefixOf_iff_prefix.mp h
    exact hs (ht ▸ by simp)

-- the characters of the literals, as in TagGraphText
theorem mark_chars : "mark".toList = ['m', 'a', 'r', 'k'] := String.toList_ofList
theorem generated_chars : "generated".toList = ['g', 'e', 'n', 'e', 'r', 'a', 't', 'e', 'd'] := String.toList_ofList
theorem markSlash_chars : "mark/".toList = ['m', 'a', 'r', 'k'] ++ ['/'] := String.toList_ofList
theorem generatedSlash_chars : "generated/".toList = ['g', 'e', 'n', 'e', 'r', 'a', 't', 'e', 'd'] ++ ['/'] :=
  String.toList_ofList

theorem markPrefix_eq_isMark (n : Name) : markPrefix n = (parseTagName n).2.2 := by
  rw [markPrefix_eq, markSlash_chars, generatedSlash_chars, slashPrefix _ _ (by simp), slashPrefix _ _ (by simp)]
  unfold parseTagName cutSlash
  rw [splitOn_slash]
  rcases List.splitOnP (· == '/') n.toList with _ | ⟨a, _ | ⟨b, l⟩⟩
  · rfl
  · rfl
  · simp only [List.map_cons, ← mark_chars, ← generated_chars, ← ofList_beq]
    generalize (ofList a == "mark" || ofList a == "generated") = X
    split
    · rename_i h
      cases X
      · rfl
      · simp at h
    · rfl
theorem parseTagName_isMark (n : Name) :
    (parseTagName n).2.2 = ((parseTagName n).1 == "mark" || (parseTagName n).1 == "generated") := by
  unfold parseTagName
  cases cutSlash n with
  | none => simp
  | some ts =>
    obtain ⟨typ, sub⟩ := ts
    simp only
    split
    · simp
    · rfl

end Pk.Proofs.TagGraphMore
