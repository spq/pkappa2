/-
  Two concurrent uploads of one name under the expected facts (O_CREATE|O_EXCL, guard, remove on
  failed copy, one ImportPcaps), property C19.  The invariant `Inv` rests on the `owner` tag of the
  model's files: a request that `holds` (it got past O_EXCL and has not removed the file) finds its own
  id at the path, and one file has one owner (`Inv.excl`).
-/
import Pk.Model.Upload
import Pk.Proofs.Upload

namespace Pk.Upload
open Pk.Path

/-- the request currently "has" the file it created -/
def holds (r : Req) : Bool :=
  match r.pc with
  | .start => false
  | .done => r.code = 200
  | _ => true

/-- ... and the file holds the complete body -/
def complete (r : Req) : Bool :=
  match r.pc with
  | .copied | .closed => true
  | .done => r.code = 200
  | _ => false

def succ (r : Req) : Nat := if r.pc = .done ∧ r.code = 200 then 1 else 0

def Own (c : Cfg) (d0 : Disk) (w : World) (r : Req) : Prop :=
  (holds r = true → ∃ f, w.disk.lookup (c.full r.param) = some (.file f) ∧ f.owner = r.id) ∧
  (holds r = true → d0.lookup (c.full r.param) = none) ∧
  (complete r = true → w.disk.lookup (c.full r.param) = some (.file ⟨r.body, none, r.id⟩))

structure Inv (c : Cfg) (d0 : Disk) (q0 : List P) (n : P) (w : World) (a b : Req) : Prop where
  pa : a.param = n
  pb : b.param = n
  ne : a.id ≠ b.id
  oa : Own c d0 w a
  ob : Own c d0 w b
  frame : ∀ k, k ≠ c.full n → w.disk.lookup k = d0.lookup k
  absent : holds a = false → holds b = false → w.disk.lookup (c.full n) = d0.lookup (c.full n)
  queue : w.queue = q0 ++ List.replicate (succ a + succ b) n

theorem Inv.symm {c d0 q0 n w a b} (h : Inv c d0 q0 n w a b) : Inv c d0 q0 n w b a :=
  { pa := h.pb, pb := h.pa, ne := fun e => h.ne e.symm, oa := h.ob, ob := h.oa, frame := h.frame,
    absent := fun hb ha => h.absent ha hb, queue := by rw [Nat.add_comm]; exact h.queue }

theorem Inv.excl {c d0 q0 n w a b} (h : Inv c d0 q0 n w a b) : ¬ (holds a = true ∧ holds b = true) := by
  intro ⟨ha, hb⟩
  obtain ⟨fa, h1, h2⟩ := h.oa.1 ha
  obtain ⟨fb, h3, h4⟩ := h.ob.1 hb
  rw [h.pa] at h1; rw [h.pb] at h3
  rw [h1] at h3
  injection h3 with h3; injection h3 with h3
  subst h3
  exact h.ne (h2.symm.trans h4)

theorem Inv.stored {c d0 q0 n w a b} (h : Inv c d0 q0 n w a b) {e : Entry} (he : d0.lookup (c.full n) = some e) :
    holds a = false ∧ holds b = false ∧ w.disk.lookup (c.full n) = some e ∧ w.queue = q0 := by
  have na : holds a = false := Bool.eq_false_iff.2 fun ha => by
    have := h.oa.2.1 ha; rw [h.pa, he] at this; cases this
  have nb : holds b = false := Bool.eq_false_iff.2 fun hb => by
    have := h.ob.2.1 hb; rw [h.pb, he] at this; cases this
  have s0 : ∀ r : Req, holds r = false → succ r = 0 := fun r hr => by
    unfold succ; split
    · rename_i hc; simp [holds, hc.1, hc.2] at hr
    · rfl
  refine ⟨na, nb, (h.absent na nb).trans he, ?_⟩
  simpa [s0 a na, s0 b nb] using h.queue

theorem complete_holds (r : Req) (h : complete r = true) : holds r = true := by
  unfold complete at h; unfold holds
  cases hpc : r.pc <;> simp_all

theorem Own.of_not_holds {c d0 w r} (h : holds r = false) : Own c d0 w r :=
  ⟨fun hc => absurd hc (by simp [h]), fun hc => absurd hc (by simp [h]),
   fun hc => absurd (complete_holds r hc) (by simp [h])⟩

theorem Inv.step_left {c d0 q0 n w a b} (hf : c.facts = Facts.expected) (h : Inv c d0 q0 n w a b) :
    Inv c d0 q0 n (step c w a).1 (step c w a).2 b := by
  have hex := h.excl
  obtain ⟨pa, pb, ne, ⟨oa1, oa2, oa3⟩, ob, frame, absent, queue⟩ := h
  have hfull : c.full a.param = c.full n := by rw [pa]
  -- a step keeps the identity of the request and every entry but that of the target path
  suffices hs : Own c d0 (step c w a).1 (step c w a).2 ∧ Own c d0 (step c w a).1 b ∧
      (holds (step c w a).2 = false → holds b = false →
        (step c w a).1.disk.lookup (c.full n) = d0.lookup (c.full n)) ∧
      (step c w a).1.queue = q0 ++ List.replicate (succ (step c w a).2 + succ b) n from
    ⟨(step_param c w a).trans pa, pb, by rw [step_id]; exact ne, hs.1, hs.2.1,
      fun k hk => (step_frame c w a k (by rw [hfull]; exact hk)).trans (frame k hk), hs.2.2.1, hs.2.2.2⟩
  have hnb : holds a = true → holds b = false := fun ha => Bool.eq_false_iff.2 fun hb => hex ⟨ha, hb⟩
  cases hpc : a.pc
  case done =>
    rw [step_done w hpc]
    exact ⟨⟨oa1, oa2, oa3⟩, ob, absent, queue⟩
  case copyFailed =>
    rw [step_copyFailed w hpc]
    have hha : holds a = true := by simp [holds, hpc]
    exact ⟨⟨fun _ => oa1 hha, fun _ => oa2 hha, fun hc => by simp [complete] at hc⟩, ob,
      fun hc => by simp [holds] at hc, by simpa [succ, hpc] using queue⟩
  case copied =>
    rw [step_copied w hpc]
    have hha : holds a = true := by simp [holds, hpc]
    exact ⟨⟨fun _ => oa1 hha, fun _ => oa2 hha, fun _ => oa3 (by simp [complete, hpc])⟩, ob,
      fun hc => by simp [holds] at hc, by simpa [succ, hpc] using queue⟩
  case closed =>
    rw [step_closed w hf hpc]
    have hha : holds a = true := by simp [holds, hpc]
    refine ⟨⟨fun _ => oa1 hha, fun _ => oa2 hha, fun _ => oa3 (by simp [complete, hpc])⟩, ob,
      fun hc => by simp [holds] at hc, ?_⟩
    have h1 : succ ({ a with pc := .done, code := 200 } : Req) = 1 := by simp [succ]
    have h0 : succ a = 0 := by simp [succ, hpc]
    rw [h0] at queue
    simp only [h1, queue]
    rw [pa, Nat.zero_add, Nat.add_comm 1, List.replicate_succ', List.append_assoc]
  case cfClosed =>
    have hha : holds a = true := by simp [holds, hpc]
    obtain ⟨f, hl, _⟩ := oa1 hha
    rw [step_cfClosed w hf hpc hl]
    refine ⟨Own.of_not_holds (by simp [holds]), Own.of_not_holds (hnb hha), fun _ _ => ?_,
      by simpa [succ, hpc] using queue⟩
    simp only []
    rw [hfull, lookup_erase_self, ← hfull, oa2 hha]
  case opened =>
    have hha : holds a = true := by simp [holds, hpc]
    obtain ⟨f, hl, hown⟩ := oa1 hha
    rw [step_opened w hpc hl]
    refine ⟨⟨fun _ => ⟨_, lookup_insert_self _ _ _, hown⟩, fun _ => oa2 hha, fun hc => ?_⟩,
      Own.of_not_holds (hnb hha), fun hc => ?_, ?_⟩
    · simp only []
      rw [lookup_insert_self]
      cases hfa : a.failAt with
      | none => simp [← hown]
      | some k => simp [complete, hfa] at hc
    · cases hfa : a.failAt <;> simp [holds, hfa] at hc
    · have : succ ({ a with pc := if a.failAt.isSome then Pc.copyFailed else Pc.copied } : Req) = 0 := by
        cases hfa : a.failAt <;> simp [succ]
      rw [this]
      simpa [succ, hpc] using queue
  case start =>
    have hna : holds a = false := by simp [holds, hpc]
    rcases step_start w hf hpc with ⟨code, hcode, he, _⟩ | ⟨hl, he⟩ <;> rw [he]
    · exact ⟨Own.of_not_holds (by simp [holds, finish, hcode]), ob, fun _ hb => absent hna hb,
        by simpa [succ, finish, hcode, hpc] using queue⟩
    · -- the path is free, so `b` does not have the file, and it was free at the beginning
      have hnb : holds b = false := Bool.eq_false_iff.2 fun hb => by
        obtain ⟨f, h1, _⟩ := ob.1 hb
        rw [pb, ← hfull, hl] at h1; cases h1
      have hd0 : d0.lookup (c.full a.param) = none := by
        rw [hfull, ← absent hna hnb, ← hfull]; exact hl
      exact ⟨⟨fun _ => ⟨_, lookup_insert_self _ _ _, rfl⟩, fun _ => hd0, fun hc => by simp [complete] at hc⟩,
        Own.of_not_holds hnb, fun hc => by simp [holds] at hc, by simpa [succ, hpc] using queue⟩

def SameReq (r r0 : Req) : Prop := r.id = r0.id ∧ r.param = r0.param ∧ r.body = r0.body ∧ r.failAt = r0.failAt

theorem step_same (c : Cfg) (w : World) (r : Req) : SameReq (step c w r).2 r := by
  obtain ⟨_, _, h⟩ := (step_spec c w r).1
  rw [h]; exact ⟨rfl, rfl, rfl, rfl⟩

theorem SameReq.trans {a b c : Req} (h1 : SameReq a b) (h2 : SameReq b c) : SameReq a c :=
  ⟨h1.1.trans h2.1, h1.2.1.trans h2.2.1, h1.2.2.1.trans h2.2.2.1, h1.2.2.2.trans h2.2.2.2⟩

/-! Without copy failures and with an acceptable fresh name, a request only fails because the other one
    has the file. -/

def okPc (r : Req) : Prop := r.pc ≠ .copyFailed ∧ r.pc ≠ .cfClosed

structure Live (c : Cfg) (d0 : Disk) (n : P) (a b : Req) : Prop where
  fa : a.failAt = none
  fb : b.failAt = none
  ka : okPc a
  kb : okPc b
  guard : n = base n
  sys : sysRejects (c.full n) = false
  fresh : d0.lookup (c.full n) = none
  la : a.pc = .done → a.code ≠ 200 → (a.code = 500 ∧ holds b = true)
  lb : b.pc = .done → b.code ≠ 200 → (b.code = 500 ∧ holds a = true)

theorem Live.symm {c d0 n a b} (h : Live c d0 n a b) : Live c d0 n b a :=
  { fa := h.fb, fb := h.fa, ka := h.kb, kb := h.ka, guard := h.guard, sys := h.sys, fresh := h.fresh,
    la := h.lb, lb := h.la }

theorem Live.step_left {c d0 q0 n w a b} (hf : c.facts = Facts.expected) (hi : Inv c d0 q0 n w a b)
    (h : Live c d0 n a b) : Live c d0 n (step c w a).2 b := by
  obtain ⟨fa, fb, ka, kb, guard, sys, fresh, la, lb⟩ := h
  have pa := hi.pa
  -- a step that leaves `a` on its way with the file
  have adv : ∀ a' : Req, a'.failAt = none → okPc a' → (a'.pc = .done → a'.code = 200) → holds a' = true →
      Live c d0 n a' b :=
    fun a' h1 h2 h3 h4 => ⟨h1, fb, h2, kb, guard, sys, fresh, fun h5 h6 => absurd (h3 h5) h6,
      fun h5 h6 => ⟨(lb h5 h6).1, h4⟩⟩
  cases hpc : a.pc
  case done =>
    rw [step_done w hpc]; exact ⟨fa, fb, ka, kb, guard, sys, fresh, la, lb⟩
  case copyFailed => exact absurd hpc ka.1
  case cfClosed => exact absurd hpc ka.2
  case copied =>
    rw [step_copied w hpc]
    exact adv _ fa ⟨by simp, by simp⟩ (by simp) (by simp [holds])
  case closed =>
    rw [step_closed w hf hpc]
    exact adv _ fa ⟨by simp, by simp⟩ (by simp) (by simp [holds])
  case opened =>
    have : (step c w a).2 = { a with pc := .copied } := by
      simp [step, hpc, fa]
    rw [this]
    exact adv _ fa ⟨by simp, by simp⟩ (by simp) (by simp [holds])
  case start =>
    have hna : holds a = false := by simp [holds, hpc]
    rcases step_start w hf hpc with ⟨code, _, he, hx⟩ | ⟨_, he⟩ <;> rw [he]
    · obtain ⟨h500, e, hl⟩ := hx (pa ▸ guard) (pa ▸ sys)
      have hb : holds b = true := by
        cases hb : holds b
        · have := hi.absent hna hb
          rw [← pa, hl, pa, fresh] at this; cases this
        · rfl
      refine ⟨fa, fb, ⟨by simp [finish], by simp [finish]⟩, kb, guard, sys, fresh, ?_, ?_⟩
      · intro _ _; exact ⟨h500, hb⟩
      · intro h1 h2
        simp [holds, h1, h2] at hb
    · exact adv _ fa ⟨by simp, by simp⟩ (by simp) (by simp [holds])

theorem run_two {c : Cfg} {d0 : Disk} {q0 : List P} {n : P} (hf : c.facts = Facts.expected)
    (sched : List Nat) (w : World) (a b a0 b0 : Req)
    (hi : Inv c d0 q0 n w a b) (sa : SameReq a a0) (sb : SameReq b b0) :
    ∃ w' a' b', Sys.run c ⟨w, [a, b]⟩ sched = ⟨w', [a', b']⟩ ∧ Inv c d0 q0 n w' a' b' ∧
      SameReq a' a0 ∧ SameReq b' b0 ∧ (Live c d0 n a b → Live c d0 n a' b') := by
  induction sched generalizing w a b with
  | nil => exact ⟨w, a, b, rfl, hi, sa, sb, id⟩
  | cons i t ih =>
    simp only [Sys.run, List.foldl_cons]
    match i with
    | 0 =>
      have hs : Sys.step c ⟨w, [a, b]⟩ 0 = ⟨(step c w a).1, [(step c w a).2, b]⟩ := by
        simp [Sys.step, setAt]
      rw [hs]
      obtain ⟨w', a', b', h1, h2, h3, h4, h5⟩ :=
        ih (step c w a).1 (step c w a).2 b (Inv.step_left hf hi) ((step_same c w a).trans sa) sb
      exact ⟨w', a', b', h1, h2, h3, h4, fun hl => h5 (Live.step_left hf hi hl)⟩
    | 1 =>
      have hs : Sys.step c ⟨w, [a, b]⟩ 1 = ⟨(step c w b).1, [a, (step c w b).2]⟩ := by
        simp [Sys.step, setAt]
      rw [hs]
      obtain ⟨w', a', b', h1, h2, h3, h4, h5⟩ :=
        ih (step c w b).1 a (step c w b).2 (Inv.step_left hf hi.symm).symm sa ((step_same c w b).trans sb)
      exact ⟨w', a', b', h1, h2, h3, h4, fun hl => h5 (Live.step_left hf hi.symm hl.symm).symm⟩
    | j + 2 =>
      have hs : Sys.step c ⟨w, [a, b]⟩ (j + 2) = ⟨w, [a, b]⟩ := by
        simp [Sys.step]
      rw [hs]
      exact ih w a b hi sa sb

theorem run_two_start {c : Cfg} (hf : c.facts = Facts.expected) (w0 : World) (n : P)
    (id1 id2 b1 b2 : Nat) (f1 f2 : Option Nat) (hid : id1 ≠ id2) (sched : List Nat) :
    ∃ w a b, Sys.run c ⟨w0, [⟨id1, n, b1, f1, .start, 0⟩, ⟨id2, n, b2, f2, .start, 0⟩]⟩ sched = ⟨w, [a, b]⟩ ∧
      Inv c w0.disk w0.queue n w a b ∧
      (complete a = true → w.disk.lookup (c.full n) = some (.file ⟨b1, none, id1⟩)) ∧
      (complete b = true → w.disk.lookup (c.full n) = some (.file ⟨b2, none, id2⟩)) ∧
      (f1 = none → f2 = none → n = base n → sysRejects (c.full n) = false →
        w0.disk.lookup (c.full n) = none → Live c w0.disk n a b) := by
  have hi : Inv c w0.disk w0.queue n w0 ⟨id1, n, b1, f1, .start, 0⟩ ⟨id2, n, b2, f2, .start, 0⟩ := by
    refine ⟨rfl, rfl, hid, ⟨?_, ?_, ?_⟩, ⟨?_, ?_, ?_⟩, fun _ _ => rfl, fun _ _ => rfl, by simp [succ]⟩ <;>
      (intro h; simp [holds, complete] at h)
  obtain ⟨w, a, b, hrun, inv, sa, sb, live⟩ := run_two hf sched w0 _ _ _ _ hi ⟨rfl, rfl, rfl, rfl⟩ ⟨rfl, rfl, rfl, rfl⟩
  refine ⟨w, a, b, hrun, inv, fun h => ?_, fun h => ?_, fun h1 h2 hg hsys hfresh => ?_⟩
  · have := inv.oa.2.2 h
    rwa [sa.2.1, sa.2.2.1, sa.1] at this
  · have := inv.ob.2.2 h
    rwa [sb.2.1, sb.2.2.1, sb.1] at this
  · exact live ⟨h1, h2, ⟨by simp, by simp⟩, ⟨by simp, by simp⟩, hg, hsys, hfresh, by simp, by simp⟩

end Pk.Upload
