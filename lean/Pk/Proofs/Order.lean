/-
  Strict weak orders on `Bool`-valued comparators (`SWO`): closed under `comap`, `flip` and the lexicographic product
  (`lex`, and `lex_of_key` for the way the models write it); `sort.Slice` with such a comparator sorts
  (`pairwise_mergeSort`).  `<` on `Nat` and `String` are instances; those of the models' own orders stand with the
  models' lemmas (`bytesLt_swo`, `blt_swo`, `lexLt_swo`, `pktLt_swo`).  No model is imported here: the name `Bytes`
  means different types in different models, and a module that brings `Pk.Bytes` into the import or reassembly
  tree changes what `Bytes` resolves to in the statements there.
-/

namespace Pk.Proofs.Search

structure SWO {α : Type} (r : α → α → Bool) : Prop where
  irrefl : ∀ a, r a a = false
  trans : ∀ a b c, r a b = true → r b c = true → r a c = true
  incomp : ∀ a b c, r a b = false → r b c = false → r a c = false

namespace SWO
variable {α : Type} {r : α → α → Bool}

theorem asymm (h : SWO r) : ∀ a b, r a b = true → r b a = false := by
  intro a b hab
  cases hba : r b a with
  | false => rfl
  | true => have := h.trans a b a hab hba; rw [h.irrefl] at this; cases this

theorem lt_of_lt_of_le (h : SWO r) : ∀ a b c, r a b = true → r c b = false → r a c = true := by
  intro a b c hab hcb
  cases hac : r a c with
  | true => rfl
  | false => have := h.incomp a c b hac hcb; rw [hab] at this; cases this

theorem lt_of_le_of_lt (h : SWO r) : ∀ a b c, r b a = false → r b c = true → r a c = true := by
  intro a b c hba hbc
  cases hac : r a c with
  | true => rfl
  | false => have := h.incomp b a c hba hac; rw [hbc] at this; cases this

theorem flip (h : SWO r) : SWO (fun a b => r b a) where
  irrefl := fun a => h.irrefl a
  trans := fun a b c hab hbc => h.trans c b a hbc hab
  incomp := fun a b c hab hbc => h.incomp c b a hbc hab

theorem comap {β : Type} (h : SWO r) (g : β → α) : SWO (fun a b => r (g a) (g b)) where
  irrefl := fun a => h.irrefl (g a)
  trans := fun a b c => h.trans (g a) (g b) (g c)
  incomp := fun a b c => h.incomp (g a) (g b) (g c)

def lex (r s : α → α → Bool) (a b : α) : Bool :=
  if r a b then true else if r b a then false else s a b

theorem lex_true {s : α → α → Bool} {a b : α} :
    lex r s a b = true ↔ r a b = true ∨ (r a b = false ∧ r b a = false ∧ s a b = true) := by
  unfold lex; cases r a b <;> cases r b a <;> simp

theorem lex_false {s : α → α → Bool} {a b : α} :
    lex r s a b = false ↔ r a b = false ∧ (r b a = true ∨ s a b = false) := by
  unfold lex; cases r a b <;> cases r b a <;> simp

theorem lex_swo {s : α → α → Bool} (hr : SWO r) (hs : SWO s) : SWO (lex r s) where
  irrefl := by intro a; simp [lex, hr.irrefl, hs.irrefl]
  trans := by
    intro a b c hab hbc
    rw [lex_true] at hab hbc ⊢
    rcases hab with h1 | ⟨h1, h1', h1s⟩ <;> rcases hbc with h2 | ⟨h2, h2', h2s⟩
    · exact .inl (hr.trans a b c h1 h2)
    · exact .inl (hr.lt_of_lt_of_le a b c h1 h2')
    · exact .inl (hr.lt_of_le_of_lt a b c h1' h2)
    · exact .inr ⟨hr.incomp a b c h1 h2, hr.incomp c b a h2' h1', hs.trans a b c h1s h2s⟩
  incomp := by
    intro a b c hab hbc
    rw [lex_false] at hab hbc ⊢
    obtain ⟨h1, h1'⟩ := hab
    obtain ⟨h2, h2'⟩ := hbc
    refine ⟨hr.incomp a b c h1 h2, ?_⟩
    rcases h1' with h | h
    · exact .inl (hr.lt_of_le_of_lt c b a h2 h)
    · rcases h2' with h' | h'
      · exact .inl (hr.lt_of_lt_of_le c b a h' h1)
      · exact .inr (hs.incomp a b c h h')

/-- the form the models write a lexicographic comparison in: "if the keys differ, compare the keys" -/
theorem lex_of_key {κ : Type} [DecidableEq κ] (key : α → κ) (rk : κ → κ → Bool) (s : α → α → Bool)
    (hk : SWO rk) (htot : ∀ x y, x ≠ y → rk x y = true ∨ rk y x = true) :
    (fun a b => if key a ≠ key b then rk (key a) (key b) else s a b) = lex (fun a b => rk (key a) (key b)) s := by
  funext a b
  unfold lex
  by_cases h : key a = key b
  · simp [h, hk.irrefl]
  · rcases htot _ _ h with h1 | h1
    · simp [h, h1]
    · simp [h, h1, hk.asymm _ _ h1]

/-- `sort.Slice`/`sort.SliceStable` with a strict weak order -/
theorem pairwise_mergeSort (h : SWO r) (l : List α) :
    (l.mergeSort (fun a b => !r b a)).Pairwise (fun a b => r b a = false) := by
  have := List.pairwise_mergeSort (le := fun a b => !r b a)
    (fun x y z h1 h2 => by
      simp only [Bool.not_eq_true'] at h1 h2 ⊢
      exact h.incomp z y x h2 h1)
    (fun x y => by
      cases hr : r y x with
      | false => simp
      | true => simp [h.asymm y x hr])
    l
  exact this.imp (by intro x y h; simpa using h)

end SWO

theorem natLt_swo : SWO (fun a b : Nat => decide (a < b)) where
  irrefl := by intro a; simp
  trans := by intro a b c; simp; omega
  incomp := by intro a b c; simp; omega

theorem strLt_swo : SWO (fun a b : String => decide (a < b)) where
  irrefl := by intro a; simp [String.lt_irrefl]
  trans := by intro a b c; simp only [decide_eq_true_eq]; exact String.lt_trans
  incomp := by
    intro a b c
    simp only [decide_eq_false_iff_not, String.not_lt]
    exact fun h1 h2 => String.le_trans h2 h1

end Pk.Proofs.Search
