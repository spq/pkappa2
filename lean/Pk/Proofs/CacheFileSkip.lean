/-
  C15: `skipStream` (the parser the load scan and the compaction use to find the end of a record body)
  (A) stops exactly at the end of every written record body: its size loop totals what the size loop of `data`
      lists (`skipSizes_of_readSizes`), so `sizes_read` serves both readers,
  (B) is monotone: bytes appended after a successfully parsed body do not change the parse, hence no
      proper prefix of a complete body parses.
-/
import Pk.Model.CacheFile
import Pk.Proofs.CacheFile
import Pk.Proofs.CacheFileVarBytes
import Pk.Proofs.CacheFileCts

namespace Pk.Proofs.CacheFile
open Pk.CacheFile

/-- the size loop of `skipStream` totals what the size loop of `data` lists (`z`: zeros seen, `z == 1`: `prevZero`) -/
theorem skipSizes_of_readSizes : ∀ (f : Nat) (bs : List Nat) (z : Nat) (dir : Bool) (ds : List (Bool × Nat))
    (rest : List Nat) (d c : Nat), z < 2 → readSizes f bs (z == 1) dir = some (ds, rest) →
    skipSizes (f + 1) bs z d c
      = some (d + (sumDir ds false + sumDir ds true), c + ds.countP (fun e => e.2 ≠ 0), rest) := by
  intro f
  induction f with
  | zero => intro bs z dir ds rest d c _ h; cases h
  | succ f ih =>
    intro bs z dir ds rest d c hz h
    rw [readSizes] at h
    rw [skipSizes, if_neg (Nat.not_le.mpr hz)]
    split at h
    · cases h
    · rename_i sz r hr
      split at h
      · rename_i h0
        cases h
        rw [if_neg (fun h => h h0.1), eq_of_beq h0.2, skipSizes, if_pos (Nat.le_refl 2)]
        rfl
      · rename_i h0
        obtain ⟨⟨ds', r'⟩, h', e⟩ := Option.map_eq_some_iff.mp h
        cases e
        have hs : sumDir ((dir, sz) :: ds') false + sumDir ((dir, sz) :: ds') true
            = sz + (sumDir ds' false + sumDir ds' true) := by
          rw [sumDir_cons, sumDir_cons]
          cases dir <;> simp only [Bool.false_eq_true, Bool.true_eq_false, if_true, if_false] <;> omega
        rw [hs]
        by_cases hsz : sz = 0
        · subst hsz
          obtain rfl : z = 0 := by
            have : z ≠ 1 := fun e => h0 ⟨rfl, beq_iff_eq.mpr e⟩
            omega
          rw [if_neg (fun h => h rfl), Nat.zero_add, Nat.zero_add, List.countP_cons_of_neg (by simp)]
          exact ih r 1 _ ds' _ d c (by decide) h'
        · rw [beq_eq_false_iff_ne.mpr hsz] at h'
          rw [if_pos hsz, List.countP_cons_of_pos (by simpa using hsz), ← Nat.add_assoc d,
            Nat.add_comm (List.countP _ _) 1, ← Nat.add_assoc c]
          exact ih r 0 _ ds' _ _ _ (by decide) h'

theorem skip_times (rest : List Nat) : ∀ (cs : List Chunk) (last : Int),
    skipVarInts cs.length (encodeTimes cs last ++ rest) = some rest := by
  intro cs
  induction cs with
  | nil => intro last; simp [encodeTimes, skipVarInts]
  | cons c cs ih =>
    intro last
    simp only [List.length_cons, encodeTimes, skipVarInts, List.append_assoc,
      varint_roundtrip _ _ (toU64_lt _)]
    exact ih _

theorem skip_cts (rest : List Nat) : ∀ (m : List (List Nat × List Nat)) (fuel : Nat),
    CtsOk m → m.length < fuel → skipCts fuel (encodeCts m ++ rest) = some rest := by
  intro m
  induction m with
  | nil =>
    intro fuel _ hf
    obtain ⟨f, rfl⟩ := Nat.exists_eq_add_one_of_ne_zero (Nat.ne_zero_of_lt hf)
    simp [encodeCts, skipCts, readVarBytes_zero]
  | cons e m ih =>
    intro fuel hok hf
    obtain ⟨h1, h2, h3⟩ := hok e (by simp)
    simp only [List.length_cons] at hf
    obtain ⟨f, rfl⟩ := Nat.exists_eq_add_one_of_ne_zero (Nat.ne_zero_of_lt hf)
    simp only [encodeCts_cons, List.append_assoc, skipCts, varbytes_rt _ _ h2, h1, if_false,
      readString_rt _ _ h3]
    exact ih f (fun x hx => hok x (by simp [hx])) (by omega)

theorem skip_encodeBody (cs : List Chunk) (t0 : Int) (rest : List Nat)
    (hok : ∀ c ∈ cs, ChunkOk c ∧ c.ctype.length < 2 ^ 64) :
    skipStream (encodeBody cs t0 ++ rest) = some rest := by
  have hok1 : ∀ c ∈ cs, ChunkOk c := fun c hc => (hok c hc).1
  unfold skipStream encodeBody
  simp only [List.append_assoc]
  rw [skipSizes_of_readSizes _ _ 0 false _ _ 0 0 (by decide)
    (sizes_read _ cs false _ hok1 (by simp only [List.length_append]; omega))]
  simp only [Nat.zero_add, sumDir_entries, countP_entries cs _ _ hok1]
  rw [if_neg (by simp only [List.length_append]; omega)]
  rw [← List.append_assoc (dataOf cs false), ← List.length_append, List.drop_left, skip_times]
  simp only
  have hlen := encodeCts_length (collectCts cs 0 [])
  exact skip_cts rest _ _
    (collectCts_ok cs 0 [] (fun _ he => nomatch he) fun c hc => (hok c hc).2)
    (by simp only [List.length_append]; omega)

theorem skip_encodeRecord (cs : List Chunk) (t0 : Int) (rest : List Nat)
    (hok : ∀ c ∈ cs, c.content.length < 2 ^ 64 ∧ c.ctype.length < 2 ^ 64) :
    skipStream (encodeRecord cs t0 ++ rest) = some rest := by
  unfold encodeRecord
  apply skip_encodeBody
  intro c hc
  obtain ⟨hmem, hne⟩ := mem_dropEmpty.mp hc
  exact ⟨⟨hne, (hok c hmem).1⟩, (hok c hmem).2⟩

theorem readVarIntAux_append (q : List Nat) : ∀ (bs : List Nat) (acc v : Nat) (r : List Nat),
    readVarIntAux bs acc = some (v, r) → readVarIntAux (bs ++ q) acc = some (v, r ++ q) := by
  intro bs
  induction bs with
  | nil => intro acc v r h; cases h
  | cons b bs ih =>
    intro acc v r h
    simp only [List.cons_append, readVarIntAux] at h ⊢
    by_cases hb : b < 128
    · rw [if_pos hb] at h ⊢; cases h; rfl
    · rw [if_neg hb] at h ⊢; exact ih _ _ _ h

theorem readVarInt_append (bs q : List Nat) (v : Nat) (r : List Nat)
    (h : readVarInt bs = some (v, r)) : readVarInt (bs ++ q) = some (v, r ++ q) :=
  readVarIntAux_append q bs 0 v r h

theorem readVarBytesAux_append (q : List Nat) : ∀ (bs : List Nat) (buf filled : Nat) (v r : List Nat),
    readVarBytesAux bs buf filled = some (v, r) → readVarBytesAux (bs ++ q) buf filled = some (v, r ++ q) := by
  intro bs
  induction bs with
  | nil => intro buf filled v r h; cases h
  | cons b bs ih =>
    intro buf filled v r h
    simp only [List.cons_append, readVarBytesAux] at h ⊢
    by_cases hf : filled + 7 ≥ 8
    · rw [if_pos hf] at h ⊢
      by_cases hb : b < 128
      · rw [if_pos hb] at h ⊢; cases h; rfl
      · rw [if_neg hb] at h ⊢
        obtain ⟨⟨x1, x2⟩, hr, h⟩ := Option.map_eq_some_iff.mp h
        cases h
        rw [ih _ _ _ _ hr]; rfl
    · rw [if_neg hf] at h ⊢
      by_cases hb : b < 128
      · rw [if_pos hb] at h ⊢; cases h; rfl
      · rw [if_neg hb] at h ⊢; exact ih _ _ _ _ h

theorem readVarBytes_append (bs q v r : List Nat)
    (h : readVarBytes bs = some (v, r)) : readVarBytes (bs ++ q) = some (v, r ++ q) :=
  readVarBytesAux_append q bs 0 0 v r h

theorem readString_append (bs q v r : List Nat)
    (h : readString bs = some (v, r)) : readString (bs ++ q) = some (v, r ++ q) := by
  unfold readString at h ⊢
  split at h
  · cases h
  · rename_i len rest hr
    rw [readVarInt_append _ q _ _ hr]
    dsimp only
    split at h
    · cases h
    · rename_i hl
      cases h
      rw [if_neg (by rw [List.length_append]; omega), List.take_append_of_le_length (by omega),
        List.drop_append_of_le_length (by omega)]

theorem skipSizes_append (q : List Nat) : ∀ (f : Nat) (bs : List Nat) (z d n d' n' : Nat) (r : List Nat),
    skipSizes f bs z d n = some (d', n', r) →
    ∀ f', f ≤ f' → skipSizes f' (bs ++ q) z d n = some (d', n', r ++ q) := by
  intro f
  induction f with
  | zero => intro bs z d n d' n' r h; cases h
  | succ f ih =>
    intro bs z d n d' n' r h f' hf
    obtain ⟨g, rfl⟩ : ∃ g, f' = g + 1 := ⟨f' - 1, by omega⟩
    rw [skipSizes] at h ⊢
    by_cases hz : z ≥ 2
    · rw [if_pos hz] at h ⊢; cases h; rfl
    · rw [if_neg hz] at h ⊢
      split at h
      · cases h
      · rename_i sz rest hr
        rw [readVarInt_append _ q _ _ hr]
        dsimp only
        split at h
        · rename_i hs; rw [if_pos hs]; exact ih _ _ _ _ _ _ _ h g (by omega)
        · rename_i hs; rw [if_neg hs]; exact ih _ _ _ _ _ _ _ h g (by omega)

theorem skipVarInts_append (q : List Nat) : ∀ (n : Nat) (bs r : List Nat),
    skipVarInts n bs = some r → skipVarInts n (bs ++ q) = some (r ++ q) := by
  intro n
  induction n with
  | zero => intro bs r h; cases h; rfl
  | succ n ih =>
    intro bs r h
    rw [skipVarInts] at h ⊢
    split at h
    · cases h
    · rename_i v rest hr
      rw [readVarInt_append _ q _ _ hr]
      exact ih _ _ h

theorem skipCts_append (q : List Nat) : ∀ (f : Nat) (bs r : List Nat),
    skipCts f bs = some r → ∀ f', f ≤ f' → skipCts f' (bs ++ q) = some (r ++ q) := by
  intro f
  induction f with
  | zero => intro bs r h; cases h
  | succ f ih =>
    intro bs r h f' hf
    obtain ⟨g, rfl⟩ : ∃ g, f' = g + 1 := ⟨f' - 1, by omega⟩
    rw [skipCts] at h ⊢
    split at h
    · cases h
    · rename_i mask rest hr
      rw [readVarBytes_append _ q _ _ hr]
      dsimp only
      split at h
      · rename_i hm; rw [if_pos hm]; cases h; rfl
      · rename_i hm
        rw [if_neg hm]
        split at h
        · cases h
        · rename_i ct rest' hs
          rw [readString_append _ q _ _ hs]
          exact ih _ _ h g (by omega)

theorem skipStream_append (p q r : List Nat) (h : skipStream p = some r) :
    skipStream (p ++ q) = some (r ++ q) := by
  unfold skipStream at h ⊢
  split at h
  · cases h
  · rename_i d n rest hs
    rw [skipSizes_append q _ _ _ _ _ _ _ _ hs ((p ++ q).length + 2) (by rw [List.length_append]; omega)]
    dsimp only
    split at h
    · cases h
    · rename_i hl
      rw [if_neg (by rw [List.length_append]; omega)]
      split at h
      · cases h
      · rename_i rest2 hv
        rw [List.drop_append_of_le_length (by omega), skipVarInts_append q _ _ _ hv]
        exact skipCts_append q _ _ _ h _ (by rw [List.length_append]; omega)

theorem skipStream_take_none {b : List Nat} (hgood : skipStream b = some []) {k : Nat} (hk : k < b.length) :
    skipStream (b.take k) = none := by
  cases hp : skipStream (b.take k) with
  | none => rfl
  | some r =>
    have e := skipStream_append _ (b.drop k) r hp
    rw [List.take_append_drop, hgood] at e
    exact absurd (List.drop_eq_nil_iff.mp (List.append_eq_nil_iff.mp (Option.some.inj e).symm).2) (Nat.not_le.mpr hk)

end Pk.Proofs.CacheFile
