/-
  The feeding order of an import (C05, C08): `pktLt` (`comparePackets`) is a strict total order on
  (timestamp, file, index); the merge loop of `FromPcap` that loads older captures lazily
  (`feedLoop` over `mergeUntil`) returns a sorted rearrangement of its input.  `Index.maxID` and
  `nextStreamID` as running maxima (`foldl_max_iff`), the ID walk `classifyWalk` unfolded packet by packet,
  one step of `assignIDs`, and the orientation test of the UDP flow table (`udpMatch`, `udpLookup`) over
  `fwd`/`bwd`.
-/
import Pk.Model.Import
import Pk.Proofs.Order
import Pk.Proofs.Lib

namespace Pk.Proofs.Import
open Pk.Import

open Pk.Proofs.Search in
theorem pktLt_swo : SWO pktLt := by
  have e : pktLt = SWO.lex (fun a b : Pkt => decide (a.ts < b.ts))
      (SWO.lex (fun a b : Pkt => decide (a.file < b.file)) (fun a b => decide (a.idx < b.idx))) := by
    rw [← SWO.lex_of_key Pkt.file (fun a b => decide (a < b)) _ strLt_swo,
      ← SWO.lex_of_key Pkt.ts (fun a b => decide (a < b)) _ natLt_swo]
    · rfl
    · intro x y h; simp only [decide_eq_true_eq]; omega
    · intro x y h; simp only [decide_eq_true_eq]
      by_cases h1 : x < y
      · exact .inl h1
      · by_cases h2 : y < x
        · exact .inr h2
        · exact absurd (Lib.str_trichotomy h1 h2) h
  rw [e]
  exact SWO.lex_swo (natLt_swo.comap Pkt.ts) (SWO.lex_swo (strLt_swo.comap Pkt.file) (natLt_swo.comap Pkt.idx))

theorem pktLt_iff (a b : Pkt) : pktLt a b = true ↔
    a.ts < b.ts ∨ (a.ts = b.ts ∧ (a.file < b.file ∨ (a.file = b.file ∧ a.idx < b.idx))) := by
  unfold pktLt
  by_cases h : a.ts = b.ts
  · by_cases f : a.file = b.file
    · simp [h, f]
    · simp [h, f]
  · simp [h]

theorem pktLt_asymm {a b : Pkt} (h : pktLt a b = true) : pktLt b a = false := pktLt_swo.asymm a b h

theorem pktLt_trichotomy {a b : Pkt} (h1 : pktLt a b = false) (h2 : pktLt b a = false) :
    a.ts = b.ts ∧ a.file = b.file ∧ a.idx = b.idx := by
  have n1 : ¬ (pktLt a b = true) := by simp [h1]
  have n2 : ¬ (pktLt b a = true) := by simp [h2]
  rw [pktLt_iff] at n1 n2
  have t : a.ts = b.ts := by
    apply Nat.le_antisymm
    · exact Nat.le_of_not_lt (fun h => n2 (Or.inl h))
    · exact Nat.le_of_not_lt (fun h => n1 (Or.inl h))
  have f : a.file = b.file := by
    apply Lib.str_trichotomy
    · exact fun h => n1 (Or.inr ⟨t, Or.inl h⟩)
    · exact fun h => n2 (Or.inr ⟨t.symm, Or.inl h⟩)
  refine ⟨t, f, ?_⟩
  apply Nat.le_antisymm
  · exact Nat.le_of_not_lt (fun h => n2 (Or.inr ⟨t.symm, Or.inr ⟨f.symm, h⟩⟩))
  · exact Nat.le_of_not_lt (fun h => n1 (Or.inr ⟨t, Or.inr ⟨f, h⟩⟩))

theorem pktLt_congr_left {a a' b : Pkt} (h : a.ts = a'.ts ∧ a.file = a'.file ∧ a.idx = a'.idx) :
    pktLt a b = pktLt a' b := by
  unfold pktLt; rw [h.1, h.2.1, h.2.2]

theorem pktLe_trans (a b c : Pkt) (h1 : pktLe a b = true) (h2 : pktLe b c = true) : pktLe a c = true := by
  unfold pktLe at *
  simp only [Bool.not_eq_true'] at *
  exact pktLt_swo.incomp c b a h2 h1

theorem pktLe_of_lt {a b : Pkt} (h : pktLt a b = true) : pktLe a b = true := by
  unfold pktLe; simp [pktLt_asymm h]

theorem pktLe_of_ts_lt {a b : Pkt} (h : a.ts < b.ts) : pktLe a b = true := by
  apply pktLe_of_lt; rw [pktLt_iff]; exact Or.inl h

def Sorted (l : List Pkt) : Prop := l.Pairwise (fun a b => pktLe a b = true)

theorem sortPkts_sorted (l : List Pkt) : Sorted (sortPkts l) :=
  (pktLt_swo.pairwise_mergeSort l).imp (by intro a b h; simp [pktLe, h])

theorem sortPkts_perm (l : List Pkt) : (sortPkts l).Perm l := List.mergeSort_perm l pktLe

theorem Sorted.tail {a : Pkt} {l : List Pkt} (h : Sorted (a :: l)) : Sorted l :=
  (List.pairwise_cons.mp h).2

theorem Sorted.head {a : Pkt} {l : List Pkt} (h : Sorted (a :: l)) : ∀ y ∈ l, pktLe a y = true :=
  (List.pairwise_cons.mp h).1

theorem Sorted.le_of_le_head {p a : Pkt} {l : List Pkt} (hs : Sorted (a :: l)) (h : pktLe p a = true) :
    ∀ y ∈ a :: l, pktLe p y = true :=
  List.forall_mem_cons.mpr ⟨h, fun y hy => pktLe_trans _ _ _ h (hs.head y hy)⟩

/-- contract of the inner loop `mergeUntil`; `r` = (output, rest of `os`, rest of `ns`) -/
structure MergeSpec (limit : Option Nat) (os ns : List Pkt) (r : List Pkt × List Pkt × List Pkt) : Prop where
  perm : (r.1 ++ (r.2.1 ++ r.2.2)).Perm (os ++ ns)
  before : ∀ x ∈ r.1, beforeLimit limit x.ts = true
  sorted : Sorted os → Sorted ns →
    (Sorted r.1 ∧ ∀ x ∈ r.1, ∀ y ∈ r.2.1 ++ r.2.2, pktLe x y = true) ∧ Sorted r.2.1 ∧ Sorted r.2.2

theorem MergeSpec.stop (limit : Option Nat) (os ns : List Pkt) : MergeSpec limit os ns ([], os, ns) :=
  ⟨.refl _, fun _ h => (nomatch h), fun ho hn => ⟨⟨.nil, fun _ h => (nomatch h)⟩, ho, hn⟩⟩

/-- the loop hands on `p`, a least packet of the input, and goes on with `os1`, `ns1` -/
theorem MergeSpec.take {limit : Option Nat} {os ns os1 ns1 out os' ns' : List Pkt} {p : Pkt}
    (h : MergeSpec limit os1 ns1 (out, os', ns')) (hb : beforeLimit limit p.ts = true)
    (hperm : (p :: (os1 ++ ns1)).Perm (os ++ ns))
    (hs : Sorted os → Sorted ns → (∀ y ∈ os1 ++ ns1, pktLe p y = true) ∧ Sorted os1 ∧ Sorted ns1) :
    MergeSpec limit os ns (p :: out, os', ns') := by
  refine ⟨(h.perm.cons p).trans hperm, List.forall_mem_cons.mpr ⟨hb, h.before⟩, fun ho hn => ?_⟩
  obtain ⟨hp, ho1, hn1⟩ := hs ho hn
  obtain ⟨⟨so, hr⟩, r⟩ := h.sorted ho1 hn1
  have hall : ∀ y ∈ out ++ (os' ++ ns'), pktLe p y = true := fun y hy => hp y (h.perm.mem_iff.mp hy)
  exact ⟨⟨List.pairwise_cons.mpr ⟨fun y hy => hall y (List.mem_append_left _ hy), so⟩,
    List.forall_mem_cons.mpr ⟨fun y hy => hall y (List.mem_append_right _ hy), hr⟩⟩, r⟩

theorem mergeUntil_spec (limit : Option Nat) (os ns : List Pkt) : MergeSpec limit os ns (mergeUntil limit os ns) := by
  fun_induction mergeUntil limit os ns
  case case1 | case3 | case5 | case7 | case9 => exact .stop ..
  case case2 o os h out os' ns' eq ih =>
    exact (eq ▸ ih).take h (.refl _) fun ho _ => ⟨by simpa using ho.head, ho.tail, .nil⟩
  case case4 n ns h out os' ns' eq ih =>
    exact (eq ▸ ih).take h (.refl _) fun _ hn => ⟨hn.head, .nil, hn.tail⟩
  case case6 o os n ns hlt h out os' ns' eq ih =>
    exact (eq ▸ ih).take h (.refl _) fun ho hn =>
      ⟨fun y hy => (List.mem_append.mp hy).elim (ho.head y) (hn.le_of_le_head (pktLe_of_lt hlt) y), ho.tail, hn⟩
  case case8 o os n ns hlt h out os' ns' eq ih =>
    have hno : pktLe n o = true := by unfold pktLe; simpa using hlt
    exact (eq ▸ ih).take h List.perm_middle.symm fun ho hn =>
      ⟨fun y hy => (List.mem_append.mp hy).elim (ho.le_of_le_head hno y) (hn.head y), ho, hn.tail⟩

theorem mergeUntil_none (os ns : List Pkt) :
    (mergeUntil none os ns).2.1 = [] ∧ (mergeUntil none os ns).2.2 = [] := by
  fun_induction mergeUntil none os ns
  case case1 => exact ⟨rfl, rfl⟩
  case case3 h | case5 h | case7 h | case9 h => exact absurd rfl h
  case case2 eq ih | case4 eq ih | case6 eq ih | case8 eq ih => rw [eq] at ih; exact ih

theorem feedLoop_perm (olds : List OldPcap) : ∀ (old new : List Pkt),
    (feedLoop olds old new).Perm (old ++ new ++ olds.flatMap (·.pkts)) := by
  induction olds with
  | nil =>
    intro old new
    have pm := (mergeUntil_spec none old new).perm
    have hn := mergeUntil_none old new
    simp only [feedLoop, List.flatMap_nil, List.append_nil]
    rw [hn.1, hn.2] at pm
    simpa using pm
  | cons pc rest ih =>
    intro old new
    simp only [feedLoop, List.flatMap_cons]
    have pm := (mergeUntil_spec (some pc.tmin) old new).perm
    generalize mergeUntil (some pc.tmin) old new = r at pm
    obtain ⟨out, os', ns'⟩ := r
    simp only at pm ⊢
    have ih' := ih (sortPkts (os' ++ pc.pkts)) ns'
    have sp := sortPkts_perm (os' ++ pc.pkts)
    -- `os'` and the packets of `pc` are sorted together; `pc.pkts` moves behind `ns'`
    refine ((ih'.trans ((sp.append_right _).append_right _)).append_left out).trans (.trans ?_ (pm.append_right _))
    simp only [List.append_assoc]
    exact ((List.perm_append_comm_assoc _ _ _).append_left _).append_left _

theorem beforeLimit_some {l t : Nat} : beforeLimit (some l) t = true ↔ t < l := by
  simp [beforeLimit]

theorem feedLoop_sorted (olds : List OldPcap) : ∀ (old new : List Pkt), Sorted old → Sorted new →
    olds.Pairwise (fun a b => a.tmin ≤ b.tmin) → (∀ pc ∈ olds, ∀ y ∈ pc.pkts, pc.tmin ≤ y.ts) →
    Sorted (feedLoop olds old new) := by
  induction olds with
  | nil =>
    intro old new ho hn _ _
    exact ((mergeUntil_spec none old new).sorted ho hn).1.1
  | cons pc rest ih =>
    intro old new ho hn hs hmin
    simp only [feedLoop]
    have hm := mergeUntil_spec (some pc.tmin) old new
    generalize mergeUntil (some pc.tmin) old new = r at hm
    obtain ⟨out, os', ns'⟩ := r
    obtain ⟨⟨hout, hle⟩, _, hns'⟩ := hm.sorted ho hn
    have hs' := List.pairwise_cons.mp hs
    have hR : Sorted (feedLoop rest (sortPkts (os' ++ pc.pkts)) ns') :=
      ih _ _ (sortPkts_sorted _) hns' hs'.2 (fun pc' hpc' => hmin pc' (List.mem_cons_of_mem _ hpc'))
    refine List.pairwise_append.mpr ⟨hout, hR, ?_⟩
    intro x hx y hy
    have hxt : x.ts < pc.tmin := beforeLimit_some.mp (hm.before x hx)
    have hy' := (feedLoop_perm rest (sortPkts (os' ++ pc.pkts)) ns').mem_iff.mp hy
    rcases List.mem_append.mp hy' with hy' | hy'
    · rcases List.mem_append.mp hy' with hy' | hy'
      · have hy'' := (sortPkts_perm (os' ++ pc.pkts)).mem_iff.mp hy'
        rcases List.mem_append.mp hy'' with h | h
        · exact hle x hx y (List.mem_append_left _ h)
        · exact pktLe_of_ts_lt (Nat.lt_of_lt_of_le hxt (hmin pc (List.mem_cons_self ..) y h))
      · exact hle x hx y (List.mem_append_right _ hy')
    · obtain ⟨pc', hpc', hyp⟩ := List.mem_flatMap.mp hy'
      exact pktLe_of_ts_lt (Nat.lt_of_lt_of_le hxt
        (Nat.le_trans (hs'.1 pc' hpc') (hmin pc' (List.mem_cons_of_mem _ hpc') y hyp)))

/-- `maxID` and `nextStreamID` are running maxima: a property that `max` has exactly if both arguments have it
    (`· ≤ b`, `· < b`) holds of the result exactly if it holds of the start value and of every key -/
theorem foldl_max_iff {α : Type} {P : Nat → Prop} (hP : ∀ a b, P (max a b) ↔ P a ∧ P b) {key : α → Nat} (l : List α) :
    ∀ m0 : Nat, P (l.foldl (fun m e => max m (key e)) m0) ↔ P m0 ∧ ∀ e ∈ l, P (key e) := by
  induction l with
  | nil => exact fun m0 => ⟨fun h => ⟨h, fun _ he => (nomatch he)⟩, fun h => h.1⟩
  | cons x xs ih => exact fun m0 => by rw [List.foldl_cons, ih, hP, List.forall_mem_cons, and_assoc]

theorem le_maxID (i : Index) : ∀ e ∈ i.streams, e.1 ≤ i.maxID :=
  ((foldl_max_iff (P := (· ≤ i.maxID)) (fun _ _ => Nat.max_le) i.streams 0).mp (Nat.le_refl _)).2

theorem nextStreamID_step :
    (fun n (i : Index) => if n ≤ i.maxID then i.maxID + 1 else n) = fun n i => max n (i.maxID + 1) := by
  funext n i
  by_cases h : n ≤ i.maxID
  · rw [if_pos h, Nat.max_eq_right (Nat.le_succ_of_le h)]
  · rw [if_neg h, Nat.max_eq_left (Nat.not_le.mp h)]

theorem nextStreamID_append (stack : List Index) (ix : Index) :
    nextStreamID (stack ++ [ix]) = if nextStreamID stack ≤ ix.maxID then ix.maxID + 1 else nextStreamID stack := by
  unfold nextStreamID
  rw [List.foldl_append]
  rfl

theorem classifyWalk_new {nf : List String} (ex : List Index) {r : PRef} (d : Bool) (rest : List (PRef × Bool))
    (id : Option Nat) (t : Bool) (h : r.file ∈ nf) :
    classifyWalk nf ex ((r, d) :: rest) id t =
      if id.isSome then (id, .updated, true) else classifyWalk nf ex rest id true := by
  simp only [classifyWalk, List.contains_eq_mem, h, decide_true, if_true]

theorem classifyWalk_old_some {nf : List String} (ex : List Index) {r : PRef} (d : Bool) (rest : List (PRef × Bool))
    (i : Nat) (t : Bool) (h : r.file ∉ nf) :
    classifyWalk nf ex ((r, d) :: rest) (some i) t = classifyWalk nf ex rest (some i) t := by
  simp only [classifyWalk, List.contains_eq_mem, h, decide_false, Bool.false_eq_true, if_false,
    Option.isSome_some, if_true]

theorem classifyWalk_old_none {nf : List String} (ex : List Index) {r : PRef} (d : Bool) (rest : List (PRef × Bool))
    (t : Bool) (h : r.file ∉ nf) :
    classifyWalk nf ex ((r, d) :: rest) none t =
      if t then (lookupFirst ex r.file r.idx, .reset, t)
      else classifyWalk nf ex rest (lookupFirst ex r.file r.idx) t := by
  simp only [classifyWalk, List.contains_eq_mem, h, decide_false, Bool.false_eq_true, if_false,
    Option.isSome_none]

theorem assignStep_spec (nf : List String) (ex : List Index) (a : Assigned) (s : Import.Stream) :
    (assignStep nf ex a s).next =
      (if (classifyWalk nf ex s.pkts none false).2.2 = true ∧ (classifyWalk nf ex s.pkts none false).1 = none
        then a.next + 1 else a.next) ∧
    (assignStep nf ex a s).index =
      a.index ++ if (classifyWalk nf ex s.pkts none false).2.2
        then [(((classifyWalk nf ex s.pkts none false).1).getD a.next, s)] else [] := by
  unfold assignStep
  rcases classifyWalk nf ex s.pkts none false with ⟨id, cat, t⟩
  cases t
  · simp
  · cases id <;> cases cat <;> simp

theorem sorted_perm_unique (l1 l2 : List Pkt) (hp : l1.Perm l2) (h1 : l1.Pairwise (fun a b => pktLe a b = true))
    (h2 : l2.Pairwise (fun a b => pktLt a b = true)) : l1 = l2 := by
  -- two members of the strictly sorted `l2` are equal or ordered, so `pktLe` both ways makes them equal
  have tot := List.Pairwise.forall_of_forall_of_flip (R := fun a b => a = b ∨ pktLt a b = true ∨ pktLt b a = true)
    (fun _ _ => Or.inl rfl) (h2.imp fun h => Or.inr (Or.inl h)) (h2.imp fun h => Or.inr (Or.inr h))
  refine hp.eq_of_pairwise (le := fun a b => pktLe a b = true) (fun a b ha hb hab hba => ?_) h1 (h2.imp pktLe_of_lt)
  rcases tot (hp.mem_iff.mp ha) hb with h | h | h
  · exact h
  · rw [pktLe, h] at hba
    cases hba
  · rw [pktLe, h] at hab
    cases hab

/-- `p` travels from the client endpoint of `s` to its server endpoint (`fwd`) or the other way (`bwd`) -/
def fwd (s : Import.Stream) (p : Pkt) : Prop := s.caddr = p.src ∧ s.saddr = p.dst ∧ s.cport = p.sport ∧ s.sport = p.dport
def bwd (s : Import.Stream) (p : Pkt) : Prop := s.caddr = p.dst ∧ s.saddr = p.src ∧ s.cport = p.dport ∧ s.sport = p.sport

instance (s : Import.Stream) (p : Pkt) : Decidable (fwd s p) := by unfold fwd; infer_instance
instance (s : Import.Stream) (p : Pkt) : Decidable (bwd s p) := by unfold bwd; infer_instance

theorem udpMatch_eq (s : Import.Stream) (p : Pkt) :
    udpMatch s p = if (fwd s p ↔ bwd s p) then none else some (decide (bwd s p)) := by
  have hf : ((s.caddr = p.src ∧ s.cport = p.sport) ∧ s.saddr = p.dst ∧ s.sport = p.dport) ↔ fwd s p :=
    ⟨fun ⟨⟨a, b⟩, c, d⟩ => ⟨a, c, b, d⟩, fun ⟨a, c, b, d⟩ => ⟨⟨a, b⟩, c, d⟩⟩
  have hb : ((s.caddr = p.dst ∧ s.cport = p.dport) ∧ s.saddr = p.src ∧ s.sport = p.sport) ↔ bwd s p :=
    ⟨fun ⟨⟨a, b⟩, c, d⟩ => ⟨a, c, b, d⟩, fun ⟨a, c, b, d⟩ => ⟨⟨a, b⟩, c, d⟩⟩
  unfold udpMatch
  simp only [decide_eq_decide, hf, hb]
  by_cases h : fwd s p ↔ bwd s p
  · rw [if_pos h, if_pos h]
  · rw [if_neg h, if_neg h]
    -- exactly one orientation fits; if it is `fwd`, the sender is not the server endpoint (or `bwd` would fit too)
    by_cases h2 : bwd s p
    · rw [decide_eq_true h2, decide_eq_true ⟨h2.2.1, h2.2.2.2⟩]
    · have h1 : fwd s p := Classical.not_not.mp fun h1 => h ⟨fun a => absurd a h1, fun a => absurd a h2⟩
      rw [decide_eq_false h2, decide_eq_false]
      rintro ⟨a, b⟩
      exact h2 ⟨h1.1.trans (a.symm.trans h1.2.1), a, h1.2.2.1.trans (b.symm.trans h1.2.2.2), b⟩

/-- a flow whose two endpoints differ fits a datagram in at most one orientation -/
theorem udpMatch_fwd {s : Import.Stream} {p : Pkt} (hne : ¬ (s.caddr = s.saddr ∧ s.cport = s.sport)) (h : fwd s p) :
    udpMatch s p = some false := by
  have hb : ¬ bwd s p := fun hb => hne ⟨hb.1.trans h.2.1.symm, hb.2.2.1.trans h.2.2.2.symm⟩
  rw [udpMatch_eq, if_neg fun e => hb (e.mp h), decide_eq_false hb]

theorem udpMatch_bwd {s : Import.Stream} {p : Pkt} (hne : ¬ (s.caddr = s.saddr ∧ s.cport = s.sport)) (h : bwd s p) :
    udpMatch s p = some true := by
  have hf : ¬ fwd s p := fun hf => hne ⟨hf.1.trans h.2.1.symm, hf.2.2.1.trans h.2.2.2.symm⟩
  rw [udpMatch_eq, if_neg fun e => hf (e.mpr h), decide_eq_true h]

theorem fwd_bwd_self {s : Import.Stream} {p : Pkt} (h : fwd s p ∨ bwd s p) :
    (fwd s p ∧ bwd s p) ↔ (p.src = p.dst ∧ p.sport = p.dport) := by
  unfold fwd bwd at *
  grind

theorem udpLookup_cons (ss : Array Import.Stream) (p : Pkt) (c : UdpConn) (cs : List UdpConn) (j : Nat) :
    udpLookup ss p (c :: cs) j =
      match udpMatch ss[c.stream]! p with | some d => some (j, d) | none => udpLookup ss p cs (j + 1) := by
  rw [udpLookup]
  split <;> simp [*]

theorem udpLookup_eq_none (ss : Array Import.Stream) (p : Pkt) (l : List UdpConn) (j : Nat) :
    udpLookup ss p l j = none ↔ ∀ c ∈ l, udpMatch ss[c.stream]! p = none := by
  induction l generalizing j with
  | nil => exact ⟨fun _ _ hc => (nomatch hc), fun _ => rfl⟩
  | cons c cs ih =>
    rw [udpLookup_cons, List.forall_mem_cons]
    cases udpMatch ss[c.stream]! p with
    | some d => exact ⟨fun h => (nomatch h), fun h => (nomatch h.1)⟩
    | none => exact (ih (j + 1)).trans ⟨fun h => ⟨rfl, h⟩, fun h => h.2⟩

end Pk.Proofs.Import
