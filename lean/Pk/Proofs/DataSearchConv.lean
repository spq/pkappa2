/-
  C04: the chunk-boundary rule of `advance` read in conversation order.  A conversation is a list of bursts;
  `sizesOf` are the cumulative sizes the data sources hand to `advance`, entry `k` being what the first `k` bursts
  hold (`sizesFrom_get`); `boundary` picks the entry behind the last one still below the offset (`boundary_at`),
  which is the burst holding that byte (`chunksThrough_spec`).
-/
import Pk.Model.DataSearch

namespace Pk.Proofs.Extra
open Pk.DataSearch

/-- a conversation: bursts (direction 0/1, bytes) in the order they were exchanged -/
abbrev Conv := List (Nat × Bytes)

def dirBuf : Conv → Nat → Bytes
  | [], _ => []
  | (c, b) :: rest, d => if c = d then b ++ dirBuf rest d else dirBuf rest d

/-- cumulative sizes as the data sources produce them (`bufferLengths`): leading (0,0), one entry per burst -/
def sizesFrom : Nat × Nat → Conv → ChunkSizes
  | acc, [] => [acc]
  | acc, (c, b) :: rest =>
    acc :: sizesFrom (if c = 0 then (acc.1 + b.length, acc.2) else (acc.1, acc.2 + b.length)) rest
def sizesOf (cs : Conv) : ChunkSizes := sizesFrom (0, 0) cs

/-- number of bursts up to and including the one that holds the `o`-th byte (o ≥ 1) of direction `d`
    (`cs.length` if there is no such byte) -/
def chunksThrough : Conv → Nat → Nat → Nat
  | [], _, _ => 0
  | (c, b) :: rest, d, o =>
    if c = d then (if o ≤ b.length then 1 else 1 + chunksThrough rest d (o - b.length))
    else 1 + chunksThrough rest d o

def WF (cs : Conv) : Prop := ∀ p ∈ cs, (p.1 = 0 ∨ p.1 = 1) ∧ p.2 ≠ []

theorem dirBuf_append (a b : Conv) (d : Nat) : dirBuf (a ++ b) d = dirBuf a d ++ dirBuf b d := by
  induction a with
  | nil => rfl
  | cons q a ih => obtain ⟨c, x⟩ := q; simp only [List.cons_append, dirBuf, ih]; split <;> simp

theorem dirBuf_take_le (cs : Conv) (d : Nat) {i j : Nat} (h : i ≤ j) :
    (dirBuf (cs.take i) d).length ≤ (dirBuf (cs.take j) d).length := by
  rw [← List.take_append_drop i (cs.take j), dirBuf_append, List.take_take, Nat.min_eq_left h]
  simp

theorem boundary_at (bl : ChunkSizes) (d o k : Nat) (prev cur : Nat × Nat)
    (hp : bl[k]? = some prev) (hc : bl[k + 1]? = some cur) (hlt : sel d prev < o)
    (hge : ∀ j p, k < j → bl[j]? = some p → o ≤ sel d p) :
    ∀ n, k < n → boundary bl d o n = some (sel (1 - d) cur) := by
  intro n
  induction n with
  | zero => intro h; omega
  | succ i ih =>
    intro hk
    rw [boundary]
    by_cases hik : i = k
    · subst hik; simp only [hp, hc, if_pos hlt]
    · cases h1 : bl[i]? <;> cases h2 : bl[i + 1]? <;> simp only [] <;> try exact ih (by omega)
      next p q => rw [if_neg (by have := hge i p (by omega) h1; omega)]; exact ih (by omega)

theorem sizesFrom_get (d : Nat) (hd : d = 0 ∨ d = 1) : ∀ (cs : Conv) (acc : Nat × Nat) (k : Nat), WF cs → k ≤ cs.length →
    ∃ p, (sizesFrom acc cs)[k]? = some p ∧ sel d p = sel d acc + (dirBuf (cs.take k) d).length := by
  intro cs
  induction cs with
  | nil => intro acc k _ hk; obtain rfl : k = 0 := Nat.le_zero.mp hk; exact ⟨acc, rfl, rfl⟩
  | cons q rest ih =>
    obtain ⟨c, b⟩ := q
    intro acc k hwf hk
    cases k with
    | zero => exact ⟨acc, rfl, rfl⟩
    | succ k =>
      obtain ⟨p, h1, h2⟩ := ih (if c = 0 then (acc.1 + b.length, acc.2) else (acc.1, acc.2 + b.length)) k
        (fun p hp => hwf p (List.mem_cons_of_mem _ hp)) (by simpa using hk)
      refine ⟨p, by simpa [sizesFrom] using h1, ?_⟩
      have hc := (hwf (c, b) List.mem_cons_self).1
      simp only at hc
      rw [h2, List.take_succ_cons, dirBuf]
      rcases hc with rfl | rfl <;> rcases hd with rfl | rfl <;> simp [sel] <;> omega

theorem chunksThrough_spec (d : Nat) : ∀ (cs : Conv) (o : Nat), 0 < o → o ≤ (dirBuf cs d).length →
    ∃ k, chunksThrough cs d o = k + 1 ∧ k < cs.length ∧ (dirBuf (cs.take k) d).length < o ∧
      o ≤ (dirBuf (cs.take (k + 1)) d).length := by
  intro cs
  induction cs with
  | nil => intro o h1 h2; simp [dirBuf] at h2; omega
  | cons q rest ih =>
    obtain ⟨c, b⟩ := q
    intro o h1 h2
    simp only [dirBuf, chunksThrough] at h2 ⊢
    by_cases hcd : c = d
    · simp only [if_pos hcd, List.length_append] at h2 ⊢
      by_cases hob : o ≤ b.length
      · exact ⟨0, by simp [hob], by simp, by simpa [dirBuf] using h1, by simpa [dirBuf, hcd] using hob⟩
      · obtain ⟨k, e, hk, h3, h4⟩ := ih (o - b.length) (by omega) (by omega)
        refine ⟨k + 1, by rw [if_neg hob, e]; omega, by simpa using hk, ?_, ?_⟩ <;>
          simp only [List.take_succ_cons, dirBuf, if_pos hcd, List.length_append] <;> omega
    · simp only [if_neg hcd] at h2 ⊢
      obtain ⟨k, e, hk, h3, h4⟩ := ih o h1 h2
      refine ⟨k + 1, by rw [e]; omega, by simpa using hk, ?_, ?_⟩ <;>
        simpa only [List.take_succ_cons, dirBuf, if_neg hcd]

theorem sizesOf_length (cs : Conv) : (sizesOf cs).length = cs.length + 1 := by
  have : ∀ (cs : Conv) (acc : Nat × Nat), (sizesFrom acc cs).length = cs.length + 1 := by
    intro cs; induction cs with
    | nil => intro acc; rfl
    | cons q rest ih => obtain ⟨c, b⟩ := q; intro acc; simp [sizesFrom, ih]
  exact this cs _

/-- for the `o`-th byte of direction `d`, `boundary` returns the size of the other direction up to and including
    the burst that holds it: what lies behind is what was exchanged after that burst -/
theorem boundary_sizesOf (cs : Conv) (hwf : WF cs) (d : Nat) (hd : d = 0 ∨ d = 1) (o : Nat) (h1 : 0 < o)
    (h2 : o ≤ (dirBuf cs d).length) :
    ∃ v, boundary (sizesOf cs) d o cs.length = some v ∧
      (dirBuf cs (1 - d)).drop v = dirBuf (cs.drop (chunksThrough cs d o)) (1 - d) := by
  have hd' : 1 - d = 0 ∨ 1 - d = 1 := by omega
  have h00 : ∀ x, sel x ((0, 0) : Nat × Nat) = 0 := fun x => by unfold sel; split <;> rfl
  obtain ⟨k, hk, hkl, h3, h4⟩ := chunksThrough_spec d cs o h1 h2
  obtain ⟨prev, p1, p2⟩ := sizesFrom_get d hd cs (0, 0) k hwf (by omega)
  obtain ⟨cur, c1, c2⟩ := sizesFrom_get (1 - d) hd' cs (0, 0) (k + 1) hwf (by omega)
  refine ⟨sel (1 - d) cur, ?_, ?_⟩
  · refine boundary_at (sizesOf cs) d o k prev cur p1 c1 (by rw [p2, h00]; omega) (fun j p hj hp => ?_) cs.length hkl
    -- every later entry holds at least the first `k + 1` bursts
    have hjl : j ≤ cs.length := by
      have := (List.getElem?_eq_some_iff.1 hp).1; rw [sizesOf_length] at this; omega
    obtain ⟨p', q1, q2⟩ := sizesFrom_get d hd cs (0, 0) j hwf hjl
    obtain rfl : p = p' := Option.some.inj (hp.symm.trans q1)
    rw [q2, h00]
    have := dirBuf_take_le cs d (show k + 1 ≤ j by omega)
    omega
  · rw [c2, h00, Nat.zero_add, hk]
    have := dirBuf_append (cs.take (k + 1)) (cs.drop (k + 1)) (1 - d)
    rw [List.take_append_drop] at this
    rw [this]; exact List.drop_left

end Pk.Proofs.Extra
