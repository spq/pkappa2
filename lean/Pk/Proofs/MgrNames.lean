/-
  Tag names in the service-loop model.  `Pk.Mgr.parseTagName` is the function of the tag-API model
  (`parseTagName_eq`), so what is known there carries over: the prefix test of `UpdateTag` and the cut at the
  first `/` agree on every name (`nameOK_all`, which is `NameOK n` of
  `Pk.Props.MgrReach` unfolded), and `parseTagName` on a literal name is an evaluation after `splitOn_slash`.
-/
import Pk.Model.Manager
import Pk.Proofs.TagGraphNames
namespace Pk.Proofs.MgrReach
open Pk.Mgr

theorem parseTagName_eq (n : String) : parseTagName n = Pk.TagGraph.parseTagName n := by
  unfold parseTagName Pk.TagGraph.parseTagName Pk.TagGraph.cutSlash
  rcases n.splitOn "/" with _ | ⟨a, _ | ⟨b, l⟩⟩ <;> rfl

theorem parseTagName_isMark (n : String) :
    (parseTagName n).2.2 = ((parseTagName n).1 == "mark" || (parseTagName n).1 == "generated") := by
  rw [parseTagName_eq]
  exact TagGraphMore.parseTagName_isMark n

theorem nameOK_all (n : String) :
    (n.startsWith "mark/" || n.startsWith "generated/") = true ↔
      ((parseTagName n).1 = "mark" ∨ (parseTagName n).1 = "generated") := by
  have h : (n.startsWith "mark/" || n.startsWith "generated/") = (parseTagName n).2.2 :=
    (TagGraphMore.markPrefix_eq_isMark n).trans (congrArg (·.2.2) (parseTagName_eq n).symm)
  rw [h, parseTagName_isMark]
  simp

end Pk.Proofs.MgrReach

namespace Pk.Proofs.MgrTruth
open Pk.Mgr

/-! `String.splitOn` is defined by well-founded recursion and does not reduce in the kernel: `splitOn_slash`
turns it into `List.splitOnP`, which does. -/

theorem parse_tag_x : parseTagName "tag/x" = ("tag", "x", false) := by
  unfold parseTagName
  rw [TagGraphMore.splitOn_slash]
  decide +kernel

theorem parse_mark_m : parseTagName "mark/m" = ("mark", "m", true) := by
  unfold parseTagName
  rw [TagGraphMore.splitOn_slash]
  decide +kernel

end Pk.Proofs.MgrTruth
