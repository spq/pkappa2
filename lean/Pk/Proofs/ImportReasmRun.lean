/-
  Runs of segments of one byte string `B` through the reference reassembler — any slices of `B`, in
  any order, any number of times: what is delivered is a prefix of `B` (`ChunksOk`), all of `B` when
  the segments cover it (`runInv_covers`).

  Retransmission runs (`RetransRun`) and in-order runs (`InOrder`) reduced to what `runInv_covers`
  asks for: segments of `B` that cover `B` up to the offset they reach.
-/
import Pk.Proofs.ImportReasmStep

namespace Pk.Proofs.ImportReasm
open Pk.Import

theorem Stream.dirOf_eq {s : Import.Stream} (hn : s.npkts = s.pktsRev.length) {k : Nat} {r : PRef} {d : Bool}
    (h : s.pkts[k]? = some (r, d)) : s.dirOf k = d := by
  have hk : k < s.pktsRev.length := List.length_reverse ▸ (List.getElem?_eq_some_iff.mp h).1
  unfold Stream.dirOf
  rw [hn, ← List.getElem?_reverse hk, show s.pktsRev.reverse[k]? = some (r, d) from h]

theorem ChunksOk.mono {isn B n0 done c chunks} (h : ChunksOk isn B n0 done c chunks) (more : List Pkt) :
    ChunksOk isn B n0 (done ++ more) c chunks := by
  induction h with
  | nil => exact .nil
  | cons _ h1 h2 h3 h4 h5 h6 ih =>
    refine .cons ih h1 h2 ?_ h4 h5 h6
    rw [List.getElem?_append_left]
    · exact h3
    · exact (List.getElem?_eq_some_iff.mp h3).1

theorem ChunksOk.bytes {isn B n0 done c chunks} (h : ChunksOk isn B n0 done c chunks) :
    (chunks.reverse.map (·.2)).flatten = B.take c ∧ c ≤ B.length := by
  induction h with
  | nil => simp
  | cons _ h1 h2 _ _ _ _ ih =>
    refine ⟨?_, h2⟩
    simp only [List.reverse_cons, List.map_append, List.flatten_append, ih.1, List.map_cons, List.map_nil,
      List.flatten_cons, List.flatten_nil, List.append_nil]
    rw [← slice_zero, ← slice_zero, slice_append (Nat.zero_le _) (Nat.le_of_lt h1)]

structure RunInv (isn : Nat) (B : Bytes) (dir : Bool) (st0 : Import.Stream) (done : List Pkt) (r : Import.Stream × Half) : Prop where
  ex : ∃ c chunks, HalfInv isn B c r.2 ∧ r.1 = Stream.after st0 dir done chunks ∧
        ChunksOk isn B st0.npkts done c chunks ∧
        ∀ x, (∃ p ∈ done, pOff isn p ≤ x ∧ x < pEnd isn p) → x < c ∨ Covered isn r.2.queue x

theorem feedAll_snoc (dir : Bool) (acc : Import.Stream × Half) (l : List Pkt) (p : Pkt) :
    feedAll dir acc (l ++ [p]) = feed dir (feedAll dir acc l) p := by
  simp only [feedAll, List.foldl_append, List.foldl_cons, List.foldl_nil]

namespace RunInv

theorem step {isn : Nat} {B : Bytes} (hl : SeqLinear isn B.length) {dir : Bool} {st0 : Import.Stream}
    {done : List Pkt} {r : Import.Stream × Half} (hr : RunInv isn B dir st0 done r) {p : Pkt} (hp : SegPkt isn B p) :
    RunInv isn B dir st0 (done ++ [p]) (feed dir r p) := by
  obtain ⟨st, h⟩ := r
  obtain ⟨c, chunks, hinv, hst, hch, hcov⟩ := hr
  obtain ⟨c', h', ⟨e1, e3, _, e4⟩, e2, e5⟩ := feed_step hl dir st h p c hinv hp
  have hcov' : ∀ x, (∃ q ∈ done ++ [p], pOff isn q ≤ x ∧ x < pEnd isn q) → x < c' ∨ Covered isn h'.queue x := by
    rintro x ⟨q, hm, hx⟩
    rcases List.mem_append.mp hm with hm | hm
    · exact e5 x ((hcov x ⟨q, hm, hx⟩).imp_right Or.inl)
    · exact e5 x (Or.inr (Or.inr (List.mem_singleton.mp hm ▸ hx)))
  subst hst
  rw [e1]
  rcases Nat.eq_or_lt_of_le e3 with hcc | hcc
  · subst hcc
    rw [if_pos rfl]
    exact ⟨c, chunks, e2, by simp [Stream.after, Stream.addPkt, Nat.add_assoc], hch.mono [p], hcov'⟩
  · obtain ⟨k1, k2, k3⟩ := e4 hcc
    rw [if_neg (Nat.ne_of_gt hcc)]
    exact ⟨c', (st0.npkts + done.length, slice B c c') :: chunks, e2,
      by simp [Stream.after, Stream.record, Nat.add_assoc],
      .cons (hch.mono [p]) hcc e2.le (List.getElem?_concat_length ..) k1 k2 k3, hcov'⟩

theorem run {isn : Nat} {B : Bytes} (hl : SeqLinear isn B.length) {dir : Bool} {st0 : Import.Stream}
    (ps : List Pkt) (hps : ∀ p ∈ ps, SegPkt isn B p) : ∀ {done : List Pkt} {r : Import.Stream × Half},
    RunInv isn B dir st0 done r → RunInv isn B dir st0 (done ++ ps) (feedAll dir r ps) := by
  induction ps with
  | nil => intro done r hr; rwa [List.append_nil]
  | cons p ps ih =>
    intro done r hr
    rw [List.append_cons]
    exact ih (fun q hm => hps q (List.mem_cons_of_mem _ hm)) (hr.step hl (hps p (List.mem_cons_self ..)))

end RunInv

theorem runInv_all {isn : Nat} {B : Bytes} (hl : SeqLinear isn B.length) (dir : Bool) (st0 : Import.Stream) (h0 : Half)
    (hopen : h0.closed = false) (hnext : h0.nextSeq = some isn) (hq : h0.queue = [])
    (ps : List Pkt) (hps : ∀ p ∈ ps, SegPkt isn B p) :
    RunInv isn B dir st0 ps (feedAll dir (st0, h0) ps) :=
  have init : RunInv isn B dir st0 [] (st0, h0) :=
    ⟨0, [], ⟨hopen, hnext, Nat.zero_le _, hq ▸ ⟨fun _ hm => (nomatch hm), List.Pairwise.nil⟩⟩, rfl, .nil,
      fun _ ⟨_, hm, _⟩ => nomatch hm⟩
  init.run hl ps hps

/-- the queue only holds pages strictly beyond `c`, so offset `c` itself cannot be queued: if every offset
    below `off` has been seen (`P`) and nothing seen is lost, `off` has been reached -/
theorem carried_le {isn : Nat} {B : Bytes} {c : Nat} {h : Half} (hi : HalfInv isn B c h) {P : Nat → Prop}
    (hcov : ∀ x, P x → x < c ∨ Covered isn h.queue x) {off : Nat} (hall : ∀ x, x < off → P x) : off ≤ c := by
  by_cases hlt : c < off
  · rcases hcov c (hall c hlt) with h1 | ⟨pg, hm, h1, _⟩
    · omega
    · have := (hi.q.1 pg hm).2; omega
  · omega

theorem HalfInv.full {isn : Nat} {B : Bytes} {c : Nat} {h : Half} (hinv : HalfInv isn B c h)
    (hcov : ∀ x, x < B.length → x < c ∨ Covered isn h.queue x) : c = B.length ∧ h.queue = [] := by
  have hc : c = B.length := Nat.le_antisymm hinv.le (carried_le hinv hcov fun _ hx => hx)
  refine ⟨hc, List.eq_nil_iff_forall_not_mem.mpr fun pg hm => ?_⟩
  have k := hinv.q.1 pg hm
  exact Nat.lt_irrefl c (Nat.lt_of_lt_of_le (Nat.lt_trans k.2 k.1.lt) (hc ▸ k.1.le))

theorem runInv_covers {isn : Nat} {B : Bytes} (hl : SeqLinear isn B.length) (dir : Bool) (st0 : Import.Stream) (h0 : Half)
    (hopen : h0.closed = false) (hnext : h0.nextSeq = some isn) (hq : h0.queue = [])
    (ps : List Pkt) (hps : ∀ p ∈ ps, SegPkt isn B p) (hcov : Covers isn B ps) :
    ∃ chunks, (feedAll dir (st0, h0) ps).1 = Stream.after st0 dir ps chunks ∧
      ChunksOk isn B st0.npkts ps B.length chunks ∧
      (feedAll dir (st0, h0) ps).2 = { h0 with nextSeq := some (isn + B.length) } := by
  obtain ⟨c, chunks, hinv, hst, hch, hc⟩ := runInv_all hl dir st0 h0 hopen hnext hq ps hps
  obtain ⟨rfl, hqe⟩ := hinv.full fun x hx => hc x (hcov x hx)
  refine ⟨chunks, hst, hch, ?_⟩
  have hls := feedAll_lastSeen dir ps (st0, h0)
  generalize (feedAll dir (st0, h0) ps).2 = h at hinv hls hqe
  obtain ⟨i1, i2, _, _⟩ := hinv
  obtain ⟨ns, cl, ls, q⟩ := h
  obtain ⟨ns0, cl0, ls0, q0⟩ := h0
  cases i1; cases i2; cases hls; cases hqe; cases hopen; cases hq
  rfl

theorem SeqLinear.mono {isn n m : Nat} (h : SeqLinear isn n) (hm : m ≤ n) : SeqLinear isn m :=
  have hle : isn + m ≤ isn + n := Nat.add_le_add_left hm isn
  ⟨Nat.lt_of_le_of_lt hle h.1, h.2.imp_right (Nat.le_trans hle)⟩

theorem slice_take_eq {B : Bytes} {a b m : Nat} (hb : b ≤ m) : slice (B.take m) a b = slice B a b := by
  unfold slice
  rw [List.drop_take, List.take_take, Nat.min_eq_left (Nat.sub_le_sub_right hb a)]

theorem seg_restrict {isn : Nat} {B : Bytes} {p : Pkt}
    (h : isn ≤ p.seq ∧ pEnd isn p ≤ B.length ∧ p.payload = slice B (pOff isn p) (pEnd isn p)) {m : Nat}
    (hm : pEnd isn p ≤ m) :
    isn ≤ p.seq ∧ pEnd isn p ≤ (B.take m).length ∧ p.payload = slice (B.take m) (pOff isn p) (pEnd isn p) :=
  ⟨h.1, List.length_take ▸ Nat.le_min.mpr ⟨hm, h.2.1⟩, h.2.2.trans (slice_take_eq hm).symm⟩

theorem DataPkt.restrict {isn : Nat} {B : Bytes} {p : Pkt} (h : DataPkt isn B p) {m : Nat}
    (hm : pEnd isn p ≤ m) : DataPkt isn (B.take m) p :=
  ⟨h.1, seg_restrict h.2 hm⟩

theorem SegPkt.restrict {isn : Nat} {B : Bytes} {p : Pkt} (h : SegPkt isn B p) {m : Nat}
    (hm : pEnd isn p ≤ m) : SegPkt isn (B.take m) p :=
  ⟨h.1, seg_restrict h.2 hm⟩

theorem ChunksOk.of_take {isn : Nat} {B : Bytes} {m n0 : Nat} {done : List Pkt} {c : Nat} {chunks : List (Nat × Bytes)}
    (h : ChunksOk isn (B.take m) n0 done c chunks) : ChunksOk isn B n0 done c chunks := by
  induction h with
  | nil => exact .nil
  | cons _ h1 h2 h3 h4 h5 h6 ih =>
    rw [List.length_take] at h2
    rw [slice_take_eq (Nat.le_trans h2 (Nat.min_le_left ..))]
    exact .cons ih h1 (Nat.le_trans h2 (Nat.min_le_right ..)) h3 h4 h5 h6

/-- no segment starts beyond `c`, the offset reached by the earlier segments.  In-order segments
    start exactly there; retransmissions and re-segmentations of earlier bytes start before it and
    may end before, at or after it. -/
def RetransRun (isn : Nat) (B : Bytes) : Nat → List Pkt → Prop
  | _, [] => True
  | c, p :: rest => SegPkt isn B p ∧ pOff isn p ≤ c ∧ RetransRun isn B (max c (pEnd isn p)) rest

instance (isn : Nat) (B : Bytes) : (c : Nat) → (ps : List Pkt) → Decidable (RetransRun isn B c ps)
  | _, [] => isTrue trivial
  | c, p :: rest =>
    have := instDecidableRetransRun isn B (max c (pEnd isn p)) rest
    by unfold RetransRun; infer_instance

def reach (isn : Nat) : Nat → List Pkt → Nat
  | c, [] => c
  | c, p :: rest => reach isn (max c (pEnd isn p)) rest

theorem retransRun_covers {isn : Nat} {B : Bytes} (ps : List Pkt) : ∀ c, RetransRun isn B c ps →
    c ≤ reach isn c ps ∧ (∀ p ∈ ps, SegPkt isn B p ∧ pEnd isn p ≤ reach isn c ps) ∧
    ∀ x, c ≤ x → x < reach isn c ps → ∃ p ∈ ps, pOff isn p ≤ x ∧ x < pEnd isn p := by
  induction ps with
  | nil => exact fun c _ => ⟨Nat.le_refl _, fun _ hm => (nomatch hm), fun x h1 h2 => absurd h2 (Nat.not_lt.mpr h1)⟩
  | cons p rest ih =>
    intro c ⟨h1, h2, h3⟩
    obtain ⟨i1, i2, i3⟩ := ih _ h3
    refine ⟨Nat.le_trans (Nat.le_max_left ..) i1,
      List.forall_mem_cons.mpr ⟨⟨h1, Nat.le_trans (Nat.le_max_right ..) i1⟩, i2⟩, fun x hx1 hx2 => ?_⟩
    by_cases hx : x < pEnd isn p
    · exact ⟨p, List.mem_cons_self .., Nat.le_trans h2 hx1, hx⟩
    · obtain ⟨q, hm, hq⟩ := i3 x (Nat.max_le.mpr ⟨hx1, Nat.not_lt.mp hx⟩) hx2
      exact ⟨q, List.mem_cons_of_mem _ hm, hq⟩

theorem payloadOf_cons (p : Pkt) (rest : List Pkt) : payloadOf (p :: rest) = p.payload ++ payloadOf rest := rfl

theorem inorder_run {isn : Nat} {B : Bytes} (hl : SeqLinear isn B.length) (l : List Pkt) : ∀ c,
    c + (payloadOf l).length ≤ B.length → slice B c (c + (payloadOf l).length) = payloadOf l →
    InOrder (isn + c) l → RetransRun isn B c l ∧ reach isn c l = c + (payloadOf l).length := by
  induction l with
  | nil => exact fun c _ _ _ => ⟨trivial, rfl⟩
  | cons p rest ih =>
    intro c hle hsl ⟨hs, hp, hrest⟩
    rw [payloadOf_cons, List.length_append, ← Nat.add_assoc] at hle hsl ⊢
    have hce : c + p.payload.length ≤ B.length := Nat.le_trans (Nat.le_add_right ..) hle
    have ho : pOff isn p = c := by unfold pOff; rw [hs, Nat.add_sub_cancel_left]
    have he : pEnd isn p = c + p.payload.length := congrArg (· + p.payload.length) ho
    have hmax : max c (pEnd isn p) = c + p.payload.length := by rw [he]; exact Nat.max_eq_right (Nat.le_add_right ..)
    -- the first segment carries the first bytes of the slice, the others the rest
    have hpay : p.payload = slice B c (c + p.payload.length) := by
      have := congrArg (List.take p.payload.length) hsl
      rwa [slice_take (Nat.le_add_right ..), List.take_left, eq_comm] at this
    have hsl' := congrArg (List.drop p.payload.length) hsl
    rw [slice_drop, List.drop_left] at hsl'
    rw [seqAdd_lin hl hce, Nat.add_assoc] at hrest
    obtain ⟨i1, i2⟩ := ih _ hle hsl' hrest
    have hdp : DataPkt isn B p := ⟨hp, hs ▸ Nat.le_add_right .., he ▸ hce, by rw [ho, he]; exact hpay⟩
    exact ⟨⟨hdp.seg, Nat.le_of_eq ho, hmax ▸ i1⟩, by rw [reach, hmax, i2]⟩

theorem inorder_retransRun {isn : Nat} {l : List Pkt} (hl : SeqLinear isn (payloadOf l).length) (hio : InOrder isn l) :
    RetransRun isn (payloadOf l) 0 l ∧ reach isn 0 l = (payloadOf l).length := by
  have := inorder_run hl l 0 (Nat.le_of_eq (Nat.zero_add _)) (by rw [Nat.zero_add, slice_zero, List.take_length]) hio
  rwa [Nat.zero_add] at this

end Pk.Proofs.ImportReasm
