/-
  The packet-record walks of the reader (`packetsWalk`, `dataWalk`), `copyPackets` / `copySeg` of `AddIndex`
  and `dataRuns` only look at the records / varints of their own stream, hence `Stream.Data` is `dataOf` on the pieces
  of the stream (`reader_data_of_pieces`).  For the full C07 statement and C01Full `roundtrip_payload'`.
-/
import Pk.Proofs.MergeFullDefs
import Pk.Proofs.IndexFormatFullWalk
import Pk.Proofs.Bytes
namespace Pk.Index
open Pk Pk.Bytes

theorem chainOf_map_reimp (remap : List Nat) (l : List PacketRec) :
    chainOf (l.map (reimp remap)) = (chainOf l).map (List.map (reimp remap)) := by
  induction l with
  | nil => simp [chainOf]
  | cons p ps ih =>
    simp only [List.map_cons, chainOf]
    have : (reimp remap p).flags = p.flags := rfl
    rw [this, ih]
    split
    · rfl
    · cases chainOf ps <;> simp

theorem SkipsOk_map_reimp (remap : List Nat) (c : List PacketRec) : SkipsOk (c.map (reimp remap)) ↔ SkipsOk c := by
  induction c with
  | nil => simp [SkipsOk]
  | cons p ps ih =>
    simp only [List.map_cons, SkipsOk, List.length_map, ih]
    have h1 : (reimp remap p).flags = p.flags := rfl
    have h2 : (reimp remap p).skip = p.skip := rfl
    rw [h1, h2]

theorem SkipsOk_drop {c : List PacketRec} (h : SkipsOk c) (n : Nat) : SkipsOk (c.drop n) := by
  induction n generalizing c with
  | zero => simpa using h
  | succ n ih =>
    cases c with
    | nil => simp [SkipsOk]
    | cons p ps => simp only [List.drop_succ_cons]; exact ih h.2

theorem copyPackets_spec (remap : List Nat) (l out : List PacketRec) (h : copyPackets remap l = .ok out) :
    ∃ c, chainOf l = some c ∧ out = c.map (reimp remap) ∧ ∀ p ∈ c, p.imp < remap.length := by
  induction l generalizing out with
  | nil => simp [copyPackets] at h
  | cons p ps ih =>
    simp only [copyPackets] at h
    split at h
    · simp at h
    · rename_i i hi
      have hlt : p.imp < remap.length := by
        rcases Nat.lt_or_ge p.imp remap.length with h | h
        · exact h
        · simp [List.getElem?_eq_none h] at hi
      have hre : reimp remap p = { p with imp := i } := by
        simp [reimp, List.getD, hi]
      split at h
      · rename_i h0
        simp at h; subst h
        exact ⟨[p], chainOf_last h0, by simp [hre], by simpa using hlt⟩
      · rename_i h0
        split at h
        · simp at h
        · rename_i r hr
          simp at h; subst h
          obtain ⟨c, hc, rfl, hall⟩ := ih r hr
          refine ⟨p :: c, ?_, by simp [hre], ?_⟩
          · rw [chainOf_next (by omega), hc]; rfl
          · intro q hq
            simp at hq
            rcases hq with rfl | hq
            · exact hlt
            · exact hall q hq


theorem packetsWalk_chain (imps : List (Bytes × Nat)) (t : Int) (last : Option (Nat × Nat)) (lr : Nat)
    {l c : List PacketRec} (h : chainOf l = some c) :
    packetsWalk imps t last lr l = packetsWalk imps t last lr c := by
  induction l generalizing c t last lr with
  | nil => simp [chainOf] at h
  | cons p ps ih =>
    rcases chainOf_cons h with ⟨h0, rfl⟩ | ⟨h1, c', hc, rfl⟩
    · simp only [packetsWalk, h0, if_true]
    · simp only [packetsWalk]
      rw [ih _ _ _ hc]

theorem packetsWalk_append_imports (imps more : List (Bytes × Nat)) (c : List PacketRec) (hc : ∀ p ∈ c, p.imp < imps.length)
    (t : Int) (last : Option (Nat × Nat)) (lr : Nat) :
    packetsWalk (imps ++ more) t last lr c = packetsWalk imps t last lr c := by
  induction c generalizing t last lr with
  | nil => simp [packetsWalk]
  | cons p ps ih =>
    have hp : p.imp < imps.length := hc p (by simp)
    have hps : ∀ q ∈ ps, q.imp < imps.length := fun q hq => hc q (by simp [hq])
    simp only [packetsWalk]
    rw [List.getElem?_append_left hp]
    simp only [ih hps]

theorem packetsWalk_remap (imps imps' : List (Bytes × Nat)) (remap : List Nat)
    (hnd : imps.Nodup) (hmap : ∀ i, i < imps.length → imps'[remap.getD i 0]? = imps[i]?)
    (c : List PacketRec) (hc : ∀ p ∈ c, p.imp < imps.length) (t : Int) (lr : Nat)
    (last : Option (Nat × Nat)) (hl : ∀ a b, last = some (a, b) → a < imps.length) :
    packetsWalk imps' t (last.map fun ab => (remap.getD ab.1 0, ab.2)) lr (c.map (reimp remap)) = packetsWalk imps t last lr c := by
  induction c generalizing t last lr with
  | nil => simp [packetsWalk]
  | cons p ps ih =>
    have hp : p.imp < imps.length := hc p (by simp)
    have hps : ∀ q ∈ ps, q.imp < imps.length := fun q hq => hc q (by simp [hq])
    -- `imps` has no duplicates, so `remap` is injective on its ids and the same-packet test `last = (imp, idx)` answers alike
    have hinj : ∀ a, a < imps.length → remap.getD a 0 = remap.getD p.imp 0 → a = p.imp := by
      intro a ha he
      have h1 := hmap a ha
      have h2 := hmap p.imp hp
      rw [he, h2] at h1
      rw [List.getElem?_eq_getElem hp, List.getElem?_eq_getElem ha] at h1
      have h3 : imps[p.imp] = imps[a] := by simpa using h1
      exact ((List.getElem_inj hnd).mp h3).symm
    have hnew : ((last.map fun ab => (remap.getD ab.1 0, ab.2)) ≠ some ((reimp remap p).imp, (reimp remap p).idx)) ↔
        (last ≠ some (p.imp, p.idx)) := by
      cases last with
      | none => simp
      | some ab =>
        obtain ⟨a, b⟩ := ab
        have ha := hl a b rfl
        simp only [Option.map_some, reimp, ne_eq, Option.some.injEq, Prod.mk.injEq]
        constructor
        · intro h1 h2; exact h1 ⟨by rw [h2.1], h2.2⟩
        · intro h1 h2; exact h1 ⟨hinj a ha h2.1, h2.2⟩
    have hnext := ih hps
    have hf : (reimp remap p).flags = p.flags := rfl
    have hr : (reimp remap p).rel = p.rel := rfl
    have hidx : (reimp remap p).idx = p.idx := rfl
    have himp : (reimp remap p).imp = remap.getD p.imp 0 := rfl
    have hrec := fun t lr => hnext t lr (some (p.imp, p.idx)) (by intro a b h; cases h; exact hp)
    simp only [Option.map_some] at hrec
    simp only [List.map_cons, packetsWalk]
    simp only [hnew]
    simp only [hf, hr, hidx, himp, hmap _ hp, hrec]

theorem dwStep_reimp (remap : List Nat) (st : DWalk) (p : PacketRec) : dwStep st (reimp remap p) = dwStep st p := rfl

theorem dataWalk_map_reimp (remap : List Nat) (f : Nat) (st : DWalk) (l : List PacketRec) :
    dataWalk f st (l.map (reimp remap)) = dataWalk f st l := by
  induction f generalizing st l with
  | zero => simp [dataWalk]
  | succ f ih =>
    cases l with
    | nil => simp [dataWalk]
    | cons p ps =>
      rw [List.map_cons, dataWalk_succ, dataWalk_succ, dwStep_reimp, ← List.map_drop, ih, ih]
      have hf : (reimp remap p).flags = p.flags := rfl
      have hs : (reimp remap p).skip = p.skip := rfl
      rw [hf, hs, List.length_map]

theorem dataWalk_chain {l c : List PacketRec} (h : chainOf l = some c) (hs : SkipsOk c) (f f' : Nat)
    (hf : c.length ≤ f) (hf' : c.length ≤ f') (st : DWalk) : dataWalk f st l = dataWalk f' st c := by
  induction f generalizing f' st l c with
  | zero =>
    cases l with
    | nil => simp [chainOf] at h
    | cons p ps => rcases chainOf_cons h with ⟨_, rfl⟩ | ⟨_, c', _, rfl⟩ <;> simp at hf
  | succ f ih =>
    cases l with
    | nil => simp [chainOf] at h
    | cons p ps =>
      rcases chainOf_cons h with ⟨h0, rfl⟩ | ⟨h1, c', hc, rfl⟩
      · cases f' with
        | zero => simp at hf'
        | succ f' => rw [dataWalk_succ, dataWalk_succ]; simp [h0]
      · cases f' with
        | zero => simp at hf'
        | succ f' =>
          obtain ⟨rest, hrest⟩ := chainOf_split hc
          have hsk := hs.1 h1
          have hne : ¬ p.flags % 2 = 0 := by omega
          have hlen : ps.length = c'.length + rest.length := by rw [hrest]; simp
          have hl1 : ¬ ps.length < p.skip := by omega
          have hl2 : ¬ c'.length < p.skip := by omega
          simp only [List.length_cons] at hf hf'
          rw [dataWalk_succ, dataWalk_succ]
          simp only [hne, if_false, hl1, hl2]
          rw [ih (chainOf_drop hc p.skip hsk) (SkipsOk_drop hs.2 _) f' (by simp; omega) (by simp; omega),
            ih hc hs.2 f' (by omega) (by omega)]


theorem decVarintAux_split (seg : Bytes) : ∀ (a sz : Nat) (rest : Bytes), decVarintAux a seg = some (sz, rest) →
    ∃ head, head ≠ [] ∧ seg = head ++ rest ∧ ∀ t, decVarintAux a (head ++ t) = some (sz, t) := by
  induction seg with
  | nil => intro a sz rest h; simp [decVarintAux] at h
  | cons b bs ih =>
    intro a sz rest h
    simp only [decVarintAux] at h
    split at h
    · rename_i hb
      simp at h
      obtain ⟨rfl, rfl⟩ := h
      exact ⟨[b], by simp, rfl, fun t => by simp [decVarintAux, hb]⟩
    · rename_i hb
      obtain ⟨head, _, h2, h3⟩ := ih _ _ _ h
      refine ⟨b :: head, by simp, by rw [h2]; rfl, fun t => ?_⟩
      simp only [List.cons_append, decVarintAux, hb, if_false]
      exact h3 t

theorem decVarint_split {seg rest : Bytes} {sz : Nat} (h : decVarint seg = some (sz, rest)) :
    ∃ head, head ≠ [] ∧ seg = head ++ rest ∧ seg.take (seg.length - rest.length) = head ∧
      ∀ t, decVarint (head ++ t) = some (sz, t) := by
  obtain ⟨head, h1, h2, h3⟩ := decVarintAux_split seg 0 sz rest h
  refine ⟨head, h1, h2, ?_, h3⟩
  rw [h2]; simp

theorem SegCovers_zero : SegCovers 0 [] := ⟨1, rfl⟩

theorem mfw_SegCovers_zero_iff (pre : Bytes) : SegCovers 0 pre ↔ pre = [] := by
  constructor
  · rintro ⟨fuel, h⟩
    cases fuel with
    | zero => simp [copySeg] at h
    | succ fuel => simp [copySeg] at h; exact h
  · rintro rfl; exact SegCovers_zero

theorem SegCovers_cons {count sz : Nat} {head more : Bytes}
    (hdec : ∀ t, decVarint (head ++ t) = some (sz, t)) (hsz : sz ≤ count) (hc : count ≠ 0)
    (h : SegCovers (count - sz) more) : SegCovers count (head ++ more) := by
  obtain ⟨fuel, hf⟩ := h
  refine ⟨fuel + 1, ?_⟩
  simp only [copySeg, hc, if_false, hdec more]
  have : ¬ sz > count := by omega
  simp only [this, if_false, hf]
  simp

theorem SegCovers_uncons {count : Nat} {pre : Bytes} (h : SegCovers count pre) (hc : count ≠ 0) :
    ∃ sz head rest, head ≠ [] ∧ pre = head ++ rest ∧ (∀ t, decVarint (head ++ t) = some (sz, t)) ∧ sz ≤ count ∧
      SegCovers (count - sz) rest := by
  obtain ⟨fuel, hf⟩ := h
  cases fuel with
  | zero => simp [copySeg] at hf
  | succ fuel =>
    simp only [copySeg, hc, if_false] at hf
    split at hf
    · simp at hf
    · rename_i sz rest hdec
      obtain ⟨head, h1, h2, h3, h4⟩ := decVarint_split hdec
      split at hf
      · simp at hf
      · rename_i hle
        split at hf
        · simp at hf
        · rename_i more hmore
          simp only [Except.ok.injEq] at hf
          rw [h3] at hf
          have hrm : more = rest := by
            rw [← hf] at h2
            exact (List.append_cancel_left h2)
          subst hrm
          exact ⟨sz, head, more, h1, h2, h4, by omega, fuel, hmore⟩

theorem copySeg_prefix {fuel count : Nat} {seg pre : Bytes} (h : copySeg fuel count seg = .ok pre) :
    (∃ rest, seg = pre ++ rest) ∧ SegCovers count pre := by
  induction fuel generalizing count seg pre with
  | zero => simp [copySeg] at h
  | succ fuel ih =>
    simp only [copySeg] at h
    split at h
    · rename_i hc
      simp at h; subst h; subst hc
      exact ⟨⟨seg, rfl⟩, SegCovers_zero⟩
    · rename_i hc
      split at h
      · simp at h
      · rename_i sz rest hdec
        obtain ⟨head, h1, h2, h3, h4⟩ := decVarint_split hdec
        split at h
        · simp at h
        · rename_i hle
          split at h
          · simp at h
          · rename_i more hmore
            simp only [Except.ok.injEq] at h
            rw [h3] at h
            subst h
            obtain ⟨⟨rest', hr⟩, hcov⟩ := ih hmore
            refine ⟨⟨rest', by rw [h2, hr, List.append_assoc]⟩, ?_⟩
            exact SegCovers_cons h4 (by omega) hc hcov


theorem consume_len (dir : Nat) (pt : List (Int × Nat)) : ∀ (sz : Nat) (content : Bytes) (cs : List DataOut) (c : Bytes)
    (r : List (Int × Nat)), consume dir sz content pt = .ok (cs, c, r) → c.length + sz = content.length := by
  induction pt with
  | nil => intro sz content cs c r h; simp [consume] at h
  | cons tp rest ih =>
    obtain ⟨ts, psz⟩ := tp
    intro sz content cs c r h
    simp only [consume] at h
    generalize hcur : (if sz > psz then psz else sz) = cur at h
    have hle : cur ≤ sz := by split at hcur <;> omega
    split at h
    · simp at h
    · rename_i hlen
      split at h
      · rename_i hz
        simp only [Except.ok.injEq, Prod.mk.injEq] at h
        obtain ⟨_, rfl, _⟩ := h
        simp only [List.length_drop]
        omega
      · rename_i hz
        split at h
        · simp at h
        · rename_i cs' c' r' hrec
          simp only [Except.ok.injEq, Prod.mk.injEq] at h
          obtain ⟨_, rfl, _⟩ := h
          have := ih _ _ _ _ _ hrec
          simp only [List.length_drop] at this
          omega

theorem dataRuns_indep {count : Nat} {pre : Bytes} (h : SegCovers count pre) (t c0 c1 : Bytes)
    (hc : c0.length + c1.length = count) (dir : Nat) (pt0 pt1 : List (Int × Nat)) (f f' : Nat)
    (hf : (pre ++ t).length + 1 ≤ f) (hf' : pre.length + 1 ≤ f') :
    dataRuns f dir c0 c1 (pre ++ t) pt0 pt1 = dataRuns f' dir c0 c1 pre pt0 pt1 := by
  induction f generalizing f' count pre c0 c1 dir pt0 pt1 with
  | zero => omega
  | succ f ih =>
    cases f' with
    | zero => omega
    | succ f' =>
      by_cases hz : c0.length = 0 ∧ c1.length = 0
      · simp [dataRuns, hz]
      · have hcount : count ≠ 0 := by omega
        obtain ⟨sz, head, rest, hne, rfl, hdec, hsz, hcov⟩ := SegCovers_uncons h hcount
        have hhl : 1 ≤ head.length := by
          cases head with
          | nil => exact absurd rfl hne
          | cons _ _ => simp
        simp only [List.length_append] at hf hf'
        have hf2 : (rest ++ t).length + 1 ≤ f := by simp only [List.length_append]; omega
        have hf2' : rest.length + 1 ≤ f' := by omega
        have e1 : decVarint (head ++ rest ++ t) = some (sz, rest ++ t) := by rw [List.append_assoc]; exact hdec _
        simp only [dataRuns, hz, if_false, e1, hdec rest]
        by_cases hsz0 : sz = 0
        · subst hsz0
          simp only [if_true]
          exact ih hcov c0 c1 hc (1 - dir) pt0 pt1 f' hf2 hf2'
        · simp only [hsz0, if_false]
          cases hcons : consume dir sz (if dir = 0 then c0 else c1) (if dir = 0 then pt0 else pt1) with
          | error e => rfl
          | ok res =>
            obtain ⟨cs, c, pt⟩ := res
            have hlen := consume_len _ _ _ _ _ _ _ hcons
            simp only
            by_cases hd : dir = 0
            · simp only [hd, if_true] at hlen ⊢
              rw [ih hcov c c1 (by omega) 1 pt pt1 f' hf2 hf2']
            · simp only [hd, if_false] at hlen ⊢
              rw [ih hcov c0 c (by omega) 0 pt0 pt f' hf2 hf2']

theorem decVarint_flip : ∀ t : Bytes, decVarint ([0] ++ t) = some (0, t) := by
  intro t; simp [decVarint, decVarintAux]

theorem segBytes_covers (want : Nat) (runs : List (Nat × Nat)) (hlt : (runs.map (·.2)).sum < 2 ^ 64) :
    ∃ pre rest, segBytes want runs = pre ++ rest ∧ SegCovers (runs.map (·.2)).sum pre := by
  induction runs generalizing want with
  | nil => exact ⟨[], [], rfl, SegCovers_zero⟩
  | cons dn rs ih =>
    obtain ⟨d, n⟩ := dn
    simp only [List.map_cons, List.sum_cons] at hlt ⊢
    by_cases hz : n + (rs.map (·.2)).sum = 0
    · rw [hz]; exact ⟨[], _, rfl, SegCovers_zero⟩
    · obtain ⟨pre, rest, hpre, hcov⟩ := ih (1 - d) (by omega)
      have hcov' : SegCovers (n + (rs.map (·.2)).sum - n) pre := by
        rw [Nat.add_sub_cancel_left]; exact hcov
      have h1 : SegCovers (n + (rs.map (·.2)).sum) (encVarint n ++ pre) :=
        SegCovers_cons (varint_roundtrip n (by omega)) (by omega) hz hcov'
      simp only [segBytes, hpre]
      by_cases hd : d ≠ want
      · refine ⟨[0] ++ (encVarint n ++ pre), rest, by simp [hd], ?_⟩
        exact SegCovers_cons decVarint_flip (by omega) hz (by simpa using h1)
      · refine ⟨encVarint n ++ pre, rest, by simp [hd], h1⟩

theorem reader_data_of_pieces (r : Reader) (s : StreamRec) (k : Comp)
    (hch : chainOf (r.f.packets.drop s.pstart) = some k.chain)
    (hd : ∃ rest, r.f.data.drop s.dataStart = k.c ++ k.seg ++ rest) (hclen : k.c.length = s.cb + s.sb) (hk : k.Ok s) :
    r.data s = dataOf (r.firstPacket s) (expWraps s) s.cb s.sb k := by
  obtain ⟨rest, hd⟩ := hd
  obtain ⟨hsk, hseg, _⟩ := hk
  obtain ⟨prest, hp⟩ := chainOf_split hch
  unfold Reader.data dataOf
  simp only
  have hw : ∀ st, dataWalk ((r.f.packets.drop s.pstart).length + 1) st (r.f.packets.drop s.pstart)
      = dataWalk (k.chain.length + 1) st k.chain := by
    intro st
    apply dataWalk_chain hch hsk
    · rw [hp]; simp; omega
    · omega
  rw [show expWraps s = (i64 (sub64 s.last s.first) + 1000).tdiv wrapNs from rfl, hw]
  generalize dataWalk (k.chain.length + 1) _ k.chain = res
  cases res with
  | error e => rfl
  | ok st =>
    simp only
    rw [hd]
    have h1 : ¬ ((k.c ++ k.seg ++ rest).length < s.cb + s.sb) := by simp; omega
    simp only [h1, if_false]
    have e0 : (k.c ++ k.seg ++ rest).take s.cb = k.c.take s.cb := by
      rw [List.append_assoc, List.take_append_of_le_length (by omega)]
    have e1 : ((k.c ++ k.seg ++ rest).drop s.cb).take s.sb = (k.c.drop s.cb).take s.sb := by
      rw [List.append_assoc, List.drop_append_of_le_length (by omega),
        List.take_append_of_le_length (by simp; omega)]
    have e2 : (k.c ++ k.seg ++ rest).drop (s.cb + s.sb) = k.seg ++ rest := by
      rw [List.append_assoc, ← hclen, List.drop_left]
    rw [e0, e1, e2]
    apply dataRuns_indep hseg
    · simp; omega
    · omega
    · omega

end Pk.Index
