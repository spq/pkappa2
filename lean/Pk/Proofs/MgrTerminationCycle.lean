/-
  A tag is tainted when it, or a tag it (transitively) references, has pending streams.  The number of
  tainted tags is the part of the C09 termination measure that `inheritTagUncertainty` cannot increase:
  the sweep only makes a tag pending when one of its references is pending.

  The cycle check `cycleLoop` (the sweep of `createsTagCycle`) resolves every tag iff the tag table has a
  topological order (`topo_of_full`, `full_of_topo`): a sweep that adds nothing has already resolved every tag of
  any topological order, by induction along the references (`Topo.ind`).  The same induction shows that a table
  with a topological order and no eligible tag has no pending tag (`topo_all_decided`).
-/
import Pk.Proofs.MgrTagsInherit
import Pk.Proofs.MgrSettle

namespace Pk.Proofs.MgrTermination
open Pk.Mgr Pk.Proofs.MgrTags

inductive Tainted (T : List (String × Tag)) : String → Prop
  | self (n : String) (t : Tag) : sget T n = some t → t.unc ≠ [] → Tainted T n
  | ref (n : String) (t : Tag) (r : String) : sget T n = some t → r ∈ t.refs → Tainted T r → Tainted T n

open Classical in
noncomputable def tcount (T : List (String × Tag)) : Nat :=
  (T.map (·.1)).countP (fun n => decide (Tainted T n))

open Classical in
theorem tcount_le_length (T : List (String × Tag)) : tcount T ≤ T.length := by
  unfold tcount
  have := List.countP_le_length (p := fun n => decide (Tainted T n)) (l := T.map (·.1))
  simpa using this

open Classical in
theorem tcount_mono {T T' : List (String × Tag)} (hk : T'.map (·.1) = T.map (·.1))
    (h : ∀ n, Tainted T' n → Tainted T n) : tcount T' ≤ tcount T := by
  unfold tcount
  rw [hk]
  exact List.countP_mono_left (fun x _ hp => by simpa using h x (by simpa using hp))

open Classical in
theorem tcount_lt {T T' : List (String × Tag)} (hk : T'.map (·.1) = T.map (·.1))
    (h : ∀ n, Tainted T' n → Tainted T n) (n0 : String) (hn0 : n0 ∈ T.map (·.1))
    (h1 : Tainted T n0) (h2 : ¬ Tainted T' n0) : tcount T' < tcount T := by
  unfold tcount
  rw [hk]
  exact Pk.Lib.countP_lt_of _ _ _ (fun x _ hp => by simpa using h x (by simpa using hp)) n0 hn0
    (by simpa using h1) (by simpa using h2)

def Below (T T' : List (String × Tag)) : Prop :=
  ∀ n t', sget T' n = some t' → ∃ t, sget T n = some t ∧ t'.refs = t.refs ∧ (t'.unc ≠ [] → Tainted T n)

theorem Below.tainted {T T' : List (String × Tag)} (h : Below T T') : ∀ n, Tainted T' n → Tainted T n := by
  intro n hn
  induction hn with
  | self n t' ht hu =>
    obtain ⟨t, _, _, h3⟩ := h n t' ht
    exact h3 hu
  | ref n t' r ht hr _ ih =>
    obtain ⟨t, h1, h2, _⟩ := h n t' ht
    exact Tainted.ref n t r h1 (h2 ▸ hr) ih

theorem Below.refl (T : List (String × Tag)) : Below T T :=
  fun n t' h => ⟨t', h, rfl, fun hu => Tainted.self n t' h hu⟩

theorem Below.sins {T T' : List (String × Tag)} {n : String} {t t' : Tag} (hb : Below T T')
    (hg : sget T n = some t) (hr : t'.refs = t.refs) (hu : t'.unc ≠ [] → Tainted T n) :
    Below T (sins n t' T') := by
  intro k v hk
  rw [sget_sins] at hk
  split at hk
  · next he =>
    subst he
    cases hk
    exact ⟨t, hg, hr, hu⟩
  · exact hb k v hk

theorem not_tainted {T : List (String × Tag)} {n : String} {t : Tag} (hg : sget T n = some t)
    (hu : t.unc = []) (hr : t.refs = []) : ¬ Tainted T n := by
  intro h
  cases h with
  | self _ t' hn hu' =>
    rw [hg] at hn; cases hn
    exact hu' hu
  | ref _ t' r hn hr' _ =>
    rw [hg] at hn; cases hn
    rw [hr] at hr'; cases hr'

theorem union_eq_nil (a b : IdSet) (h : union a b = []) : a = [] ∧ b = [] := by
  constructor
  · cases a with
    | nil => rfl
    | cons x xs =>
      have : x ∈ union (x :: xs) b := by simp
      rw [h] at this; cases this
  · cases b with
    | nil => rfl
    | cons x xs =>
      have : x ∈ union a (x :: xs) := by simp
      rw [h] at this; cases this

theorem inheritOne_unc_ne (all : Nat) (T : List (String × Tag)) (t : Tag)
    (h : (inheritOne all T t).unc ≠ []) : t.unc ≠ [] ∨ ∃ r ∈ t.refs, tagUnc T r ≠ [] := by
  obtain ⟨u, e, hu⟩ := inheritOne_spec all T t
  rw [e] at h
  obtain ⟨x, hx⟩ := List.exists_mem_of_ne_nil _ h
  have hx := (hu x).1 hx
  split at hx
  · next hs => exact hs.elim fun r ⟨hr, hne⟩ => .inr ⟨r, by simp [hr], hne⟩
  · exact hx.imp List.ne_nil_of_mem fun ⟨r, hr, hx⟩ => ⟨r, by simp [hr], List.ne_nil_of_mem hx⟩

theorem tagUnc_ne {T : List (String × Tag)} {r : String} (h : tagUnc T r ≠ []) :
    ∃ t, sget T r = some t ∧ t.unc ≠ [] := by
  unfold tagUnc at h
  cases hr : sget T r with
  | none => simp [hr] at h
  | some t => exact ⟨t, rfl, by simpa [hr] using h⟩

/-- what the sweep keeps of the table; the list of resolved names plays no part -/
structure SweepInv (T0 : List (String × Tag)) (acc : List (String × Tag) × List String) : Prop where
  sorted : Sorted acc.1
  keys : acc.1.map (·.1) = T0.map (·.1)
  below : Below T0 acc.1

theorem inherit_sweep (s : St) (hs : Sorted s.tags) :
    (inherit s).tags.map (·.1) = s.tags.map (·.1) ∧ Below s.tags (inherit s).tags := by
  have h := inherit_inv s (fun T => SweepInv s.tags (T, []))
    (fun T n t h ht => by
      obtain ⟨t0, h1, h2, h3⟩ := h.below _ t ht
      refine ⟨sorted_sins _ _ _ h.sorted, (keys_sins_of_sget _ h.sorted _ _ _ ht).trans h.keys,
        h.below.sins h1 ((inheritOne_refs ..).trans h2) fun hu => ?_⟩
      rcases inheritOne_unc_ne _ _ _ hu with hu | ⟨r, hr, hu⟩
      · exact h3 hu
      · obtain ⟨tr, htr, hur⟩ := tagUnc_ne hu
        obtain ⟨_, _, _, h6⟩ := h.below r tr htr
        exact Tainted.ref _ t0 r h1 (h2 ▸ hr) (h6 hur))
    ⟨hs, rfl, Below.refl _⟩
  exact ⟨h.keys, h.below⟩

def cstep (resolved : List String) (nt : String × Tag) : List String :=
  if resolved.contains nt.1 then resolved
  else if nt.2.refs.all (fun r => resolved.contains r) then nt.1 :: resolved else resolved

theorem cyclePass_eq (tags : List (String × Tag)) (R : List String) : cyclePass tags R = tags.foldl cstep R := by
  unfold cyclePass
  congr 1

inductive GoodOrder (tags : List (String × Tag)) : List String → Prop
  | nil : GoodOrder tags []
  | cons (n : String) (t : Tag) (R : List String) : (n, t) ∈ tags → n ∉ R → (∀ r ∈ t.refs, r ∈ R) →
      GoodOrder tags R → GoodOrder tags (n :: R)

def Topo (tags : List (String × Tag)) : Prop := ∃ R, GoodOrder tags R ∧ ∀ k ∈ tags.map (·.1), k ∈ R

theorem good_transfer {L L' R} (h : GoodOrder L R)
    (h1 : ∀ n ∈ R, ∀ t, (n, t) ∈ L → ∃ t', (n, t') ∈ L' ∧ t'.refs = t.refs) : GoodOrder L' R := by
  induction h with
  | nil => exact GoodOrder.nil
  | cons n t R hm hn hr _ ih =>
    obtain ⟨t', hm', hrefs⟩ := h1 n List.mem_cons_self t hm
    exact GoodOrder.cons n t' R hm' hn (hrefs ▸ hr) (ih (fun x hx => h1 x (List.mem_cons_of_mem _ hx)))

theorem GoodOrder.nodup {tags R} (h : GoodOrder tags R) : R.Nodup := by
  induction h with
  | nil => exact List.nodup_nil
  | cons n t R _ hn _ _ ih => exact List.nodup_cons.mpr ⟨hn, ih⟩

theorem GoodOrder.keys {tags R} (h : GoodOrder tags R) : ∀ n ∈ R, n ∈ tags.map (·.1) := by
  induction h with
  | nil => intro n hn; cases hn
  | cons n t R hm _ _ _ ih =>
    intro x hx
    rcases List.mem_cons.mp hx with rfl | hx
    · exact List.mem_map.mpr ⟨_, hm, rfl⟩
    · exact ih x hx

theorem GoodOrder.length_le {tags R} (h : GoodOrder tags R) : R.length ≤ tags.length := by
  have := h.nodup.length_le_of_subset h.keys
  simpa using this

theorem cstep_cases (R : List String) (nt : String × Tag) :
    cstep R nt = R ∨ (cstep R nt = nt.1 :: R ∧ nt.1 ∉ R ∧ ∀ r ∈ nt.2.refs, r ∈ R) := by
  unfold cstep
  split
  · exact Or.inl rfl
  · next hc =>
    split
    · next ha => exact Or.inr ⟨rfl, by simpa using hc, fun r hr => by simpa using List.all_eq_true.mp ha r hr⟩
    · exact Or.inl rfl

theorem cstep_fire (R : List String) (nt : String × Tag) (hn : nt.1 ∉ R) (hr : ∀ r ∈ nt.2.refs, r ∈ R) :
    cstep R nt = nt.1 :: R := by
  unfold cstep
  have h1 : R.contains nt.1 = false := by simpa using hn
  have h2 : (nt.2.refs.all fun r => R.contains r) = true := by
    apply List.all_eq_true.mpr
    intro r hr'; simpa using hr r hr'
  rw [h1, h2]
  rfl

theorem fold_good {tags} (l : List (String × Tag)) (hl : ∀ x ∈ l, x ∈ tags) (R : List String)
    (h : GoodOrder tags R) : GoodOrder tags (l.foldl cstep R) := by
  refine foldl_inv_mem (GoodOrder tags) cstep l (fun R nt hm hR => ?_) R h
  rcases cstep_cases R nt with e | ⟨e, hn, hr⟩
  · rw [e]; exact hR
  · rw [e]; exact GoodOrder.cons nt.1 nt.2 R (hl nt hm) hn hr hR

theorem cycleLoop_good (tags : List (String × Tag)) (fuel : Nat) (R : List String) (h : GoodOrder tags R) :
    GoodOrder tags (cycleLoop fuel tags R) := by
  induction fuel generalizing R with
  | zero => exact h
  | succ fuel ih =>
    simp only [cycleLoop]
    split
    · exact h
    · apply ih
      rw [cyclePass_eq]
      exact fold_good tags (fun _ hx => hx) R h

theorem fold_len (l : List (String × Tag)) (R : List String) : R.length ≤ (l.foldl cstep R).length := by
  refine foldl_inv_mem (fun R' => R.length ≤ R'.length) cstep l (fun R' nt _ hR => ?_) R (Nat.le_refl _)
  rcases cstep_cases R' nt with e | ⟨e, _⟩
  · rw [e]; exact hR
  · rw [e]; exact Nat.le_succ_of_le hR

theorem fold_sub (l : List (String × Tag)) (R : List String) : ∀ x ∈ R, x ∈ l.foldl cstep R := by
  refine foldl_inv_mem (fun R' => ∀ x ∈ R, x ∈ R') cstep l (fun R' nt _ hR x hx => ?_) R (fun _ h => h)
  rcases cstep_cases R' nt with e | ⟨e, _⟩
  · rw [e]; exact hR x hx
  · rw [e]; exact List.mem_cons_of_mem _ (hR x hx)

theorem fold_fire (l : List (String × Tag)) (R : List String) (nt : String × Tag) (hm : nt ∈ l)
    (hn : nt.1 ∉ R) (hr : ∀ r ∈ nt.2.refs, r ∈ R) : R.length < (l.foldl cstep R).length := by
  induction l generalizing R with
  | nil => cases hm
  | cons a l ih =>
    simp only [List.foldl_cons]
    rcases cstep_cases R a with hsame | ⟨hcons, _⟩
    · rw [hsame]
      rcases List.mem_cons.mp hm with rfl | hm'
      · rw [cstep_fire R nt hn hr] at hsame
        have := congrArg List.length hsame
        simp at this
      · exact ih R hm' hn hr
    · have := fold_len l (cstep R a)
      rw [hcons] at this ⊢
      simp only [List.length_cons] at this
      omega

theorem cycleLoop_fix (tags : List (String × Tag)) (fuel : Nat) (R : List String) :
    (cyclePass tags (cycleLoop fuel tags R)).length = (cycleLoop fuel tags R).length ∨
    R.length + fuel ≤ (cycleLoop fuel tags R).length := by
  induction fuel generalizing R with
  | zero => right; simp [cycleLoop]
  | succ fuel ih =>
    simp only [cycleLoop]
    split
    · rename_i he
      left; simpa using he
    · rename_i hne
      have h1 : R.length ≤ (cyclePass tags R).length := by rw [cyclePass_eq]; exact fold_len _ _
      have h2 : (cyclePass tags R).length ≠ R.length := by simpa using hne
      rcases ih (cyclePass tags R) with h | h
      · exact Or.inl h
      · right; omega

theorem Topo.ind {tags : List (String × Tag)} (ht : Topo tags) {P : String → Prop}
    (step : ∀ n t, (n, t) ∈ tags → (∀ r ∈ t.refs, P r) → P n) : ∀ k ∈ tags.map (·.1), P k := by
  obtain ⟨R, hg, hall⟩ := ht
  suffices key : ∀ n ∈ R, P n from fun k hk => key k (hall k hk)
  clear hall
  induction hg with
  | nil => intro n hn; cases hn
  | cons n t R' hm _ hr _ ih =>
    intro x hx
    rcases List.mem_cons.mp hx with rfl | hx
    · exact step x t hm fun r hr' => ih r (hr r hr')
    · exact ih x hx

theorem topo_of_full (tags : List (String × Tag)) (fuel : Nat)
    (h : (cycleLoop fuel tags []).length = tags.length) : Topo tags := by
  have hg := cycleLoop_good tags fuel [] GoodOrder.nil
  refine ⟨_, hg, ?_⟩
  exact nodup_subset_length hg.nodup hg.keys (by simp [h])

theorem fix_full (tags : List (String × Tag)) (hs : Sorted tags) (ht : Topo tags) (R : List String)
    (hg : GoodOrder tags R) (hfix : (tags.foldl cstep R).length = R.length) : R.length = tags.length := by
  have hkeys : ∀ k ∈ tags.map (·.1), k ∈ R := ht.ind fun n t hm ih => Classical.byContradiction fun hc => by
    have := fold_fire tags R (n, t) hm hc ih
    omega
  have h1 := (sorted_nodup_keys hs).length_le_of_subset hkeys
  have h2 := hg.length_le
  simp only [List.length_map] at h1
  omega

theorem full_of_topo (tags : List (String × Tag)) (hs : Sorted tags) (fuel : Nat) (hf : tags.length ≤ fuel)
    (h : Topo tags) : (cycleLoop fuel tags []).length = tags.length := by
  have hg := cycleLoop_good tags fuel [] GoodOrder.nil
  rcases cycleLoop_fix tags fuel [] with hfix | hfix
  · exact fix_full tags hs h _ hg (cyclePass_eq tags _ ▸ hfix)
  · have := hg.length_le
    simp only [List.length_nil, Nat.zero_add] at hfix
    omega

theorem topo_all_decided (tags : List (String × Tag)) (hs : Sorted tags) (ht : Topo tags)
    (hne : ∀ nt ∈ tags, MgrSettle.eligT tags nt.2 = false) : ∀ nt ∈ tags, nt.2.unc = [] := by
  intro nt hnt
  refine ht.ind (P := fun n => ∀ t, sget tags n = some t → t.unc = []) (fun n t hm ih t' ht' => ?_) nt.1
    (List.mem_map.mpr ⟨nt, hnt, rfl⟩) nt.2 (mem_sget_of_sorted _ hs _ _ hnt)
  rw [mem_sget_of_sorted _ hs _ _ hm] at ht'; cases ht'
  -- a pending tag whose references are all decided is eligible
  apply Classical.byContradiction
  intro hu
  have he : MgrSettle.eligT tags t = true := by
    rw [MgrSettle.eligT_iff]
    refine ⟨hu, fun r hr => ?_⟩
    unfold tagUnc
    cases hg' : sget tags r with
    | none => rfl
    | some tr => exact ih r hr tr hg'
  rw [hne _ hm] at he; cases he

end Pk.Proofs.MgrTermination
