/- A crash point of a merge is a prefix of its operation sequence; `merge_prefix_cases` lists the prefixes (after
   some of the outputs, inside an output, after all outputs and some of the removals) with the disks they leave, in
   closed form. -/
import Pk.Model.RecoverIdx
import Pk.Proofs.RecoverIdx
import Pk.Proofs.Lib
namespace Pk.Proofs.RecoverIdx
open Pk.Recover

theorem applyOps_nil (d : List IndexFile) : applyOps d [] = d := rfl
theorem applyOps_cons (d : List IndexFile) (op : IdxOp) (ops : List IdxOp) :
    applyOps d (op :: ops) = applyOps (applyIdxOp d op) ops := rfl
theorem applyOps_append (d : List IndexFile) (a b : List IdxOp) :
    applyOps d (a ++ b) = applyOps (applyOps d a) b := by
  simp [applyOps, List.foldl_append]

def mkPart (o : Nat × List Nat) : IndexFile := { name := o.1, complete := false, ids := o.2 }

/-- `b = true`: `finish` on complete files; `b = false`: `cutFile` on incomplete ones -/
theorem setComplete_id (b : Bool) (d : List IndexFile) (n : Nat)
    (h : ∀ f ∈ d, f.name = n → f.complete = b) :
    d.map (fun f => if f.name = n then { f with complete := b } else f) = d :=
  Lib.map_ite_id _ _ d fun f hf hn => by rw [← h f hf hn]

theorem write_one (d : List IndexFile) (o : Nat × List Nat)
    (h : ∀ f ∈ d, f.name = o.1 → f.complete = true) :
    applyIdxOp (applyIdxOp d (.create o.1 o.2)) (.finish o.1) = d ++ [mkOut o] := by
  simp only [applyIdxOp, List.map_append, List.map_cons, List.map_nil, if_true]
  rw [setComplete_id true d o.1 h]
  rfl

/-- the hypothesis is what the induction needs: files of the disk that bear an output's name are complete
    (the outputs written earlier are), so that `finish` leaves them alone -/
theorem applyOps_writeOps_aux (d : List IndexFile) (os : List (Nat × List Nat))
    (h : ∀ o ∈ os, ∀ f ∈ d, f.name = o.1 → f.complete = true) :
    applyOps d (writeOps os) = d ++ os.map mkOut := by
  induction os generalizing d with
  | nil => simp [writeOps, applyOps_nil]
  | cons o os ih =>
    rw [writeOps, applyOps_cons, applyOps_cons, write_one d o (h o List.mem_cons_self), ih,
      List.map_cons, List.append_assoc, List.singleton_append]
    intro o' ho' f hf hn
    rcases List.mem_append.mp hf with hf | hf
    · exact h o' (List.mem_cons_of_mem _ ho') f hf hn
    · cases List.mem_singleton.mp hf; rfl

theorem applyOps_writeOps (d : List IndexFile) (os : List (Nat × List Nat))
    (hfresh : ∀ o ∈ os, ∀ f ∈ d, f.name ≠ o.1) :
    applyOps d (writeOps os) = d ++ os.map mkOut :=
  applyOps_writeOps_aux d os fun o ho f hf hn => absurd hn (hfresh o ho f hf)

theorem applyOps_writeOps_create (d : List IndexFile) (os : List (Nat × List Nat)) (o : Nat × List Nat)
    (hfresh : ∀ o ∈ os, ∀ f ∈ d, f.name ≠ o.1) :
    applyOps d (writeOps os ++ [.create o.1 o.2]) = d ++ os.map mkOut ++ [mkPart o] := by
  rw [applyOps_append, applyOps_writeOps d os hfresh]; rfl

theorem writeOps_append (a b : List (Nat × List Nat)) :
    writeOps (a ++ b) = writeOps a ++ writeOps b := by
  induction a with
  | nil => rfl
  | cons o os ih => simp [writeOps, ih]

theorem applyOps_deleteOps (d : List IndexFile) (ins : List Nat) :
    applyOps d (deleteOps ins) = d.filter (fun f => !(ins.contains f.name)) := by
  induction ins generalizing d with
  | nil =>
    simp only [deleteOps, List.map_nil, applyOps_nil]
    exact (List.filter_eq_self.mpr (fun _ _ => rfl)).symm
  | cons n ns ih =>
    simp only [deleteOps, List.map_cons, applyOps_cons] at ih ⊢
    rw [ih, applyIdxOp, List.filter_filter]
    apply List.filter_congr
    intro f _
    simp only [List.contains_cons, Bool.not_or, ne_eq, decide_not]
    cases h1 : (f.name == n) <;> cases h2 : ns.contains f.name <;> simp_all

theorem prefix_writeOps {os : List (Nat × List Nat)} {p : List IdxOp} (h : p <+: writeOps os) :
    (∃ a rest, os = a ++ rest ∧ p = writeOps a) ∨
    (∃ a o rest, os = a ++ o :: rest ∧ p = writeOps a ++ [.create o.1 o.2]) := by
  induction os generalizing p with
  | nil => exact .inl ⟨[], [], rfl, List.prefix_nil.1 h⟩
  | cons o os ih =>
    rcases List.prefix_cons_iff.1 h with rfl | ⟨_, rfl, h1⟩
    · exact .inl ⟨[], _, rfl, rfl⟩
    rcases List.prefix_cons_iff.1 h1 with rfl | ⟨_, rfl, h2⟩
    · exact .inr ⟨[], o, os, rfl, rfl⟩
    rcases ih h2 with ⟨a, rest, rfl, rfl⟩ | ⟨a, o', rest, rfl, rfl⟩
    · exact .inl ⟨o :: a, rest, rfl, rfl⟩
    · exact .inr ⟨o :: a, o', rest, rfl, rfl⟩

theorem merge_prefix_cases (d : List IndexFile) (ins : List Nat) (os : List (Nat × List Nat))
    (hfresh : ∀ o ∈ os, ∀ f ∈ d, f.name ≠ o.1) {p : List IdxOp} (h : p <+: mergeOps ins os) :
    (∃ a rest, os = a ++ rest ∧ p = writeOps a ∧ applyOps d p = d ++ a.map mkOut) ∨
    (∃ a o rest, os = a ++ o :: rest ∧ p = writeOps a ++ [.create o.1 o.2] ∧
        applyOps d p = d ++ a.map mkOut ++ [mkPart o]) ∨
    (∃ b rest, ins = b ++ rest ∧ b ≠ [] ∧ p = writeOps os ++ deleteOps b ∧
        applyOps d p = (d ++ os.map mkOut).filter (fun f => !(b.contains f.name))) := by
  have hf : ∀ a rest, os = a ++ rest → ∀ o ∈ a, ∀ f ∈ d, f.name ≠ o.1 := fun a rest e o ho =>
    hfresh o (e ▸ List.mem_append_left _ ho)
  rcases List.prefix_or_prefix_of_prefix h (List.prefix_append _ _) with h | ⟨t, rfl⟩
  · rcases prefix_writeOps h with ⟨a, rest, e, rfl⟩ | ⟨a, o, rest, e, rfl⟩
    · exact .inl ⟨a, rest, e, rfl, applyOps_writeOps d a (hf a rest e)⟩
    · exact .inr (.inl ⟨a, o, rest, e, rfl, applyOps_writeOps_create d a o (hf a _ e)⟩)
  · obtain ⟨_, e⟩ := (List.prefix_append_right_inj _).1 h
    obtain ⟨b, rest, rfl, rfl, -⟩ := List.map_eq_append_iff.1 e.symm
    cases b with
    | nil => exact .inl ⟨os, [], (List.append_nil _).symm, List.append_nil _,
        (List.append_nil _).symm ▸ applyOps_writeOps d os hfresh⟩
    | cons x b => exact .inr (.inr ⟨x :: b, rest, rfl, List.cons_ne_nil _ _, rfl, by
        rw [applyOps_append, applyOps_writeOps d os hfresh]; exact applyOps_deleteOps _ _⟩)

end Pk.Proofs.RecoverIdx
