/-
  `Finalize` then `NewReader` for a writer that satisfies `WInv` and is within the capacity limits:
  the reader shows, for every record, the view the writer tracks (`WView`), and it is well-formed.
-/
import Pk.Proofs.MergeFullLocated
import Pk.Proofs.MergeFullWF
import Pk.Proofs.IndexFormatFullWriter

namespace Pk.Index
open Pk Pk.Bytes

/-- a host section (`v4of`, `v6of`: the groups of one host size) holds at most 65 536 bytes per group -/
theorem vof_length_le (k : Nat) (gs : List HostGroup) (h : GroupsInv gs) :
    (((gs.filter (·.hostSize == k)).map (·.hosts)).flatten).length ≤ 65536 * gs.length := by
  induction gs with
  | nil => simp
  | cons g gs ih =>
    have hb := (h g (by simp)).bound
    have ih' := ih (fun x hx => h x (by simp [hx]))
    simp only [List.filter_cons]
    split <;> simp only [List.map_cons, List.flatten_cons, List.length_append, List.length_cons] <;> omega

theorem readHostGroups_length (v4 v6 : Bytes) (es : List HGEntry) (gs : List RHostGroup)
    (h : readHostGroups v4 v6 es = .ok gs) : gs.length = es.length := by
  induction es generalizing gs with
  | nil => simp [readHostGroups] at h; subst h; rfl
  | cons e es ih =>
    simp only [readHostGroups] at h
    cases hr : readHostGroups v4 v6 es with
    | error e' =>
      rw [hr] at h
      split at h <;> (try split at h) <;> simp at h
    | ok gs' =>
      rw [hr] at h
      have := ih gs' hr
      split at h <;> (try split at h) <;> simp at h <;> (subst h; simp [this])

theorem hostEntries_length (gs : List HostGroup) (a b : Nat) : (hostEntries gs a b).length = gs.length := by
  induction gs generalizing a b with
  | nil => rfl
  | cons g gs ih =>
    simp only [hostEntries]
    split <;> simp [ih]

theorem reopen_fits (w : Writer) (m : Reader) (hm : newReader w.finalize = .ok m) (hfit : m.Fits) : w.Fits := by
  obtain ⟨hf, _, _, hrg, hri⟩ := newReader_ok _ m hm
  obtain ⟨f1, f2, f3⟩ := hfit
  refine ⟨?_, ?_, ?_⟩
  · rw [hf] at f1; exact f1
  · rw [hri] at f2
    simpa [readImports, Writer.finalize] using f2
  · have := readHostGroups_length _ _ _ _ hrg
    rw [this] at f3
    have e : w.finalize.hostGroups = hostEntries w.hostGroups 0 0 := rfl
    rw [e, hostEntries_length] at f3
    exact f3

theorem reopen_fields (w : Writer) (hw : WInv w) (hfit : w.Fits) (m : Reader) (hm : newReader w.finalize = .ok m) :
    m.f.ref = w.ref ∧ m.f.packets = w.packets ∧ m.f.data = w.blobs.flatten ∧ m.f.streams = w.streams ∧
    m.imports = w.imports ∧ m.hostGroups = w.hostGroups.map HostGroup.toReader := by
  obtain ⟨e4, e2, e3, e1, e5, e6⟩ := reopen w m hm
  have h4 : (v4of w.hostGroups).length ≤ _ := vof_length_le 4 _ hw.groups
  have h6 : (v6of w.hostGroups).length ≤ _ := vof_length_le 16 _ hw.groups
  have := hfit.groups
  exact ⟨e1, e2, e3, e4, e5 hw.importsNoNul, e6 hw.groups (by omega) (by omega)⟩

theorem reopen_view (w : Writer) (hw : WInv w) (hfit : w.Fits) (m : Reader) (hm : newReader w.finalize = .ok m)
    (s : StreamRec) (v : StreamView) (hv : WView w s v) : m.view s = some v := by
  obtain ⟨e1, e2, e3, _, e5, e6⟩ := reopen_fields w hw hfit m hm
  obtain ⟨k, hl, hk, rfl⟩ := hv
  have hl' : Located m.imports.length m.f.packets m.f.data m.hostGroups s k := by
    rw [e2, e3, e5, e6]; exact hl
  rw [view_of_located m s k hl' hk]
  unfold Reader.firstPacket Reader.lastPacket Writer.fp Writer.lp
  rw [e1, e5]

theorem reopen_wf (w : Writer) (hw : WInv w) (hfit : w.Fits) (m : Reader) (hm : newReader w.finalize = .ok m) : m.WF := by
  obtain ⟨e1, e2, e3, e4, e5, e6⟩ := reopen_fields w hw hfit m hm
  refine ⟨?_, reopen_idRange _ m hm, by rw [e5]; exact hw.importsNodup, by rw [e5]; exact hw.importsNoNul, ?_, ?_, ?_⟩
  · intro g hg
    rw [e6] at hg
    obtain ⟨g0, hg0, rfl⟩ := List.mem_map.mp hg
    exact toReader_inv g0 (hw.groups g0 hg0)
  · intro s hs
    rw [e4] at hs; rw [e1]
    exact (hw.streams s hs).1
  · intro s hs
    rw [e4] at hs
    obtain ⟨_, k, _, hk⟩ := hw.streams s hs
    exact hk.2.2
  · intro s hs c hc
    rw [e4] at hs; rw [e2] at hc
    obtain ⟨_, k, hl, hk⟩ := hw.streams s hs
    have := hl.2.1
    rw [hc] at this
    injection this with h
    rw [h]; exact hk.1

end Pk.Index
