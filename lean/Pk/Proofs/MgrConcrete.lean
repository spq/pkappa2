/- Checking invariants of a CONCRETE state of the service loop (the counterexample and example runs): lookups in a
   literal table, the job in flight, the lock-count invariant by a look at the files that occur, `Reach` and the payload
   contract `PayloadOK` as decidable checks; the parser facts the example runs share. -/
import Pk.Props.MgrReach
import Pk.Proofs.MgrEval
import Pk.Proofs.MgrNames
namespace Pk.Mgr
open Pk.Props

theorem sget_one {α} {k : String} {v : α} {n : String} {t : α} (h : sget [(k, v)] n = some t) : n = k ∧ t = v := by
  cases List.mem_singleton.1 (sget_mem _ _ _ h); exact ⟨rfl, rfl⟩

theorem sget_two {α} {k1 k2 : String} {v1 v2 : α} {n : String} {t : α} (h : sget [(k1, v1), (k2, v2)] n = some t) :
    (n = k1 ∧ t = v1) ∨ (n = k2 ∧ t = v2) := by
  rcases List.mem_cons.1 (sget_mem _ _ _ h) with e | e
  · cases e; exact Or.inl ⟨rfl, rfl⟩
  · cases List.mem_singleton.1 e; exact Or.inr ⟨rfl, rfl⟩

theorem job_eq {α β γ} {a a' : α} {b b' : β} {c c' : γ} (h : some (a, b, c) = some (a', b', c')) :
    a' = a ∧ b' = b ∧ c' = c := by cases h; exact ⟨rfl, rfl, rfl⟩

/-- a file that occurs nowhere has no count, no content and no holder, so only the files that occur need a look
    (a finite check, `decide +kernel` on a concrete state) -/
theorem countInv_check (s : St)
    (h : ∀ f ∈ s.used.map (·.1) ++ s.files.map (·.1) ++ s.idx ++ C13.viewHeld s ++ C13.jobHeld s,
      (nget s.used f).getD 0 = C13.holders s f ∧ nget s.used f ≠ some 0 ∧
        (nget s.files f).isSome = (nget s.used f).isSome)
    (hw : C13.JobsWF s) : C13.CountInv s := by
  have key : ∀ f, f ∉ s.used.map (·.1) ++ s.files.map (·.1) ++ s.idx ++ C13.viewHeld s ++ C13.jobHeld s →
      nget s.used f = none ∧ nget s.files f = none ∧ C13.holders s f = 0 := by
    intro f hf
    simp only [List.mem_append, not_or] at hf
    obtain ⟨⟨⟨⟨h1, h2⟩, h3⟩, h4⟩, h5⟩ := hf
    refine ⟨(Pk.Proofs.MgrLocks.nget_eq_none_iff _ _).2 h1, (Pk.Proofs.MgrLocks.nget_eq_none_iff _ _).2 h2, ?_⟩
    unfold C13.holders
    rw [List.count_eq_zero_of_not_mem h3, List.count_eq_zero_of_not_mem h4, List.count_eq_zero_of_not_mem h5]
  refine ⟨fun f => ?_, fun f => ?_, fun f => ?_, hw⟩ <;>
    by_cases hf : f ∈ s.used.map (·.1) ++ s.files.map (·.1) ++ s.idx ++ C13.viewHeld s ++ C13.jobHeld s
  · exact (h f hf).1
  · obtain ⟨a, _, c⟩ := key f hf; rw [a, c]; rfl
  · exact (h f hf).2.1
  · rw [(key f hf).1]; intro e; cases e
  · exact (h f hf).2.2
  · obtain ⟨a, b, _⟩ := key f hf; rw [a, b]; rfl

theorem forall_sget {α} {T : List (String × α)} {P : String → α → Prop} (h : ∀ p ∈ T, P p.1 p.2) :
    ∀ n t, sget T n = some t → P n t := fun n t hs => h (n, t) (sget_mem _ _ _ hs)

theorem forall_job {α β γ} {o : Option (α × β × γ)} {P : α → β → γ → Prop} (h : ∀ j ∈ o, P j.1 j.2.1 j.2.2) :
    ∀ a b c, o = some (a, b, c) → P a b c := fun a b c e => h (a, b, c) (Option.mem_def.2 e)

/-! `Reach` with every quantifier over lookups (`sget s.tags n = some t`, `s.jTag = some (n, snap, held)`) turned into
a quantifier over the entries of the table or of the job slot, in five groups (instance search gives up on one
conjunction of this size): decidable, so `Reach` of a concrete state is `reach_of_check (by decide +kernel)`. -/

/-- table order, job flags, lock counts (`countInv_check`), import job, coverage, `next = all` -/
def ReachCheck1 (s : St) : Prop :=
  C06.TagsWF s ∧ C09.JobsWF s ∧
  (∀ f ∈ s.used.map (·.1) ++ s.files.map (·.1) ++ s.idx ++ C13.viewHeld s ++ C13.jobHeld s,
    (nget s.used f).getD 0 = C13.holders s f ∧ nget s.used f ≠ some 0 ∧
      (nget s.files f).isSome = (nget s.used f).isSome) ∧
  C13.JobsWF s ∧ (∀ j ∈ s.jImport, j.1 = s.next) ∧ C10.Covered s ∧ s.next ≤ s.all ∧ s.all ≤ s.next

/-- bounds on everything that holds stream ids; converters -/
def ReachCheck2 (s : St) : Prop :=
  (∀ p ∈ s.tags, ∀ id ∈ p.2.unc, id < s.all) ∧ (∀ j ∈ s.jTag, ∀ id ∈ j.2.1.unc, id < s.all) ∧
  (∀ id ∈ s.upd, id < s.all) ∧ (∀ id ∈ s.rst, id < s.all) ∧ (∀ id ∈ s.add, id < s.all) ∧
  (∀ p ∈ s.toconv, ∀ id ∈ p.2, id < s.all) ∧ (∀ j ∈ s.jConv, ∀ p ∈ j.1, ∀ id ∈ p.2, id < s.all) ∧
  (∀ nt ∈ s.tags, ∀ id ∈ nt.2.mat, id < s.next) ∧ (∀ j ∈ s.jTag, ∀ id ∈ j.2.1.mat, id < s.next) ∧
  (∀ p ∈ s.tags, ∀ c ∈ p.2.convs, c ∈ s.convs) ∧
  (∀ p ∈ s.tags, ∀ c ∈ p.2.convs, ∀ id ∈ p.2.mat, id < s.next → id ∈ C16.cachedOf s c ∨ id ∈ C16.queuedOf s c)

open Pk.Props.MgrReach in
/-- `FactsOK`: the job's entry, mark tags, tags with the same text -/
def ReachCheck3 (s : St) : Prop :=
  (∀ j ∈ s.jTag, ∀ ot ∈ sget s.tags j.1, ot.defn = j.2.1.defn → ot.mainT = j.2.1.mainT ∧ ot.subT = j.2.1.subT) ∧
  (∀ p ∈ s.tags, isMarkName p.1 = true → p.2.mainT = [] ∧ p.2.subT = []) ∧
  (∀ p1 ∈ s.tags, ∀ p2 ∈ s.tags, isMarkName p1.1 = false → isMarkName p2.1 = false → p1.2.defn = p2.2.defn →
    p1.2.mainT = p2.2.mainT ∧ p1.2.subT = p2.2.subT)

open Pk.Props.MgrReach in
/-- `FactsOK`: the same for the snapshot of the job in flight -/
def ReachCheck4 (s : St) : Prop :=
  (∀ j ∈ s.jTag, isMarkName j.1 = true → j.2.1.mainT = [] ∧ j.2.1.subT = []) ∧
  (∀ j ∈ s.jTag, isMarkName j.1 = false → ∀ p ∈ s.tags, isMarkName p.1 = false → p.2.defn = j.2.1.defn →
    p.2.mainT = j.2.1.mainT ∧ p.2.subT = j.2.1.subT)

/-- the reference graph, no stuck work -/
def ReachCheck5 (s : St) : Prop :=
  (∀ nt ∈ s.tags, ∀ r ∈ nt.2.refs, ∀ tr ∈ sget s.tags r, nt.1 ∈ tr.refBy) ∧
  Pk.Props.MgrReach.RefsExist s ∧ C09.NoStuck s

def ReachCheck (s : St) : Prop := ReachCheck1 s ∧ ReachCheck2 s ∧ ReachCheck3 s ∧ ReachCheck4 s ∧ ReachCheck5 s

instance (s : St) : Decidable (C06.TagsWF s) := by unfold C06.TagsWF; infer_instance
instance (s : St) : Decidable (C09.JobsWF s) := by unfold C09.JobsWF; infer_instance
instance (s : St) : Decidable (C13.JobsWF s) := by unfold C13.JobsWF; infer_instance
instance (s : St) : Decidable (C10.Covered s) := by unfold C10.Covered; infer_instance
instance (s : St) : Decidable (Pk.Props.MgrReach.RefsExist s) := by unfold Pk.Props.MgrReach.RefsExist; infer_instance
instance (s : St) : Decidable (C09.NoStuck s) := by unfold C09.NoStuck; infer_instance
instance (s : St) : Decidable (ReachCheck1 s) := by unfold ReachCheck1; infer_instance
instance (s : St) : Decidable (ReachCheck2 s) := by unfold ReachCheck2; infer_instance
instance (s : St) : Decidable (ReachCheck3 s) := by unfold ReachCheck3; infer_instance
instance (s : St) : Decidable (ReachCheck4 s) := by unfold ReachCheck4; infer_instance
instance (s : St) : Decidable (ReachCheck5 s) := by unfold ReachCheck5; infer_instance
instance (s : St) : Decidable (ReachCheck s) := by unfold ReachCheck; infer_instance

open Pk.Props.MgrReach in
theorem reach_of_check {s : St} (c : ReachCheck s) : Reach s := by
  obtain ⟨⟨tagsWF, jobsWF, count, countJobs, importJob, covered, nextLeAll, allLeNext⟩,
    ⟨unc, jobUnc, upd, rst, add, toconv, jobConv, mat, jobMat, convsWF, accounted⟩,
    ⟨factsJob, factsMark, factsText⟩, ⟨factsJobMark, factsJobText⟩, ⟨refByWF, refsExist, noStuck⟩⟩ := c
  exact {
    tagsWF := tagsWF
    jobsWF := jobsWF
    count := countInv_check s count countJobs
    importJob := fun jn held h => importJob (jn, held) (Option.mem_def.2 h)
    covered := covered
    nextLeAll := nextLeAll
    allLeNext := allLeNext
    uncBounded := forall_sget unc
    jobUnc := ⟨forall_job jobUnc, upd, rst, add, toconv, fun sets held h => jobConv (sets, held) (Option.mem_def.2 h)⟩
    matInv := ⟨mat, forall_job jobMat⟩
    convsWF := forall_sget convsWF
    accounted := forall_sget accounted
    factsOK := ⟨fun n snap held ot hj hot => factsJob (n, snap, held) (Option.mem_def.2 hj) ot (Option.mem_def.2 hot),
      forall_sget factsMark,
      fun n1 t1 n2 t2 h1 h2 => factsText (n1, t1) (sget_mem _ _ _ h1) (n2, t2) (sget_mem _ _ _ h2),
      forall_job factsJobMark,
      fun n snap held hj hm m ot hot => factsJobText (n, snap, held) (Option.mem_def.2 hj) hm (m, ot) (sget_mem _ _ _ hot)⟩
    refByWF := fun nt h r hr tr htr => refByWF nt h r hr tr (Option.mem_def.2 htr)
    refsExist := refsExist
    noStuck := noStuck }

/-! The payload contract `PayloadOK s e` in the same entry form: decidable, so the contract of an event of a concrete
run is `payloadOK_of_check (by decide +kernel)`.  (`NameOK` holds of every name: `nameOK_all`.) -/

open Pk.Props.MgrReach in
def PayloadCheck (s : St) : Ev → Prop
  | .importDone pr un cr upd rst add =>
    C13.FreshFiles s cr ∧ (s.jImport.isSome → 0 < pr ∧ pr ≤ s.queue.length) ∧
    ∀ j ∈ s.jImport, j.1 = s.next ∧ (un ≠ 0 → cr ≠ []) ∧ (∀ id < j.1 + un, j.1 ≤ id → ∃ c ∈ cr, id ∈ c.2) ∧
      (∀ id ∈ upd, id < j.1 + un) ∧ (∀ id ∈ rst, id < j.1 + un) ∧ ∀ id ∈ add, id < j.1 + un
  | .mergeDone merged =>
    C13.FreshFiles s merged ∧ ∀ j ∈ s.jMerge, j.2 = (s.idx.drop j.1).take j.2.length ∧
      (merged ≠ [] → ∀ f ∈ j.2, ∀ id ∈ C10.content s f, ∃ m ∈ merged, id ∈ m.2)
  | .tagDone name result => (∀ j ∈ s.jTag, j.1 = name) ∧ ∀ id ∈ result, id < s.next
  | .addTag _ _ d f =>
    (∀ id ∈ f.ids, id < s.next) ∧ (∀ j ∈ s.jTag, j.2.1.defn = d → j.2.1.mainT = f.main ∧ j.2.1.subT = f.sub) ∧
    (∀ p ∈ s.tags, p.2.defn = d → p.2.mainT = f.main ∧ p.2.subT = f.sub) ∧ (f.idsok = true → f.main = [] ∧ f.sub = [])
  | .updQuery _ d f =>
    (∀ j ∈ s.jTag, j.2.1.defn = d → j.2.1.mainT = f.main ∧ j.2.1.subT = f.sub) ∧
    (∀ p ∈ s.tags, p.2.defn = d → p.2.mainT = f.main ∧ p.2.subT = f.sub) ∧ (f.idsok = true → f.main = [] ∧ f.sub = [])
  | _ => True

instance (s : St) (fs : List (Nat × List Nat)) : Decidable (C13.FreshFiles s fs) := by
  unfold C13.FreshFiles; infer_instance
instance (s : St) (e : Ev) : Decidable (PayloadCheck s e) := by
  unfold PayloadCheck; split <;> infer_instance

open Pk.Props.MgrReach in
theorem payloadOK_of_check {s : St} {e : Ev} (c : PayloadCheck s e) : PayloadOK s e := by
  cases e with
  | importDone pr un cr upd rst add =>
    obtain ⟨fresh, proc, job⟩ := c
    refine ⟨⟨fresh, fun jn held h => ?_⟩, proc, trivial, fun jn held h => ?_, trivial⟩
    · obtain ⟨a, b, c, _⟩ := job (jn, held) (Option.mem_def.2 h)
      exact ⟨a, b, fun id h1 h2 => c id h2 h1⟩
    · exact (job (jn, held) (Option.mem_def.2 h)).2.2.2
  | mergeDone merged =>
    refine ⟨⟨c.1, fun off held h => ?_⟩, trivial, trivial, trivial, trivial⟩
    obtain ⟨a, b⟩ := c.2 (off, held) (Option.mem_def.2 h)
    exact ⟨a, fun hm id ⟨f, hf, hid⟩ => b hm f hf id hid⟩
  | tagDone name result => exact ⟨trivial, forall_job c.1, c.2, trivial, trivial⟩
  | addTag name color d f =>
    exact ⟨trivial, trivial, c.1, trivial, forall_job c.2.1, forall_sget c.2.2.1, c.2.2.2,
      Pk.Proofs.MgrReach.nameOK_all name⟩
  | updQuery name d f => exact ⟨trivial, trivial, trivial, trivial, forall_job c.1, forall_sget c.2.1, c.2.2⟩
  | updName name new =>
    exact ⟨trivial, trivial, trivial, trivial, Pk.Proofs.MgrReach.nameOK_all name, Pk.Proofs.MgrReach.nameOK_all new⟩
  | _ => exact ⟨trivial, trivial, trivial, trivial, trivial⟩

end Pk.Mgr

namespace Pk.Props.C06Reach

open Pk.Mgr in
/-- the parser facts of the example definition "sport:80": no references, looks at ports (feature bit 4) -/
def exFacts : Facts := { err := false, main := [], sub := [], mfeat := 4, sfeat := 0, idsok := false, ids := [] }

end Pk.Props.C06Reach
