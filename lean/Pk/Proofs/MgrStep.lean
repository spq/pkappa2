/-
  `Mgr.step`, event by event.  For every event: the post-state of the accepted call as a composition
  of named pieces (each piece is the text of the corresponding lines of `step`, so the equations
  `step_<event>_eq` hold by `rfl`; `step_convertDone_eq` and `step_addTag_eq` first bring a lambda and a pair
  of `step` into the shape of the pieces), and a case principle `step_<event>_cases`: to prove `P (step s e st)`
  it is enough to prove `P` of the unchanged state for a rejected (or idle) call and `P` of the
  post-state for an accepted one, under the conditions `step` tested.  Invariant proofs start from the
  case principle and never unfold `step` itself: splitting the sixteen-way match with its nested
  tests is what is slow to check.
-/
import Pk.Proofs.MgrBase
namespace Pk.Mgr

def qConv (s : St) (cs : List String) (ids : IdSet) : St :=
  cs.foldl (fun (s : St) c => { s with toconv := sins c (union ((sget s.toconv c).getD []) ids) s.toconv }) s

def jobTail (s : St) (st : Started) : St := startMerge (startConverter (startTagging s st.tag))

theorem step_nop (s : St) (st : Started) : step s .nop st = (s, .none) := rfl

theorem step_importPcaps_eq (s : St) (names : List String) (st : Started) :
    step s (.importPcaps names) st =
      if names.isEmpty then (s, .none) else
      (if ({ s with queue := s.queue ++ names } : St).queue.length == names.length
        then startImport { s with queue := s.queue ++ names } else { s with queue := s.queue ++ names }, .none) := rfl

theorem step_viewOpen_eq (s : St) (k : Nat) (st : Started) :
    step s (.viewOpen k) st =
      if (nget s.views k).isSome || s.idx.isEmpty then (s, .none)
      else ({ (getIndexesCopy s 0).1 with views := nins k (getIndexesCopy s 0).2 (getIndexesCopy s 0).1.views }, .none) := rfl

theorem step_viewRelease_eq (s : St) (k : Nat) (st : Started) :
    step s (.viewRelease k) st =
      match nget s.views k with
      | none => (s, .none)
      | some fs => (release { s with views := ndel s.views k } fs, .none) := rfl

theorem step_importPcaps_cases {P : St × Res → Prop} (s : St) (names : List String) (st : Started)
    (idle : P (s, .none)) (queued : names ≠ [] → s.queue ≠ [] → P ({ s with queue := s.queue ++ names }, .none))
    (started : names ≠ [] → s.queue = [] → P (startImport { s with queue := s.queue ++ names }, .none)) :
    P (step s (.importPcaps names) st) := by
  rw [step_importPcaps_eq]
  refine ite_cases P _ (fun _ => idle) fun h1 => ?_
  have hn : names ≠ [] := by simpa using h1
  -- the batch is the whole queue exactly when the queue was empty
  by_cases hq : s.queue = []
  · rw [if_pos (by simp [hq])]; exact started hn hq
  · rw [if_neg (by simpa using hq)]; exact queued hn hq

theorem step_viewOpen_cases {P : St × Res → Prop} (s : St) (k : Nat) (st : Started) (idle : P (s, .none))
    (opened : nget s.views k = none → s.idx ≠ [] →
      P ({ (getIndexesCopy s 0).1 with views := nins k (getIndexesCopy s 0).2 (getIndexesCopy s 0).1.views }, .none)) :
    P (step s (.viewOpen k) st) := by
  rw [step_viewOpen_eq]
  refine ite_cases P _ (fun _ => idle) fun h => ?_
  have h : nget s.views k = none ∧ s.idx ≠ [] := by simpa using h
  exact opened h.1 h.2

theorem step_viewRelease_cases {P : St × Res → Prop} (s : St) (k : Nat) (st : Started) (idle : P (s, .none))
    (released : ∀ fs, nget s.views k = some fs → P (release { s with views := ndel s.views k } fs, .none)) :
    P (step s (.viewRelease k) st) := by
  rw [step_viewRelease_eq]
  split
  · exact idle
  · next fs h => exact released fs h

def idCreated (s : St) (next' : Nat) (created : List (Nat × List Nat)) (upd rst add : IdSet) : St :=
  { s with idx := s.idx ++ created.map (·.1),
           files := created.foldl (fun fs (o, ids) => nins o ids fs) s.files,
           nrec := s.nrec + (created.map (·.2.length)).sum,
           next := next',
           used := lock s.used (created.map (·.1)),
           upd := union s.upd upd, rst := union s.rst rst, add := union s.add add }
def idApply (s : St) (next' : Nat) (created : List (Nat × List Nat)) (upd rst add : IdSet) : St :=
  if created.isEmpty then s else
    invalidateConverters (invalidateConverters (invalidateTags (idCreated s next' created upd rst add) upd rst add) upd) rst
def idQueue (s : St) : St := if s.queue.isEmpty then s else startImport s

def importDoneSt (s : St) (jnext : Nat) (held : List Nat) (processed usednew : Nat)
    (created : List (Nat × List Nat)) (upd rst add : List Nat) (st : Started) : St :=
  jobTail (idQueue { idApply (release { s with all := jnext + usednew, jImport := none } held)
      (jnext + usednew) created (ofList upd) (ofList rst) (ofList add) with
      queue := (idApply (release { s with all := jnext + usednew, jImport := none } held)
      (jnext + usednew) created (ofList upd) (ofList rst) (ofList add)).queue.drop processed }) st

theorem step_importDone_eq (s : St) (processed usednew : Nat) (created : List (Nat × List Nat))
    (upd rst add : List Nat) (st : Started) :
    step s (.importDone processed usednew created upd rst add) st =
      match s.jImport with
      | none => (s, .none)
      | some (jnext, held) =>
        (jobTail (idQueue { idApply (release { s with all := jnext + usednew, jImport := none } held)
            (jnext + usednew) created (ofList upd) (ofList rst) (ofList add) with
            queue := (idApply (release { s with all := jnext + usednew, jImport := none } held)
            (jnext + usednew) created (ofList upd) (ofList rst) (ofList add)).queue.drop processed }) st, .none) := rfl

theorem step_importDone_cases {P : St × Res → Prop} (s : St) (processed usednew : Nat)
    (created : List (Nat × List Nat)) (upd rst add : List Nat) (st : Started)
    (idle : s.jImport = none → P (s, .none))
    (done : ∀ jnext held, s.jImport = some (jnext, held) →
      P (importDoneSt s jnext held processed usednew created upd rst add st, .none)) :
    P (step s (.importDone processed usednew created upd rst add) st) := by
  rw [step_importDone_eq]
  split
  · next h => exact idle h
  · next jnext held h => exact done jnext held h

def tdTag (snap ot : Tag) (result : IdSet) : Tag :=
  { snap with mat := union (diff snap.mat snap.unc) result, unc := [], color := ot.color, convs := ot.convs, refBy := ot.refBy }
/-- re-apply the invalidations that arrived while the job ran -/
def tdInval (s : St) : St :=
  if s.upd.isEmpty && s.rst.isEmpty && s.add.isEmpty then s else invalidateTags s s.upd s.rst s.add
def tdPublish (s : St) (name : String) (snap : Tag) (result : IdSet) : St :=
  match sget s.tags name with
  | some ot =>
    if ot.defn == snap.defn && ot.gen == snap.gen then
      tdInval (setTag (qConv s (tdTag snap ot result).convs (tdTag snap ot result).mat) name (tdTag snap ot result))
    else s
  | none => s

def tagDoneSt (s : St) (name : String) (snap : Tag) (held : List Nat) (result : List Nat) (st : Started) : St :=
  release (jobTail { tdPublish { s with jTag := none } name snap (ofList result) with tag := false } st) held

theorem step_tagDone_eq (s : St) (name : String) (result : List Nat) (st : Started) :
    step s (.tagDone name result) st =
      match s.jTag with
      | none => (s, .none)
      | some (jn, snap, held) =>
        if jn != name then ({ s with badChoice := true }, .none) else
        (release (jobTail { tdPublish { s with jTag := none } name snap (ofList result) with tag := false } st) held, .none) := rfl

theorem step_tagDone_cases {P : St × Res → Prop} (s : St) (name : String) (result : List Nat) (st : Started)
    (idle : s.jTag = none → P (s, .none))
    (other : ∀ jn snap held, s.jTag = some (jn, snap, held) → jn ≠ name → P ({ s with badChoice := true }, .none))
    (done : ∀ snap held, s.jTag = some (name, snap, held) → P (tagDoneSt s name snap held result st, .none)) :
    P (step s (.tagDone name result) st) := by
  rw [step_tagDone_eq]
  split
  · next h => exact idle h
  · next jn snap held h =>
    by_cases hn : jn = name
    · subst hn; rw [if_neg (by simp)]; exact done snap held h
    · rw [if_pos (by simpa using hn)]; exact other jn snap held h hn

def mdApply (s : St) (off : Nat) (held : List Nat) (merged : List (Nat × List Nat)) : St :=
  if merged.isEmpty then { s with unm := s.unm + 1 }
  else
    let old := (s.idx.drop off).take held.length
    let s := release s old
    let ords := merged.map (·.1)
    let before := (old.map (step.fileCountOf s.files held)).sum
    { s with used := lock s.used ords,
             files := merged.foldl (fun fs (o, ids) => nins o ids fs) s.files,
             idx := s.idx.take off ++ ords ++ s.idx.drop (off + held.length),
             unm := s.unm + (merged.length - 1),
             nrec := s.nrec + (merged.map (·.2.length)).sum - before }

def mergeDoneSt (s : St) (off : Nat) (held : List Nat) (merged : List (Nat × List Nat)) : St :=
  release (startMerge { mdApply { s with jMerge := none } off held merged with merge := false }) held

theorem step_mergeDone_eq (s : St) (merged : List (Nat × List Nat)) (st : Started) :
    step s (.mergeDone merged) st =
      match s.jMerge with
      | none => (s, .none)
      | some (off, held) =>
        (release (startMerge { mdApply { s with jMerge := none } off held merged with merge := false }) held, .none) := rfl

theorem step_mergeDone_cases {P : St × Res → Prop} (s : St) (merged : List (Nat × List Nat)) (st : Started)
    (idle : s.jMerge = none → P (s, .none))
    (done : ∀ off held, s.jMerge = some (off, held) → P (mergeDoneSt s off held merged, .none)) :
    P (step s (.mergeDone merged) st) := by
  rw [step_mergeDone_eq]
  split
  · next h => exact idle h
  · next off held h => exact done off held h

/-- what a converter-job completion that converted `ids` does to one tag: a tag whose sub-query looks
    at payload becomes pending for all streams, one whose main query does for `ids` -/
def cdF (all : Nat) (ids : IdSet) (t : Tag) : Tag :=
  if t.sfeat &&& fData != 0 then (if ids.isEmpty then t else { t with unc := rangeSet all })
  else if t.mfeat &&& fData == 0 then t
  else { t with unc := union t.unc ids }
def cdMark (s : St) (p : String × IdSet) : St :=
  if !s.convs.contains p.1 then s
  else { s with tags := s.tags.map (fun q => (q.1, cdF s.all p.2 q.2)), upd := union s.upd p.2 }

def convertDoneSt (s : St) (sets : List (String × IdSet)) (held : List Nat) (st : Started) : St :=
  release (startConverter (startTagging (inherit (sets.foldl cdMark { s with convert := false, jConv := none })) st.tag)) held

theorem step_convertDone_eq (s : St) (st : Started) :
    step s .convertDone st =
      match s.jConv with
      | none => (s, .none)
      | some (sets, held) =>
        (release (startConverter (startTagging (inherit (sets.foldl cdMark { s with convert := false, jConv := none })) st.tag)) held, .none) := by
  have : (fun (s : St) (x : String × IdSet) =>
        match x with
        | (c, ids) =>
          if !s.convs.contains c then s
          else
            let tags := s.tags.map fun (n, t) =>
              if t.sfeat &&& fData != 0 then (n, if ids.isEmpty then t else { t with unc := rangeSet s.all })
              else if t.mfeat &&& fData == 0 then (n, t)
              else (n, { t with unc := union t.unc ids })
            { s with tags := tags, upd := union s.upd ids }) = cdMark := by
    funext s ⟨c, ids⟩
    simp only [cdMark]
    split
    · rfl
    · congr 1
      apply List.map_congr_left
      rintro ⟨n, t⟩ _
      simp only [cdF]
      split
      · rfl
      · split <;> rfl
  simp only [← this]; rfl

theorem step_convertDone_cases {P : St × Res → Prop} (s : St) (st : Started)
    (idle : s.jConv = none → P (s, .none))
    (done : ∀ sets held, s.jConv = some (sets, held) → P (convertDoneSt s sets held st, .none)) :
    P (step s .convertDone st) := by
  rw [step_convertDone_eq]
  split
  · next h => exact idle h
  · next sets held h => exact done sets held h

def atTag (color defn : String) (f : Facts) (isMark : Bool) : Tag :=
  { defn := defn, mainT := f.main, subT := f.sub, mfeat := f.mfeat, sfeat := f.sfeat, color := color, isMarkDef := isMark }
def atNew (s : St) (color defn : String) (f : Facts) (isMark : Bool) : Tag :=
  { atTag color defn f isMark with
    gen := s.ngen, mat := if isMark then ofList f.ids else [], unc := if isMark then [] else rangeSet s.all }
def atFinish (s : St) (name : String) (nt : Tag) (isMark : Bool) (st : Started) : St :=
  nt.refs.foldl (fun s r => addRefBy s r name) (if isMark then setTag s name nt else startTagging (setTag s name nt) st.tag)

def addTagSt (s : St) (name color defn : String) (f : Facts) (st : Started) : St :=
  atFinish { s with ngen := s.ngen + 1 } name (atNew s color defn f (parseTagName name).2.2) (parseTagName name).2.2 st

/-- the tests `addTag` passes before it changes anything -/
structure AddTagOk (s : St) (name : String) (f : Facts) : Prop where
  typ : (parseTagName name).1 ≠ ""
  sub : (parseTagName name).2.1 ≠ ""
  parsed : f.err = false
  self : ¬ (name ∈ f.main ∨ name ∈ f.sub)
  ids : (parseTagName name).2.2 = true → f.idsok = true
  fresh : sget s.tags name = none
  refs : ∀ r, r ∈ f.main ∨ r ∈ f.sub → (sget s.tags r).isSome = true

theorem step_addTag_eq (s : St) (name color defn : String) (f : Facts) (st : Started) :
    step s (.addTag name color defn f) st =
    match parseTagName name with
    | (typ, sub, isMark) =>
      if typ == "" || sub == "" then (s, .err)
      else if f.err then (s, .err)
      else if (atTag color defn f isMark).refs.contains name then (s, .err)
      else if isMark && !f.idsok then (s, .err)
      else if (sget s.tags name).isSome then (s, .err)
      else if (atTag color defn f isMark).refs.any (fun r => (sget s.tags r).isNone) then (s, .err)
      else (atFinish { s with ngen := s.ngen + 1 } name (atNew s color defn f isMark) isMark st, .ok) := by
  -- `step` builds the tag through a pair `(s, nt)` whose first component is `s` in both branches
  let pair (isMark : Bool) : St × Tag :=
    if isMark then (s, { atTag color defn f isMark with gen := s.ngen, mat := ofList f.ids })
    else (s, { atTag color defn f isMark with gen := s.ngen, unc := rangeSet s.all })
  have e1 : step s (.addTag name color defn f) st =
    match parseTagName name with
    | (typ, sub, isMark) =>
      if typ == "" || sub == "" then (s, .err)
      else if f.err then (s, .err)
      else if (atTag color defn f isMark).refs.contains name then (s, .err)
      else if isMark && !f.idsok then (s, .err)
      else if (sget s.tags name).isSome then (s, .err)
      else if (atTag color defn f isMark).refs.any (fun r => (sget s.tags r).isNone) then (s, .err)
      else (atFinish { (pair isMark).1 with ngen := (pair isMark).1.ngen + 1 } name (pair isMark).2 isMark st, .ok) := rfl
  rw [e1]
  generalize parseTagName name = p
  obtain ⟨typ, sub, isMark⟩ := p
  cases isMark <;> rfl

theorem step_addTag_cases {P : St × Res → Prop} (s : St) (name color defn : String) (f : Facts) (st : Started)
    (rej : P (s, .err)) (acc : AddTagOk s name f → P (addTagSt s name color defn f st, .ok)) :
    P (step s (.addTag name color defn f) st) := by
  rw [step_addTag_eq]
  rcases hp : parseTagName name with ⟨typ, sub, isMark⟩
  dsimp only
  refine ite_cases P _ (fun _ => rej) fun h1 => ?_
  refine ite_cases P _ (fun _ => rej) fun h2 => ?_
  refine ite_cases P _ (fun _ => rej) fun h3 => ?_
  refine ite_cases P _ (fun _ => rej) fun h4 => ?_
  refine ite_cases P _ (fun _ => rej) fun h5 => ?_
  refine ite_cases P _ (fun _ => rej) fun h6 => ?_
  have ok : AddTagOk s name f := by
    refine ⟨?_, ?_, ?_, ?_, ?_, ?_, ?_⟩
    · rw [hp]; exact fun h => h1 (by simp [show typ = "" from h])
    · rw [hp]; exact fun h => h1 (by simp [show sub = "" from h])
    · simpa using h2
    · simpa [atTag] using h3
    · rw [hp]; intro hm; cases hm' : f.idsok <;> simp_all
    · cases hs : sget s.tags name <;> simp_all
    · intro r hr
      cases hs : sget s.tags r with
      | some _ => rfl
      | none => exact absurd (List.any_eq_true.2 ⟨r, by simpa [atTag] using hr, by simp [hs]⟩) h6
  have := acc ok
  rw [addTagSt, hp] at this
  exact this

def uqTag (defn : String) (f : Facts) : Tag :=
  { defn := defn, mainT := f.main, subT := f.sub, mfeat := f.mfeat, sfeat := f.sfeat }
def uqNew (defn : String) (f : Facts) (t : Tag) (all : Nat) : Tag :=
  { uqTag defn f with color := t.color, convs := t.convs, refBy := t.refBy, gen := t.gen, unc := rangeSet all }
def uqRefs (s : St) (name : String) (before after : List String) : St :=
  (after.filter (fun r => !before.contains r)).foldl (fun s r => addRefBy s r name)
    ((before.filter (fun r => !after.contains r)).foldl (fun s r => delRefBy s r name) s)
def uqInv (s : St) : St := invalidatedDuringTaggingJob s (rangeSet s.all)
def uqApply (s : St) (name : String) (t nt : Tag) (st : Started) : St :=
  startConverter (startTagging (uqInv (inherit (setTag (uqRefs s name t.refs nt.refs) name nt))) st.tag)

def updQuerySt (s : St) (name defn : String) (f : Facts) (t : Tag) (st : Started) : St :=
  uqApply s name t (uqNew defn f t s.all) st

/-- `t` is the entry `updQuery` replaces -/
structure UpdQueryOk (s : St) (name defn : String) (f : Facts) (t : Tag) : Prop where
  parsed : f.err = false
  self : ¬ (name ∈ f.main ∨ name ∈ f.sub)
  ids : (name.startsWith "mark/" || name.startsWith "generated/") = true → f.idsok = true
  found : sget s.tags name = some t
  refs : ∀ r, r ∈ f.main ∨ r ∈ f.sub → (sget s.tags r).isSome = true
  acyclic : createsTagCycle s.tags name (uqTag defn f) = false
  /-- a tag with converters attached keeps a definition that looks at neither payload nor tags -/
  plain : (!t.convs.isEmpty && (f.mfeat &&& fData ≠ 0 || f.sfeat &&& fData ≠ 0 || !f.main.isEmpty || !f.sub.isEmpty)) = false

theorem step_updQuery_eq (s : St) (name defn : String) (f : Facts) (st : Started) :
    step s (.updQuery name defn f) st =
      if f.err then (s, .err)
      else if (uqTag defn f).refs.contains name then (s, .err)
      else if (name.startsWith "mark/" || name.startsWith "generated/") && !f.idsok then (s, .err)
      else match sget s.tags name with
        | none => (s, .err)
        | some t =>
          if (uqTag defn f).refs.any (fun r => (sget s.tags r).isNone) then (s, .err)
          else if createsTagCycle s.tags name (uqTag defn f) then (s, .err)
          else if !t.convs.isEmpty &&
              (f.mfeat &&& fData ≠ 0 || f.sfeat &&& fData ≠ 0 || !f.main.isEmpty || !f.sub.isEmpty) then (s, .err)
          else (updQuerySt s name defn f t st, .ok) := rfl

theorem step_updQuery_cases {P : St × Res → Prop} (s : St) (name defn : String) (f : Facts) (st : Started)
    (rej : P (s, .err)) (acc : ∀ t, UpdQueryOk s name defn f t → P (updQuerySt s name defn f t st, .ok)) :
    P (step s (.updQuery name defn f) st) := by
  rw [step_updQuery_eq]
  refine ite_cases P _ (fun _ => rej) fun h1 => ?_
  refine ite_cases P _ (fun _ => rej) fun h2 => ?_
  refine ite_cases P _ (fun _ => rej) fun h3 => ?_
  split
  · exact rej
  next t ht =>
  refine ite_cases P _ (fun _ => rej) fun h4 => ?_
  refine ite_cases P _ (fun _ => rej) fun h5 => ?_
  refine ite_cases P _ (fun _ => rej) fun h6 => ?_
  refine acc t ⟨by simpa using h1, by simpa [uqTag] using h2, ?_, ht, ?_, by simpa using h5, by simpa using h6⟩
  · intro hm; cases hm' : f.idsok <;> simp_all
  · intro r hr
    cases hs : sget s.tags r with
    | some _ => rfl
    | none => exact absurd (List.any_eq_true.2 ⟨r, by simpa [uqTag] using hr, by simp [hs]⟩) h4

theorem step_updColor_eq (s : St) (name color : String) (st : Started) :
    step s (.updColor name color) st =
      match sget s.tags name with
      | none => (s, .err)
      | some t => (if color == "" then s else setTag s name { t with color := color }, .ok) := rfl

theorem step_updColor_cases {P : St × Res → Prop} (s : St) (name color : String) (st : Started)
    (rej : P (s, .err)) (noop : P (s, .ok))
    (acc : ∀ t, sget s.tags name = some t → P (setTag s name { t with color := color }, .ok)) :
    P (step s (.updColor name color) st) := by
  rw [step_updColor_eq]
  split
  · exact rej
  · next t ht =>
    exact ite_cases (fun x => P (x, .ok)) _ (fun _ => noop) fun _ => acc t ht

def unApply (s : St) (name new : String) (t : Tag) : St :=
  t.refs.foldl (fun s r => addRefBy (delRefBy s r name) r new) { s with tags := sins new t (sdel s.tags name) }

structure UpdNameOk (s : St) (name new : String) (t : Tag) : Prop where
  found : sget s.tags name = some t
  nonempty : new ≠ ""
  typ : (parseTagName new).1 = (parseTagName name).1
  sub : (parseTagName new).2.1 ≠ ""
  fresh : sget s.tags new = none
  unref : t.refBy = []

theorem step_updName_eq (s : St) (name new : String) (st : Started) :
    step s (.updName name new) st =
      match sget s.tags name with
      | none => (s, .err)
      | some t =>
        if new == "" then (s, .ok) else
        if (parseTagName new).1 != (parseTagName name).1 then (s, .err)
        else if (parseTagName new).2.1 == "" then (s, .err)
        else if (sget s.tags new).isSome then (s, .err)
        else if !t.refBy.isEmpty then (s, .err)
        else (unApply s name new t, .ok) := rfl

theorem step_updName_cases {P : St × Res → Prop} (s : St) (name new : String) (st : Started)
    (rej : P (s, .err)) (noop : ∀ t, sget s.tags name = some t → new = "" → P (s, .ok))
    (acc : ∀ t, UpdNameOk s name new t → P (unApply s name new t, .ok)) :
    P (step s (.updName name new) st) := by
  rw [step_updName_eq]
  split
  · exact rej
  next t ht =>
  refine ite_cases P _ (fun h1 => noop t ht (by simpa using h1)) fun h1 => ?_
  refine ite_cases P _ (fun _ => rej) fun h2 => ?_
  refine ite_cases P _ (fun _ => rej) fun h3 => ?_
  refine ite_cases P _ (fun _ => rej) fun h4 => ?_
  refine ite_cases P _ (fun _ => rej) fun h5 => ?_
  refine acc t ⟨ht, by simpa using h1, by simpa using h2, by simpa using h3, ?_, by simpa using h5⟩
  cases hs : sget s.tags new <;> simp_all

def ucDetach (s : St) (name : String) (t : Tag) (convs : List String) (choice : Option String) : St :=
  (t.convs.filter (fun c => !convs.contains c)).foldl (fun s c => detachConv s name c choice) s
def ucAttach (s : St) (name : String) (convs : List String) : St :=
  (convs.filter (fun c => !(((sget s.tags name).map (·.convs)).getD []).contains c)).foldl
    (fun s c => (attachConv s name c).1) s

def updConvSt (s : St) (name : String) (t : Tag) (convs : List String) (st : Started) : St :=
  startConverter (ucAttach (ucDetach s name t convs st.tag) name convs)

theorem step_updConv_eq (s : St) (name : String) (convs : List String) (st : Started) :
    step s (.updConv name convs) st =
      match sget s.tags name with
      | none => (s, .err)
      | some t =>
        if convs.any (fun c => !t.convs.contains c && (!s.convs.contains c ||
            !(!(t.mfeat &&& fData ≠ 0 || t.sfeat &&& fData ≠ 0 || !t.mainT.isEmpty || !t.subT.isEmpty)))) then (s, .err) else
        (startConverter (ucAttach (ucDetach s name t convs st.tag) name convs), .ok) := rfl

theorem step_updConv_cases {P : St × Res → Prop} (s : St) (name : String) (convs : List String) (st : Started)
    (rej : P (s, .err))
    (acc : ∀ t, sget s.tags name = some t →
      convs.any (fun c => !t.convs.contains c && (!s.convs.contains c ||
        !(!(t.mfeat &&& fData ≠ 0 || t.sfeat &&& fData ≠ 0 || !t.mainT.isEmpty || !t.subT.isEmpty)))) = false →
      P (updConvSt s name t convs st, .ok)) :
    P (step s (.updConv name convs) st) := by
  rw [step_updConv_eq]
  split
  · exact rej
  next t ht =>
  exact ite_cases P _ (fun _ => rej) fun h => acc t ht (by simpa using h)

def markSt (s : St) (name : String) (addIds delIds : List Nat) (st : Started) : St :=
  startConverter (startTagging (markUpdate s name addIds delIds).1 st.tag)

theorem step_markAdd_eq (s : St) (name : String) (ids : List Nat) (st : Started) :
    step s (.markAdd name ids) st =
      if !ids.isEmpty && !(name.startsWith "mark/" || name.startsWith "generated/") then (s, .err) else
      match sget s.tags name with
      | none => (s, .err)
      | some _ =>
        if ids.isEmpty then (s, .ok)
        else if ids.foldl max 0 ≥ s.next then (s, .err)
        else (markSt s name ids [] st, (markUpdate s name ids []).2) := rfl

theorem step_markDel_eq (s : St) (name : String) (ids : List Nat) (st : Started) :
    step s (.markDel name ids) st =
      if !ids.isEmpty && !(name.startsWith "mark/" || name.startsWith "generated/") then (s, .err) else
      match sget s.tags name with
      | none => (s, .err)
      | some _ =>
        if ids.isEmpty then (s, .ok)
        else if ids.foldl max 0 ≥ s.next then (s, .err)
        else (markSt s name [] ids st, (markUpdate s name [] ids).2) := rfl

structure MarkOk (s : St) (name : String) (ids : List Nat) (t : Tag) : Prop where
  found : sget s.tags name = some t
  nonempty : ids ≠ []
  mark : (name.startsWith "mark/" || name.startsWith "generated/") = true
  known : ids.foldl max 0 < s.next

private theorem mark_cases {P : St × Res → Prop} (s : St) (name : String) (ids : List Nat) (r : St × Res)
    (rej : P (s, .err)) (noop : ∀ t, sget s.tags name = some t → ids = [] → P (s, .ok))
    (acc : ∀ t, MarkOk s name ids t → P r) :
    P (if !ids.isEmpty && !(name.startsWith "mark/" || name.startsWith "generated/") then (s, .err) else
      match sget s.tags name with
      | none => (s, .err)
      | some _ => if ids.isEmpty then (s, .ok) else if ids.foldl max 0 ≥ s.next then (s, .err) else r) := by
  refine ite_cases P _ (fun _ => rej) fun h1 => ?_
  split
  · exact rej
  next t ht =>
  refine ite_cases P _ (fun h2 => noop t ht (by simpa using h2)) fun h2 => ?_
  refine ite_cases P _ (fun _ => rej) fun h3 => ?_
  refine acc t ⟨ht, by simpa using h2, ?_, by omega⟩
  cases hm : (name.startsWith "mark/" || name.startsWith "generated/") <;> simp_all

theorem markUpdate_res (s : St) (name : String) (a d : List Nat) (t : Tag) (ht : sget s.tags name = some t) :
    (markUpdate s name a d).2 = .ok := by
  unfold markUpdate
  rw [ht]

theorem step_markAdd_cases {P : St × Res → Prop} (s : St) (name : String) (ids : List Nat) (st : Started)
    (rej : P (s, .err)) (noop : ∀ t, sget s.tags name = some t → ids = [] → P (s, .ok))
    (acc : ∀ t, MarkOk s name ids t → P (markSt s name ids [] st, .ok)) :
    P (step s (.markAdd name ids) st) := by
  rw [step_markAdd_eq]
  exact mark_cases s name ids _ rej noop fun t ok => markUpdate_res s name ids [] t ok.found ▸ acc t ok

theorem step_markDel_cases {P : St × Res → Prop} (s : St) (name : String) (ids : List Nat) (st : Started)
    (rej : P (s, .err)) (noop : ∀ t, sget s.tags name = some t → ids = [] → P (s, .ok))
    (acc : ∀ t, MarkOk s name ids t → P (markSt s name [] ids st, .ok)) :
    P (step s (.markDel name ids) st) := by
  rw [step_markDel_eq]
  exact mark_cases s name ids _ rej noop fun t ok => markUpdate_res s name [] ids t ok.found ▸ acc t ok

def dtApply (s : St) (name : String) (t : Tag) (choice : Option String) : St :=
  t.refs.foldl (fun s r => delRefBy s r name)
    { (t.convs.foldl (fun s c => detachConv s name c choice) s) with
      tags := sdel (t.convs.foldl (fun s c => detachConv s name c choice) s).tags name }

theorem step_delTag_eq (s : St) (name : String) (st : Started) :
    step s (.delTag name) st =
      match sget s.tags name with
      | none => (s, .err)
      | some t => if !t.refBy.isEmpty then (s, .err) else (dtApply s name t st.tag, .ok) := rfl

theorem step_delTag_cases {P : St × Res → Prop} (s : St) (name : String) (st : Started)
    (rej : P (s, .err)) (acc : ∀ t, sget s.tags name = some t → t.refBy = [] → P (dtApply s name t st.tag, .ok)) :
    P (step s (.delTag name) st) := by
  rw [step_delTag_eq]
  split
  · exact rej
  next t ht =>
  exact ite_cases P _ (fun _ => rej) fun h => acc t ht (by simpa using h)

end Pk.Mgr
