/-
  What a call of the tag API does, said once: `step_cases`.  A call ends in one of three ways — it is
  refused (`err`), it runs into one of the modelled crash / hang sites, which happens only on a table
  that is not well-formed, or it is accepted and leaves a new table (`Accepted`); in the first two the
  state is untouched.  Every invariant of the API (well-formedness, distinct keys, tag-wise invariants,
  atomicity) is proved by cases on these.
-/
import Pk.Proofs.TagGraphInherit
namespace Pk.Proofs.TagGraph
open Pk.TagGraph Pk.Proofs.TagGraphMore

def addedTag (st : State) (n c d : String) (p : Facts) : Tag :=
  if (parseTagName n).2.2 then { mkTag c d p with matched := p.ids }
  else { mkTag c d p with uncertain := st.allStreams }

def queryTag (st : State) (t : Tag) (d : String) (p : Facts) : Tag :=
  { mkTag t.color d p with converters := t.converters, referencedBy := t.referencedBy, uncertain := st.allStreams }

def queryTable (st : State) (n : Name) (t : Tag) (d : String) (p : Facts) : TagMap :=
  tset (addReferrer n (delReferrer n st.tags (t.refs.filter fun r => !p.refs.contains r))
    (p.refs.filter fun r => !t.refs.contains r)) n (queryTag st t d p)

def renameTable (m : TagMap) (n n' : Name) (t : Tag) : TagMap :=
  t.refs.foldl (fun m r => tmod m r fun rt => { rt with referencedBy := addRef n' (delRef n rt.referencedBy) })
    (tset (tdel m n) n' t)

def markApply (add : Bool) (t : Tag) (ids : List Nat) : Tag :=
  if add then markAddApply t ids else markDelApply t ids

/-- mark add / mark del: the tag handed to `inheritTagUncertainty` -/
def markTag (add : Bool) (t : Tag) (ids : List Nat) : Tag :=
  if t.known then markApply add t ids else { t with definition := "<unknown>", cond := none }

theorem markTag_of_known {t : Tag} (h : t.known = true) (add : Bool) (ids : List Nat) :
    markTag add t ids = markApply add t ids := if_pos h

theorem markApply_other (add : Bool) (t : Tag) (ids : List Nat) : sameOther (markApply add t ids) t := by
  cases add
  · exact markDelApply_other t ids
  · exact markAddApply_other t ids

theorem markTag_other (add : Bool) (t : Tag) (ids : List Nat) : sameOther (markTag add t ids) t := by
  unfold markTag
  split
  · exact markApply_other add t ids
  · exact ⟨rfl, rfl, rfl, rfl, rfl, rfl, rfl, rfl⟩

/-- mark add / mark del as one call with a flag, the way `updMark` has it -/
def markOp (add : Bool) (n : Name) (ids : List Nat) : Op := bif add then .markAdd n ids else .markDel n ids

def SetsNothing : Op → Prop
  | .color _ c => c = ""
  | .rename _ n' => n' = ""
  | .markAdd _ ids | .markDel _ ids => ids = []
  | _ => False

structure QueryOK (st : State) (n : Name) (p : Facts) (t : Tag) : Prop where
  get : tget st.tags n = some t
  notRejected : defRejected n p (markPrefix n) = false
  refs : ∀ r ∈ p.refs, (tget st.tags r).isSome
  elim : eliminable st.tags n p.refs = true

/-- an accepted call and the table it leaves (with the checks it has passed, as far as the proofs use them) -/
inductive Accepted (st : State) : Op → TagMap → Prop
  | unchanged {op} : SetsNothing op → Accepted st op st.tags
  | add {n c d p} : defRejected n p (parseTagName n).2.2 = false → tget st.tags n = none →
      (∀ r ∈ p.refs, (tget st.tags r).isSome) →
      Accepted st (.add n c d p) (addReferrer n (tset st.tags n (addedTag st n c d p)) p.refs)
  | del {n t} : tget st.tags n = some t → t.referencedBy = [] →
      Accepted st (.del n) (delReferrer n (tdel st.tags n) t.refs)
  | color {n c t} : tget st.tags n = some t → Accepted st (.color n c) (tset st.tags n { t with color := c })
  | query {n d p t m} : QueryOK st n p t →
      inherit { st with tags := queryTable st n t d p } = some { st with tags := m } →
      Accepted st (.query n d p) m
  | rename {n n' t} : tget st.tags n = some t → (parseTagName n').1 = (parseTagName n).1 →
      tget st.tags n' = none → t.referencedBy = [] → Accepted st (.rename n n') (renameTable st.tags n n' t)
  | converters {n names t cs} : tget st.tags n = some t →
      Accepted st (.converters n names) (tset st.tags n { t with converters := cs })
  | mark {add n ids t m} : tget st.tags n = some t →
      inherit { st with tags := tset st.tags n (markTag add t ids) } = some { st with tags := m } →
      Accepted st (markOp add n ids) (tmod m n fun x => { x with uncertain := t.uncertain })

inductive Step (st : State) (op : Op) : Outcome × State → Prop
  | err : Step st op (.err, st)
  | crash (o : Outcome) : ¬ GraphWF st.tags → Step st op (o, st)
  | ok {m} : Accepted st op m → Step st op (.ok, { st with tags := m })

theorem addedTag_graph (st : State) (n c d : String) (p : Facts) :
    (addedTag st n c d p).refs = p.refs ∧ (addedTag st n c d p).referencedBy = [] := by
  unfold addedTag
  cases (parseTagName n).2.2 <;> exact ⟨rfl, rfl⟩

theorem refs_of_sameOther {a b : Tag} (h : sameOther a b) : a.refs = b.refs ∧ a.referencedBy = b.referencedBy :=
  ⟨by unfold Tag.refs; rw [h.1, h.2.1], h.2.2.2.2.2.2.2⟩

theorem graphWF_inherit {st st' : State} (h : inherit st = some st') (wf : GraphWF st.tags) : GraphWF st'.tags :=
  GraphWF.congr (gview_of_uncOnly (uncOnly_inherit _ _ h).1) wf

theorem queryTable_wf {st : State} {n : Name} {p : Facts} {t : Tag} (hq : QueryOK st n p t) (d : String)
    (wf : GraphWF st.tags) : GraphWF (queryTable st n t d p) := by
  obtain ⟨out, hout⟩ := Option.isSome_iff_exists.mp hq.elim
  exact wf_update st.tags n t (queryTag st t d p) p.refs out wf hq.get rfl rfl hout

theorem markTable_wf {st : State} {n : Name} {t : Tag} (ht : tget st.tags n = some t)
    (add : Bool) (ids : List Nat) (wf : GraphWF st.tags) : GraphWF (tset st.tags n (markTag add t ids)) :=
  have h := refs_of_sameOther (markTag_other add t ids)
  GraphWF.congr (gview_tset_same st.tags n t _ ht h.1 h.2) wf

theorem markRestored_wf {st : State} {n : Name} {t : Tag} {add : Bool} {ids : List Nat} {m : TagMap}
    (ht : tget st.tags n = some t)
    (hi : inherit { st with tags := tset st.tags n (markTag add t ids) } = some { st with tags := m })
    (wf : GraphWF st.tags) : GraphWF (tmod m n fun x => { x with uncertain := t.uncertain }) :=
  GraphWF.congr (gview_tmod _ _ _ fun _ => ⟨rfl, rfl⟩) (graphWF_inherit hi (markTable_wf ht add ids wf))

theorem markRestored_get {st st' : State} {n : Name} {nt : Tag}
    (hi : inherit { st with tags := tset st.tags n nt } = some st') (U : List Nat) :
    tget (tmod st'.tags n fun x => { x with uncertain := U }) n = some { nt with uncertain := U } := by
  obtain ⟨v, hv, he⟩ := (uncOnly_inherit _ _ hi).1.get (k := n) (u := nt) (by rw [get_set, if_pos rfl])
  rw [get_mod, if_pos rfl, hv]
  exact congrArg some (setU_of_clearU he U)

theorem inherit_tags {st st' : State} (h : inherit st = some st') : st' = { st with tags := st'.tags } := by
  obtain ⟨_, _, rfl⟩ := inherit_some h
  rfl

/-! The API functions are chains of `if`s and lookups; a `Step` is found by walking down the chain
(`Step.ite`, `Step.get`, `Step.crashIf`, `Step.walk`). -/

namespace Step
variable {st : State} {op : Op}

theorem ite {c : Prop} [Decidable c] {a b : Outcome × State}
    (ha : c → Step st op a) (hb : ¬ c → Step st op b) : Step st op (if c then a else b) := by
  by_cases h : c
  · rw [if_pos h]; exact ha h
  · rw [if_neg h]; exact hb h

/-- `t, ok := mgr.tags[n]; if !ok { return err }` -/
theorem get {n : Name} {f : Tag → Outcome × State} (h : ∀ t, tget st.tags n = some t → Step st op (f t)) :
    Step st op (match tget st.tags n with | none => (.err, st) | some t => f t) := by
  cases ht : tget st.tags n with
  | none => exact .err
  | some t => exact h t ht

theorem nothing {n : Name} (h : SetsNothing op) : Step st op (updNothing st n) :=
  .ite (fun _ => .ok (.unchanged h)) fun _ => .err

/-- a crash site behind a test that fails on a well-formed table -/
theorem crashIf {b : Bool} {o : Outcome} (h : b = true) (hf : GraphWF st.tags → b = false) : Step st op (o, st) :=
  .crash o fun wf => ne_true_of_eq_false (hf wf) h

/-- a run of `inheritTagUncertainty`: it hangs only on an ill-formed table, and its result differs from `st`
    in the table only (hence the shape `{ st with tags := m' }`, which `Accepted` wants) -/
theorem walk {m : TagMap} {o : Outcome} {f : State → Outcome × State} (hm : GraphWF st.tags → GraphWF m)
    (hs : ∀ m', inherit { st with tags := m } = some { st with tags := m' } → Step st op (f { st with tags := m' })) :
    Step st op (match inherit { st with tags := m } with | none => (o, st) | some st' => f st') := by
  cases hi : inherit { st with tags := m } with
  | none =>
    refine .crash _ fun wf => ?_
    obtain ⟨_, h⟩ := inherit_isSome { st with tags := m } (hm wf)
    cases hi.symm.trans h
  | some st' =>
    have h := inherit_tags hi
    obtain ⟨m', rfl⟩ : ∃ m', st' = { st with tags := m' } := ⟨_, h⟩
    exact hs m' hi

end Step

-- the `let (typ, sub, isMark) := parseTagName n` of the model as projections, so that `Step.ite` applies
theorem addTag_eq (st : State) (n c d : String) (p : Facts) : addTag st n c d p =
    if (parseTagName n).1 == "" || (parseTagName n).2.1 == "" then (.err, st) else
    if defRejected n p (parseTagName n).2.2 then (.err, st) else
    if thas st.tags n then (.err, st) else
    if p.refs.any (fun r => !thas st.tags r) then (.err, st) else
    if !(parseTagName n).2.2 && tagJobPanics (tset st.tags n (addedTag st n c d p)) then
      (.panic "startTaggingJobIfNeeded", st) else
    (.ok, { st with tags := addReferrer n (tset st.tags n (addedTag st n c d p)) p.refs }) := rfl

theorem updName_eq (st : State) (n n' : String) : updName st n n' =
    if n' == "" then updNothing st n else
    match tget st.tags n with
    | none => (.err, st)
    | some t =>
      if (parseTagName n').1 != (parseTagName n).1 then (.err, st) else
      if (parseTagName n').2.1 == "" then (.err, st) else
      if thas st.tags n' then (.err, st) else
      if !t.referencedBy.isEmpty then (.err, st) else
      if t.refs.any (fun r => !thas (tset (tdel st.tags n) n' t) r) then (.panic "UpdateTag.rename", st) else
      (.ok, { st with tags := renameTable st.tags n n' t }) := rfl

theorem addTag_cases (st : State) (n c d : String) (p : Facts) : Step st (.add n c d p) (addTag st n c d p) := by
  rw [addTag_eq]
  refine .ite (fun _ => .err) fun _ => .ite (fun _ => .err) fun hrej => .ite (fun _ => .err) fun hnew =>
    .ite (fun _ => .err) fun hrefs => ?_
  have hex := any_missing.mp (eq_false_of_ne_true hrefs)
  exact .ite
    (fun h => .crashIf (Bool.and_eq_true_iff.mp h).2 fun wf => tagJobPanics_false_of_closed _
      (closed_tset_new st.tags _ _ wf.closed (by rw [(addedTag_graph ..).1]; exact hex)))
    fun _ => .ok (.add (eq_false_of_ne_true hrej) (none_of_not_has _ _ hnew) hex)

theorem delTag_cases (st : State) (n : Name) : Step st (.del n) (delTag st n) :=
  .get fun t ht => .ite (fun _ => .err) fun hrb =>
    have hrb' := rb_nil_of_isEmpty t hrb
    .ite (fun h => .crashIf h fun wf => any_missing.mpr (refs_exist_tdel wf ht hrb')) fun _ => .ok (.del ht hrb')

theorem updColor_cases (st : State) (n c : String) : Step st (.color n c) (updColor st n c) :=
  .ite (fun h => .nothing (eq_of_beq h)) fun _ => .get fun _ ht => .ok (.color ht)

theorem updQuery_cases (st : State) (n d : String) (p : Facts) : Step st (.query n d p) (updQuery st n d p) :=
  .ite (fun _ => .err) fun hrej => .get fun t ht => .ite (fun _ => .err) fun hrefs => .ite (fun _ => .err) fun helim =>
    have hq : QueryOK st n p t :=
      ⟨ht, eq_false_of_ne_true hrej, any_missing.mp (eq_false_of_ne_true hrefs), by simpa using helim⟩
    .ite (fun _ => .err) fun _ =>
    .ite (fun h => .crashIf h fun wf => any_missing.mpr fun r hr => wf.closed n t ht r (List.mem_filter.mp hr).1) fun _ =>
    .ite (fun h => .crashIf h fun _ => any_missing.mpr fun r hr => by
      obtain ⟨g, hg, _⟩ := get_delReferrer n st.tags (t.refs.filter fun r => !p.refs.contains r) r
      rw [hg, Option.isSome_map]
      exact hq.refs r (List.mem_filter.mp hr).1) fun _ =>
    .walk (queryTable_wf hq d) fun _ hi =>
    .ite (fun h => .crashIf h fun wf =>
      tagJobPanics_false_of_closed _ (graphWF_inherit hi (queryTable_wf hq d wf)).closed) fun _ =>
    .ok (.query hq hi)

theorem updName_cases (st : State) (n n' : String) : Step st (.rename n n') (updName st n n') := by
  rw [updName_eq]
  refine .ite (fun h => .nothing (eq_of_beq h)) fun _ => .get fun t ht => .ite (fun _ => .err) fun htyp =>
    .ite (fun _ => .err) fun _ => .ite (fun _ => .err) fun hnew => .ite (fun _ => .err) fun hrb => ?_
  have hnew' := none_of_not_has _ _ hnew
  have hrb' := rb_nil_of_isEmpty t hrb
  refine .ite (fun h => .crashIf h fun wf => any_missing.mpr fun r hr => ?_) fun _ =>
    .ok (.rename ht (by simpa using htyp) hnew' hrb')
  rw [get_set]
  split
  · rfl
  · exact refs_exist_tdel wf ht hrb' r hr

theorem updConverters_cases (st : State) (n : Name) (names : List Name) :
    Step st (.converters n names) (updConverters st n names) :=
  .get fun _ ht => .ite (fun _ => .err) fun _ => .ite (fun _ => .err) fun _ => .ok (.converters ht)

theorem updMark_cases (st : State) (n : Name) (add : Bool) (ids : List Nat) :
    Step st (markOp add n ids) (updMark st n add ids) :=
  .ite (fun h => .nothing (by cases add <;> exact List.isEmpty_iff.mp h)) fun _ => .ite (fun _ => .err) fun _ =>
    .get fun _ ht => .ite (fun _ => .err) fun _ => .walk (markTable_wf ht add ids) fun _ hi =>
    .ite (fun h => .crashIf h fun wf => tagJobPanics_false_of_closed _ (markRestored_wf ht hi wf).closed) fun _ =>
    .ok (.mark ht hi)

theorem step_cases (st : State) (op : Op) : Step st op (step st op) := by
  cases op with
  | add n c d p => exact addTag_cases st n c d p
  | del n => exact delTag_cases st n
  | color n c => exact updColor_cases st n c
  | query n d p => exact updQuery_cases st n d p
  | rename n n' => exact updName_cases st n n'
  | converters n cs => exact updConverters_cases st n cs
  | markAdd n ids => exact updMark_cases st n true ids
  | markDel n ids => exact updMark_cases st n false ids

theorem accepted_wf {st : State} {op : Op} {m : TagMap} (wf : GraphWF st.tags) (h : Accepted st op m) :
    GraphWF m := by
  cases h with
  | unchanged => exact wf
  | add hrej hnew hex =>
    exact wf_add st.tags _ _ _ wf hnew (addedTag_graph ..).1 (addedTag_graph ..).2 hex
      (not_self_of_not_rejected _ _ _ hrej)
  | del ht hrb => exact wf_del st.tags _ _ wf ht hrb
  | color ht => exact GraphWF.congr (gview_tset_same st.tags _ _ _ ht rfl rfl) wf
  | query hq hi => exact graphWF_inherit hi (queryTable_wf hq _ wf)
  | rename ht _ hnew hrb => exact wf_rename st.tags _ _ _ wf ht hnew hrb
  | converters ht => exact GraphWF.congr (gview_tset_same st.tags _ _ _ ht rfl rfl) wf
  | mark ht hi => exact markRestored_wf ht hi wf

end Pk.Proofs.TagGraph
