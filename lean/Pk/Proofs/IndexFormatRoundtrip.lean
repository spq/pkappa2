/-
  What `AddStream` does to the writer, and folds of it over stream sets (helper lemmas for the C01
  round-trip theorems).
-/
import Pk.Model.IndexFormat
import Pk.Proofs.IndexFormatHosts
import Pk.Proofs.IndexFormatLookup
namespace Pk.Index
open Pk Pk.Bytes

theorem addStream_cases (w w' : Writer) (s : StreamIn) (b : Bool) (h : w.addStream s = .ok (w', b)) :
    (b = false ∧ w' = w) ∨
    (b = true ∧ ∃ p0 pl hgs gid cid sid cds,
      s.packets.head? = some p0 ∧ s.packets.getLast? = some pl ∧
      placeHosts w.hostGroups s.client s.server = some (hgs, gid, cid, sid) ∧
      chunkDirs s.packets s.data = some cds ∧
      allRecords (addImports w.imports (s.packets.map PacketIn.pmds).flatten) p0.ts s.data 0 s.packets ≠ [] ∧
      w.packets.length < 2 ^ 32 ∧
      w' = { hostGroups := hgs,
             imports := addImports w.imports (s.packets.map PacketIn.pmds).flatten,
             packets := w.packets ++ clearLastHasNext (setSkips (allRecords
               (addImports w.imports (s.packets.map PacketIn.pmds).flatten) p0.ts s.data 0 s.packets)).1,
             streams := (w.rebase (unixSec p0.ts)).2 ++
               [mkStreamRec w s (w.rebase (unixSec p0.ts)).1 p0 pl gid cid sid cds],
             blobs := w.blobs ++ [streamBlob cds],
             dataLen := w.dataLen + (streamBlob cds).length,
             ref := (w.rebase (unixSec p0.ts)).1 }) := by
  unfold Writer.addStream at h
  split at h
  · cases h; exact Or.inl ⟨rfl, rfl⟩
  · rename_i hcap
    split at h
    · rename_i p0 pl hp0 hpl
      dsimp only at h
      split at h
      · cases h; exact Or.inl ⟨rfl, rfl⟩
      · rename_i hgs gid cid sid hp
        split at h
        · cases h
        · rename_i cds hcd
          split at h
          · cases h
          · rename_i hne
            cases h
            exact Or.inr ⟨rfl, p0, pl, hgs, gid, cid, sid, cds, hp0, hpl, hp, hcd, by simpa using hne, by omega, rfl⟩
    · cases h

theorem clearLast_eq_nil (l : List PacketRec) (h : clearLastHasNext l = []) : l = [] := by
  match l with
  | [] => rfl
  | [_] => cases h
  | _ :: _ :: _ => cases h

theorem setSkips_eq_nil (l : List PacketRec) (h : (setSkips l).1 = []) : l = [] := by
  match l with
  | [] => rfl
  | [_] => cases h
  | _ :: _ :: _ => cases h

def StreamIn.ts0 (s : StreamIn) : Int := (s.packets.head?.map (·.ts)).getD 0

/-- the records `AddStream` computes for `s` before the skip pass -/
def streamRaw (imports : List ImportKey) (s : StreamIn) : List PacketRec :=
  allRecords imports s.ts0 s.data 0 s.packets

/-- … and as it appends them to the packet section -/
def streamRecs (imports : List ImportKey) (s : StreamIn) : List PacketRec :=
  clearLastHasNext (setSkips (streamRaw imports s)).1

theorem addStream_spec (w w' : Writer) (s : StreamIn) (h : w.addStream s = .ok (w', true)) :
    ∃ p0 pl gid cid sid cds,
      s.packets.head? = some p0 ∧ s.packets.getLast? = some pl ∧
      placeHosts w.hostGroups s.client s.server = some (w'.hostGroups, gid, cid, sid) ∧
      chunkDirs s.packets s.data = some cds ∧
      w'.ref = (w.rebase (unixSec p0.ts)).1 ∧
      w'.streams = (w.rebase (unixSec p0.ts)).2 ++ [mkStreamRec w s w'.ref p0 pl gid cid sid cds] ∧
      w'.dataLen = w.dataLen + (streamBlob cds).length ∧ w'.blobs = w.blobs ++ [streamBlob cds] ∧
      w'.imports = addImports w.imports (s.packets.map PacketIn.pmds).flatten ∧
      w'.packets = w.packets ++ streamRecs w'.imports s ∧ streamRaw w'.imports s ≠ [] ∧
      w.packets.length < 2 ^ 32 := by
  obtain ⟨hb, _⟩ | ⟨_, p0, pl, hgs, gid, cid, sid, cds, hp0, hpl, hp, hcd, hne, hcap, rfl⟩ := addStream_cases w w' s true h
  · cases hb
  · have hts : s.ts0 = p0.ts := by simp [StreamIn.ts0, hp0]
    refine ⟨p0, pl, gid, cid, sid, cds, hp0, hpl, hp, hcd, rfl, rfl, rfl, rfl, rfl, ?_, ?_, hcap⟩
    · unfold streamRecs streamRaw; rw [hts]
    · unfold streamRaw; rw [hts]; exact hne

theorem addStream_inv (w w' : Writer) (s : StreamIn) (ok : Bool) (hs : s.AddrWF) (hw : GroupsInv w.hostGroups)
    (h : w.addStream s = .ok (w', ok)) : GroupsInv w'.hostGroups := by
  obtain ⟨_, rfl⟩ | ⟨_, _, _, _, _, _, _, _, _, _, hp, _, _, _, rfl⟩ := addStream_cases w w' s ok h
  · exact hw
  · exact (placeHosts_spec _ _ _ hs.1 hw hp).1

/-- `AddStream` over a whole stream set; `none` when one is refused or the code panics -/
def Writer.addAll : Writer → List StreamIn → Option Writer
  | w, [] => some w
  | w, s :: ss => match w.addStream s with
    | .ok (w', true) => addAll w' ss
    | _ => none

theorem addAll_cons {w w' : Writer} {s : StreamIn} {ss : List StreamIn} (h : w.addAll (s :: ss) = some w') :
    ∃ w1, w.addStream s = .ok (w1, true) ∧ w1.addAll ss = some w' := by
  simp only [Writer.addAll] at h
  split at h
  · rename_i w1 h1; exact ⟨w1, h1, h⟩
  · cases h

theorem addAll_induct {P : Writer → List StreamIn → Prop} (ss : List StreamIn)
    (step : ∀ w w' done s, s ∈ ss → P w done → w.addStream s = .ok (w', true) → P w' (done ++ [s])) :
    ∀ (w w' : Writer) (done : List StreamIn), P w done → w.addAll ss = some w' → P w' (done ++ ss) := by
  induction ss with
  | nil => intro w w' done hP h; cases h; rwa [List.append_nil]
  | cons s ss ih =>
    intro w w' done hP h
    obtain ⟨w1, h1, h2⟩ := addAll_cons h
    have := ih (fun w w' done x hx => step w w' done x (List.mem_cons_of_mem _ hx)) w1 w' (done ++ [s])
      (step w w1 done s List.mem_cons_self hP h1) h2
    rwa [List.append_assoc] at this

theorem rebase_cases (w : Writer) (fs : Nat) :
    (w.packets.length = 0 ∧ w.rebase fs = (fs, w.streams)) ∨
    (w.packets.length ≠ 0 ∧ fs < w.ref ∧ w.rebase fs = (fs, w.streams.map fun r =>
      { r with first := add64 r.first (u64 (((w.ref : Int) - fs) * 1000000000)),
               last := add64 r.last (u64 (((w.ref : Int) - fs) * 1000000000)) })) ∨
    (w.packets.length ≠ 0 ∧ w.ref ≤ fs ∧ w.rebase fs = (w.ref, w.streams)) := by
  unfold Writer.rebase
  by_cases hz : w.packets.length = 0
  · exact Or.inl ⟨hz, if_pos hz⟩
  · by_cases hgt : w.ref > fs
    · exact Or.inr (Or.inl ⟨hz, hgt, by rw [if_neg hz, if_pos hgt]⟩)
    · exact Or.inr (Or.inr ⟨hz, Nat.le_of_not_gt hgt, by rw [if_neg hz, if_neg hgt]⟩)

theorem rebase_ids (w : Writer) (fs : Nat) : (w.rebase fs).2.map (·.id) = w.streams.map (·.id) := by
  obtain ⟨_, h⟩ | ⟨_, _, h⟩ | ⟨_, _, h⟩ := rebase_cases w fs <;> rw [h]
  simp only [List.map_map]; rfl

-- `R` holds, position by position, between the streams given to the writer and its records: the relation `All₂` of
-- Lib.lean, spelt out for these two types
inductive Zip (R : StreamIn → StreamRec → Prop) : List StreamIn → List StreamRec → Prop
  | nil : Zip R [] []
  | cons {s r ss rs} : R s r → Zip R ss rs → Zip R (s :: ss) (r :: rs)

theorem Zip.append {R} {ss : List StreamIn} {rs : List StreamRec} (h : Zip R ss rs) {s : StreamIn} {r : StreamRec}
    (hr : R s r) : Zip R (ss ++ [s]) (rs ++ [r]) := by
  induction h with
  | nil => exact Zip.cons hr Zip.nil
  | cons h1 _ ih => exact Zip.cons h1 ih

theorem Zip.get {R} {ss : List StreamIn} {rs : List StreamRec} (h : Zip R ss rs) (i : Nat) (s : StreamIn)
    (hs : ss[i]? = some s) : ∃ r, rs[i]? = some r ∧ R s r := by
  induction h generalizing i with
  | nil => cases hs
  | cons h1 _ ih =>
    cases i with
    | zero => cases hs; exact ⟨_, rfl, h1⟩
    | succ i => exact ih i hs

theorem Zip.mono {R R' : StreamIn → StreamRec → Prop} (f : StreamRec → StreamRec) (hf : ∀ s r, R s r → R' s (f r))
    {ss : List StreamIn} {rs : List StreamRec} (h : Zip R ss rs) : Zip R' ss (rs.map f) := by
  induction h with
  | nil => exact Zip.nil
  | cons h1 _ ih => exact Zip.cons (hf _ _ h1) ih

theorem Zip.imp {R R' : StreamIn → StreamRec → Prop} (hf : ∀ s r, R s r → R' s r)
    {ss : List StreamIn} {rs : List StreamRec} (h : Zip R ss rs) : Zip R' ss rs := by
  have := h.mono id hf
  rwa [List.map_id] at this

theorem Zip.rebase {R : StreamIn → StreamRec → Prop} (hR : ∀ s r f l, R s r → R s { r with first := f, last := l })
    (w : Writer) (fs : Nat) {ss : List StreamIn} (h : Zip R ss w.streams) : Zip R ss (w.rebase fs).2 := by
  obtain ⟨_, e⟩ | ⟨_, _, e⟩ | ⟨_, _, e⟩ := rebase_cases w fs <;> rw [e]
  · exact h
  · exact h.mono _ (fun s r hr => hR s r _ _ hr)
  · exact h

theorem addAll_ids (ss : List StreamIn) (w : Writer) (h : ({} : Writer).addAll ss = some w) :
    w.streams.map (·.id) = ss.map (·.id) :=
  addAll_induct (P := fun w done => w.streams.map (·.id) = done.map (·.id)) ss
    (fun w1 w2 done s _ hP h => by
      obtain ⟨_, _, _, _, _, _, _, _, _, _, _, hst, _⟩ := addStream_spec w1 w2 s h
      rw [hst, List.map_append, rebase_ids, hP, List.map_append]; rfl)
    {} w [] rfl h

end Pk.Index
