/-
  MgrConvRunExample — the concrete history of the NON-VACUITY example of Pk/Props/C16Reach.lean: the states
  as literals and the steps.

    importPcaps ["a.pcap"]; importDone adding stream 0; addTag tag/x "sport:80" (its tagging job starts);
    tagDone tag/x [0]; updConv tag/x ["c"] (the converter is attached, its job starts and caches stream 0);
    convertDone; importPcaps ["b.pcap"]; importDone updating stream 0 (the output is dropped, the converter
    job that starts at the end of the event converts stream 0 again)

  The second history (namespace `MgrConvRunStale`) — the concrete history behind `detach_stale_run_now_safe` (Pk/Props/C16Reach.lean), the history of
  finding F57: with a `detachConverterFromTag` that takes only the tag's current matches off the converter's queue,
  a converter detached from its last tag gets another run, for a stale queue entry.  `detachConv` keeps queued only
  what the other tags with the converter match, so the detach empties the queue.

    importPcaps ["a.pcap"]; importDone adding streams 0 and 1; addTag mark/m "id:-1" (an empty mark);
    updConv mark/m ["c"] (converter "c" attached; nothing to convert yet);
    markAdd mark/m [0,1] (both streams are queued, the converter job J starts and converts them);
    importPcaps ["b.pcap"]; importDone updating stream 1 WHILE J IS IN FLIGHT (the output of stream 1 is dropped,
      stream 1 is queued again; no job can start);
    markDel mark/m [1] (the mark does not match stream 1 any more; the queue entry stays);
    updConv mark/m [] (the converter is detached from its last tag: the cache is reset and only what
      OTHER tags with "c" match stays queued, i.e. nothing);
    convertDone (J completes: nothing is queued for "c", no job starts)
-/
import Pk.Proofs.MgrConcrete

namespace Pk.Proofs.MgrConvRunExample
open Pk.Mgr Pk.Props.MgrReach
open Pk.Props.C06Reach (exFacts)

def xTag (mat unc : IdSet) (convs : List String) : Tag :=
  { defn := "sport:80", mainT := [], subT := [], mfeat := 4, sfeat := 0, mat := mat, unc := unc, convs := convs, gen := 0 }

def s0 : St := { convs := ["c"], toconv := [("c", [])], cached := [("c", [])] }
def s1 : St := { s0 with queue := ["a.pcap"], pcaps := ["a.pcap"], jImport := some (0, []) }
def s2 : St :=
  { convs := ["c"], toconv := [("c", [])], cached := [("c", [])], idx := [0], files := [(0, [0])], used := [(0, 1)],
    next := 1, all := 1, nrec := 1, add := [0], pcaps := ["a.pcap"] }
def s3 : St :=
  { s2 with tags := [("tag/x", xTag [] [0] [])], used := [(0, 2)], ngen := 1, tag := true, add := [],
            jTag := some ("tag/x", xTag [] [0] [], [0]) }
def s4 : St := { s2 with tags := [("tag/x", xTag [0] [] [])], ngen := 1, add := [] }
def s5 : St :=
  { s4 with tags := [("tag/x", xTag [0] [] ["c"])], used := [(0, 2)], convert := true, cached := [("c", [0])],
            jConv := some ([("c", [0])], [0]) }
def s6 : St := { s4 with tags := [("tag/x", xTag [0] [] ["c"])], upd := [0], cached := [("c", [0])] }
def s7 : St := { s6 with used := [(0, 2)], queue := ["b.pcap"], pcaps := ["a.pcap", "b.pcap"], jImport := some (1, [0]) }
def s8 : St :=
  { s6 with idx := [0, 1], files := [(0, [0]), (1, [0])], used := [(0, 2), (1, 2)], nrec := 2, convert := true,
            pcaps := ["a.pcap", "b.pcap"], jConv := some ([("c", [0])], [0, 1]) }

def e1 : Ev := .importPcaps ["a.pcap"]
def e2 : Ev := .importDone 1 1 [(0, [0])] [] [] [0]
def e3 : Ev := .addTag "tag/x" "" "sport:80" exFacts
def e4 : Ev := .tagDone "tag/x" [0]
def e5 : Ev := .updConv "tag/x" ["c"]
def e6 : Ev := .convertDone
def e7 : Ev := .importPcaps ["b.pcap"]
def e8 : Ev := .importDone 1 0 [(1, [0])] [0] [] []

theorem step1 : step s0 e1 {} = (s1, .none) := by decide +kernel
theorem step2 : step s1 e2 {} = (s2, .none) := by decide +kernel
theorem step3 : step s2 e3 { tag := some "tag/x" } = (s3, .ok) :=
  (step_addTag_with _ _ _ _ _ _ _ Pk.Proofs.MgrTruth.parse_tag_x).trans (by decide +kernel)
theorem step4 : step s3 e4 {} = (s4, .none) := by decide +kernel
theorem step5 : step s4 e5 {} = (s5, .ok) := by decide +kernel
theorem step6 : step s5 e6 {} = (s6, .none) := by decide +kernel
theorem step7 : step s6 e7 {} = (s7, .none) := by decide +kernel
theorem step8 : step s7 e8 {} = (s8, .none) := by decide +kernel

end Pk.Proofs.MgrConvRunExample

namespace Pk.Proofs.MgrConvRunStale
open Pk.Mgr Pk.Props.MgrReach

def mTag (defn : String) (mat : IdSet) (convs : List String) : Tag :=
  { defn := defn, mainT := [], subT := [], mfeat := 1, sfeat := 0, isMarkDef := true, mat := mat, convs := convs, gen := 0 }
/-- the parser facts of the definition "id:-1": an id list naming no stream -/
def mFacts : Facts := { err := false, main := [], sub := [], mfeat := 1, sfeat := 0, idsok := true, ids := [] }

def t0 : St := { convs := ["c"], toconv := [("c", [])], cached := [("c", [])] }
def t1 : St := { t0 with queue := ["a.pcap"], pcaps := ["a.pcap"], jImport := some (0, []) }
def t2 : St :=
  { convs := ["c"], toconv := [("c", [])], cached := [("c", [])], idx := [0], files := [(0, [0, 1])], used := [(0, 1)],
    next := 2, all := 2, nrec := 2, add := [0, 1], pcaps := ["a.pcap"] }
def t3 : St := { t2 with tags := [("mark/m", mTag "id:-1" [] [])], ngen := 1 }
def t4 : St := { t3 with tags := [("mark/m", mTag "id:-1" [] ["c"])] }
def t5 : St :=
  { t3 with tags := [("mark/m", mTag "id:0,1" [0, 1] ["c"])], used := [(0, 2)], convert := true,
            cached := [("c", [0, 1])], jConv := some ([("c", [0, 1])], [0]) }
def t6 : St := { t5 with used := [(0, 3)], queue := ["b.pcap"], pcaps := ["a.pcap", "b.pcap"], jImport := some (2, [0]) }
def t7 : St :=
  { t5 with idx := [0, 1], files := [(0, [0, 1]), (1, [1])], used := [(0, 2), (1, 1)], nrec := 3, upd := [1],
            toconv := [("c", [1])], cached := [("c", [0])], pcaps := ["a.pcap", "b.pcap"] }
def t8 : St := { t7 with tags := [("mark/m", mTag "id:0" [0] ["c"])] }
-- the detach empties the queue of "c" (a detach that removes the mark's matches only leaves stream 1 queued) …
def t9 : St := { t7 with tags := [("mark/m", mTag "id:0" [0] [])], toconv := [("c", [])], cached := [("c", [])] }
-- … and the completion of J starts no job (with stream 1 still queued: a job converting it)
def t10 : St :=
  { t9 with used := [(0, 1), (1, 1)], upd := [0, 1], convert := false, jConv := none }

def f1 : Ev := .importPcaps ["a.pcap"]
def f2 : Ev := .importDone 1 2 [(0, [0, 1])] [] [] [0, 1]
def f3 : Ev := .addTag "mark/m" "" "id:-1" mFacts
def f4 : Ev := .updConv "mark/m" ["c"]
def f5 : Ev := .markAdd "mark/m" [0, 1]
def f6 : Ev := .importPcaps ["b.pcap"]
def f7 : Ev := .importDone 1 0 [(1, [1])] [1] [] []
def f8 : Ev := .markDel "mark/m" [1]
def f9 : Ev := .updConv "mark/m" []
def f10 : Ev := .convertDone

theorem step1 : step t0 f1 {} = (t1, .none) := by decide +kernel
theorem step2 : step t1 f2 {} = (t2, .none) := by decide +kernel
theorem step3 : step t2 f3 {} = (t3, .ok) :=
  (step_addTag_with _ _ _ _ _ _ _ MgrTruth.parse_mark_m).trans (by decide +kernel)
theorem step4 : step t3 f4 {} = (t4, .ok) := by decide +kernel
theorem step5 : step t4 f5 {} = (t5, .ok) := by decide +kernel
theorem step6 : step t5 f6 {} = (t6, .none) := by decide +kernel
theorem step7 : step t6 f7 {} = (t7, .none) := by decide +kernel
theorem step8 : step t7 f8 {} = (t8, .ok) := by decide +kernel
theorem step9 : step t8 f9 {} = (t9, .ok) := by decide +kernel
theorem step10 : step t9 f10 {} = (t10, .none) := by decide +kernel

end Pk.Proofs.MgrConvRunStale
