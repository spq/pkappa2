/- The reference graph `G` (references exist and `refBy` mirrors them) and the parser facts `FJ` (same
   text, same facts) through `step`.  An event that does not edit the graph keeps `W` of every entry (`weq_step`),
   so `G` stays; the four events of `GEdit` need the bookkeeping of `refBy` edits (`RSpec`).  `FJ` says that there
   is a function from texts to facts that every tag obeys (`FI.fn`), which is a predicate on one tag and goes
   through `tj_step`. -/
import Pk.Proofs.MgrTagsStep
import Pk.Proofs.MgrTagsAll
import Pk.Proofs.MgrNames
namespace Pk.Proofs.MgrReach
open Pk.Mgr Pk.Proofs.MgrTags Pk.Proofs.MgrTruth

/-- `G` reads a tag only through this (`G_congr`) -/
def W (t : Tag) : List String × List String × List String := (t.mainT, t.subT, t.refBy)
def F2 (t : Tag) : List String × List String := (t.mainT, t.subT)

/-- the test `UpdateTag` uses for "this is a mark tag" -/
def isMarkName (n : String) : Bool := n.startsWith "mark/" || n.startsWith "generated/"
def Plain (t : Tag) : Prop := t.mainT = [] ∧ t.subT = []
def SameF (a b : Tag) : Prop := a.mainT = b.mainT ∧ a.subT = b.subT

theorem map_eq_some' {α β} {f : α → β} {o : Option α} {b : β} (h : o.map f = some b) : ∃ a, o = some a ∧ f a = b := by
  cases o with
  | none => cases h
  | some a => exact ⟨a, rfl, by simpa using h⟩

/-- `C09.RefByWF` and `RefsExist` (Pk/Props/MgrReach.lean) in one statement: neither is inductive without
    the other (a tag created under a referenced name starts with an empty `refBy`; `DelTag` takes an
    empty `referencedBy` to mean that nobody references the tag) -/
def G (L : List (String × Tag)) : Prop :=
  ∀ n t, sget L n = some t → ∀ r, r ∈ t.refs → ∃ tr, sget L r = some tr ∧ n ∈ tr.refBy

def WEq (L L' : List (String × Tag)) : Prop := ∀ n, (sget L' n).map W = (sget L n).map W

theorem WEq.refl (L : List (String × Tag)) : WEq L L := fun _ => rfl
theorem WEq.trans {A B C : List (String × Tag)} (h1 : WEq A B) (h2 : WEq B C) : WEq A C :=
  fun n => (h2 n).trans (h1 n)

theorem WEq.get {L L' : List (String × Tag)} (h : WEq L L') {n : String} {t' : Tag} (h' : sget L' n = some t') :
    ∃ t, sget L n = some t ∧ t.mainT = t'.mainT ∧ t.subT = t'.subT ∧ t.refBy = t'.refBy := by
  have := h n
  rw [h'] at this
  obtain ⟨t, ht, e⟩ := map_eq_some' this.symm
  simp only [W, Prod.mk.injEq] at e
  exact ⟨t, ht, e.1, e.2.1, e.2.2⟩

theorem WEq.get' {L L' : List (String × Tag)} (h : WEq L L') {n : String} {t : Tag} (h' : sget L n = some t) :
    ∃ t', sget L' n = some t' ∧ t'.mainT = t.mainT ∧ t'.subT = t.subT ∧ t'.refBy = t.refBy := by
  have := h n
  rw [h'] at this
  obtain ⟨t', ht, e⟩ := map_eq_some' this
  simp only [W, Prod.mk.injEq] at e
  exact ⟨t', ht, e.1, e.2.1, e.2.2⟩

theorem G_congr {L L' : List (String × Tag)} (h : WEq L L') (g : G L) : G L' := by
  intro n t' h' r hr
  obtain ⟨t, ht, e1, e2, _⟩ := h.get h'
  have hr' : r ∈ t.refs := by simp only [mem_refs, e1, e2]; simpa using hr
  obtain ⟨tr, htr, hn⟩ := g n t ht r hr'
  obtain ⟨tr', htr', _, _, e3⟩ := h.get' htr
  exact ⟨tr', htr', e3 ▸ hn⟩

/-- clauses (a)–(c) of `FactsOK` (Pk/Props/MgrReach.lean) for a table and a job slot -/
structure FI (L : List (String × Tag)) (j : Option (String × Tag × List Nat)) : Prop where
  plain : ∀ n t, sget L n = some t → isMarkName n = true → Plain t
  tc : ∀ n1 t1 n2 t2, sget L n1 = some t1 → sget L n2 = some t2 → isMarkName n1 = false →
        isMarkName n2 = false → t1.defn = t2.defn → SameF t1 t2
  jplain : ∀ n snap held, j = some (n, snap, held) → isMarkName n = true → Plain snap
  jtc : ∀ n snap held, j = some (n, snap, held) → isMarkName n = false →
        ∀ m ot, sget L m = some ot → isMarkName m = false → ot.defn = snap.defn → SameF ot snap

theorem FI.facts {L : List (String × Tag)} {n : String} {snap : Tag} {held : List Nat}
    (f : FI L (some (n, snap, held))) {ot : Tag} (hot : sget L n = some ot) (hd : ot.defn = snap.defn) :
    SameF ot snap := by
  cases hm : isMarkName n with
  | true =>
    have h1 := f.plain n ot hot hm
    have h2 := f.jplain n snap held rfl hm
    exact ⟨h1.1.trans h2.1.symm, h1.2.trans h2.2.symm⟩
  | false => exact f.jtc n snap held rfl hm n ot hot hm hd

/-- `FEq`, `SameV`, `SameT`, `SameFJ`: relations of the kind of `WEq` that also keep the text of the names in `P`,
    the running job, sortedness; the steps below need `WEq` only -/
structure FEq (P : String → Prop) (L L' : List (String × Tag)) : Prop where
  fac : ∀ n, (sget L' n).map F2 = (sget L n).map F2
  defn : ∀ n, P n → (sget L' n).map (·.defn) = (sget L n).map (·.defn)

theorem FEq.mono {P P' : String → Prop} {A B : List (String × Tag)} (h : FEq P A B) (hp : ∀ n, P' n → P n) :
    FEq P' A B := ⟨h.fac, fun n hn => h.defn n (hp n hn)⟩

theorem WEq.fac {L L' : List (String × Tag)} (h : WEq L L') (n : String) :
    (sget L' n).map F2 = (sget L n).map F2 := by
  have e : ∀ o : Option Tag, o.map F2 = (o.map W).map (fun w => (w.1, w.2.1)) := by
    intro o; cases o <;> rfl
  rw [e, e, h n]

structure SameV (P : String → Prop) (s s' : St) : Prop where
  w : WEq s.tags s'.tags
  defn : ∀ n, P n → (sget s'.tags n).map (·.defn) = (sget s.tags n).map (·.defn)
  job : s'.jTag = s.jTag
  sorted : Sorted s.tags → Sorted s'.tags

theorem SameV.mono {P P' : String → Prop} {a b : St} (h : SameV P a b) (hp : ∀ n, P' n → P n) : SameV P' a b :=
  ⟨h.w, fun n hn => h.defn n (hp n hn), h.job, h.sorted⟩

/-- `SameV` without the job: `detachConv` may start a tagging job (through `outputDropped`) -/
structure SameT (P : String → Prop) (s s' : St) : Prop where
  w : WEq s.tags s'.tags
  defn : ∀ n, P n → (sget s'.tags n).map (·.defn) = (sget s.tags n).map (·.defn)
  sorted : Sorted s.tags → Sorted s'.tags

/-- `SameV` up to `refBy`: what `addRefBy` and `delRefBy` keep -/
structure SameFJ (P : String → Prop) (s s' : St) : Prop where
  f : FEq P s.tags s'.tags
  job : s'.jTag = s.jTag
  sorted : Sorted s.tags → Sorted s'.tags

/-- `Sorted` comes along because `startTagging` picks its tag by membership while `FI` speaks of lookups -/
structure FJ (s : St) : Prop where
  sorted : Sorted s.tags
  fi : FI s.tags s.jTag

/-- what `TEd` keeps of a tag, as the equations of `Option.map` that `WEq` is made of -/
theorem _root_.Pk.Proofs.MgrTags.KeepR.facts {g : Prop} {all : Nat} {n : String} {T T' : List (String × Tag)}
    (h : KeepR (TEd g all) n T T') :
    (sget T' n).map F2 = (sget T n).map F2 ∧ (sget T' n).map (·.defn) = (sget T n).map (·.defn) ∧
    (¬ g → (sget T' n).map W = (sget T n).map W) :=
  ⟨h.map_eq fun r => by simp only [F2, r.grel.1.2.2.2.2.1, r.grel.1.2.2.2.2.2.1], h.map_eq fun r => r.grel.1.2.1,
   fun hg => h.map_eq fun r => by simp only [W, r.grel.1.2.2.2.2.1, r.grel.1.2.2.2.2.2.1, r.refBy hg]⟩

theorem muAdd_W (t : Tag) (s : St) (a : List Nat) : W (muAdd t s a).1 = W t := by
  obtain ⟨d, e⟩ := muAdd_fst t s a
  rw [e]; rfl

theorem muDel_W (t : Tag) (d : List Nat) : W (muDel t d) = W t := by
  obtain ⟨m, u, df, e, _⟩ := muDel_spec t d
  rw [e]; rfl

theorem WEq_sins {L : List (String × Tag)} {n : String} {t t' : Tag} (h : sget L n = some t) (hw : W t' = W t) :
    WEq L (sins n t' L) := by
  intro m
  rw [sget_sins]
  split
  · next e => subst e; rw [h]; exact congrArg some hw
  · rfl

theorem _root_.Pk.Proofs.MgrTags.FrE.weq {s s' : St} (h : FrE False NT s s') : WEq s.tags s'.tags :=
  fun n => (h.keep n trivial).facts.2.2 id

theorem WEq.of_same {s s' : St} (h : Same s s') : WEq s.tags s'.tags := h.1 ▸ WEq.refl _

theorem weq_markUpdate (s : St) (name : String) (a d : List Nat) : WEq s.tags (markUpdate s name a d).1.tags := by
  rw [markUpdate_eq]
  split
  · exact WEq.refl _
  · next t ht =>
    have h1 : WEq s.tags (setTag (muAdd t s a).2 name (muDel (muAdd t s a).1 d)).tags :=
      (muAdd_same t s a).1 ▸ WEq_sins ((muAdd_same t s a).1 ▸ ht) ((muDel_W _ _).trans (muAdd_W _ _ _))
    have h2 := (h1.trans (inherit_frE _).weq).trans (WEq.of_same (invalidatedDuring_same _ (muDel (muAdd t s a).1 d).unc))
    refine h2.trans ?_
    unfold muFin
    split
    · next t' ht' => exact WEq_sins (t' := { t' with unc := t.unc }) ht' rfl
    · exact WEq.refl _

/-- a publication keeps `W`: the snapshot's facts are those of the entry it replaces, which has the same text -/
theorem weq_tdPublish (s : St) (name : String) (snap : Tag) (res : IdSet)
    (hf : ∀ ot, sget s.tags name = some ot → ot.defn = snap.defn → ot.mainT = snap.mainT ∧ ot.subT = snap.subT) :
    WEq s.tags (tdPublish s name snap res).tags := by
  refine tdPublish_cases (P := fun X => WEq s.tags X.tags) s name snap res (WEq.refl _) (fun ot hot hd _ => ?_)
    fun X hX => hX.trans (invalidateTags_frE X _ _ _).weq
  have hsf := hf ot hot hd
  exact (qConv_same s _ _).1 ▸ WEq_sins ((qConv_same s _ _).1 ▸ hot) (by simp only [W, tdTag, hsf.1, hsf.2])

/-- `hf`, the first clause of `FactsOK`, is what a publication needs (`weq_tdPublish`) -/
theorem weq_step (s : St) (e : Ev) (st : Started)
    (hf : ∀ n snap held ot, s.jTag = some (n, snap, held) → sget s.tags n = some ot → ot.defn = snap.defn →
      ot.mainT = snap.mainT ∧ ot.subT = snap.subT)
    (he : ¬ GEdit e) : WEq s.tags (step s e st).1.tags := by
  cases e with
  | tagDone name result =>
    refine step_tagDone_cases (P := fun r => WEq s.tags r.1.tags) s name result st (fun _ => WEq.refl _)
      (fun _ _ _ _ _ => WEq.refl _) fun snap held hj => ?_
    exact (weq_tdPublish { s with jTag := none } name snap _ (hf name snap held · hj)).trans
      (WEq.of_same (tagDoneSt_same s name snap held result st))
  | markAdd name ids =>
    exact step_markAdd_cases (P := fun r => WEq s.tags r.1.tags) s name ids st (WEq.refl _) (fun _ _ _ => WEq.refl _)
      fun _ _ => (weq_markUpdate s name ids []).trans (WEq.of_same ((startTagging_same _ _).trans (startConverter_same _)))
  | markDel name ids =>
    exact step_markDel_cases (P := fun r => WEq s.tags r.1.tags) s name ids st (WEq.refl _) (fun _ _ _ => WEq.refl _)
      fun _ _ => (weq_markUpdate s name [] ids).trans (WEq.of_same ((startTagging_same _ _).trans (startConverter_same _)))
  | addTag | updQuery | updName | delTag => exact absurd trivial he
  -- the other events rewrite no tag
  | _ => exact fun n => ((step_tags s _ st).2.1 n id).facts.2.2 id

/-- assumed of the parser: the facts `f` it reports for the text `d` are those stored with `d` wherever
    `d` already occurs, and an id list references no tag -/
structure FactsPay (s : St) (d : String) (f : Facts) : Prop where
  job : ∀ n snap held, s.jTag = some (n, snap, held) → snap.defn = d → snap.mainT = f.main ∧ snap.subT = f.sub
  tab : ∀ m t, sget s.tags m = some t → t.defn = d → t.mainT = f.main ∧ t.subT = f.sub
  ids : f.idsok = true → f.main = [] ∧ f.sub = []

theorem isMarkName_eq_of_typ {a b : String}
    (h : (parseTagName a).1 = (parseTagName b).1) : isMarkName a = isMarkName b := by
  have ha : isMarkName a = true ↔ _ := nameOK_all a
  have hb : isMarkName b = true ↔ _ := nameOK_all b
  rw [h] at ha
  cases h1 : isMarkName a <;> cases h2 : isMarkName b <;> simp_all

/-- `EvFactsOK` of Pk/Props/MgrReach.lean without its conditions on names, which every name meets (`nameOK_all`) -/
def FPay (s : St) : Ev → Prop
  | .addTag _ _ d f => FactsPay s d f
  | .updQuery _ d f => FactsPay s d f
  | _ => True

/-- "the facts are a function of the text", for one tag: `φ` is the function; a mark tag has no facts -/
def PF (φ : String → List String × List String) (n : String) (t : Tag) : Prop :=
  if isMarkName n = true then Plain t else F2 t = φ t.defn

theorem pf_closed (φ) : TagClosed (PF φ) := ⟨fun _ _ _ h => h, fun _ _ _ h => h, fun _ _ _ h => h, fun _ _ _ h => h⟩

theorem FI.fn {L : List (String × Tag)} {j} (f : FI L j) :
    ∃ φ, (∀ n t, sget L n = some t → PF φ n t) ∧ ∀ n snap held, j = some (n, snap, held) → PF φ n snap := by
  -- the facts that go with the text `d`: those of any tag, or else of the snapshot, that has it
  have h : ∀ d, ∃ v, (∀ n t, sget L n = some t → isMarkName n = false → t.defn = d → F2 t = v) ∧
      ∀ n snap held, j = some (n, snap, held) → isMarkName n = false → snap.defn = d → F2 snap = v := by
    intro d
    by_cases h1 : ∃ n t, sget L n = some t ∧ isMarkName n = false ∧ t.defn = d
    · obtain ⟨n0, t0, h0, m0, d0⟩ := h1
      refine ⟨F2 t0, fun n t ht hm hd => ?_, fun n snap held hj hm hd => ?_⟩
      · have := f.tc n t n0 t0 ht h0 hm m0 (hd.trans d0.symm); simp only [F2, this.1, this.2]
      · have := f.jtc n snap held hj hm n0 t0 h0 m0 (d0.trans hd.symm); simp only [F2, this.1, this.2]
    · refine ⟨(j.map fun p => F2 p.2.1).getD ([], []), fun n t ht hm hd => absurd ⟨n, t, ht, hm, hd⟩ h1,
        fun n snap held e _ _ => by rw [e]; rfl⟩
  obtain ⟨φ, hφ⟩ := Classical.axiomOfChoice h
  refine ⟨φ, fun n t ht => ?_, fun n snap held hj => ?_⟩ <;> unfold PF <;> split
  · next hm => exact f.plain n t ht hm
  · next hm => exact (hφ _).1 n t ht (by simpa using hm) rfl
  · next hm => exact f.jplain n snap held hj hm
  · next hm => exact (hφ _).2 n snap held hj (by simpa using hm) rfl

theorem FI.of_fn {L : List (String × Tag)} {j} {φ} (h1 : ∀ n t, sget L n = some t → PF φ n t)
    (h2 : ∀ n snap held, j = some (n, snap, held) → PF φ n snap) : FI L j := by
  have pl : ∀ {n t}, PF φ n t → isMarkName n = true → Plain t := fun h hm => by rwa [PF, if_pos hm] at h
  have np : ∀ {n t}, PF φ n t → isMarkName n = false → F2 t = φ t.defn := fun h hm => by
    rwa [PF, if_neg (by simp [hm])] at h
  refine ⟨fun n t ht => pl (h1 n t ht), fun n1 t1 n2 t2 ht1 ht2 m1 m2 hd => ?_, fun n snap held e => pl (h2 n snap held e),
    fun n snap held e hm m ot hot hmm hd => ?_⟩
  · exact Prod.mk.inj ((np (h1 _ _ ht1) m1).trans (hd ▸ (np (h1 _ _ ht2) m2).symm))
  · exact Prod.mk.inj ((np (h1 _ _ hot) hmm).trans (hd ▸ (np (h2 _ _ _ e) hm).symm))

theorem FJ.fn {s : St} (f : FJ s) : ∃ φ, TJ (PF φ) (PF φ) s :=
  let ⟨φ, h1, h2⟩ := f.fi.fn
  ⟨φ, fun _ hm => h1 _ _ (mem_sget_of_sorted _ f.sorted _ _ hm), h2⟩

theorem FJ.of_fn {s : St} {φ} (hs : Sorted s.tags) (h : TJ (PF φ) (PF φ) s) : FJ s :=
  ⟨hs, .of_fn (fun n t ht => h.1 (n, t) (sget_mem _ _ _ ht)) h.2⟩

/-- the parser's answer for the text `d` enters the function -/
theorem TJ.pay {s : St} {φ} {d : String} {f : Facts} (hs : Sorted s.tags) (hp : FactsPay s d f) (h : TJ (PF φ) (PF φ) s) :
    TJ (PF fun x => if x = d then (f.main, f.sub) else φ x) (PF fun x => if x = d then (f.main, f.sub) else φ x) s := by
  have key : ∀ n t, (t.defn = d → t.mainT = f.main ∧ t.subT = f.sub) → PF φ n t →
      PF (fun x => if x = d then (f.main, f.sub) else φ x) n t := by
    intro n t hd h
    unfold PF at h ⊢
    split
    · next hm => rwa [if_pos hm] at h
    · next hm =>
      rw [if_neg hm] at h
      show F2 t = if t.defn = d then (f.main, f.sub) else φ t.defn
      by_cases e : t.defn = d
      · rw [if_pos e, F2, (hd e).1, (hd e).2]
      · rw [if_neg e]; exact h
  exact ⟨fun nt hm => key _ _ (hp.tab _ _ (mem_sget_of_sorted _ hs _ _ hm)) (h.1 nt hm),
    fun n snap held e => key _ _ (hp.job n snap held e) (h.2 n snap held e)⟩

theorem pf_new {φ : String → List String × List String} {name d : String} {f : Facts} {nt : Tag} (hp : f.idsok = true → f.main = [] ∧ f.sub = [])
    (e1 : nt.mainT = f.main) (e2 : nt.subT = f.sub) (e3 : nt.defn = d) (hm : isMarkName name = true → f.idsok = true) :
    PF (fun x => if x = d then (f.main, f.sub) else φ x) name nt := by
  unfold PF
  split
  · next h => exact ⟨e1.trans (hp (hm h)).1, e2.trans (hp (hm h)).2⟩
  · show F2 nt = if nt.defn = d then (f.main, f.sub) else φ nt.defn
    rw [if_pos e3, F2, e1, e2]

theorem pf_mark {φ} {name : String} {t : Tag} (s : St) (a d : List Nat) (hm : isMarkName name = true)
    (h : PF φ name t) : PF φ name (muDel (muAdd t s a).1 d) := by
  have hw := (muDel_W (muAdd t s a).1 d).trans (muAdd_W t s a)
  simp only [W, Prod.mk.injEq] at hw
  rw [PF, if_pos hm, Plain] at h ⊢
  rwa [hw.1, hw.2.1]

theorem fj_step (s : St) (e : Ev) (st : Started) (fj : FJ s) (hp : FPay s e) : FJ (step s e st).1 := by
  obtain ⟨φ, h⟩ := fj.fn
  refine (?_ : ∃ φ', TJ (PF φ') (PF φ') (step s e st).1).elim fun φ' h' => .of_fn ((step_tags s e st).1 fj.sorted) h'
  have go : ∀ {φ}, TJ (PF φ) (PF φ) s → TagEvOK (PF φ) (PF φ) s e → ∃ φ', TJ (PF φ') (PF φ') (step s e st).1 :=
    fun h hev => ⟨_, tj_step (pf_closed _) (fun _ _ h => h) s e st hev h⟩
  cases e with
  | addTag name color d f =>
    exact go (TJ.pay fj.sorted hp h) fun ok => pf_new hp.ids rfl rfl rfl fun hm =>
      ok.ids (by rw [parseTagName_isMark]; rcases (nameOK_all name).1 hm with e | e <;> simp [e])
  | updQuery name d f => exact go (TJ.pay fj.sorted hp h) fun t ok _ => pf_new hp.ids rfl rfl rfl ok.ids
  | updName name new =>
    exact go h fun t ok ht => by rwa [PF, ← isMarkName_eq_of_typ ok.typ.symm]
  | updConv name convs => exact go h fun _ _ ht _ => ht
  | markAdd name ids => exact go h fun _ ok ht => pf_mark s _ _ ok.mark ht
  | markDel name ids => exact go h fun _ ok ht => pf_mark s _ _ ok.mark ht
  | tagDone name result => exact go h fun _ _ _ _ _ _ _ _ hs => hs
  | _ => exact go h trivial

/-- `L'` is `L` with the pairs `D` removed from and the pairs `A` added to the `refBy` sets -/
def RSpec (A D : String → String → Prop) (L L' : List (String × Tag)) : Prop :=
  ∀ n, (sget L n = none → sget L' n = none) ∧
    ∀ t, sget L n = some t → ∃ t', sget L' n = some t' ∧ t'.mainT = t.mainT ∧ t'.subT = t.subT ∧
      ∀ x, x ∈ t'.refBy ↔ (x ∈ t.refBy ∧ ¬ D n x) ∨ A n x

def NoP : String → String → Prop := fun _ _ => False

theorem RSpec.refl (L : List (String × Tag)) : RSpec NoP NoP L L :=
  fun n => ⟨id, fun t h => ⟨t, h, rfl, rfl, fun x => by simp [NoP]⟩⟩

theorem RSpec.comp {A1 D1 A2 D2 A D : String → String → Prop} {L L1 L2 : List (String × Tag)}
    (h1 : RSpec A1 D1 L L1) (h2 : RSpec A2 D2 L1 L2)
    (hc : ∀ n x (p : Prop), ((((p ∧ ¬ D1 n x) ∨ A1 n x) ∧ ¬ D2 n x) ∨ A2 n x) ↔ ((p ∧ ¬ D n x) ∨ A n x)) :
    RSpec A D L L2 := by
  intro n
  refine ⟨fun h => (h2 n).1 ((h1 n).1 h), fun t ht => ?_⟩
  obtain ⟨t1, ht1, a1, a2, a3⟩ := (h1 n).2 t ht
  obtain ⟨t2, ht2, b1, b2, b3⟩ := (h2 n).2 t1 ht1
  refine ⟨t2, ht2, b1.trans a1, b2.trans a2, fun x => ?_⟩
  rw [b3 x, a3 x]
  exact hc n x _

theorem RSpec.weaken {A D A' D' : String → String → Prop} {L L' : List (String × Tag)} (h : RSpec A D L L')
    (hc : ∀ n x (p : Prop), ((p ∧ ¬ D n x) ∨ A n x) ↔ ((p ∧ ¬ D' n x) ∨ A' n x)) : RSpec A' D' L L' := by
  intro n
  refine ⟨(h n).1, fun t ht => ?_⟩
  obtain ⟨t1, ht1, a1, a2, a3⟩ := (h n).2 t ht
  exact ⟨t1, ht1, a1, a2, fun x => (a3 x).trans (hc n x _)⟩

theorem RSpec.inv {A D : String → String → Prop} {L L' : List (String × Tag)} (h : RSpec A D L L')
    {n : String} {t' : Tag} (h' : sget L' n = some t') :
    ∃ t, sget L n = some t ∧ t'.mainT = t.mainT ∧ t'.subT = t.subT ∧
      ∀ x, x ∈ t'.refBy ↔ (x ∈ t.refBy ∧ ¬ D n x) ∨ A n x := by
  cases ht : sget L n with
  | none => rw [(h n).1 ht] at h'; cases h'
  | some t =>
    obtain ⟨t1, ht1, a⟩ := (h n).2 t ht
    rw [ht1] at h'; cases h'
    exact ⟨t, rfl, a⟩

theorem RSpec_sins {L : List (String × Tag)} {r : String} {t t' : Tag} (ht : sget L r = some t)
    (e1 : t'.mainT = t.mainT) (e2 : t'.subT = t.subT) (A D : String → String → Prop)
    (hm : ∀ x, x ∈ t'.refBy ↔ (x ∈ t.refBy ∧ ¬ D r x) ∨ A r x)
    (ho : ∀ n x, n ≠ r → ¬ D n x ∧ ¬ A n x) : RSpec A D L (sins r t' L) := by
  intro n
  rw [sget_sins]
  by_cases e : r = n
  · subst e
    simp only [if_true]
    refine ⟨fun h => (by rw [ht] at h; cases h), fun t0 h0 => ?_⟩
    rw [ht] at h0; cases h0
    exact ⟨t', rfl, e1, e2, hm⟩
  · simp only [e, if_false]
    refine ⟨id, fun t0 h0 => ⟨t0, h0, rfl, rfl, fun x => ?_⟩⟩
    have := ho n x (fun h => e h.symm)
    simp [this.1, this.2]

theorem RSpec_addRefBy (s : St) (r b : String) :
    RSpec (fun n x => n = r ∧ x = b) NoP s.tags (addRefBy s r b).tags := by
  unfold addRefBy
  split
  · next t ht =>
    refine RSpec_sins (t' := { t with refBy := strIns b t.refBy }) ht rfl rfl _ _ ?_ ?_
    · intro x; simp [NoP]; grind
    · intro n x hn; simp [NoP, hn]
  · next hnone' =>
    intro n
    refine ⟨id, fun t ht => ⟨t, ht, rfl, rfl, fun x => ?_⟩⟩
    have : n ≠ r := fun e => by rw [e, hnone'] at ht; cases ht
    simp [NoP, this]

theorem RSpec_delRefBy (s : St) (r b : String) :
    RSpec NoP (fun n x => n = r ∧ x = b) s.tags (delRefBy s r b).tags := by
  unfold delRefBy
  split
  · next t ht =>
    refine RSpec_sins (t' := { t with refBy := t.refBy.filter (· != b) }) ht rfl rfl _ _ ?_ ?_
    · intro x; simp [NoP]
    · intro n x hn; simp [NoP, hn]
  · next hnone' =>
    intro n
    refine ⟨id, fun t ht => ⟨t, ht, rfl, rfl, fun x => ?_⟩⟩
    have : n ≠ r := fun e => by rw [e, hnone'] at ht; cases ht
    simp [NoP, this]

theorem RSpec_foldAdd (b : String) (rs : List String) (s : St) :
    RSpec (fun n x => n ∈ rs ∧ x = b) NoP s.tags (rs.foldl (fun s r => addRefBy s r b) s).tags := by
  induction rs generalizing s with
  | nil => exact (RSpec.refl _).weaken (fun n x p => by simp [NoP])
  | cons r rs ih =>
    simp only [List.foldl_cons]
    refine (RSpec_addRefBy s r b).comp (ih (addRefBy s r b)) ?_
    intro n x p
    simp only [NoP, List.mem_cons]
    grind

theorem RSpec_foldDel (b : String) (rs : List String) (s : St) :
    RSpec NoP (fun n x => n ∈ rs ∧ x = b) s.tags (rs.foldl (fun s r => delRefBy s r b) s).tags := by
  induction rs generalizing s with
  | nil => exact (RSpec.refl _).weaken (fun n x p => by simp [NoP])
  | cons r rs ih =>
    simp only [List.foldl_cons]
    refine (RSpec_delRefBy s r b).comp (ih (delRefBy s r b)) ?_
    intro n x p
    simp only [NoP, List.mem_cons]
    grind

theorem RSpec_foldRen (name new : String) (hne : name ≠ new) (rs : List String) (s : St) :
    RSpec (fun n x => n ∈ rs ∧ x = new) (fun n x => n ∈ rs ∧ x = name) s.tags
      (rs.foldl (fun s r => addRefBy (delRefBy s r name) r new) s).tags := by
  induction rs generalizing s with
  | nil => exact (RSpec.refl _).weaken (fun n x p => by simp [NoP])
  | cons r rs ih =>
    have h1 : RSpec (fun n x => n = r ∧ x = new) (fun n x => n = r ∧ x = name) s.tags
        (addRefBy (delRefBy s r name) r new).tags :=
      (RSpec_delRefBy s r name).comp (RSpec_addRefBy _ r new) fun n x p => by simp [NoP]
    refine h1.comp (ih _) fun n x p => ?_
    -- a pair added for `new` is not one of those removed for `name`
    by_cases hx : x = name
    · simp [hx, hne, not_or, and_assoc]
    · simp [hx, or_assoc, or_and_right]

theorem refs_of_eq {t t' : Tag} (e1 : t'.mainT = t.mainT) (e2 : t'.subT = t.subT) (r : String) :
    r ∈ t'.refs ↔ r ∈ t.refs := by simp only [mem_refs, e1, e2]

theorem G.noref {L : List (String × Tag)} (g : G L) {name : String} (h : sget L name = none)
    {n : String} {t : Tag} (ht : sget L n = some t) : name ∉ t.refs := by
  intro hr
  obtain ⟨tr, htr, _⟩ := g n t ht name hr
  rw [h] at htr; cases htr

theorem G.noref' {L : List (String × Tag)} (g : G L) {name : String} {t0 : Tag} (h : sget L name = some t0)
    (hrb : t0.refBy = []) {n : String} {t : Tag} (ht : sget L n = some t) : name ∉ t.refs := by
  intro hr
  obtain ⟨tr, htr, hn⟩ := g n t ht name hr
  rw [h] at htr; cases htr
  rw [hrb] at hn; cases hn

theorem G_add {L0 L2 : List (String × Tag)} {name : String} {nt : Tag} {rs : List String}
    (g : G L0) (hfresh : sget L0 name = none) (hrs : ∀ r, r ∈ rs ↔ r ∈ nt.refs)
    (hex : ∀ r, r ∈ nt.refs → (sget L0 r).isSome = true) (hself : name ∉ nt.refs)
    (hs : RSpec (fun n x => n ∈ rs ∧ x = name) NoP (sins name nt L0) L2) : G L2 := by
  intro n t2 h2 r hr
  obtain ⟨t1, h1, e1, e2, _⟩ := hs.inv h2
  rw [refs_of_eq e1 e2] at hr
  rw [sget_sins] at h1
  by_cases hn : name = n
  · subst hn
    simp only [if_true, Option.some.injEq] at h1
    subst h1
    obtain ⟨tr0, htr0⟩ := Option.isSome_iff_exists.1 (hex r hr)
    have hne : name ≠ r := fun e => hself (e ▸ hr)
    obtain ⟨tr2, htr2, _, _, hm⟩ := (hs r).2 tr0 (by rw [sget_sins, if_neg hne]; exact htr0)
    exact ⟨tr2, htr2, (hm name).2 (Or.inr ⟨(hrs r).2 hr, rfl⟩)⟩
  · simp only [hn, if_false] at h1
    obtain ⟨tr0, htr0, hm0⟩ := g n t1 h1 r hr
    have hne : name ≠ r := fun e => by rw [← e, hfresh] at htr0; cases htr0
    obtain ⟨tr2, htr2, _, _, hm⟩ := (hs r).2 tr0 (by rw [sget_sins, if_neg hne]; exact htr0)
    exact ⟨tr2, htr2, (hm n).2 (Or.inl ⟨hm0, fun h => h⟩)⟩

theorem G_upd {L0 L1 L2 : List (String × Tag)} {name : String} {t nt : Tag} {ds as : List String}
    (g : G L0) (ht : sget L0 name = some t)
    (hds : ∀ r, r ∈ ds ↔ r ∈ t.refs ∧ r ∉ nt.refs) (has : ∀ r, r ∈ as ↔ r ∈ nt.refs ∧ r ∉ t.refs)
    (hex : ∀ r, r ∈ nt.refs → (sget L0 r).isSome = true) (hself : name ∉ nt.refs)
    (hrb : nt.refBy = t.refBy)
    (h1 : RSpec NoP (fun n x => n ∈ ds ∧ x = name) L0 L1)
    (h2 : RSpec (fun n x => n ∈ as ∧ x = name) NoP L1 L2) : G (sins name nt L2) := by
  intro n tn hn r hr
  rw [sget_sins] at hn
  have key : ∀ r tr0, sget L0 r = some tr0 → name ≠ r → ∃ tr2, sget (sins name nt L2) r = some tr2 ∧
      (∀ x, x ≠ name → x ∈ tr0.refBy → x ∈ tr2.refBy) ∧
      ((name ∈ tr0.refBy ∧ r ∉ ds) ∨ r ∈ as → name ∈ tr2.refBy) := by
    intro r tr0 h0 hne
    obtain ⟨tr1, htr1, _, _, m1⟩ := (h1 r).2 tr0 h0
    obtain ⟨tr2, htr2, _, _, m2⟩ := (h2 r).2 tr1 htr1
    refine ⟨tr2, by rw [sget_sins, if_neg hne]; exact htr2, ?_, ?_⟩
    · intro x hx hm
      exact (m2 x).2 (Or.inl ⟨(m1 x).2 (Or.inl ⟨hm, fun h => hx h.2⟩), fun h => h⟩)
    · rintro (⟨hm, hd⟩ | ha)
      · exact (m2 name).2 (Or.inl ⟨(m1 name).2 (Or.inl ⟨hm, fun h => hd h.1⟩), fun h => h⟩)
      · exact (m2 name).2 (Or.inr ⟨ha, rfl⟩)
  by_cases hnn : name = n
  · subst hnn
    simp only [if_true, Option.some.injEq] at hn
    subst hn
    obtain ⟨tr0, htr0⟩ := Option.isSome_iff_exists.1 (hex r hr)
    have hne : name ≠ r := fun e => hself (e ▸ hr)
    obtain ⟨tr2, htr2, _, k2⟩ := key r tr0 htr0 hne
    refine ⟨tr2, htr2, k2 ?_⟩
    by_cases hb : r ∈ t.refs
    · left
      obtain ⟨tr, htr, hm⟩ := g name t ht r hb
      rw [htr0] at htr; cases htr
      exact ⟨hm, fun hd => ((hds r).1 hd).2 hr⟩
    · right
      exact (has r).2 ⟨hr, hb⟩
  · simp only [hnn, if_false] at hn
    obtain ⟨t1, ht1, e1, e2, _⟩ := h2.inv hn
    obtain ⟨t0, ht0, f1, f2, _⟩ := h1.inv ht1
    rw [refs_of_eq (e1.trans f1) (e2.trans f2)] at hr
    obtain ⟨tr0, htr0, hm0⟩ := g n t0 ht0 r hr
    by_cases hrn : name = r
    · subst hrn
      rw [ht] at htr0; cases htr0
      exact ⟨nt, by rw [sget_sins, if_pos rfl], hrb ▸ hm0⟩
    · obtain ⟨tr2, htr2, k1, _⟩ := key r tr0 htr0 hrn
      exact ⟨tr2, htr2, k1 n (fun e => hnn e.symm) hm0⟩

theorem G_ren {L0 L2 : List (String × Tag)} {name new : String} {t : Tag} {rs : List String}
    (g : G L0) (ht : sget L0 name = some t) (hnew : sget L0 new = none) (hrb : t.refBy = [])
    (hrs : ∀ r, r ∈ rs ↔ r ∈ t.refs)
    (hs : RSpec (fun n x => n ∈ rs ∧ x = new) (fun n x => n ∈ rs ∧ x = name) (sins new t (sdel L0 name)) L2) :
    G L2 := by
  have hnn : name ≠ new := fun e => by rw [e, hnew] at ht; cases ht
  intro n t2 h2 r hr
  obtain ⟨t1, h1, e1, e2, _⟩ := hs.inv h2
  rw [refs_of_eq e1 e2] at hr
  rw [sget_sins, sget_sdel] at h1
  have key : ∀ r tr0, sget L0 r = some tr0 → name ≠ r → new ≠ r → ∃ tr2, sget L2 r = some tr2 ∧
      (∀ x, x ≠ name → x ∈ tr0.refBy → x ∈ tr2.refBy) ∧ (r ∈ rs → new ∈ tr2.refBy) := by
    intro r tr0 h0 hne1 hne2
    obtain ⟨tr2, htr2, _, _, m2⟩ := (hs r).2 tr0 (by rw [sget_sins, sget_sdel, if_neg hne2, if_neg hne1]; exact h0)
    exact ⟨tr2, htr2, fun x hx hm => (m2 x).2 (Or.inl ⟨hm, fun h => hx h.2⟩), fun hr => (m2 new).2 (Or.inr ⟨hr, rfl⟩)⟩
  by_cases hn : new = n
  · subst hn
    simp only [if_true, Option.some.injEq] at h1
    subst h1
    have hne1 : name ≠ r := fun e => g.noref' ht hrb ht (e ▸ hr)
    have hne2 : new ≠ r := fun e => g.noref hnew ht (e ▸ hr)
    obtain ⟨tr0, htr0, _⟩ := g name _ ht r hr
    obtain ⟨tr2, htr2, _, k2⟩ := key r tr0 htr0 hne1 hne2
    exact ⟨tr2, htr2, k2 ((hrs r).2 hr)⟩
  · simp only [hn, if_false] at h1
    have hn1 : name ≠ n := fun e => by simp [e] at h1
    simp only [hn1, if_false] at h1
    have hne1 : name ≠ r := fun e => g.noref' ht hrb h1 (e ▸ hr)
    have hne2 : new ≠ r := fun e => g.noref hnew h1 (e ▸ hr)
    obtain ⟨tr0, htr0, hm0⟩ := g n t1 h1 r hr
    obtain ⟨tr2, htr2, k1, _⟩ := key r tr0 htr0 hne1 hne2
    exact ⟨tr2, htr2, k1 n (fun e => hn1 e.symm) hm0⟩

theorem G_del {L0 L2 : List (String × Tag)} {name : String} {t : Tag} {rs : List String}
    (g : G L0) (ht : sget L0 name = some t) (hrb : t.refBy = [])
    (hs : RSpec NoP (fun n x => n ∈ rs ∧ x = name) (sdel L0 name) L2) : G L2 := by
  intro n t2 h2 r hr
  obtain ⟨t1, h1, e1, e2, _⟩ := hs.inv h2
  rw [refs_of_eq e1 e2] at hr
  rw [sget_sdel] at h1
  have hn1 : name ≠ n := fun e => by simp [e] at h1
  simp only [hn1, if_false] at h1
  have hne1 : name ≠ r := fun e => g.noref' ht hrb h1 (e ▸ hr)
  obtain ⟨tr0, htr0, hm0⟩ := g n t1 h1 r hr
  obtain ⟨tr2, htr2, _, _, m2⟩ := (hs r).2 tr0 (by rw [sget_sdel, if_neg hne1]; exact htr0)
  exact ⟨tr2, htr2, (m2 n).2 (Or.inl ⟨hm0, fun h => hn1 h.2.symm⟩)⟩

theorem g_addTag (s : St) (name color defn : String) (f : Facts) (st : Started) (g : G s.tags) :
    G (step s (.addTag name color defn f) st).1.tags := by
  refine step_addTag_cases (P := fun (s', _) => G s'.tags) s name color defn f st g fun ok => ?_
  have e : (atNew s color defn f (parseTagName name).2.2).mainT = f.main ∧
    (atNew s color defn f (parseTagName name).2.2).subT = f.sub := ⟨rfl, rfl⟩
  unfold addTagSt atFinish
  generalize atNew s color defn f (parseTagName name).2.2 = nt at e ⊢
  have hs := RSpec_foldAdd name nt.refs (if (parseTagName name).2.2 = true then setTag { s with ngen := s.ngen + 1 } name nt
      else startTagging (setTag { s with ngen := s.ngen + 1 } name nt) st.tag)
  rw [show (if (parseTagName name).2.2 = true then setTag { s with ngen := s.ngen + 1 } name nt
      else startTagging (setTag { s with ngen := s.ngen + 1 } name nt) st.tag).tags = sins name nt s.tags by
    split
    · rfl
    · exact (startTagging_same _ _).1] at hs
  refine G_add g ok.fresh (fun r => Iff.rfl) (fun r hr => ok.refs r ?_) (fun hr => ok.self ?_) hs <;>
    simpa only [mem_refs, e.1, e.2] using hr

theorem g_updQuery (s : St) (name defn : String) (f : Facts) (st : Started) (g : G s.tags) :
    G (step s (.updQuery name defn f) st).1.tags := by
  refine step_updQuery_cases (P := fun (s', _) => G s'.tags) s name defn f st g fun t ok => ?_
  dsimp only
  unfold updQuerySt uqApply uqInv uqRefs
  rw [(startConverter_same _).1, (startTagging_same _ _).1, (invalidatedDuring_same _ _).1]
  refine G_congr (inherit_frE _).weq ?_
  refine G_upd g ok.found (by intro r; simp) (by intro r; simp) (fun r hr => ok.refs r ?_) (fun hr => ok.self ?_) rfl
    (RSpec_foldDel name _ s) (RSpec_foldAdd name _ _) <;>
    simpa only [mem_refs, uqNew, uqTag] using hr

theorem g_updName (s : St) (name new : String) (st : Started) (g : G s.tags) :
    G (step s (.updName name new) st).1.tags := by
  refine step_updName_cases (P := fun (s', _) => G s'.tags) s name new st g (fun _ _ _ => g) fun t ok => ?_
  have hne : name ≠ new := fun e => by have := ok.found; rw [e, ok.fresh] at this; cases this
  exact G_ren g ok.found ok.fresh ok.unref (fun r => Iff.rfl)
    (RSpec_foldRen name new hne t.refs { s with tags := sins new t (sdel s.tags name) })

theorem g_delTag (s : St) (name : String) (st : Started) (g : G s.tags) :
    G (step s (.delTag name) st).1.tags := by
  refine step_delTag_cases (P := fun (s', _) => G s'.tags) s name st g fun t ht hrb => ?_
  have hv := (foldl_frE _ (fun s c => detachConv_frE (g := False) s name c st.tag) t.convs s).weq
  obtain ⟨t', ht', _, _, e3⟩ := hv.get' ht
  exact G_del (G_congr hv g) ht' (e3.trans hrb) (RSpec_foldDel name t.refs
    { (t.convs.foldl (fun s c => detachConv s name c st.tag) s) with
      tags := sdel (t.convs.foldl (fun s c => detachConv s name c st.tag) s).tags name })

theorem g_step (s : St) (e : Ev) (st : Started) (fj : FJ s) (g : G s.tags) : G (step s e st).1.tags := by
  by_cases he : GEdit e
  · cases e with
    | addTag name color defn f => exact g_addTag s name color defn f st g
    | updQuery name defn f => exact g_updQuery s name defn f st g
    | updName name new => exact g_updName s name new st g
    | delTag name => exact g_delTag s name st g
    | _ => exact he.elim
  · exact G_congr (weq_step s e st (fun _ _ _ _ hj hot hd => (hj ▸ fj.fi).facts hot hd) he) g

end Pk.Proofs.MgrReach
