/-
  What ONE packet does to `streamFactory.Streams`, for ANY packets and
  ANY timestamps (flushes included): every stream keeps its packets and its data and may get more
  data (`SExt []`); at most one stream gets the packet appended, or one new stream is pushed that
  holds just this packet (`PktShape`): `reasmPacket_shape`.  A flush is the case "no packet, data
  only" (`DataOnly`), so each packet is a flush followed by a flush-free step.

  For ANY packet lists `F`, `G` (any timestamps):
  `reasm (F ++ G)` extends `reasm F` stream by stream — same streams at the same positions, each with
  its old packets and data as a prefix, the additional packets are packets of `G`; the additional
  streams hold packets of `G` only and at least one (`reasm_append_ext`).  If the packet keys of the
  fed list are distinct, no key occurs in two streams, and all keys are keys of fed packets
  (`reasm_keyDisj`).

  Inside one inactivity-timeout window (no flush does anything) a stream changes only when it gets a
  packet: if a stream of `reasm F` has the same packets in
  `reasm (F ++ G)`, it is the same stream (same data, same flags) — `reasm_window_frame`.
  Across the timeout this is false (a flush delivers queued data to a stream that gets no packet:
  `C08.finding_F34`).
-/
import Pk.Proofs.ImportReasmClass
import Pk.Proofs.ImportChronoSort

namespace Pk.Proofs.ImportChrono
open Pk.Import Pk.Proofs.ImportReasm

/-- `s'` is `s` with the packets `np` (newest first) recorded and possibly more data delivered -/
def SExt (np : List (PRef × Bool)) (s s' : Stream) : Prop :=
  s'.pktsRev = np ++ s.pktsRev ∧ ∃ more, s'.dataRev = more ++ s.dataRev

theorem SExt.refl (s : Import.Stream) : SExt [] s s := ⟨rfl, [], rfl⟩

theorem SExt.trans {n1 n2 : List (PRef × Bool)} {a b c : Import.Stream} (h1 : SExt n1 a b) (h2 : SExt n2 b c) :
    SExt (n2 ++ n1) a c := by
  obtain ⟨p1, m1, d1⟩ := h1
  obtain ⟨p2, m2, d2⟩ := h2
  exact ⟨by rw [p2, p1, List.append_assoc], m2 ++ m1, by rw [d2, d1, List.append_assoc]⟩

/-- oldest first, as `Stream.pkts` and `Stream.data` list them -/
theorem SExt.fwd {np : List (PRef × Bool)} {s s' : Import.Stream} (h : SExt np s s') :
    s'.pkts = s.pkts ++ np.reverse ∧ ∃ nd, s'.data = s.data ++ nd := by
  obtain ⟨hp, more, hd⟩ := h
  unfold Stream.pkts Stream.data
  rw [hp, hd, List.reverse_append, List.reverse_append]
  exact ⟨rfl, more.reverse, rfl⟩

theorem SExt.of_streamExt {a b : Import.Stream} (h : StreamExt a b) : SExt [] a b := by
  obtain ⟨m, c, rfl⟩ := h
  exact ⟨rfl, m, rfl⟩

theorem default_pktsRev : (default : Import.Stream).pktsRev = [] := rfl
theorem default_dataRev : (default : Stream).dataRev = [] := rfl

theorem tcpBody_sext (c : TcpConn) (st : Import.Stream) (p : Pkt) (d : Bool) : SExt [(p.ref, d)] st (tcpBody c st p d).2 := by
  obtain ⟨f, m, k, he⟩ := tcpBody_ext c st p d
  exact ⟨tcpBody_pkts c st p d, m, by rw [he]; rfl⟩

theorem udpBody_sext (st : Import.Stream) (p : Pkt) (d : Bool) : SExt [(p.ref, d)] st (udpBody st p d) := by
  obtain ⟨m, k, he⟩ := udpBody_ext st p d
  exact ⟨udpBody_pkts st p d, m, by rw [he]; rfl⟩

def DataOnly (ss ss' : Array Import.Stream) : Prop := ss'.size = ss.size ∧ ∀ i : Nat, SExt [] ss[i]! ss'[i]!

/-- one packet: at most one stream (`j`) gets the packet; a new stream holds just this packet -/
structure PktShape (p : Pkt) (ss ss' : Array Import.Stream) : Prop where
  size : ss'.size = ss.size ∨ ss'.size = ss.size + 1
  ex : ∃ (j : Option Nat) (d : Bool), (∀ i, SExt (if j = some i then [(p.ref, d)] else []) ss[i]! ss'[i]!) ∧
    (ss'.size = ss.size + 1 → j = some ss.size)

theorem PktShape.same (p : Pkt) (ss : Array Import.Stream) : PktShape p ss ss :=
  ⟨Or.inl rfl, none, false, fun _ => SExt.refl _, fun h => absurd h (Nat.ne_of_lt (Nat.lt_succ_self _))⟩

theorem PktShape.set (p : Pkt) (ss : Array Import.Stream) (j : Nat) (d : Bool) (x : Import.Stream) (h : SExt [(p.ref, d)] ss[j]! x) :
    PktShape p ss (ss.set! j x) := by
  rcases Nat.lt_or_ge j ss.size with hj | hj
  · refine ⟨Or.inl Array.size_setIfInBounds, some j, d, fun i => ?_,
      fun hs => absurd (Array.size_setIfInBounds.symm.trans hs) (Nat.ne_of_lt (Nat.lt_succ_self _))⟩
    by_cases hi : j = i
    · subst hi
      rw [if_pos rfl, array_set!_get!_eq, if_pos hj]
      exact h
    · rw [if_neg (fun e => hi (Option.some.inj e)), array_set!_get!_ne ss i j x hi]
      exact SExt.refl _
  · rw [show ss.set! j x = ss from Array.setIfInBounds_eq_of_size_le hj]
    exact PktShape.same p ss

theorem PktShape.push (p : Pkt) (ss : Array Import.Stream) (d : Bool) (x : Import.Stream) (h : SExt [(p.ref, d)] default x) :
    PktShape p ss (ss.push x) := by
  refine ⟨Or.inr (Array.size_push x), some ss.size, d, fun i => ?_, fun _ => rfl⟩
  rw [array_push_get!]
  by_cases hi : i = ss.size
  · rw [hi, if_pos rfl, if_pos rfl, array_get!_default ss _ (Nat.le_refl _)]
    exact h
  · rw [if_neg (fun e => hi (Option.some.inj e).symm), if_neg hi]
    exact SExt.refl _

theorem PktShape.after_flush {p : Pkt} {a b c : Array Import.Stream} (h1 : DataOnly a b) (h2 : PktShape p b c) : PktShape p a c := by
  obtain ⟨hs, j, d, e1, e2⟩ := h2
  obtain ⟨s1, f1⟩ := h1
  rw [s1] at hs e2
  refine ⟨hs, j, d, fun i => ?_, e2⟩
  have := (f1 i).trans (e1 i)
  rwa [List.append_nil] at this

theorem tcpApply_shape (r : RState) (p : Pkt) (i : Nat) (dir : Bool) : PktShape p r.streams (tcpApply r p i dir).streams := by
  unfold tcpApply
  split
  · exact PktShape.same p _
  · rename_i c _
    exact PktShape.set p r.streams c.stream dir _ (tcpBody_sext c _ p dir)

theorem tcpNoFlush_shape (r : RState) (p : Pkt) : PktShape p r.streams (tcpNoFlush r p).streams := by
  cases hf : tcpFind p r.tcp 0 with
  | none =>
    -- a new connection: the stream is pushed, then it gets the packet
    rw [tcpNoFlush_new r p hf]
    exact PktShape.push p r.streams false _ (tcpBody_sext _ (newTcpStream p) p false)
  | some x =>
    unfold tcpNoFlush
    simp only [hf]
    exact tcpApply_shape { r with unmodelled := r.unmodelled || decide (p.payload.length > 1900) } p x.1 x.2

theorem tcpFlush_dataOnly (k ts : Nat) (cs : List TcpConn) (ss : Array Import.Stream) (u : Bool) :
    DataOnly ss (tcpFlush k ts cs ss u).2.1 :=
  ⟨tcpFlush_size k ts cs ss u, fun i => SExt.of_streamExt (tcpFlush_ext k ts cs ss u i)⟩

theorem tcpPacket_shape (r : RState) (p : Pkt) : PktShape p r.streams (tcpPacket r p).streams := by
  rw [tcpPacket_flush]
  exact PktShape.after_flush (tcpFlush_dataOnly (assemblerIndex p) p.ts r.tcp r.streams r.unmodelled)
    (tcpNoFlush_shape
      { r with tcp := (tcpFlush (assemblerIndex p) p.ts r.tcp r.streams r.unmodelled).1,
               streams := (tcpFlush (assemblerIndex p) p.ts r.tcp r.streams r.unmodelled).2.1,
               unmodelled := (tcpFlush (assemblerIndex p) p.ts r.tcp r.streams r.unmodelled).2.2 } p)

theorem udpFlush_dataOnly (ts : Nat) (cs : List UdpConn) (ss : Array Import.Stream) : DataOnly ss (udpFlush ts cs ss).2 := by
  refine ⟨udpFlush_size ts cs ss, fun i => ?_⟩
  rw [getElem!_def, getElem!_def, udpFlush_streams ts cs ss i]
  cases ss[i]? with
  | none => exact SExt.refl _
  | some s =>
    show SExt [] s (if udpOld ts cs i then { s with complete := true } else s)
    split
    · exact ⟨rfl, [], rfl⟩
    · exact SExt.refl _

theorem udpNoFlush_shape (r : RState) (p : Pkt) : PktShape p r.streams (udpNoFlush r p).streams := by
  unfold udpNoFlush
  cases hl : udpLookup r.streams p r.udp 0 with
  | none => exact PktShape.push p r.streams false _ (udpBody_sext (newUdpStream p) p false)
  | some x =>
    obtain ⟨i, dir⟩ := x
    cases hc : r.udp[i]? with
    | none => simp only [hc]; exact PktShape.same p _
    | some c => simp only [hc]; exact PktShape.set p r.streams c.stream dir _ (udpBody_sext _ p dir)

theorem udpPacket_shape (r : RState) (p : Pkt) : PktShape p r.streams (udpPacket r p).streams := by
  rw [udpPacket_flush]
  exact PktShape.after_flush (udpFlush_dataOnly p.ts r.udp r.streams)
    (udpNoFlush_shape { r with udp := (udpFlush p.ts r.udp r.streams).1, streams := (udpFlush p.ts r.udp r.streams).2 } p)

theorem reasmPacket_shape (r : RState) (p : Pkt) : PktShape p r.streams (reasmPacket r p).streams := by
  unfold reasmPacket
  split
  · exact udpPacket_shape r p
  · exact tcpPacket_shape r p


structure ReasmExt (G : List Pkt) (ss ss' : Array Stream) : Prop where
  size_le : ss.size ≤ ss'.size
  ext : ∀ i : Nat, ∃ np, SExt np ss[i]! ss'[i]! ∧ ∀ x ∈ np, ∃ q ∈ G, q.ref = x.1
  new : ∀ i : Nat, ss.size ≤ i → i < ss'.size → ss'[i]!.pktsRev ≠ []

theorem ReasmExt.refl (ss : Array Import.Stream) : ReasmExt [] ss ss :=
  ⟨Nat.le_refl _, fun i => ⟨[], SExt.refl _, by intro x hx; cases hx⟩, fun i h1 h2 => by omega⟩

theorem ReasmExt.of_shape {p : Pkt} {ss ss' : Array Import.Stream} (h : PktShape p ss ss') : ReasmExt [p] ss ss' := by
  obtain ⟨hs, j, d, e1, e2⟩ := h
  refine ⟨hs.elim (fun h => Nat.le_of_eq h.symm) (fun h => h ▸ Nat.le_succ _), fun i => ⟨_, e1 i, fun x hx => ?_⟩, ?_⟩
  · split at hx
    · exact ⟨p, List.mem_singleton.mpr rfl, by rw [List.mem_singleton.mp hx]⟩
    · cases hx
  · intro i h1 h2
    rcases hs with hs | hs
    · exact absurd h2 (Nat.not_lt.mpr (hs ▸ h1))
    · have hi : i = ss.size := Nat.le_antisymm (Nat.le_of_lt_add_one (hs ▸ h2)) h1
      rw [(e1 i).1, e2 hs, hi, if_pos rfl]
      exact List.cons_ne_nil _ _

theorem ReasmExt.trans {G1 G2 : List Pkt} {a b c : Array Import.Stream} (h1 : ReasmExt G1 a b) (h2 : ReasmExt G2 b c) :
    ReasmExt (G1 ++ G2) a c := by
  refine ⟨Nat.le_trans h1.size_le h2.size_le, ?_, ?_⟩
  · intro i
    obtain ⟨n1, s1, q1⟩ := h1.ext i
    obtain ⟨n2, s2, q2⟩ := h2.ext i
    refine ⟨n2 ++ n1, s1.trans s2, ?_⟩
    intro x hx
    rcases List.mem_append.mp hx with hx | hx
    · obtain ⟨q, hq, e⟩ := q2 x hx
      exact ⟨q, List.mem_append_right _ hq, e⟩
    · obtain ⟨q, hq, e⟩ := q1 x hx
      exact ⟨q, List.mem_append_left _ hq, e⟩
  · intro i hi1 hi2
    by_cases hb : i < b.size
    · have := h1.new i hi1 hb
      obtain ⟨n2, s2, _⟩ := h2.ext i
      rw [s2.1]
      intro h
      exact this (List.append_eq_nil_iff.mp h).2
    · exact h2.new i (Nat.not_lt.mp hb) hi2

theorem foldl_reasmExt : ∀ (G : List Pkt) (r : RState), ReasmExt G r.streams (G.foldl reasmPacket r).streams := by
  intro G
  induction G with
  | nil => intro r; exact ReasmExt.refl _
  | cons p G ih =>
    intro r
    rw [List.foldl_cons]
    have h := (ReasmExt.of_shape (reasmPacket_shape r p)).trans (ih (reasmPacket r p))
    simpa using h

theorem reasm_append_ext (F G : List Pkt) : ReasmExt G (reasm F) (reasm (F ++ G)) := by
  unfold reasm
  rw [List.foldl_append]
  exact foldl_reasmExt G _

theorem reasm_pkts (F : List Pkt) :
    (∀ i : Nat, i < (reasm F).size → (reasm F)[i]!.pktsRev ≠ []) ∧
    (∀ i : Nat, ∀ x ∈ (reasm F)[i]!.pktsRev, ∃ q ∈ F, q.ref = x.1) := by
  have h : ReasmExt F #[] (reasm F) := reasm_append_ext [] F
  refine ⟨fun i hi => h.new i (Nat.zero_le i) hi, fun i x hx => ?_⟩
  obtain ⟨np, s, q⟩ := h.ext i
  rw [s.1, array_get!_default #[] i (Nat.zero_le i), default_pktsRev, List.append_nil] at hx
  exact q x hx

/-- the packets recorded in the streams are packets of `F` (by key), and no key is recorded in two
    streams -/
structure KeyDisj (F : List Pkt) (ss : Array Import.Stream) : Prop where
  sub : ∀ i : Nat, ∀ x ∈ ss[i]!.pktsRev, PRef.key x.1 ∈ F.map Pkt.key
  disj : ∀ i j : Nat, ∀ x ∈ ss[i]!.pktsRev, ∀ y ∈ ss[j]!.pktsRev, PRef.key x.1 = PRef.key y.1 → i = j

theorem KeyDisj.step {F : List Pkt} {p : Pkt} {ss ss' : Array Import.Stream} (h : KeyDisj F ss) (hs : PktShape p ss ss')
    (hp : Pkt.key p ∉ F.map Pkt.key) : KeyDisj (F ++ [p]) ss' := by
  obtain ⟨_, j, d, e1, _⟩ := hs
  have hmem : ∀ i : Nat, ∀ x ∈ ss'[i]!.pktsRev, x ∈ ss[i]!.pktsRev ∨ (j = some i ∧ x = (p.ref, d)) := by
    intro i x hx
    rw [(e1 i).1] at hx
    rcases List.mem_append.mp hx with hx | hx
    · split at hx
      · exact Or.inr ⟨‹_›, List.mem_singleton.mp hx⟩
      · cases hx
    · exact Or.inl hx
  refine ⟨?_, ?_⟩
  · intro i x hx
    rw [List.map_append, List.mem_append]
    rcases hmem i x hx with h1 | ⟨_, h1⟩
    · exact Or.inl (h.sub i x h1)
    · exact Or.inr (h1 ▸ List.mem_singleton.mpr rfl)
  · intro i i' x hx y hy hxy
    rcases hmem i x hx with h1 | ⟨e1, h1⟩ <;> rcases hmem i' y hy with h2 | ⟨e2, h2⟩
    · exact h.disj i i' x h1 y h2 hxy
    · exact absurd (by have := h.sub i x h1; rwa [hxy, h2] at this) hp
    · exact absurd (by have := h.sub i' y h2; rwa [← hxy, h1] at this) hp
    · exact Option.some.inj (e1.symm.trans e2)

theorem foldl_keyDisj : ∀ (G F : List Pkt) (r : RState), KeyDisj F r.streams → ((F ++ G).map Pkt.key).Nodup →
    KeyDisj (F ++ G) (G.foldl reasmPacket r).streams := by
  intro G
  induction G with
  | nil => intro F r h _; simpa using h
  | cons p G ih =>
    intro F r h hnd
    rw [List.foldl_cons]
    have hnd' : (((F ++ [p]) ++ G).map Pkt.key).Nodup := by simpa using hnd
    have hp : Pkt.key p ∉ F.map Pkt.key := by
      intro hm
      rw [List.map_append, List.map_cons, List.nodup_append] at hnd
      exact hnd.2.2 _ hm _ (List.mem_cons_self ..) rfl
    have := ih (F ++ [p]) (reasmPacket r p) (h.step (reasmPacket_shape r p) hp) hnd'
    simpa using this

theorem reasm_keyDisj (F : List Pkt) (hk : (F.map Pkt.key).Nodup) : KeyDisj F (reasm F) := by
  have hd : ∀ i : Nat, (({} : RState).streams)[i]! = default := fun i => array_get!_default #[] i (Nat.zero_le i)
  have h0 : KeyDisj [] ({} : RState).streams :=
    ⟨fun i x hx => (by rw [hd] at hx; cases hx), fun i j x hx => (by rw [hd] at hx; cases hx)⟩
  have := foldl_keyDisj F [] {} h0 (by simpa using hk)
  simpa [reasm] using this


theorem aStep_get (p : Pkt) : ∀ (a : List Entry) (k : Nat) (e : Entry),
    a[k]? = some e → ∃ e', (aStep a p)[k]? = some e' ∧ (e' = e ∨ ∃ d, e' = entryBody p d e) := by
  intro a
  induction a with
  | nil => exact fun k e h => nomatch h
  | cons x xs ih =>
    intro k e h
    rw [aStep]
    cases entryDir p x with
    | some d =>
      cases k with
      | zero => exact ⟨_, rfl, Or.inr ⟨d, Option.some.inj h ▸ rfl⟩⟩
      | succ k => exact ⟨e, h, Or.inl rfl⟩
    | none =>
      cases k with
      | zero => exact ⟨e, h, Or.inl rfl⟩
      | succ k => exact ih k e h

theorem aStep_frame (a : List Entry) (p : Pkt) (k : Nat) (e : Entry) (h : a[k]? = some e) :
    ∃ e', (aStep a p)[k]? = some e' ∧ (e' = e ∨ e.st.pktsRev.length < e'.st.pktsRev.length) := by
  obtain ⟨e', h1, h2⟩ := aStep_get p a k e h
  refine ⟨e', h1, h2.imp_right fun hs => ?_⟩
  obtain ⟨d, rfl⟩ := hs
  rw [entryBody_pkts]
  exact Nat.lt_succ_self _

theorem aRun_frame : ∀ (qs : List Pkt) (a : List Entry) (k : Nat) (e : Entry), a[k]? = some e →
    ∃ e', (aRun a qs)[k]? = some e' ∧ (e' = e ∨ e.st.pktsRev.length < e'.st.pktsRev.length) := by
  intro qs
  induction qs with
  | nil => intro a k e h; exact ⟨e, h, Or.inl rfl⟩
  | cons p qs ih =>
    intro a k e h
    obtain ⟨e1, h1, c1⟩ := aStep_frame a p k e h
    obtain ⟨e2, h2, c2⟩ := ih (aStep a p) k e1 h1
    refine ⟨e2, h2, ?_⟩
    rcases c1 with rfl | c1 <;> rcases c2 with rfl | c2
    · exact Or.inl rfl
    · exact Or.inr c2
    · exact Or.inr c1
    · exact Or.inr (Nat.lt_trans c1 c2)

theorem reasm_window_frame (t0 : Nat) (F G : List Pkt) (hw : InWindow t0 (F ++ G)) (k : Nat)
    (hk : k < (reasm F).size) (hp : (reasm (F ++ G))[k]!.pktsRev = (reasm F)[k]!.pktsRev) :
    (reasm (F ++ G))[k]! = (reasm F)[k]! := by
  have h1 := reasm_abs t0 F fun p hp => hw p (List.mem_append_left _ hp)
  have h2 := reasm_abs t0 (F ++ G) hw
  rw [aRun, List.foldl_append] at h2
  -- the entry behind stream `k`, before and after `G`
  have g1 := array_get?_some.mpr ⟨hk, rfl⟩
  rw [← Array.getElem?_toList, h1, List.getElem?_map] at g1
  cases he : (aRun [] F)[k]? with
  | none => rw [he] at g1; cases g1
  | some e =>
    rw [he] at g1
    obtain ⟨e', he', hc⟩ := aRun_frame G (aRun [] F) k e he
    have g2 : (reasm (F ++ G))[k]! = e'.st := by
      rw [getElem!_def, ← Array.getElem?_toList, h2, List.getElem?_map]
      exact he' ▸ rfl
    rw [← Option.some.inj g1, g2] at hp ⊢
    rcases hc with rfl | hc
    · rfl
    · exact absurd (congrArg List.length hp) (Nat.ne_of_gt hc)

end Pk.Proofs.ImportChrono
