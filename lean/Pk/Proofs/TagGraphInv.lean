/-
  Tag-wise invariants `TagInv P` of the tag API, once for all `P` (`step_tagInv`): a call writes one tag — for
  which the caller shows `P` (`OpOK`) — and changes of the others only the referrers and, through
  `inheritTagUncertainty`, the pending set, which grows.  So `P` may look at definition, condition, match set
  and `known` (`CoreOnly`), and at the pending set if it survives its growth (`Frame`).
  Also: the keys of the table stay distinct (`step_keysNodup`).
-/
import Pk.Proofs.TagGraphStep

namespace Pk.Proofs.TagGraphMore
open Pk.TagGraph Pk.Proofs.TagGraph

def TagInv (P : Name → Tag → Prop) (m : TagMap) : Prop := ∀ n t, tget m n = some t → P n t

theorem tagInv_nil (P : Name → Tag → Prop) : TagInv P [] := fun _ _ h => nomatch h

def CoreOnly (P : Name → Tag → Prop) : Prop :=
  ∀ n a b, a.definition = b.definition → a.cond = b.cond → a.matched = b.matched → a.known = b.known →
    P n a → P n b

def Frame (next : Nat) (P : Name → Tag → Prop) : Prop :=
  ∀ n a b, a.definition = b.definition → a.cond = b.cond → a.matched = b.matched → a.known = b.known →
    (∀ x, x < next → x ∈ a.uncertain → x ∈ b.uncertain) → P n a → P n b

theorem frame_of_coreOnly {P : Name → Tag → Prop} (h : CoreOnly P) (next : Nat) : Frame next P :=
  fun n a b h1 h2 h3 h4 _ hp => h n a b h1 h2 h3 h4 hp

theorem tagInv_tset {P : Name → Tag → Prop} {m : TagMap} (h : TagInv P m) (n : Name) (nt : Tag) (hp : P n nt) :
    TagInv P (tset m n nt) := by
  intro k t hk
  rw [get_set] at hk
  split at hk
  · rename_i hnk; cases hk; exact hnk ▸ hp
  · exact h k t hk

theorem tagInv_tdel {P : Name → Tag → Prop} {m : TagMap} (h : TagInv P m) (n : Name) : TagInv P (tdel m n) := by
  intro k t hk
  rw [get_del] at hk
  split at hk
  · cases hk
  · exact h k t hk

theorem tagInv_tmod {P : Name → Tag → Prop} {m : TagMap} (h : TagInv P m) (n : Name) (f : Tag → Tag)
    (hf : ∀ t, P n t → P n (f t)) : TagInv P (tmod m n f) := by
  intro k t hk
  rw [get_mod] at hk
  split at hk
  · rename_i hnk
    subst hnk
    cases hm : tget m n with
    | none => rw [hm] at hk; cases hk
    | some u =>
      rw [hm] at hk
      simp only [Option.map_some, Option.some.injEq] at hk
      subst hk
      exact hf u (h n u hm)
  · exact h k t hk

/-- the folds over a reference list touch the referrers only, which no `Frame` reads -/
theorem tagInv_foldl_liftRB {P : Name → Tag → Prop} {next : Nat} (hc : Frame next P) (f : List Name → List Name)
    (rs : List Name) (m : TagMap) (h : TagInv P m) : TagInv P (rs.foldl (fun m r => tmod m r (liftRB f)) m) :=
  Lib.foldl_inv (TagInv P) _ (fun _ r h => tagInv_tmod h r _ fun t ht =>
    hc r t (liftRB f t) rfl rfl rfl rfl (fun _ _ hx => hx) ht) rs m h

theorem Frame.of_clearU {next : Nat} {P : Name → Tag → Prop} (hc : Frame next P) {n : Name} {a b : Tag}
    (he : clearU b = clearU a) (hg : ∀ x, x < next → x ∈ a.uncertain → x ∈ b.uncertain) (h : P n a) : P n b :=
  have e := clearU_eq he
  hc n a b e.1.symm e.2.2.2.2.2.1.symm e.2.2.2.2.2.2.1.symm e.2.2.2.2.2.2.2.1.symm hg h

theorem tagInv_inherit {P : Name → Tag → Prop} {st st' : State} (hi : inherit st = some st')
    (hc : Frame st.nextStreamID P) (h : TagInv P st.tags) : TagInv P st'.tags := by
  intro k t' hk
  obtain ⟨t, ht, he, hg⟩ := inherit_grow hi k t' hk
  exact hc.of_clearU he hg (h k t ht)

/-- what the caller has to show for the tag a call itself writes -/
def OpOK (P : Name → Tag → Prop) (st : State) : Op → Prop
  | .add n c d p => defRejected n p (parseTagName n).2.2 = false → P n (addedTag st n c d p)
  | .query n d p =>
      defRejected n p (markPrefix n) = false → ∀ t, tget st.tags n = some t → P n t → P n (queryTag st t d p)
  | .rename n n' =>
      ∀ t, tget st.tags n = some t → P n t → (parseTagName n').1 = (parseTagName n).1 → P n' t
  | .markAdd n ids => ∀ t, tget st.tags n = some t → P n t → P n { markTag true t ids with uncertain := t.uncertain }
  | .markDel n ids => ∀ t, tget st.tags n = some t → P n t → P n { markTag false t ids with uncertain := t.uncertain }
  | _ => True

theorem accepted_tagInv {P : Name → Tag → Prop} {st : State} {op : Op} {m : TagMap}
    (hc : Frame st.nextStreamID P) (inv : TagInv P st.tags) (hop : OpOK P st op) (ha : Accepted st op m) :
    TagInv P m := by
  have same : ∀ {n t t'}, tget st.tags n = some t → t'.definition = t.definition → t'.cond = t.cond →
      t'.matched = t.matched → t'.known = t.known → t'.uncertain = t.uncertain → TagInv P (tset st.tags n t') :=
    fun ht h1 h2 h3 h4 h5 => tagInv_tset inv _ _
      (hc _ _ _ h1.symm h2.symm h3.symm h4.symm (fun _ _ hx => h5 ▸ hx) (inv _ _ ht))
  cases ha with
  | unchanged => exact inv
  | @add n _ _ _ hrej => exact tagInv_foldl_liftRB hc (addRef n) _ _ (tagInv_tset inv _ _ (hop hrej))
  | @del n => exact tagInv_foldl_liftRB hc (delRef n) _ _ (tagInv_tdel inv _)
  | color ht => exact same ht rfl rfl rfl rfl rfl
  | converters ht => exact same ht rfl rfl rfl rfl rfl
  | @query n _ _ _ _ hq hi =>
    exact tagInv_inherit hi hc (tagInv_tset
      (tagInv_foldl_liftRB hc (addRef n) _ _ (tagInv_foldl_liftRB hc (delRef n) _ _ inv)) _ _
      (hop hq.notRejected _ hq.get (inv _ _ hq.get)))
  | @rename n n' _ ht htyp =>
    exact tagInv_foldl_liftRB hc (fun l => addRef n' (delRef n l)) _ _
      (tagInv_tset (tagInv_tdel inv _) _ _ (hop _ ht (inv _ _ ht) htyp))
  | @mark add n _ t _ ht hi =>
    -- the walk only adds pending ids to the other tags; the mark gets its old pending set back
    intro k u hk
    by_cases hnk : n = k
    · subst hnk
      rw [markRestored_get hi] at hk
      cases hk
      cases add <;> exact hop t ht (inv n t ht)
    · rw [get_mod, if_neg hnk] at hk
      obtain ⟨v, hv, he, hg⟩ := inherit_grow hi k u hk
      rw [get_set, if_neg hnk] at hv
      exact hc.of_clearU he hg (inv k v hv)

theorem step_tagInv (P : Name → Tag → Prop) (st : State) (hc : Frame st.nextStreamID P) (op : Op)
    (inv : TagInv P st.tags) (hop : OpOK P st op) : TagInv P (step st op).2.tags :=
  match step st op, step_cases st op with
  | _, .err => inv
  | _, .crash _ _ => inv
  | _, .ok ha => accepted_tagInv hc inv hop ha

def KeysNodup (m : TagMap) : Prop := (tkeys m).Nodup

theorem keysNodup_tset (m : TagMap) (n : Name) (t : Tag) (h : KeysNodup m) : KeysNodup (tset m n t) := by
  unfold KeysNodup at *
  cases hg : tget m n with
  | some u => rw [tkeys_tset_has m n t u hg]; exact h
  | none =>
    rw [tkeys_tset_new m n t hg, List.nodup_append]
    refine ⟨h, by simp, ?_⟩
    intro a ha b hb
    simp only [List.mem_singleton] at hb
    subst hb
    intro hab; subst hab
    have := (mem_keys m a).mp ha
    rw [hg] at this; cases this

theorem keysNodup_tdel (m : TagMap) (n : Name) (h : KeysNodup m) : KeysNodup (tdel m n) := by
  unfold KeysNodup at *
  rw [tkeys_tdel]
  exact h.sublist List.filter_sublist

theorem keysNodup_of_eq {m m' : TagMap} (he : tkeys m' = tkeys m) (h : KeysNodup m) : KeysNodup m' := by
  unfold KeysNodup at *; rw [he]; exact h

theorem accepted_keysNodup {st : State} {op : Op} {m : TagMap} (h : KeysNodup st.tags) (ha : Accepted st op m) :
    KeysNodup m := by
  cases ha with
  | unchanged => exact h
  | add => exact keysNodup_of_eq (tkeys_addReferrer _ _ _) (keysNodup_tset _ _ _ h)
  | del => exact keysNodup_of_eq (tkeys_delReferrer _ _ _) (keysNodup_tdel _ _ h)
  | color => exact keysNodup_tset _ _ _ h
  | converters => exact keysNodup_tset _ _ _ h
  | query _ hi =>
    exact keysNodup_of_eq (tkeys_inherit _ _ hi) (keysNodup_tset _ _ _
      (keysNodup_of_eq ((tkeys_addReferrer _ _ _).trans (tkeys_delReferrer _ _ _)) h))
  | rename =>
    exact keysNodup_of_eq (tkeys_foldl_tmod (fun _ rt => { rt with referencedBy := addRef _ (delRef _ rt.referencedBy) }) _ _)
      (keysNodup_tset _ _ _ (keysNodup_tdel _ _ h))
  | mark _ hi =>
    exact keysNodup_of_eq ((tkeys_tmod _ _ _).trans (tkeys_inherit _ _ hi)) (keysNodup_tset _ _ _ h)

theorem step_keysNodup (st : State) (op : Op) (h : KeysNodup st.tags) : KeysNodup (step st op).2.tags :=
  match step st op, step_cases st op with
  | _, .err => h
  | _, .crash _ _ => h
  | _, .ok ha => accepted_keysNodup h ha

theorem step_next (st : State) (op : Op) : (step st op).2.nextStreamID = st.nextStreamID :=
  match step st op, step_cases st op with
  | _, .err => rfl
  | _, .crash _ _ => rfl
  | _, .ok _ => rfl

theorem run_next (ops : List Op) (st : State) : (run st ops).nextStreamID = st.nextStreamID :=
  Lib.foldl_keep (·.nextStreamID) _ step_next ops st

end Pk.Proofs.TagGraphMore
