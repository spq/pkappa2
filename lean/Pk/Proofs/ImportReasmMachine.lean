/-
  An abstract machine without stream numbers: a list of entries in creation order; a packet goes to
  the first entry that answers it (`entryDir`: the packet's conversation, and in which orientation)
  and is applied there (`entryBody`); if none answers it opens an entry at the end and is applied to
  that (`openEntry`, `newEntry`): `aStep_spec`.  Inside one timeout window `reasmPacket` simulates it
  (`sim_step`), so `reasm` is a run of the machine from the empty list (`reasm_abs`).  A property of
  every entry survives a packet if `entryBody` keeps it, for either orientation, and `openEntry` has it
  (`aStep_all`); the window (`EntryWin`) is such a property.
-/
import Pk.Proofs.ImportReasmWindow

namespace Pk.Proofs.ImportReasm
open Pk.Import

/-- a stream together with its open connection -/
inductive Entry
  | tcp (c : TcpConn) (st : Stream)
  | udp (act : Nat) (st : Stream)

def Entry.st : Entry → Stream
  | .tcp _ st => st
  | .udp _ st => st

/-- whether the packet is one of the entry's conversation, and in which orientation -/
def entryDir (p : Pkt) : Entry → Option Bool
  | .tcp c _ => if p.udp then none else tcpDir p c
  | .udp _ st => if p.udp then udpMatch st p else none

/-- what a packet travelling in orientation `d` does to the entry of its conversation -/
def entryBody (p : Pkt) (d : Bool) : Entry → Entry
  | .tcp c st => .tcp (tcpBody c st p d).1 (tcpBody c st p d).2
  | .udp _ st => .udp p.ts (udpBody st p d)

/-- the entry that `p` opens, before `p` itself is applied to it (client → server) -/
def openEntry (p : Pkt) : Entry :=
  if p.udp then .udp p.ts (newUdpStream p) else .tcp (newConn p 0) (newTcpStream p)

def newEntry (p : Pkt) : Entry := entryBody p false (openEntry p)

def aStep : List Entry → Pkt → List Entry
  | [], p => [newEntry p]
  | e :: es, p => match entryDir p e with
    | some d => entryBody p d e :: es
    | none => e :: aStep es p

def aRun (a : List Entry) (ps : List Pkt) : List Entry := ps.foldl aStep a

theorem aStep_spec (p : Pkt) : ∀ (a : List Entry),
    ((∀ e ∈ a, entryDir p e = none) ∧ aStep a p = a ++ [newEntry p]) ∨
    (∃ pre e d post, a = pre ++ e :: post ∧ (∀ x ∈ pre, entryDir p x = none) ∧ entryDir p e = some d ∧
      aStep a p = pre ++ entryBody p d e :: post) := by
  intro a
  induction a with
  | nil => exact Or.inl ⟨fun _ hm => (nomatch hm), rfl⟩
  | cons e es ih =>
    rw [aStep]
    cases hd : entryDir p e with
    | some d => exact Or.inr ⟨[], e, d, es, rfl, fun _ hm => (nomatch hm), hd, rfl⟩
    | none =>
      rcases ih with ⟨h1, h2⟩ | ⟨pre, x, d, post, h1, h2, h3, h4⟩
      · exact Or.inl ⟨List.forall_mem_cons.mpr ⟨hd, h1⟩, by rw [h2]; rfl⟩
      · exact Or.inr ⟨e :: pre, x, d, post, by rw [h1]; rfl, List.forall_mem_cons.mpr ⟨hd, h2⟩, h3, by rw [h4]; rfl⟩

/-- the TCP connection table of an abstract state: the stream number of an entry is its position (the
    `stream` field of the entry's connection is not used; `newEntry` puts 0 there) -/
def concT : List Entry → Nat → List TcpConn
  | [], _ => []
  | .tcp c _ :: es, i => { c with stream := i } :: concT es (i + 1)
  | .udp _ _ :: es, i => concT es (i + 1)

def concU : List Entry → Nat → List UdpConn
  | [], _ => []
  | .tcp _ _ :: es, i => concU es (i + 1)
  | .udp act _ :: es, i => { lastActivity := act, stream := i } :: concU es (i + 1)

theorem concT_append (l2 : List Entry) : ∀ (l1 : List Entry) (i : Nat),
    concT (l1 ++ l2) i = concT l1 i ++ concT l2 (i + l1.length) := by
  intro l1
  induction l1 with
  | nil => intro i; rfl
  | cons e es ih =>
    intro i
    have h : i + 1 + es.length = i + (e :: es).length := by simp only [List.length_cons]; omega
    cases e with
    | tcp c st => simp only [List.cons_append, concT, ih, h]
    | udp act st => simp only [List.cons_append, concT, ih, h]

theorem concU_append (l2 : List Entry) : ∀ (l1 : List Entry) (i : Nat),
    concU (l1 ++ l2) i = concU l1 i ++ concU l2 (i + l1.length) := by
  intro l1
  induction l1 with
  | nil => intro i; rfl
  | cons e es ih =>
    intro i
    have h : i + 1 + es.length = i + (e :: es).length := by simp only [List.length_cons]; omega
    cases e with
    | tcp c st => simp only [List.cons_append, concU, ih, h]
    | udp act st => simp only [List.cons_append, concU, ih, h, List.cons_append]

theorem concT_mem : ∀ (a : List Entry) (i : Nat) (c : TcpConn), c ∈ concT a i →
    ∃ c0 st j, Entry.tcp c0 st ∈ a ∧ c = { c0 with stream := j } := by
  intro a
  induction a with
  | nil => intro i c hm; cases hm
  | cons e es ih =>
    intro i c hm
    cases e with
    | tcp c0 st =>
      simp only [concT] at hm
      rcases List.mem_cons.mp hm with rfl | hm
      · exact ⟨c0, st, i, List.mem_cons_self .., rfl⟩
      · obtain ⟨c1, st1, j, h1, h2⟩ := ih _ c hm
        exact ⟨c1, st1, j, List.mem_cons_of_mem _ h1, h2⟩
    | udp act st =>
      simp only [concT] at hm
      obtain ⟨c1, st1, j, h1, h2⟩ := ih _ c hm
      exact ⟨c1, st1, j, List.mem_cons_of_mem _ h1, h2⟩

theorem concU_mem : ∀ (a : List Entry) (i : Nat) (c : UdpConn), c ∈ concU a i →
    ∃ k act st, a[k]? = some (Entry.udp act st) ∧ c = { lastActivity := act, stream := i + k } := by
  intro a
  induction a with
  | nil => intro i c hm; cases hm
  | cons e es ih =>
    intro i c hm
    cases e with
    | tcp c0 st =>
      simp only [concU] at hm
      obtain ⟨k, act, st1, h1, h2⟩ := ih _ c hm
      refine ⟨k + 1, act, st1, by simpa using h1, ?_⟩
      rw [h2]; congr 1; omega
    | udp act st =>
      simp only [concU] at hm
      rcases List.mem_cons.mp hm with rfl | hm
      · exact ⟨0, act, st, rfl, rfl⟩
      · obtain ⟨k, act1, st1, h1, h2⟩ := ih _ c hm
        refine ⟨k + 1, act1, st1, by simpa using h1, ?_⟩
        rw [h2]; congr 1; omega

/-- the state of the reassembler is the concretisation of the abstract state (`unmodelled` ignored) -/
structure Rel (r : RState) (a : List Entry) : Prop where
  streams : r.streams = (a.map Entry.st).toArray
  tcp : r.tcp = concT a 0
  udp : r.udp = concU a 0

def EntryWin (t0 : Nat) : Entry → Prop
  | .tcp c _ => ConnWin t0 c
  | .udp act _ => t0 ≤ act

theorem concT_win (t0 : Nat) (a : List Entry) (i : Nat) (hw : ∀ e ∈ a, EntryWin t0 e) : ∀ c ∈ concT a i, ConnWin t0 c := by
  intro c hm
  obtain ⟨c0, st, j, h1, rfl⟩ := concT_mem a i c hm
  exact hw _ h1

theorem concU_win (t0 : Nat) (a : List Entry) (i : Nat) (hw : ∀ e ∈ a, EntryWin t0 e) :
    ∀ c ∈ concU a i, t0 ≤ c.lastActivity := by
  intro c hm
  obtain ⟨k, act, st, h1, rfl⟩ := concU_mem a i c hm
  exact hw _ (List.mem_of_getElem? h1)

theorem map_st_get (a : List Entry) (k : Nat) (e : Entry) (h : a[k]? = some e) :
    (a.map Entry.st).toArray[k]! = e.st := by
  simp [h]

theorem tcpDir_stream (p : Pkt) (c : TcpConn) (i : Nat) : tcpDir p { c with stream := i } = tcpDir p c := rfl

theorem sim_tcp (t0 : Nat) (r : RState) (a : List Entry) (p : Pkt) (hr : Rel r a) (hw : ∀ e ∈ a, EntryWin t0 e)
    (hts : p.ts ≤ t0 + timeout) (hp : p.udp = false) : Rel (tcpPacket r p) (aStep a p) := by
  have hwc : ∀ c ∈ r.tcp, ConnWin t0 c := by rw [hr.tcp]; exact concT_win t0 a 0 hw
  have hnone : ∀ (l : List Entry) (i : Nat), (∀ x ∈ l, entryDir p x = none) → ∀ c ∈ concT l i, tcpDir p c = none := by
    intro l i h c hm
    obtain ⟨c0, st, j, h1, rfl⟩ := concT_mem l i c hm
    have h0 := h _ h1
    simp only [entryDir, hp, Bool.false_eq_true, if_false] at h0
    exact h0
  rcases aStep_spec p a with ⟨h1, h2⟩ | ⟨pre, e, d, post, h1, h2, hd, h4⟩
  · rw [h2]
    have hf : tcpFind p r.tcp 0 = none := by
      rw [hr.tcp]; exact tcpFind_none p _ 0 (hnone a 0 h1)
    rw [tcpPacket_keeps r p (fun c hm => (hwc c hm).keeps hts _), tcpNoFlush_new r p hf]
    have hsz : r.streams.size = a.length := by rw [hr.streams]; simp
    have hn : newConn p r.streams.size = { newConn p 0 with stream := a.length } := by rw [hsz]; rfl
    rw [hn, tcpBody_stream]
    have hne : newEntry p = .tcp (tcpBody (newConn p 0) (newTcpStream p) p false).1 (tcpBody (newConn p 0) (newTcpStream p) p false).2 := by
      unfold newEntry openEntry; rw [hp]; rfl
    rw [hne]
    constructor
    · simp only [hr.streams, List.map_append, List.map_cons, List.map_nil, Entry.st, List.push_toArray]
    · simp only [hr.tcp, concT_append, concT, Nat.zero_add]
    · simp only [hr.udp, concU_append, concU, List.append_nil]
  · rw [h4]
    cases e with
    | udp act st => simp [entryDir, hp] at hd
    | tcp c st =>
      simp only [entryDir, hp, Bool.false_eq_true, if_false] at hd
      simp only [entryBody]
      have htcp : r.tcp = concT pre 0 ++ { c with stream := pre.length } :: concT post (pre.length + 1) := by
        rw [hr.tcp, h1, concT_append]; simp only [concT, Nat.zero_add]
      have hf : tcpFind p r.tcp 0 = some ((concT pre 0).length, d) := by
        rw [htcp, tcpFind_append p _ _ 0 (hnone pre 0 h2), tcpFind_cons, tcpDir_stream, hd, Nat.zero_add]
      have hc : r.tcp[(concT pre 0).length]? = some { c with stream := pre.length } := by
        rw [htcp]; exact Lib.list_get_mid ..
      rw [tcpPacket_keeps r p (fun c hm => (hwc c hm).keeps hts _), tcpNoFlush_old r p _ d _ hf hc]
      have hss : r.streams = (pre.map Entry.st ++ st :: post.map Entry.st).toArray := by
        rw [hr.streams, h1]; simp only [List.map_append, List.map_cons, Entry.st]
      have hlen : pre.length = (pre.map Entry.st).length := by simp
      have hget : r.streams[pre.length]! = st := by
        rw [hss, hlen]; exact list_toArray_get! ..
      simp only [hget, tcpBody_stream]
      constructor
      · simp only
        rw [hss, hlen, list_toArray_set!]
        simp only [List.map_append, List.map_cons, Entry.st]
      · simp only
        rw [htcp, Lib.list_set_mid, concT_append]; simp only [concT, Nat.zero_add]
      · simp only
        rw [hr.udp, h1, concU_append, concU_append]; simp only [concU]

theorem sim_udp (t0 : Nat) (r : RState) (a : List Entry) (p : Pkt) (hr : Rel r a) (hw : ∀ e ∈ a, EntryWin t0 e)
    (hts : p.ts ≤ t0 + timeout) (hp : p.udp = true) : Rel (udpPacket r p) (aStep a p) := by
  have hwc : ∀ c ∈ r.udp, t0 ≤ c.lastActivity := by rw [hr.udp]; exact concU_win t0 a 0 hw
  -- `udpLookup` reads the stream of a flow through its number (`tcpFind` needs no stream), so `l` has
  -- to be a prefix of `a` itself for `r.streams[c.stream]!` to be the stream of the entry
  have hnone : ∀ (l l2 : List Entry), a = l ++ l2 → (∀ x ∈ l, entryDir p x = none) →
      ∀ c ∈ concU l 0, udpMatch r.streams[c.stream]! p = none := by
    intro l l2 hl h c hm
    obtain ⟨k, act, st, h1, rfl⟩ := concU_mem l 0 c hm
    have hk : a[k]? = some (.udp act st) := by
      rw [hl, List.getElem?_append_left (List.getElem?_eq_some_iff.mp h1).1]; exact h1
    simp only [Nat.zero_add]
    rw [hr.streams, map_st_get a k _ hk]
    have h0 := h _ (List.mem_of_getElem? h1)
    simp only [entryDir, hp, if_true] at h0
    exact h0
  rw [udpPacket_eq t0 r p hwc hts]
  unfold udpNoFlush
  rcases aStep_spec p a with ⟨h1, h2⟩ | ⟨pre, e, d, post, h1, h2, hd, h4⟩
  · rw [h2]
    have hf : udpLookup r.streams p r.udp 0 = none := by
      rw [hr.udp]; exact (Proofs.Import.udpLookup_eq_none _ p _ 0).mpr (hnone a [] (by simp) h1)
    rw [hf]
    have hsz : r.streams.size = a.length := by rw [hr.streams]; simp
    have hne : newEntry p = .udp p.ts (udpBody (newUdpStream p) p false) := by
      unfold newEntry openEntry; rw [hp]; rfl
    rw [hne, hsz]
    constructor
    · simp only [hr.streams, List.map_append, List.map_cons, List.map_nil, Entry.st, List.push_toArray]
    · simp only [hr.tcp, concT_append, concT, List.append_nil]
    · simp only [hr.udp, concU_append, concU, Nat.zero_add]
  · rw [h4]
    cases e with
    | tcp c st => simp [entryDir, hp] at hd
    | udp act st =>
      simp only [entryDir, hp, if_true] at hd
      simp only [entryBody]
      have hudp : r.udp = concU pre 0 ++ { lastActivity := act, stream := pre.length } :: concU post (pre.length + 1) := by
        rw [hr.udp, h1, concU_append]; simp only [concU, Nat.zero_add]
      have hss : r.streams = (pre.map Entry.st ++ st :: post.map Entry.st).toArray := by
        rw [hr.streams, h1]; simp only [List.map_append, List.map_cons, Entry.st]
      have hlen : pre.length = (pre.map Entry.st).length := by simp
      have hget : r.streams[pre.length]! = st := by
        rw [hss, hlen]; exact list_toArray_get! ..
      have hf : udpLookup r.streams p r.udp 0 = some ((concU pre 0).length, d) := by
        rw [hudp, udpLookup_append _ p _ _ 0 (hnone pre _ h1 h2), Proofs.Import.udpLookup_cons]
        simp only [hget, hd, Nat.zero_add]
      have hc : r.udp[(concU pre 0).length]? = some { lastActivity := act, stream := pre.length } := by
        rw [hudp]; exact Lib.list_get_mid ..
      rw [hf]
      simp only [hc, hget]
      constructor
      · simp only
        rw [hss, hlen, list_toArray_set!]
        simp only [List.map_append, List.map_cons, Entry.st]
      · simp only
        rw [hr.tcp, h1, concT_append, concT_append]; simp only [concT]
      · simp only
        rw [hudp, Lib.list_set_mid, concU_append]; simp only [concU, Nat.zero_add]

theorem sim_step (t0 : Nat) (r : RState) (a : List Entry) (p : Pkt) (hr : Rel r a) (hw : ∀ e ∈ a, EntryWin t0 e)
    (hts : p.ts ≤ t0 + timeout) : Rel (reasmPacket r p) (aStep a p) := by
  unfold reasmPacket
  cases hp : p.udp with
  | true => simp only [if_true]; exact sim_udp t0 r a p hr hw hts hp
  | false => simp only [Bool.false_eq_true, if_false]; exact sim_tcp t0 r a p hr hw hts hp

theorem aStep_all (P : Entry → Prop) (a : List Entry) (p : Pkt) (hb : ∀ d e, P e → P (entryBody p d e))
    (ho : P (openEntry p)) (ha : ∀ e ∈ a, P e) : ∀ e ∈ aStep a p, P e := by
  rcases aStep_spec p a with ⟨_, h2⟩ | ⟨pre, x, d, post, rfl, _, _, h4⟩
  · rw [h2, List.forall_mem_append, List.forall_mem_singleton]
    exact ⟨ha, hb false _ ho⟩
  · rw [List.forall_mem_append, List.forall_mem_cons] at ha
    rw [h4, List.forall_mem_append, List.forall_mem_cons]
    exact ⟨ha.1, hb d x ha.2.1, ha.2.2⟩

theorem entryBody_win (t0 : Nat) (p : Pkt) (hp : t0 ≤ p.ts) (d : Bool) (e : Entry) (hw : EntryWin t0 e) :
    EntryWin t0 (entryBody p d e) := by
  cases e with
  | tcp c st => exact tcpBody_win t0 c st p d hw hp
  | udp act st => exact hp

theorem openEntry_win (t0 : Nat) (p : Pkt) (hp : t0 ≤ p.ts) : EntryWin t0 (openEntry p) := by
  unfold openEntry
  split
  · exact hp
  · exact newConn_win t0 p 0 hp

theorem sim_run (t0 : Nat) : ∀ (ps : List Pkt) (r : RState) (a : List Entry), Rel r a → (∀ e ∈ a, EntryWin t0 e) →
    InWindow t0 ps → Rel (ps.foldl reasmPacket r) (aRun a ps) := by
  intro ps
  induction ps with
  | nil => intro r a hr _ _; exact hr
  | cons p ps ih =>
    intro r a hr hw hi
    have hp := hi p (List.mem_cons_self ..)
    simp only [List.foldl_cons, aRun]
    exact ih _ _ (sim_step t0 r a p hr hw hp.2) (aStep_all _ a p (entryBody_win t0 p hp.1) (openEntry_win t0 p hp.1) hw)
      (fun q hm => hi q (List.mem_cons_of_mem _ hm))

theorem reasm_abs (t0 : Nat) (ps : List Pkt) (hw : InWindow t0 ps) :
    (reasm ps).toList = (aRun [] ps).map Entry.st := by
  have h := sim_run t0 ps {} [] ⟨rfl, rfl, rfl⟩ (by intro e hm; cases hm) hw
  unfold reasm
  rw [h.streams]

end Pk.Proofs.ImportReasm
