/- C17 (bitmask containers): facts about one 64-bit word, shared by Long and Short; at the end `List.range` cut in
   two (the cardinalities) and a fold of `set` over a range (`longRange`/`shortRange` of Props/C17). -/
import Pk.Model.Bits

set_option linter.unusedSimpArgs false

namespace Pk.Proofs.Bits
open Pk.Bits

theorem getLsbD_bitW (b i : Nat) (hb : b < 64) : (Long.bitW b).getLsbD i = decide (i = b) := by
  simp [Long.bitW, BitVec.getLsbD_shiftLeft]
  by_cases h : i = b
  · subst h; simp; omega
  · simp [h]; omega

/-- `f m (bitW j)` changes bit `j` of the word `m` by `g · true` and keeps the other bits: the shape
    shared by `Set`, `Unset` and `Flip` of both word-based kinds -/
structure BitOp (f : W → W → W) (g : Bool → Bool → Bool) : Prop where
  bit : ∀ (m : W) {j i : Nat}, j < 64 → i < 64 →
    (f m (Long.bitW j)).getLsbD i = g (m.getLsbD i) (decide (i = j))
  keep : ∀ a, g a false = a

theorem bitOp_or : BitOp (· ||| ·) (· || ·) :=
  ⟨fun m j i hj _ => by rw [BitVec.getLsbD_or, getLsbD_bitW _ _ hj], Bool.or_false⟩
theorem bitOp_andNot : BitOp (fun m b => m &&& ~~~ b) (fun a c => a && !c) :=
  ⟨fun m j i hj hi => by
    simp only [BitVec.getLsbD_and, BitVec.getLsbD_not, getLsbD_bitW _ _ hj]; simp [hi], fun a => by simp⟩
theorem bitOp_xor : BitOp (· ^^^ ·) (· ^^ ·) :=
  ⟨fun m j i hj _ => by rw [BitVec.getLsbD_xor, getLsbD_bitW _ _ hj], Bool.xor_false⟩

theorem getLsbD_low (bit i : Nat) (hb : bit < 64) :
    ((1#64 <<< bit) - 1#64).getLsbD i = decide (i < bit) := by
  have : (1#64 <<< bit) - 1#64 = BitVec.ofNat 64 (2^bit - 1) := by
    apply BitVec.eq_of_toNat_eq
    have h2 : 2^bit < 2^64 := Nat.pow_lt_pow_right (by omega) hb
    have h3 : 0 < 2^bit := Nat.two_pow_pos _
    simp [BitVec.toNat_sub, BitVec.shiftLeft_eq, Nat.shiftLeft_eq, Nat.mod_eq_of_lt h2]
    omega
  rw [this]
  simp [BitVec.getLsbD_ofNat, Nat.testBit_two_pow_sub_one]
  omega

theorem getLsbD_cond_or (c : Bool) (m b : W) (i : Nat) :
    (if c = true then m ||| b else m).getLsbD i = (m.getLsbD i || (c && b.getLsbD i)) := by
  cases c <;> simp

theorem injectWord_getLsbD (m : W) (bit : Nat) (v : Bool) (i : Nat) (hb : bit < 64) (hi : i < 64) :
    (Long.injectWord m bit v).getLsbD i =
      if i < bit then m.getLsbD i else if i = bit then v else m.getLsbD (i - 1) := by
  have hbw := getLsbD_bitW bit i hb
  simp only [Long.bitW] at hbw
  simp only [Long.injectWord, getLsbD_cond_or, BitVec.getLsbD_or, BitVec.getLsbD_and, BitVec.getLsbD_not,
    BitVec.getLsbD_shiftLeft, getLsbD_low _ _ hb, hbw]
  rcases Nat.lt_trichotomy i bit with h | h | h
  · have h' : i ≠ bit := by omega
    simp [h, h', hi]; omega
  · subst h; simp [hi]; omega
  · have h1 : ¬ i < bit := by omega
    have h2 : ¬ i = bit := by omega
    have h3 : ¬ i - 1 < bit := by omega
    have h4 : ¬ i = 0 := by omega
    simp [h1, h2, h3, h4, hi]; omega

theorem extractWord_getLsbD (m : W) (bit : Nat) (i : Nat) (hb : bit < 64) (hi : i < 64) :
    (Short.extractWord m bit).getLsbD i =
      if i < bit then m.getLsbD i else m.getLsbD (i + 1) := by
  unfold Short.extractWord
  simp only [BitVec.getLsbD_or, BitVec.getLsbD_and, BitVec.getLsbD_not, BitVec.getLsbD_ushiftRight, getLsbD_low _ _ hb]
  by_cases h1 : i < bit <;> simp [h1, hi]
  rw [Nat.add_comm]

theorem len64_zero : Long.len64 0#64 = 0 := by simp [Long.len64, Nat.log2_zero]

theorem toNat_ne_zero {w : W} (h : w ≠ 0#64) : w.toNat ≠ 0 := by
  intro h'; apply h; apply BitVec.eq_of_toNat_eq; simpa using h'

theorem len64_of_ne {w : W} (h : w ≠ 0#64) : Long.len64 w = Nat.log2 w.toNat + 1 := by
  simp [Long.len64, h]

theorem len64_eq_zero (w : W) : Long.len64 w = 0 ↔ w = 0#64 := by
  constructor
  · intro h; by_cases hw : w = 0#64
    · exact hw
    · rw [len64_of_ne hw] at h; omega
  · intro h; subst h; exact len64_zero

theorem len64_le (w : W) : Long.len64 w ≤ 64 := by
  by_cases hw : w = 0#64
  · subst hw; simp [len64_zero]
  · rw [len64_of_ne hw]
    have := (Nat.log2_lt (toNat_ne_zero hw)).2 w.isLt
    omega

theorem getLsbD_of_len64_le (w : W) (i : Nat) (h : Long.len64 w ≤ i) : w.getLsbD i = false := by
  by_cases hw : w = 0#64
  · subst hw; simp
  · rw [len64_of_ne hw] at h
    rw [BitVec.getLsbD, Nat.testBit_lt_two_pow]
    exact Nat.lt_of_lt_of_le (Nat.lt_log2_self) (Nat.pow_le_pow_right (by omega) h)

theorem getLsbD_len64_pred {w : W} (hw : w ≠ 0#64) : w.getLsbD (Long.len64 w - 1) = true := by
  rw [len64_of_ne hw, BitVec.getLsbD]; simpa using Nat.testBit_log2 (toNat_ne_zero hw)

theorem sub64_lt {x b : Nat} (hx : 64 ≤ x) : x - 64 < b - 64 ↔ x < b := by omega
theorem sub64_eq {x b : Nat} (hx : 64 ≤ x) (hb : 64 ≤ b) : x - 64 = b - 64 ↔ x = b := by omega

theorem countP_range_add (p : Nat → Bool) (a b : Nat) :
    (List.range (a + b)).countP p = (List.range a).countP p + (List.range b).countP (fun i => p (a + i)) := by
  rw [List.range_add, List.countP_append, List.countP_map]; rfl

theorem foldl_set_range {α : Type} (set : α → Nat → α) (isSet : α → Nat → Bool)
    (hset : ∀ s b x, isSet (set s b) x = (x == b || isSet s x)) (init : α) (lo n x : Nat) :
    isSet ((List.range n).foldl (fun s i => set s (lo + i)) init) x
      = (decide (lo ≤ x) && decide (x < lo + n) || isSet init x) := by
  induction n with
  | zero => simp; intro h; omega
  | succ n ih =>
    rw [List.range_succ, List.foldl_append]
    simp only [List.foldl_cons, List.foldl_nil, hset, ih]
    by_cases h1 : x = lo + n
    · subst h1; simp
    · have e : decide (x < lo + (n + 1)) = decide (x < lo + n) := decide_eq_decide.mpr (by omega)
      rw [e]; simp [h1]

end Pk.Proofs.Bits
