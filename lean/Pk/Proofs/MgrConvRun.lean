/-
  What one `step` does to the converter caches, and the walk of the events that the converter-side invariants share.

  `Quiet D a b`: no converter job started; cache entries only disappear, and for configured converters every id in
  `D` did disappear.  `CT D a b`: `Quiet D a b`, or a converter job started on the way from `a` to `b`: the job's sets
  (`remaining` of `startConverterJobIfNeeded`: the streams it converted) are in the cache of `b`, and every other
  cache entry of `b` is an old one (not in `D`).  `step_walk` cuts every event into a `Head`, a `Body` of helpers
  that move converter bookkeeping (`Same` steps, detaches, `Store`s), possibly the start of a converter job, and a
  remainder that leaves tags and bookkeeping alone (`JB`); the accounting invariant (`MgrConv.step_ac`), `CT` (`step_ct`) and `UQ`
  (MgrConvRunDetach) are one induction over `Body` each.
-/
import Pk.Proofs.MgrConv
import Pk.Proofs.MgrSettleFrame
namespace Pk.Proofs.MgrConvRun
open Pk.Mgr Pk.Proofs.MgrConv Pk.Proofs.MgrSettle
open Pk.Props.C16Reach (Changed)

structure KC (a b : St) : Prop where
  cached : b.cached = a.cached
  convs : b.convs = a.convs
  convert : b.convert = a.convert
  jConv : b.jConv = a.jConv

theorem KC.refl (a : St) : KC a a := ⟨rfl, rfl, rfl, rfl⟩
theorem KC.trans {a b c : St} (h1 : KC a b) (h2 : KC b c) : KC a c :=
  ⟨h2.cached.trans h1.cached, h2.convs.trans h1.convs, h2.convert.trans h1.convert, h2.jConv.trans h1.jConv⟩

def inSets (sets : List (String × IdSet)) (c : String) (id : Nat) : Prop :=
  ∃ p ∈ sets, p.1 = c ∧ id ∈ p.2

structure Quiet (D : Nat → Prop) (a b : St) : Prop where
  convs : b.convs = a.convs
  convert : b.convert = a.convert
  jConv : b.jConv = a.jConv
  sub : ∀ c id, id ∈ cOf b c → id ∈ cOf a c ∧ (c ∈ a.convs → ¬ D id)

structure Began (D : Nat → Prop) (a b : St) : Prop where
  convs : b.convs = a.convs
  off : a.convert = false
  on : b.convert = true
  job : ∃ sets held, b.jConv = some (sets, held) ∧
    (∀ c id, inSets sets c id → id ∈ cOf b c ∧ c ∈ a.convs) ∧
    (∀ c id, id ∈ cOf b c → (id ∈ cOf a c ∧ (c ∈ a.convs → ¬ D id)) ∨ inSets sets c id)

def CT (D : Nat → Prop) (a b : St) : Prop := Quiet D a b ∨ Began D a b

abbrev D0 : Nat → Prop := fun _ => False

theorem KC.quiet {a b : St} (h : KC a b) : Quiet D0 a b :=
  ⟨h.convs, h.convert, h.jConv, fun c id hid => ⟨by simpa only [cOf, h.cached] using hid, fun _ h => h⟩⟩

theorem Quiet.refl (a : St) : Quiet D0 a a := (KC.refl a).quiet

theorem Quiet.trans_union {D1 D2 : Nat → Prop} {a b c : St} (h1 : Quiet D1 a b) (h2 : Quiet D2 b c) :
    Quiet (fun i => D1 i ∨ D2 i) a c :=
  ⟨h2.convs.trans h1.convs, h2.convert.trans h1.convert, h2.jConv.trans h1.jConv, fun x id hid => by
    obtain ⟨h3, h4⟩ := h2.sub x id hid
    obtain ⟨h5, h6⟩ := h1.sub x id h3
    exact ⟨h5, fun hx hd => hd.elim (h6 hx) (h4 (h1.convs ▸ hx))⟩⟩

theorem Quiet.mono {D D' : Nat → Prop} {a b : St} (h : Quiet D a b) (hd : ∀ i, D' i → D i) : Quiet D' a b :=
  ⟨h.convs, h.convert, h.jConv, fun x id hid => ⟨(h.sub x id hid).1, fun hx hd' => (h.sub x id hid).2 hx (hd _ hd')⟩⟩

theorem Quiet.trans_empty {D : Nat → Prop} {a b c : St} (h1 : Quiet D a b) (h2 : Quiet D0 b c) : Quiet D a c :=
  (h1.trans_union h2).mono fun _ h => .inl h

theorem Quiet.kc_right {D : Nat → Prop} {a b c : St} (h1 : Quiet D a b) (h2 : KC b c) : Quiet D a c :=
  h1.trans_empty h2.quiet

theorem Quiet.kc_left {D : Nat → Prop} {a b c : St} (h1 : KC a b) (h2 : Quiet D b c) : Quiet D a c :=
  (h1.quiet.trans_union h2).mono fun _ h => .inr h

theorem CT.refl (a : St) : CT D0 a a := Or.inl (Quiet.refl a)

theorem CT.quiet_left {D : Nat → Prop} {a b c : St} (h1 : Quiet D a b) (h2 : CT D0 b c) : CT D a c := by
  rcases h2 with h2 | h2
  · exact Or.inl (h1.trans_empty h2)
  · right
    obtain ⟨sets, held, hj, hin, hsub⟩ := h2.job
    refine ⟨h2.convs.trans h1.convs, ?_, h2.on, sets, held, hj, ?_, ?_⟩
    · rw [← h1.convert]; exact h2.off
    · intro x id hx
      obtain ⟨h3, h4⟩ := hin x id hx
      exact ⟨h3, h1.convs ▸ h4⟩
    · intro x id hx
      rcases hsub x id hx with ⟨h3, _⟩ | h3
      · exact Or.inl (h1.sub x id h3)
      · exact Or.inr h3

theorem CT.kc_right {D : Nat → Prop} {a b c : St} (h1 : CT D a b) (h2 : KC b c) : CT D a c := by
  rcases h1 with h1 | h1
  · exact Or.inl (h1.kc_right h2)
  · right
    obtain ⟨sets, held, hj, hin, hsub⟩ := h1.job
    refine ⟨h2.convs.trans h1.convs, h1.off, h2.convert.trans h1.on, sets, held, h2.jConv.trans hj, ?_, ?_⟩
    · intro x id hx
      have := hin x id hx
      simpa only [cOf, h2.cached] using this
    · intro x id hx
      have hx' : id ∈ cOf b x := by simpa only [cOf, h2.cached] using hx
      exact hsub x id hx'

theorem startConverter_ct (s : St) : CT D0 s (startConverter s) := by
  rcases startConverter_spec s with e | j
  · rw [e]; exact CT.refl _
  · obtain ⟨sets, hj, hs⟩ := j.job
    refine .inr ⟨by rw [j.rest], j.off, j.on, sets, _, hj, ?_, ?_⟩
    · rintro c id ⟨p, hp, rfl, hid⟩
      obtain ⟨h1, _, h3⟩ := (hs p).1 hp
      rw [h3] at hid
      simp only [mem_inter, mem_diff] at hid
      exact ⟨(j.cached _ id).2 (.inr ⟨h1, hid.1.1, hid.2⟩), h1⟩
    · intro c id hid
      by_cases hc : id ∈ cOf s c
      · exact .inl ⟨hc, fun _ h => h⟩
      · obtain ⟨h1, h2, h3⟩ := ((j.cached c id).1 hid).resolve_left hc
        refine .inr ⟨(c, inter (diff (qOf s c) (cOf s c)) (foundOf s.files s.idx)),
          (hs _).2 ⟨h1, fun e => by simp [e] at h2, rfl⟩, rfl, ?_⟩
        simp only [mem_inter, mem_diff]
        exact ⟨⟨h2, hc⟩, h3⟩

theorem invalidateConverters_quiet (s : St) (u : IdSet) :
    Quiet (fun i => i ∈ u) s (invalidateConverters s u) :=
  ⟨invalidateConverters_frame (·.convs) s u, invalidateConverters_frame (·.convert) s u,
   invalidateConverters_frame (·.jConv) s u,
   fun c id h => MgrConv.invalidateConverters_cached s u c id h⟩

theorem detachConv_quiet (s : St) (n c : String) (choice : Option String := none) :
    Quiet D0 s (detachConv s n c choice) := by
  refine ⟨detachConv_frame (·.convs) s n c choice, detachConv_frame (·.convert) s n c choice,
    detachConv_frame (·.jConv) s n c choice, ?_⟩
  intro c' id hid
  refine ⟨?_, fun _ h => h⟩
  rw [detachConv_eq] at hid
  split at hid
  · exact hid
  · rw [dc3_c] at hid
    split at hid
    · simp at hid
    · exact hid

theorem kc_with (a b : St) (h1 : b.cached = a.cached) (h2 : b.convs = a.convs) (h3 : b.convert = a.convert)
    (h4 : b.jConv = a.jConv) : KC a b := ⟨h1, h2, h3, h4⟩

/-- the fields `KC` compares, as one value: a helper that writes none of them keeps `KC` by its frame lemma -/
def KC.view (s : St) := (s.cached, s.convs, s.convert, s.jConv)
theorem KC.of_keep {a b : St} (h : KC.view b = KC.view a) : KC a b :=
  ⟨congrArg (·.1) h, congrArg (·.2.1) h, congrArg (·.2.2.1) h, congrArg (·.2.2.2) h⟩

theorem KC.of_jb {a b : St} (h : JB b = JB a) : KC a b := by
  simp only [JB, Prod.mk.injEq] at h
  exact ⟨h.2.1, h.2.2.2.1, h.2.2.2.2.2.1, h.2.2.2.2.2.2.1⟩

theorem step_convertDone_none (s : St) (st : Started) (hj : s.jConv = none) :
    (step s .convertDone st).1 = s := by
  rw [step_convertDone_eq, hj]

theorem kc_importRelease (s : St) (all : Nat) (held : List Nat) :
    KC s (release { s with all := all, jImport := none } held) :=
  KC.trans (b := { s with all := all, jImport := none }) ⟨rfl, rfl, rfl, rfl⟩ (.of_keep (release_frame KC.view _ _))

section walk
variable {A : String → Prop} {s m : St}

/-- from `s` by the helpers that move converter bookkeeping, before the job start at the end of the event.
    `A`: the converters the event may attach. -/
inductive Body (A : String → Prop) (s : St) : St → Prop
  | refl : Body A s s
  | same {a b} : Body A s a → Same a b → b.jConv = a.jConv → Body A s b
  | detach {a} (n c : String) (ch : Option String) : Body A s a → Body A s (detachConv a n c ch)
  | store {a b} : Body A s a → Store A a b → Body A s b

theorem Body.foldl {β} {f : St → β → St} {l : List β} (h : Body A s m)
    (hf : ∀ x a, a ∈ l → Body A s x → Body A s (f x a)) : Body A s (l.foldl f m) :=
  foldl_inv_mem (Body A s) f l (fun x a ha hx => hf x a ha hx) m h

theorem Body.attach {a : St} (h : Body A s a) (n : String) {c : String} (hc : A c) : Body A s (attachConv a n c).1 := by
  rcases attachConv_store a n c hc with e | st
  · rw [e]; exact h
  · exact h.store st

theorem Body.publish {a : St} (h : Body A s a) (name : String) (snap : Tag) (res : IdSet) :
    Body A s (tdPublish a name snap res) :=
  tdPublish_cases (P := Body A s) a name snap res h
    (fun ot hot _ _ => h.store (.mk (X := (tdTag snap ot res).mat) hot (fun _ hc => .inr hc) (qConv_frame NQ _ _ _)
      (mem_qOf_qConv a _ _) fun c hc => ⟨.inl hc, fun id hid => .inl ⟨hc, hid⟩⟩))
    fun X hX => hX.same (Same_invalidateTags X _ _ _) (invalidateTags_frame (·.jConv) X _ _ _)

open MgrTags (muAdd muDel markUpdate_eq) in
theorem Body.mark {a : St} (h : Body A s a) (name : String) (ad dl : List Nat) : Body A s (markUpdate a name ad dl).1 := by
  rw [markUpdate_eq]
  split
  · exact h
  · next t ht =>
    obtain ⟨fresh, a1, a2, a3, a4⟩ := muAdd_props t a ad
    obtain ⟨d1, d2⟩ := muDel_props (muAdd t a ad).1 dl
    refine .same (h.store (.mk (cs := t.convs) ht (fun _ hc => .inr hc) a3 a4 fun c hcu => ?_)) (muFin_same _ _ _ _) ?_
    · rw [d1.trans a1] at hcu
      exact ⟨.inl hcu, fun id hid => (a2 id (d2 id hid)).elim (fun h => .inr ⟨hcu, h⟩) fun h => .inl ⟨hcu, h⟩⟩
    · exact (MgrTags.muFin_frame (·.jConv) _ _ _).trans
        ((invalidatedDuringTaggingJob_frame (·.jConv) _ _).trans (inherit_frame (·.jConv) _))

theorem _root_.Pk.Proofs.MgrConv.Store.kc {a b : St} (st : Store A a b) : KC a b := by
  cases st with
  | mk _ _ h1 _ _ =>
    simp only [NQ, Prod.mk.injEq] at h1
    exact ⟨h1.2.2.2.2.2.1, h1.2.1, h1.2.2.2.2.2.2.1, h1.2.2.2.2.2.2.2⟩

theorem Body.quiet (h : Body A s m) : Quiet D0 s m := by
  induction h with
  | refl => exact Quiet.refl s
  | same _ g j ih => exact ih.kc_right ⟨g.1.cached, g.1.convs, g.1.convert, j⟩
  | detach n c ch _ ih => exact ih.trans_empty (detachConv_quiet _ n c ch)
  | store _ st ih => exact ih.kc_right st.kc

theorem Body.good {b : Prop} (h : Body A s m) (hA : ∀ c, A c → c ∈ s.convs) (g : Good b s) : Good b m := by
  induction h with
  | refl => exact g
  | same _ e _ ih => exact Good_of_same e ih
  | detach n c ch _ ih => exact Good_detachConv _ n c ch ih
  | store hb st ih => exact st.good (fun c hc => hb.quiet.convs ▸ hA c hc) ih

/-- the converters an event may attach: selected ones that are configured or were on the tag already -/
def Sel (s : St) : Ev → String → Prop
  | .updConv n cs => fun c => c ∈ cs ∧ (c ∈ s.convs ∨ ∃ t, sget s.tags n = some t ∧ c ∈ t.convs)
  | _ => fun _ => False

theorem Sel.convs {e : Ev} (hw : CWF s) (c : String) (h : Sel s e c) : c ∈ s.convs := by
  cases e with
  | updConv n cs => exact h.2.elim id fun ⟨t, ht, hc⟩ => hw n t ht c hc
  | _ => exact h.elim

theorem step_api_body (s : St) (e : Ev) (st : Started) (he : MgrLocks.api e = true) :
    ∃ m, Body (Sel s e) s m ∧ ((step s e st).1 = m ∨ (step s e st).1 = startConverter m) := by
  cases e with
  | importPcaps | importDone | tagDone | mergeDone | convertDone | viewOpen | viewRelease => cases he
  | nop => exact ⟨s, .refl, .inl rfl⟩
  | addTag name color defn f =>
    refine ⟨_, step_addTag_cases (P := fun r => Body _ s r.1) s name color defn f st .refl fun _ => ?_, .inl rfl⟩
    unfold addTagSt atFinish
    refine Body.foldl ?_ fun x r _ hx => hx.same (Same_addRefBy x r name) (addRefBy_frame (·.jConv) x r name)
    have h1 : Body (Sel s (.addTag name color defn f)) s
        (setTag { s with ngen := s.ngen + 1 } name (atNew s color defn f (parseTagName name).2.2)) :=
      .same .refl (Same_setTag (s := s) (s' := { s with ngen := s.ngen + 1 }) (.of_eq rfl) _ (.inl (atNew_convs _ _ _ _ _))) rfl
    split
    · exact h1
    · exact h1.same (Same_startTagging _ _) (startTagging_frame (·.jConv) _ _)
  | updColor name color =>
    exact ⟨_, step_updColor_cases (P := fun r => Body _ s r.1) s name color st .refl .refl fun t ht =>
      .same .refl (Same_setTag (Same.refl s) name (le_of_eq ht rfl rfl)) rfl, .inl rfl⟩
  | updName name new =>
    refine ⟨_, step_updName_cases (P := fun r => Body _ s r.1) s name new st .refl (fun _ _ _ => .refl) fun t ok => ?_,
      .inl rfl⟩
    unfold unApply
    refine Body.foldl (.same .refl (Same_tags s _ (TagsLe_sins (TagsLe_sdel _ _) new (le_of_eq ok.found rfl rfl))) rfl)
      fun x r _ hx => ?_
    exact (hx.same (Same_delRefBy x r name) (delRefBy_frame (·.jConv) x r name)).same (Same_addRefBy _ r new)
      (addRefBy_frame (·.jConv) _ r new)
  | updQuery name defn f =>
    refine step_updQuery_cases (P := fun r => ∃ m, Body _ s m ∧ (r.1 = m ∨ r.1 = startConverter m)) s name defn f st
      ⟨s, .refl, .inl rfl⟩ fun t ok => ?_
    unfold updQuerySt uqApply uqInv uqRefs
    refine ⟨_, .same .refl ?_ ?_, .inr rfl⟩
    · refine Same.trans ?_ (Same_startTagging _ _)
      refine Same.trans ?_ (Same_invDuring _ _)
      refine Same.trans ?_ (Same_inherit _)
      refine Same_setTag ?_ name (.inr ⟨name, t, ok.found, fun _ h => h, fun _ h => nomatch h⟩)
      exact (Same_foldl _ _ (fun s r => Same_delRefBy s r name) _).trans
        (Same_foldl _ _ (fun s r => Same_addRefBy s r name) _)
    · exact (startTagging_frame (·.jConv) _ _).trans (congrArg (·.jConv)
        (((((MgrLocks.SameCore.refl s).foldl fun _ r hx => hx.delRefBy r name).foldl
          fun _ r hx => hx.addRefBy r name).setTag _ _).inherit.invalidatedDuringTaggingJob _) :)
  | updConv name convs =>
    refine step_updConv_cases (P := fun r => ∃ m, Body _ s m ∧ (r.1 = m ∨ r.1 = startConverter m)) s name convs st
      ⟨s, .refl, .inl rfl⟩ fun t ht hval => ⟨_, ?_, .inr rfl⟩
    refine Body.foldl (Body.foldl .refl fun x c _ hx => hx.detach name c st.tag) fun x c hc hx => hx.attach name ?_
    have hcs : c ∈ convs := (List.mem_filter.1 hc).1
    refine ⟨hcs, ?_⟩
    by_cases hin : c ∈ t.convs
    · exact .inr ⟨t, ht, hin⟩
    · have := List.any_eq_false.1 hval c hcs
      simp only [Bool.and_eq_true, Bool.not_eq_true', Bool.or_eq_true, not_and, not_or] at this
      exact .inl (by simpa using (this (by simpa using hin)).1)
  | markAdd name ids =>
    exact step_markAdd_cases (P := fun r => ∃ m, Body _ s m ∧ (r.1 = m ∨ r.1 = startConverter m)) s name ids st
      ⟨s, .refl, .inl rfl⟩ (fun _ _ _ => ⟨s, .refl, .inl rfl⟩) fun _ _ =>
        ⟨_, .same (Body.refl.mark name ids []) (Same_startTagging _ _) (startTagging_frame (·.jConv) _ _), .inr rfl⟩
  | markDel name ids =>
    exact step_markDel_cases (P := fun r => ∃ m, Body _ s m ∧ (r.1 = m ∨ r.1 = startConverter m)) s name ids st
      ⟨s, .refl, .inl rfl⟩ (fun _ _ _ => ⟨s, .refl, .inl rfl⟩) fun _ _ =>
        ⟨_, .same (Body.refl.mark name [] ids) (Same_startTagging _ _) (startTagging_frame (·.jConv) _ _), .inr rfl⟩
  | delTag name =>
    refine step_delTag_cases (P := fun r => ∃ m, Body _ s m ∧ (r.1 = m ∨ r.1 = startConverter m)) s name st
      ⟨s, .refl, .inl rfl⟩ fun t _ _ => ⟨_, ?_, .inl rfl⟩
    refine .same (Body.foldl .refl fun x c _ hx => hx.detach name c st.tag) (Same_sdelRefs _ name t.refs) ?_
    exact foldl_keep (·.jConv) _ (fun s r => delRefBy_frame (·.jConv) s r name) _ _

/-- what an event does before its `Body`: nothing, clearing its job slot, or publishing an import -/
inductive Head (s : St) : Ev → St → Prop
  | keep (e : Ev) : (e = .convertDone → s.jConv = none) →
      (∀ p u c a b d, e = .importDone p u c a b d → s.jImport = none) → Head s e s
  | tag {name res snap held} : s.jTag = some (name, snap, held) → Head s (.tagDone name res) { s with jTag := none }
  | conv {sets held} : s.jConv = some (sets, held) → Head s .convertDone { s with convert := false, jConv := none }
  | imp {p u c a b d jn held} : s.jImport = some (jn, held) →
      Head s (.importDone p u c a b d) (idApply (release { s with all := jn + u, jImport := none } held) (jn + u) c
        (ofList a) (ofList b) (ofList d))

/-- what follows `x` inside the event (the merge start, the release of the job's files) leaves tags and converter
    bookkeeping alone: the last conjunct -/
theorem step_walk (s : St) (e : Ev) (st : Started) :
    ∃ h m x, Head s e h ∧ Body (Sel s e) h m ∧ (x = m ∨ x = startConverter m) ∧ JB (step s e st).1 = JB x := by
  by_cases he : MgrLocks.api e = true
  · obtain ⟨m, hb, hm⟩ := step_api_body s e st he
    exact ⟨s, m, _, .keep e (fun h => by rw [h] at he; cases he) (fun _ _ _ _ _ _ h => by rw [h] at he; cases he),
      hb, hm, rfl⟩
  have idle : ∀ {y : St}, JB y = JB s → (e = .convertDone → s.jConv = none) →
      (∀ p u c a b d, e = .importDone p u c a b d → s.jImport = none) →
      ∃ h m x, Head s e h ∧ Body (Sel s e) h m ∧ (x = m ∨ x = startConverter m) ∧ JB y = JB x :=
    fun hy h1 h2 => ⟨s, s, s, .keep e h1 h2, .refl, .inl rfl, hy⟩
  cases e with
  | nop | addTag | updQuery | updColor | updName | updConv | markAdd | markDel | delTag => exact absurd rfl he
  | importPcaps names => exact idle (JB_importPcaps s names st) nofun nofun
  | viewOpen k => exact idle (JB_viewOpen s k st) nofun nofun
  | viewRelease k => exact idle (JB_viewRelease s k st) nofun nofun
  | mergeDone merged => exact idle (JB_mergeDone s merged st) nofun nofun
  | tagDone name result =>
    refine step_tagDone_cases (P := fun r => ∃ h m x, Head s _ h ∧ Body _ h m ∧ (x = m ∨ x = startConverter m) ∧
      JB r.1 = JB x) s name result st (fun _ => idle rfl nofun nofun) (fun _ _ _ _ _ => idle rfl nofun nofun) fun snap held hj => ?_
    refine ⟨_, _, _, .tag hj, .same (Body.refl.publish name snap (ofList result))
      ((Same_tagflag _ false).trans (Same_startTagging _ st.tag)) (startTagging_frame (·.jConv) _ _), .inr rfl, ?_⟩
    exact (release_frame JB _ _).trans (startMerge_frame JB _)
  | convertDone =>
    refine step_convertDone_cases (P := fun r => ∃ h m x, Head s _ h ∧ Body _ h m ∧ (x = m ∨ x = startConverter m) ∧
      JB r.1 = JB x) s st (fun h0 => idle rfl (fun _ => h0) nofun) fun sets held hj => ?_
    refine ⟨_, _, _, .conv hj, .same .refl
      (((Same_foldl _ _ Same_cdMark _).trans (Same_inherit _)).trans (Same_startTagging _ _)) ?_, .inr rfl, release_frame JB _ _⟩
    exact (startTagging_frame (·.jConv) _ _).trans
      (foldl_keep (·.jConv) _ (fun x p => cdMark_frame (·.jConv) x p) sets _)
  | importDone p u c a b d =>
    refine step_importDone_cases (P := fun r => ∃ h m x, Head s _ h ∧ Body _ h m ∧ (x = m ∨ x = startConverter m) ∧
      JB r.1 = JB x) s p u c a b d st (fun h0 => idle rfl nofun fun _ _ _ _ _ _ _ => h0) fun jn held hj => ?_
    refine ⟨_, _, _, .imp hj, .same .refl (((Same_queue _ _).trans (Same_idQueue _)).trans
      (Same_startTagging _ st.tag)) ?_, .inr rfl, startMerge_frame JB _⟩
    exact (startTagging_frame (·.jConv) _ _).trans (idQueue_frame (·.jConv) _)

theorem Head.good {b : Prop} {e : Ev} {h : St} (hd : Head s e h) (g : Good b s) (hi : b → ImportOK s e) :
    Good b h := by
  cases hd with
  | keep => exact g
  | tag _ => exact Good_of_same (.of_eq rfl) g
  | conv _ => exact Good_of_grow (Grow_flags s false none) g
  | imp hj =>
    exact Good_idApply s _ _ _ _ _ _ _ g (fun hb => (hi hb).1) (fun hb => (hi hb).2.1 _ _ hj) (fun hb => (hi hb).2.2.1)
      (fun hb => (hi hb).2.2.2 _ _ hj)

theorem Head.convs {e : Ev} {h : St} (hd : Head s e h) : h.convs = s.convs := by
  cases hd with
  | keep | tag _ | conv _ => rfl
  | imp _ => exact idApply_frame (·.convs) _ _ _ _ _ _ |>.trans (release_frame (·.convs) _ _)

theorem step_convs (s : St) (e : Ev) (st : Started) : (step s e st).1.convs = s.convs := by
  obtain ⟨h, m, x, hd, hb, hx, hj⟩ := step_walk s e st
  refine (congrArg (·.2.2.2.1) hj :).trans (Eq.trans ?_ (hb.quiet.convs.trans hd.convs))
  rcases hx with rfl | rfl
  · rfl
  · exact startConverter_frame (·.convs) m

theorem _root_.Pk.Proofs.MgrConv.step_ac {b : Prop} (s : St) (e : Ev) (st : Started) (h : Good b s) (hi : b → ImportOK s e) :
    AC b (step s e st).1 := by
  obtain ⟨h0, m, x, hd, hb, hx, hj⟩ := step_walk s e st
  have g0 := hd.good h hi
  have gm : Good b m := hb.good (fun c hc => hd.convs ▸ Sel.convs h.1 c hc) g0
  refine AC_of_sameK (.of_jb hj) (Good.ac ?_)
  rcases hx with rfl | rfl
  · exact gm
  · exact Good_startConverter _ gm

theorem idApply_quiet (s : St) (n : Nat) (held : List Nat) (created : List (Nat × List Nat)) (upd rst add : List Nat)
    (hc : created ≠ []) :
    Quiet (fun i => i ∈ upd ∨ i ∈ rst) s
      (idApply (release { s with all := n, jImport := none } held) n created (ofList upd) (ofList rst) (ofList add)) := by
  refine Quiet.kc_left (kc_importRelease s n held) ?_
  unfold idApply idCreated
  rw [if_neg (by simpa using hc)]
  refine Quiet.mono (D := fun i => i ∈ ofList upd ∨ i ∈ ofList rst) ?_
    (fun i hi => by simpa only [mem_ofList] using hi)
  refine Quiet.kc_left ?_ (Quiet.trans_union (invalidateConverters_quiet _ _) (invalidateConverters_quiet _ _))
  exact ⟨rfl, rfl, rfl, rfl⟩

/-- the state an event's caches are compared with: a converter completion that finds its job first clears the slot -/
def ctBase (s : St) : Ev → St
  | .convertDone => if s.jConv.isSome then { s with convert := false, jConv := none } else s
  | _ => s

theorem Head.quiet {e : Ev} {h : St} (hd : Head s e h) : Quiet (Changed s e) (ctBase s e) h := by
  cases hd with
  | keep e h1 h2 =>
    have hb : ctBase s e = s := by
      unfold ctBase; split
      · rw [h1 rfl]; rfl
      · rfl
    rw [hb]
    refine (Quiet.refl s).mono fun i hi => ?_
    unfold Changed at hi; split at hi
    · rw [h2 _ _ _ _ _ _ rfl] at hi; cases hi.1
    · exact hi
  | tag _ => exact (KC.quiet (a := s) (b := { s with jTag := none }) ⟨rfl, rfl, rfl, rfl⟩).mono fun _ hi => hi
  | conv hj => simp only [ctBase, hj, Option.isSome_some, if_true]; exact (Quiet.refl _).mono fun _ hi => hi
  | @imp p u c a b d jn held hj =>
    by_cases hc : c = []
    · subst hc
      exact (Quiet.kc_left (kc_importRelease s (jn + u) held) (Quiet.refl _)).mono fun _ hi => hi.2.1 rfl
    · exact (idApply_quiet s _ _ c a b d hc).mono fun _ (hi : Changed s (.importDone p u c a b d) _) => hi.2.2

theorem step_ct (s : St) (e : Ev) (st : Started) : CT (Changed s e) (ctBase s e) (step s e st).1 := by
  obtain ⟨h0, m, x, hd, hb, hx, hj⟩ := step_walk s e st
  refine CT.kc_right (b := x) ?_ (.of_jb hj)
  have hq := hd.quiet.trans_empty hb.quiet
  rcases hx with rfl | rfl
  · exact .inl hq
  · exact CT.quiet_left hq (startConverter_ct m)

theorem ctBase_keep (s : St) (e : Ev) :
    (ctBase s e).cached = s.cached ∧ (ctBase s e).convs = s.convs := by
  unfold ctBase
  split
  · split <;> exact ⟨rfl, rfl⟩
  · exact ⟨rfl, rfl⟩

end walk

end Pk.Proofs.MgrConvRun
