/-
  The out-of-order queue of the reference reassembler on pages that are slices of one byte string
  `B`: a queue beyond `c` (`QueueOk`: slices of `B` that start after offset `c`, ascending and disjoint)
  stays one under `overlapWalk` (the loop of gopacket's `checkOverlap`), and no offset that was held
  is lost (`overlapWalk_spec`).  `queueOk_insert` is what every change to the queue reads: a page
  taken out, cut, or put in.
-/
import Pk.Proofs.ImportReasmSeq

namespace Pk.Proofs.ImportReasm
open Pk.Import

def gOff (isn : Nat) (pg : Page) : Nat := pg.seq - isn
def gEnd (isn : Nat) (pg : Page) : Nat := pg.seq - isn + pg.bytes.length

def PageOk (isn : Nat) (B : Bytes) (pg : Page) : Prop :=
  pg.fin = false ∧ isn ≤ pg.seq ∧ pg.bytes ≠ [] ∧ gEnd isn pg ≤ B.length ∧
  pg.bytes = slice B (gOff isn pg) (gEnd isn pg)

instance (isn : Nat) (B : Bytes) (pg : Page) : Decidable (PageOk isn B pg) := by unfold PageOk; infer_instance

def Covered (isn : Nat) (q : List Page) (x : Nat) : Prop :=
  ∃ pg ∈ q, gOff isn pg ≤ x ∧ x < gEnd isn pg

def Ascending (isn : Nat) (q : List Page) : Prop :=
  q.Pairwise (fun a b => gEnd isn a ≤ gOff isn b)

def QueueOk (isn : Nat) (B : Bytes) (c : Nat) (q : List Page) : Prop :=
  (∀ pg ∈ q, PageOk isn B pg ∧ c < gOff isn pg) ∧ Ascending isn q

theorem PageOk.lt {isn B pg} (h : PageOk isn B pg) : gOff isn pg < gEnd isn pg :=
  Nat.lt_add_of_pos_right (List.length_pos_iff.mpr h.2.2.1)

theorem PageOk.seq_eq {isn B pg} (h : PageOk isn B pg) : pg.seq = isn + gOff isn pg :=
  (Nat.add_sub_cancel' h.2.1).symm

theorem page_len (isn : Nat) (pg : Page) : pg.bytes.length = gEnd isn pg - gOff isn pg :=
  (Nat.add_sub_cancel_left ..).symm

theorem PageOk.le {isn B pg} (h : PageOk isn B pg) : gEnd isn pg ≤ B.length := h.2.2.2.1

theorem pageOk_of_slice {isn : Nat} {B : Bytes} {a b : Nat} (hab : a < b) (hb : b ≤ B.length) {pg : Page}
    (hf : pg.fin = false) (hs : pg.seq = isn + a) (hbytes : pg.bytes = slice B a b) :
    PageOk isn B pg ∧ gOff isn pg = a ∧ gEnd isn pg = b := by
  have ho : gOff isn pg = a := by unfold gOff; rw [hs, Nat.add_sub_cancel_left]
  have he : gEnd isn pg = b := by
    show gOff isn pg + pg.bytes.length = b
    rw [ho, hbytes, slice_length hb, Nat.add_sub_cancel' (Nat.le_of_lt hab)]
  refine ⟨⟨hf, hs ▸ Nat.le_add_right .., hbytes ▸ slice_ne_nil hab hb, he ▸ hb, ?_⟩, ho, he⟩
  rw [ho, he, hbytes]

theorem PageOk.seqEnd {isn B pg} (hl : SeqLinear isn B.length) (h : PageOk isn B pg) :
    seqAdd pg.seq pg.bytes.length = isn + gEnd isn pg := by
  rw [h.seq_eq, page_len isn pg, seqAdd_slice hl (Nat.le_of_lt h.lt) h.le]

theorem overlapWalk_cons {isn : Nat} {B : Bytes} (hl : SeqLinear isn B.length) {s e : Nat} (hs : s ≤ B.length)
    (he : e ≤ B.length) (cur : Page) (hc : PageOk isn B cur) (prev after : List Page) (bytes : Bytes) :
    overlapWalk (isn + s) (isn + e) (cur :: prev) after bytes =
      if e < gOff isn cur then overlapWalk (isn + s) (isn + e) prev (cur :: after) bytes
      else if gEnd isn cur ≤ s then ((cur :: prev).reverse, after, bytes)
      else if gEnd isn cur ≤ e ∧ s ≤ gOff isn cur then overlapWalk (isn + s) (isn + e) prev after bytes
      else if gEnd isn cur < e ∧ s < gEnd isn cur then
        (({ cur with bytes := cur.bytes.take (s - gOff isn cur) } :: prev).reverse, after, bytes)
      else if s < gOff isn cur ∧ gOff isn cur < e then
        overlapWalk (isn + s) (isn + e) prev
          ({ cur with bytes := cur.bytes.drop (e - gOff isn cur), seq := seqAdd cur.seq (e - gOff isn cur) } :: after) bytes
      else if e ≤ gEnd isn cur ∧ gOff isn cur ≤ s then
        overlapWalk (isn + s) (isn + e) prev
          ({ cur with bytes := cur.bytes.take (s - gOff isn cur) ++ bytes ++
                cur.bytes.drop (s - gOff isn cur + bytes.length) } :: after) []
      else overlapWalk (isn + s) (isn + e) prev (cur :: after) bytes := by
  have hlo : gOff isn cur ≤ B.length := Nat.le_trans (Nat.le_of_lt hc.lt) hc.le
  have d1 : seqDiff (isn + e) cur.seq = (gOff isn cur : Int) - e := by rw [hc.seq_eq, seqDiff_lin hl he hlo]
  have d3 : seqDiff (isn + s) cur.seq = (gOff isn cur : Int) - s := by rw [hc.seq_eq, seqDiff_lin hl hs hlo]
  rw [overlapWalk]
  -- every comparison of `Sequence.Difference` with 0 becomes a comparison of two offsets
  simp only [hc.seqEnd hl, d1, d3, seqDiff_lin hl hs hc.le, seqDiff_lin hl he hc.le, Int.neg_sub, Int.toNat_sub,
    gt_iff_lt, ge_iff_le, Int.sub_pos, Lib.int_sub_neg, Lib.int_sub_nonpos, Int.sub_nonneg, Int.ofNat_lt, Int.ofNat_le]

/-- a page in the middle of a queue: taking it out (`.mp`), cutting it (`QueueOk.shrink`) and putting a new one
    in (`.mpr`) all read this -/
theorem queueOk_insert {isn : Nat} {B : Bytes} {c : Nat} (l1 : List Page) (x : Page) (l2 : List Page) :
    QueueOk isn B c (l1 ++ x :: l2) ↔
      QueueOk isn B c (l1 ++ l2) ∧ (PageOk isn B x ∧ c < gOff isn x) ∧
      (∀ a ∈ l1, gEnd isn a ≤ gOff isn x) ∧ (∀ b ∈ l2, gEnd isn x ≤ gOff isn b) := by
  unfold QueueOk Ascending
  simp only [List.forall_mem_append, List.pairwise_append, List.pairwise_cons, List.mem_cons, forall_eq_or_imp]
  constructor
  · rintro ⟨⟨h1, hx, h2⟩, p1, ⟨p2, p3⟩, p4⟩
    exact ⟨⟨⟨h1, h2⟩, p1, p3, fun a ha => (p4 a ha).2⟩, hx, fun a ha => (p4 a ha).1, p2⟩
  · rintro ⟨⟨⟨h1, h2⟩, p1, p3, p5⟩, hx, p4, p2⟩
    exact ⟨⟨h1, hx, h2⟩, p1, ⟨p2, p3⟩, fun a ha => ⟨p4 a ha, p5 a ha⟩⟩

theorem QueueOk.shrink {isn : Nat} {B : Bytes} {c : Nat} {l1 l2 : List Page} {x x' : Page}
    (h : QueueOk isn B c (l1 ++ x :: l2)) (hok : PageOk isn B x') (ho : gOff isn x ≤ gOff isn x')
    (he : gEnd isn x' ≤ gEnd isn x) : QueueOk isn B c (l1 ++ x' :: l2) := by
  obtain ⟨h1, h2, h3, h4⟩ := (queueOk_insert ..).mp h
  exact (queueOk_insert ..).mpr ⟨h1, ⟨hok, Nat.lt_of_lt_of_le h2.2 ho⟩, fun a ha => Nat.le_trans (h3 a ha) ho,
    fun b hb => Nat.le_trans he (h4 b hb)⟩

theorem asc_append {isn : Nat} (l1 l2 : List Page) :
    Ascending isn (l1 ++ l2) ↔
      Ascending isn l1 ∧ Ascending isn l2 ∧ (∀ a ∈ l1, ∀ b ∈ l2, gEnd isn a ≤ gOff isn b) :=
  List.pairwise_append

@[simp] theorem covered_nil {isn : Nat} (x : Nat) : Covered isn [] x ↔ False := by simp [Covered]

@[simp] theorem covered_cons {isn : Nat} (c : Page) (l : List Page) (x : Nat) :
    Covered isn (c :: l) x ↔ (gOff isn c ≤ x ∧ x < gEnd isn c) ∨ Covered isn l x := by
  simp [Covered]

@[simp] theorem covered_append {isn : Nat} (l1 l2 : List Page) (x : Nat) :
    Covered isn (l1 ++ l2) x ↔ Covered isn l1 x ∨ Covered isn l2 x := by
  simp [Covered, or_and_right, exists_or]

@[simp] theorem covered_reverse {isn : Nat} (l : List Page) (x : Nat) :
    Covered isn l.reverse x ↔ Covered isn l x := by
  simp [Covered]

theorem overlapWalk_done {isn : Nat} {B : Bytes} (hl : SeqLinear isn B.length) {s e : Nat} (hse : s ≤ e)
    (he : e ≤ B.length) (revq after : List Page) (bytes : Bytes)
    (h : ∀ pg ∈ revq, PageOk isn B pg ∧ gEnd isn pg ≤ s) :
    overlapWalk (isn + s) (isn + e) revq after bytes = (revq.reverse, after, bytes) := by
  cases revq with
  | nil => rfl
  | cons cur prev =>
    obtain ⟨hc, hle⟩ := h cur (List.mem_cons_self ..)
    rw [overlapWalk_cons hl (Nat.le_trans hse he) he cur hc,
      if_neg (Nat.not_lt.mpr (Nat.le_trans (Nat.le_of_lt hc.lt) (Nat.le_trans hle hse))), if_pos hle]

/-- case (2) of `checkOverlap` -/
theorem pageOk_take {isn : Nat} {B : Bytes} {cur : Page} (hc : PageOk isn B cur) {s : Nat}
    (h1 : gOff isn cur < s) (h2 : s < gEnd isn cur) :
    PageOk isn B { cur with bytes := cur.bytes.take (s - gOff isn cur) } ∧
    gOff isn { cur with bytes := cur.bytes.take (s - gOff isn cur) } = gOff isn cur ∧
    gEnd isn { cur with bytes := cur.bytes.take (s - gOff isn cur) } = s := by
  refine pageOk_of_slice h1 (Nat.le_trans (Nat.le_of_lt h2) hc.le) hc.1 hc.seq_eq ?_
  show cur.bytes.take (s - gOff isn cur) = _
  rw [hc.2.2.2.2, slice_take (by omega), Nat.add_sub_cancel' (Nat.le_of_lt h1)]

/-- case (4) of `checkOverlap` -/
theorem pageOk_drop {isn : Nat} {B : Bytes} (hl : SeqLinear isn B.length) {cur : Page} (hc : PageOk isn B cur) {e : Nat}
    (h1 : gOff isn cur < e) (h2 : e < gEnd isn cur) :
    PageOk isn B { cur with bytes := cur.bytes.drop (e - gOff isn cur), seq := seqAdd cur.seq (e - gOff isn cur) } ∧
    gOff isn { cur with bytes := cur.bytes.drop (e - gOff isn cur), seq := seqAdd cur.seq (e - gOff isn cur) } = e ∧
    gEnd isn { cur with bytes := cur.bytes.drop (e - gOff isn cur), seq := seqAdd cur.seq (e - gOff isn cur) } = gEnd isn cur := by
  have hle := Nat.le_of_lt h1
  refine pageOk_of_slice h2 hc.le hc.1 ?_ ?_
  · show seqAdd cur.seq (e - gOff isn cur) = _
    rw [hc.seq_eq, seqAdd_slice hl hle (Nat.le_trans (Nat.le_of_lt h2) hc.le)]
  · show cur.bytes.drop (e - gOff isn cur) = _
    rw [hc.2.2.2.2, slice_drop, Nat.add_sub_cancel' hle]

/-- case (6) of `checkOverlap`: writing bytes of `B` into a page of `B` changes nothing -/
theorem page_overwrite {isn : Nat} {B : Bytes} {cur : Page} (hc : PageOk isn B cur) {s e : Nat}
    (h1 : gOff isn cur ≤ s) (h2 : s ≤ e) (h3 : e ≤ gEnd isn cur) :
    cur.bytes.take (s - gOff isn cur) ++ slice B s e ++ cur.bytes.drop (s - gOff isn cur + (slice B s e).length) =
      cur.bytes := by
  rw [slice_length (Nat.le_trans h3 hc.le)]
  conv => lhs; rw [hc.2.2.2.2]
  rw [slice_take (by omega), slice_drop, Nat.add_sub_cancel' h1]
  have a2 : gOff isn cur + (s - gOff isn cur + (e - s)) = e := by omega
  rw [a2, slice_append h1 h2, slice_append (Nat.le_trans h1 h2) h3, ← hc.2.2.2.2]

/-- What `overlapWalk` returns on a queue beyond `c`, the pages passed all starting at or after `e`.
    `res`: the new bytes come back unchanged, or emptied by case (6) because a page already holds them. -/
structure WalkSpec (isn : Nat) (B : Bytes) (c s e : Nat) (revq after : List Page) (bytes : Bytes)
    (r : List Page × List Page × Bytes) : Prop where
  ok : QueueOk isn B c (r.1 ++ r.2.1)
  res : (r.2.2 = bytes ∧ (∀ pg ∈ r.1, gEnd isn pg ≤ s) ∧ (∀ pg ∈ r.2.1, e ≤ gOff isn pg)) ∨
        (r.2.2 = [] ∧ ∃ pg ∈ revq, gOff isn pg ≤ s)
  cov : ∀ x, Covered isn (revq ++ after) x ∨ (s ≤ x ∧ x < e) →
        Covered isn (r.1 ++ r.2.1) x ∨ (r.2.2 ≠ [] ∧ s ≤ x ∧ x < e)

/-- cases (3), (4), (5) and the last one: the walk goes on behind `cur`, with `mid` (`cur`, what is
    left of it, or nothing) put in front of the pages already passed -/
theorem WalkSpec.step {isn : Nat} {B : Bytes} {c s e : Nat} {cur : Page} {prev after mid : List Page} {bytes : Bytes}
    {r : List Page × List Page × Bytes} (h : WalkSpec isn B c s e prev (mid ++ after) bytes r)
    (hcov : ∀ x, gOff isn cur ≤ x → x < gEnd isn cur → Covered isn mid x ∨ (s ≤ x ∧ x < e)) :
    WalkSpec isn B c s e (cur :: prev) after bytes r where
  ok := h.ok
  res := h.res.imp_right fun ⟨h1, pg, hm, h2⟩ => ⟨h1, pg, List.mem_cons_of_mem _ hm, h2⟩
  cov := by
    intro x hx
    apply h.cov x
    simp only [List.cons_append, covered_cons, covered_append] at hx ⊢
    rcases hx with (⟨h1, h2⟩ | h1 | h1) | h1
    · exact (hcov x h1 h2).imp (fun h => Or.inr (Or.inl h)) id
    · exact Or.inl (Or.inl h1)
    · exact Or.inl (Or.inr (Or.inr h1))
    · exact Or.inr h1

/-- cases (1), (2): the walk stops at `cur`, of which `cur'` (all of it or its start) stays -/
theorem WalkSpec.stop {isn : Nat} {B : Bytes} {c s e : Nat} {cur cur' : Page} {prev after : List Page} {bytes : Bytes}
    (hb : s < e → bytes ≠ []) (hq : QueueOk isn B c (prev.reverse ++ cur :: after))
    (hafter : ∀ pg ∈ after, e ≤ gOff isn pg)
    (hok : PageOk isn B cur') (ho : gOff isn cur' = gOff isn cur) (hle : gEnd isn cur' ≤ gEnd isn cur)
    (hs : gEnd isn cur' ≤ s) (hcov : ∀ x, x < gEnd isn cur → x < gEnd isn cur' ∨ (s ≤ x ∧ x < e)) :
    WalkSpec isn B c s e (cur :: prev) after bytes ((cur' :: prev).reverse, after, bytes) := by
  have hrev : (cur' :: prev).reverse ++ after = prev.reverse ++ cur' :: after := by simp
  refine ⟨hrev ▸ hq.shrink hok (Nat.le_of_eq ho.symm) hle, Or.inl ⟨rfl, ?_, hafter⟩, ?_⟩
  · intro pg hm
    rcases List.mem_cons.mp (List.mem_reverse.mp hm) with rfl | hm
    · exact hs
    · exact Nat.le_trans (((queueOk_insert ..).mp hq).2.2.1 pg (List.mem_reverse.mpr hm))
        (Nat.le_trans (ho ▸ Nat.le_of_lt hok.lt) hs)
  · intro x hx
    show Covered isn ((cur' :: prev).reverse ++ after) x ∨ _
    simp only [hrev, List.cons_append, covered_cons, covered_append, covered_reverse, ho] at hx ⊢
    rcases hx with (⟨h1, h2⟩ | h1 | h1) | h1
    · rcases hcov x h2 with h3 | h3
      · exact Or.inl (Or.inr (Or.inl ⟨h1, h3⟩))
      · exact Or.inr ⟨hb (Nat.lt_of_le_of_lt h3.1 h3.2), h3⟩
    · exact Or.inl (Or.inl h1)
    · exact Or.inl (Or.inr (Or.inr h1))
    · exact Or.inr ⟨hb (Nat.lt_of_le_of_lt h1.1 h1.2), h1⟩

theorem overlapWalk_spec {isn : Nat} {B : Bytes} (hl : SeqLinear isn B.length) {c s e : Nat} (hse : s ≤ e)
    (he : e ≤ B.length) : ∀ (revq after : List Page),
    QueueOk isn B c (revq.reverse ++ after) → (∀ pg ∈ after, e ≤ gOff isn pg) →
    WalkSpec isn B c s e revq after (slice B s e) (overlapWalk (isn + s) (isn + e) revq after (slice B s e)) := by
  have hbne : s < e → slice B s e ≠ [] := fun h => slice_ne_nil h he
  intro revq
  induction revq with
  | nil =>
    intro after hq hafter
    exact {
      ok := hq
      res := Or.inl ⟨rfl, (by intro pg hm; cases hm), hafter⟩
      cov := fun x hx => hx.imp id fun h => ⟨hbne (Nat.lt_of_le_of_lt h.1 h.2), h⟩ }
  | cons cur prev ih =>
    intro after hq hafter
    have hq' : QueueOk isn B c (prev.reverse ++ cur :: after) := by simpa using hq
    obtain ⟨hq0, ⟨hc, _⟩, a3, _⟩ := (queueOk_insert ..).mp hq'
    have hlt := hc.lt
    -- `cur` (or what is left of it) goes on top of the pages passed, all of which start at or after `e`
    have hpush : ∀ cur', e ≤ gOff isn cur' → ∀ pg ∈ [cur'] ++ after, e ≤ gOff isn pg :=
      fun cur' h => List.forall_mem_cons.mpr ⟨h, hafter⟩
    have hself : ∀ x, gOff isn cur ≤ x → x < gEnd isn cur → Covered isn [cur] x ∨ (s ≤ x ∧ x < e) :=
      fun x h1 h2 => Or.inl ((covered_cons ..).mpr (Or.inl ⟨h1, h2⟩))
    rw [overlapWalk_cons hl (Nat.le_trans hse he) he cur hc]
    by_cases c5 : e < gOff isn cur
    · -- (5) the page lies after the new bytes
      rw [if_pos c5]
      exact (ih ([cur] ++ after) hq' (hpush cur (Nat.le_of_lt c5))).step hself
    rw [if_neg c5]
    by_cases c1 : gEnd isn cur ≤ s
    · -- (1) the page lies before the new bytes: stop
      rw [if_pos c1]
      exact .stop hbne hq' hafter hc rfl (Nat.le_refl _) c1 (fun x hx => Or.inl hx)
    rw [if_neg c1]
    by_cases c3 : gEnd isn cur ≤ e ∧ s ≤ gOff isn cur
    · -- (3) the page lies inside the new bytes: dropped
      rw [if_pos c3]
      exact (ih ([] ++ after) hq0 hafter).step
        (fun x h1 h2 => Or.inr ⟨Nat.le_trans c3.2 h1, Nat.lt_of_lt_of_le h2 c3.1⟩)
    rw [if_neg c3]
    by_cases c2 : gEnd isn cur < e ∧ s < gEnd isn cur
    · -- (2) the end of the page overlaps the start of the new bytes: cut, stop
      rw [if_pos c2]
      obtain ⟨k1, k2, k3⟩ := pageOk_take hc (s := s) (by omega) c2.2
      refine .stop hbne hq' hafter k1 k2 (Nat.le_of_lt (k3.symm ▸ c2.2)) (Nat.le_of_eq k3) ?_
      intro x hx
      rw [k3]
      exact (Nat.lt_or_ge x s).imp id fun h => ⟨h, Nat.lt_trans hx c2.1⟩
    rw [if_neg c2]
    by_cases c4 : s < gOff isn cur ∧ gOff isn cur < e
    · -- (4) the start of the page overlaps the end of the new bytes: cut
      rw [if_pos c4]
      obtain ⟨k1, k2, k3⟩ := pageOk_drop hl hc (e := e) c4.2 (by omega)
      generalize ({ cur with bytes := cur.bytes.drop (e - gOff isn cur), seq := seqAdd cur.seq (e - gOff isn cur) } : Page) =
        cur' at k1 k2 k3
      refine (ih ([cur'] ++ after) (hq'.shrink k1 (k2 ▸ Nat.le_of_lt c4.2) (Nat.le_of_eq k3))
        (hpush cur' (Nat.le_of_eq k2.symm))).step ?_
      intro x h1 h2
      simp only [covered_cons, covered_nil, or_false, k2, k3]
      exact (Nat.lt_or_ge x e).symm.imp (fun h => ⟨h, h2⟩) fun h => ⟨Nat.le_trans (Nat.le_of_lt c4.1) h1, h⟩
    rw [if_neg c4]
    by_cases c6 : e ≤ gEnd isn cur ∧ gOff isn cur ≤ s
    · -- (6) the new bytes lie inside the page: nothing new, and the pages before it end before `s`
      rw [if_pos c6]
      have hdone : ∀ pg ∈ prev, PageOk isn B pg ∧ gEnd isn pg ≤ s := fun pg hm =>
        ⟨(hq0.1 pg (List.mem_append_left _ (List.mem_reverse.mpr hm))).1,
          Nat.le_trans (a3 pg (List.mem_reverse.mpr hm)) c6.2⟩
      have hcc : ({ cur with bytes := cur.bytes } : Page) = cur := rfl
      rw [page_overwrite hc c6.2 hse c6.1, hcc, overlapWalk_done hl hse he prev (cur :: after) [] hdone]
      refine ⟨hq', Or.inr ⟨rfl, cur, List.mem_cons_self .., c6.2⟩, ?_⟩
      intro x hx
      left
      simp only [List.cons_append, covered_cons, covered_append, covered_reverse] at hx ⊢
      rcases hx with (h1 | h1 | h1) | h1
      · exact Or.inr (Or.inl h1)
      · exact Or.inl h1
      · exact Or.inr (Or.inr h1)
      · exact Or.inr (Or.inl ⟨Nat.le_trans c6.2 h1.1, Nat.lt_of_lt_of_le h1.2 c6.1⟩)
    -- the page starts exactly where the new bytes end
    rw [if_neg c6]
    exact (ih ([cur] ++ after) hq' (hpush cur (by omega))).step hself

end Pk.Proofs.ImportReasm
