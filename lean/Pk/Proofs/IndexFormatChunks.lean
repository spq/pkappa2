/-
  The chunks of a stream against its content blocks and the segmentation runs the writer stores for them
  (shared by the payload round trip of C01 and the writer invariant of C07).
-/
import Pk.Model.IndexFormat
namespace Pk.Index
open Pk Pk.Bytes

theorem segRuns_sum (g : Nat → Nat → Nat) (hg : ∀ d a b, g d (a + b) = g d a + g d b) (l : List (Nat × Nat)) :
    ((segRuns l).map fun x => g x.1 x.2).sum = (l.map fun x => g x.1 x.2).sum := by
  induction l with
  | nil => rfl
  | cons x rest ih =>
    obtain ⟨d, n⟩ := x
    rw [List.map_cons, List.sum_cons, ← ih]
    simp only [segRuns]
    cases segRuns rest with
    | nil => rfl
    | cons y rs =>
      obtain ⟨d', n'⟩ := y
      simp only
      split
      · rename_i h
        subst h
        simp only [List.map_cons, List.sum_cons, hg]
        omega
      · rfl

theorem dirBytes_cons (d : Nat) (c : Nat × Bytes) (cs : List (Nat × Bytes)) :
    dirBytes d (c :: cs) = (if c.1 = d then c.2 else []) ++ dirBytes d cs := by
  unfold dirBytes
  by_cases h : c.1 = d
  · simp [h]
  · simp [h]

def chSum (d : Nat) (packets : List PacketIn) (data : List ChunkIn) : Nat :=
  (data.map fun c => if dirOf packets c.pos = some d then c.bytes.length else 0).sum

theorem chunkDirs_spec (packets : List PacketIn) (data : List ChunkIn) : ∀ (cds : List (Nat × Bytes)),
    chunkDirs packets data = some cds →
    (∀ c ∈ data, c.pos < packets.length) ∧ (∀ c ∈ cds, ∃ p ∈ packets, p.dir = c.1) ∧
    (∀ d, (dirBytes d cds).length = chSum d packets data) ∧
    (cds.map (·.2.length)).sum = (data.map (·.bytes.length)).sum := by
  induction data with
  | nil => intro cds h; cases h; simp [dirBytes, chSum]
  | cons c data ih =>
    intro cds h
    simp only [chunkDirs] at h
    split at h
    · rename_i dir r hdir hr
      cases h
      obtain ⟨h1, h2, h3, h4⟩ := ih r hr
      obtain ⟨p, hp, hpd⟩ := Option.map_eq_some_iff.mp hdir
      simp only [List.forall_mem_cons]
      refine ⟨⟨(List.getElem?_eq_some_iff.mp hp).1, h1⟩, ⟨⟨p, List.mem_of_getElem? hp, hpd⟩, h2⟩, ?_, by simp [h4]⟩
      intro d
      rw [dirBytes_cons]
      simp only [List.length_append, h3 d, chSum, List.map_cons, List.sum_cons, hdir, Option.some.injEq]
      split <;> simp
    · cases h

end Pk.Index
