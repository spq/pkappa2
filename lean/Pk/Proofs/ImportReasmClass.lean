/-
  For `C05More.reasm_wire` (a wire of several conversations in one window): `sameConv` is an
  equivalence, so the conversation of a packet is a `FlowClosed` selection (`selOf`); if that selection
  alone gives one stream, it is the first stream of the wire and the rest of the wire gives the other
  streams (`reasm_split_first`).

  The step from the filter form of flow locality (`reasm_filter_window`) to the form of
  `C08.ReasmLaws.flow_local` (`C05More.flow_local_window`): inside one timeout window the packets of
  ONE conversation alone end up in ONE stream that records all of them (`reasm_single_class`), so a
  selection that contains every packet of the stream contains the whole conversation.  The exception
  are self-addressed UDP datagrams, each of which becomes a stream of its own (`reasm_self_class`).
-/
import Pk.Proofs.ImportReasmLocality

namespace Pk.Proofs.ImportReasm
open Pk.Import

theorem sameConv_symm {p q : Pkt} (h : sameConv p q) : sameConv q p := by
  obtain ⟨h0, h1 | h1⟩ := h
  · exact ⟨h0.symm, Or.inl ⟨h1.1.symm, h1.2.1.symm, h1.2.2.1.symm, h1.2.2.2.symm⟩⟩
  · exact ⟨h0.symm, Or.inr ⟨h1.2.1.symm, h1.1.symm, h1.2.2.2.symm, h1.2.2.1.symm⟩⟩

theorem sameConv_trans {p q r : Pkt} (h : sameConv p q) (h' : sameConv q r) : sameConv p r := by
  obtain ⟨h0, h1⟩ := h
  obtain ⟨h0', h1'⟩ := h'
  refine ⟨h0.trans h0', ?_⟩
  rcases h1 with ⟨a1, a2, a3, a4⟩ | ⟨a1, a2, a3, a4⟩ <;> rcases h1' with ⟨b1, b2, b3, b4⟩ | ⟨b1, b2, b3, b4⟩
  · exact Or.inl ⟨a1.trans b1, a2.trans b2, a3.trans b3, a4.trans b4⟩
  · exact Or.inr ⟨a1.trans b1, a2.trans b2, a3.trans b3, a4.trans b4⟩
  · exact Or.inr ⟨a1.trans b2, a2.trans b1, a3.trans b4, a4.trans b3⟩
  · exact Or.inl ⟨a1.trans b2, a2.trans b1, a3.trans b4, a4.trans b3⟩

theorem selOf_closed (k : Pkt) : FlowClosed (selOf k) := by
  intro p q h
  unfold selOf
  by_cases hp : sameConv p k
  · have : sameConv q k := sameConv_trans (sameConv_symm h) hp
    simp [hp, this]
  · have : ¬ sameConv q k := fun hq => hp (sameConv_trans h hq)
    simp [hp, this]

theorem flowClosed_not {F : Pkt → Bool} (h : FlowClosed F) : FlowClosed (fun p => !F p) := by
  intro p q hpq
  simp only [h p q hpq]

theorem filter_head_split {α : Type} (G : α → Bool) (s x : α) (l : List α) (hs : G s = true)
    (hf : (s :: l).filter G = [x]) : s :: l = x :: (s :: l).filter (fun a => !G a) := by
  rw [List.filter_cons_of_pos hs] at hf
  have h1 : s = x := (List.cons.inj hf).1
  have h2 : l.filter G = [] := (List.cons.inj hf).2
  have h3 : (s :: l).filter (fun a => !G a) = l := by
    rw [List.filter_cons_of_neg (by simp [hs])]
    apply List.filter_eq_self.mpr
    intro a ha
    have := List.filter_eq_nil_iff.mp h2 a ha
    simpa using this
  rw [h3, h1]

theorem reasm_split_first (t0 : Nat) (p : Pkt) (rest : List Pkt) (hw : InWindow t0 (p :: rest)) (F : Pkt → Bool)
    (hF : FlowClosed F) (hp : F p = true) (x : Import.Stream) (hx : reasm ((p :: rest).filter F) = #[x]) :
    (reasm (p :: rest)).toList = x :: (reasm ((p :: rest).filter (fun q => !F q))).toList := by
  obtain ⟨s, l, hsl, hkey⟩ := reasm_head_window t0 p rest hw
  have hA := reasm_filter_window t0 (p :: rest) F hw hF
  have hB := reasm_filter_window t0 (p :: rest) (fun q => !F q) hw (flowClosed_not hF)
  rw [hx, hsl] at hA
  rw [hsl] at hB
  have hs : F (Stream.keyPkt s) = true := by rw [hF _ _ hkey]; exact hp
  have := filter_head_split (fun s => F (Stream.keyPkt s)) s x l hs (by simpa using hA)
  rw [hsl, this, hB]

theorem sameConv_refl (p : Pkt) : sameConv p p := ⟨rfl, Or.inl ⟨rfl, rfl, rfl, rfl⟩⟩

theorem entryBody_pkts (p : Pkt) (d : Bool) (e : Entry) : (entryBody p d e).st.pktsRev = (p.ref, d) :: e.st.pktsRev := by
  cases e with
  | tcp c st => exact tcpBody_pkts c st p d
  | udp act st => exact udpBody_pkts st p d

theorem newEntry_pkts (p : Pkt) : (newEntry p).st.pktsRev = [(p.ref, false)] := by
  rw [newEntry, entryBody_pkts]
  unfold openEntry
  split <;> rfl

theorem aRun_single (k : Pkt) : ∀ (W : List Pkt) (e : Entry), (∀ p ∈ W, sameConv p k ∧ ¬ SelfUdp p) →
    EntryInv e → sameConv (Stream.keyPkt e.st) k →
    ∃ e', aRun [e] W = [e'] ∧ e'.st.pktsRev.map (·.1) = (W.map Pkt.ref).reverse ++ e.st.pktsRev.map (·.1) := by
  intro W
  induction W with
  | nil => intro e _ _ _; exact ⟨e, rfl, by simp⟩
  | cons p rest ih =>
    intro e hW hi hk
    obtain ⟨hpk, hns⟩ := hW p (List.mem_cons_self ..)
    obtain ⟨d, hd⟩ := Option.isSome_iff_exists.mp
      ((entryDir_isSome p e hi).mpr ⟨sameConv_trans hk (sameConv_symm hpk), hns⟩)
    have hstep : aStep [e] p = [entryBody p d e] := by rw [aStep, hd]
    obtain ⟨e', h2, h3⟩ := ih _ (fun q hm => hW q (List.mem_cons_of_mem _ hm)) (entryBody_inv p d e hi)
      (by rw [entryBody_key]; exact hk)
    refine ⟨e', ?_, ?_⟩
    · show aRun (aStep [e] p) rest = [e']
      rw [hstep]; exact h2
    · rw [h3, entryBody_pkts]; simp

theorem reasm_single_class (t0 : Nat) (k : Pkt) (p : Pkt) (rest : List Pkt) (hw : InWindow t0 (p :: rest))
    (hW : ∀ q ∈ p :: rest, sameConv q k ∧ ¬ SelfUdp q) :
    ∃ s, (reasm (p :: rest)).toList = [s] ∧ s.pkts.map (·.1) = (p :: rest).map Pkt.ref := by
  obtain ⟨e', h1, h2⟩ := aRun_single k rest (newEntry p) (fun q hm => hW q (List.mem_cons_of_mem _ hm))
    (entryBody_inv p false _ (openEntry_inv p)) (sameConv_trans (newEntry_same p) (hW p (List.mem_cons_self ..)).1)
  refine ⟨e'.st, ?_, ?_⟩
  · rw [reasm_abs t0 _ hw]
    have : aRun [] (p :: rest) = aRun [newEntry p] rest := rfl
    rw [this, h1]; rfl
  · unfold Stream.pkts
    rw [List.map_reverse, h2, newEntry_pkts]
    simp

theorem selfUdp_of_sameConv {q k : Pkt} (h : sameConv q k) (hq : SelfUdp q) : SelfUdp k := by
  obtain ⟨hu, hs⟩ := h
  obtain ⟨q1, q2, q3⟩ := hq
  refine ⟨by rw [← hu]; exact q1, ?_⟩
  rcases hs with ⟨a1, a2, a3, a4⟩ | ⟨a1, a2, a3, a4⟩
  · exact ⟨by rw [← a1, ← a2]; exact q2, by rw [← a3, ← a4]; exact q3⟩
  · exact ⟨by rw [← a1, ← a2]; exact q2.symm, by rw [← a3, ← a4]; exact q3.symm⟩

theorem entryDir_self (p : Pkt) (hp : SelfUdp p) (e : Entry) : entryDir p e = none := by
  obtain ⟨h1, h2, h3⟩ := hp
  cases e with
  | tcp c st => simp [entryDir, h1]
  | udp act st =>
    have : Proofs.Import.fwd st p ↔ Proofs.Import.bwd st p := by
      unfold Proofs.Import.fwd Proofs.Import.bwd; rw [h2, h3]
    simp [entryDir, h1, Proofs.Import.udpMatch_eq, this]

theorem aRun_self : ∀ (W : List Pkt) (a : List Entry), (∀ p ∈ W, SelfUdp p) → aRun a W = a ++ W.map newEntry := by
  intro W
  induction W with
  | nil => intro a _; simp [aRun]
  | cons p rest ih =>
    intro a h
    have hstep : aStep a p = a ++ [newEntry p] := by
      rcases aStep_spec p a with ⟨_, h2⟩ | ⟨_, e, _, _, _, _, hd, _⟩
      · exact h2
      · rw [entryDir_self p (h p (List.mem_cons_self ..)) e] at hd
        cases hd
    show aRun (aStep a p) rest = _
    rw [hstep, ih _ (fun q hq => h q (List.mem_cons_of_mem _ hq))]
    simp

theorem reasm_self_class (t0 : Nat) (W : List Pkt) (hw : InWindow t0 W) (hW : ∀ q ∈ W, SelfUdp q) :
    (reasm W).toList = W.map (fun p => (newEntry p).st) := by
  rw [reasm_abs t0 _ hw, aRun_self W [] hW]
  simp

theorem newEntry_self_pkts (p : Pkt) : (newEntry p).st.pkts.map (·.1) = [p.ref] := by
  unfold Stream.pkts
  rw [newEntry_pkts]; rfl

/-- the packets `W` of one conversation alone (inside the window): a stream is reproduced from any selection `G`
    that keeps every packet the stream records — the one stream of the conversation records them all, and the
    streams of self-addressed datagrams record one each -/
theorem reasm_class_select (t0 : Nat) (k : Pkt) (W : List Pkt) (hw : InWindow t0 W) (hW : ∀ q ∈ W, sameConv q k)
    (G : Pkt → Bool) (s : Import.Stream) (hs : s ∈ (reasm W).toList)
    (hG : ∀ w ∈ W, w.ref ∈ s.pkts.map (·.1) → G w = true) : s ∈ (reasm (W.filter G)).toList := by
  by_cases hself : SelfUdp k
  · have hall : ∀ q ∈ W, SelfUdp q := fun q hq => selfUdp_of_sameConv (sameConv_symm (hW q hq)) hself
    rw [reasm_self_class t0 _ hw hall] at hs
    obtain ⟨w, hwm, rfl⟩ := List.mem_map.mp hs
    rw [reasm_self_class t0 _ (hw.filter _) (fun q hq => hall q (List.mem_filter.mp hq).1)]
    exact List.mem_map.mpr ⟨w, List.mem_filter.mpr ⟨hwm, hG w hwm (by rw [newEntry_self_pkts]; exact List.mem_singleton.mpr rfl)⟩, rfl⟩
  · cases W with
    | nil => simp [reasm] at hs
    | cons p rest =>
      obtain ⟨s', h1, h2⟩ := reasm_single_class t0 k p rest hw
        (fun q hq => ⟨hW q hq, fun hqs => hself (selfUdp_of_sameConv (hW q hq) hqs)⟩)
      rw [h1, List.mem_singleton] at hs
      subst hs
      rw [List.filter_eq_self.mpr fun w hwm => hG w hwm (by rw [h2]; exact List.mem_map.mpr ⟨w, hwm, rfl⟩), h1,
        List.mem_singleton]

/-- `hnd`: `hall` speaks of packets through their references -/
theorem reasm_select_window (t0 : Nat) (ps : List Pkt) (G : Pkt → Bool) (s : Import.Stream) (hw : InWindow t0 ps)
    (hnd : (ps.map Pkt.ref).Nodup) (hs : s ∈ (reasm ps).toList)
    (hall : ∀ p ∈ s.pkts, ∃ q ∈ ps, q.ref = p.1 ∧ G q = true) : s ∈ (reasm (ps.filter G)).toList := by
  -- `K`: the conversation of `s`; filtering by it commutes with `reasm`, on `ps` and on the selection
  have hK : selOf (Stream.keyPkt s) (Stream.keyPkt s) = true := by simp [selOf, sameConv_refl]
  have hA := reasm_filter_window t0 ps (selOf (Stream.keyPkt s)) hw (selOf_closed _)
  have hA2 := reasm_filter_window t0 (ps.filter G) (selOf (Stream.keyPkt s)) (hw.filter _) (selOf_closed _)
  have hcomm : (ps.filter G).filter (selOf (Stream.keyPkt s)) = (ps.filter (selOf (Stream.keyPkt s))).filter G := by
    rw [List.filter_filter, List.filter_filter]
    congr 1; funext x; exact Bool.and_comm _ _
  -- among the packets of `K` alone the selection keeps all that `s` records: references are unique
  have hsel := reasm_class_select t0 (Stream.keyPkt s) (ps.filter (selOf (Stream.keyPkt s))) (hw.filter _)
    (fun q hq => of_decide_eq_true (List.mem_filter.mp hq).2) G s
    (by rw [← hA]; exact List.mem_filter.mpr ⟨hs, hK⟩)
    (fun w hwm hwr => by
      obtain ⟨pr, hpr, hpe⟩ := List.mem_map.mp hwr
      obtain ⟨q, hq, hqr, hqg⟩ := hall pr hpr
      rw [← Lib.nodup_map_inj Pkt.ref ps hnd q hq w (List.mem_filter.mp hwm).1 (by rw [hqr, hpe])]
      exact hqg)
  rw [← hcomm, ← hA2] at hsel
  exact (List.mem_filter.mp hsel).1

end Pk.Proofs.ImportReasm
