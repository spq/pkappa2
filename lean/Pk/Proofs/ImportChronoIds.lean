/-
  The ID bookkeeping of one import (`classifyWalk`, `assignIDs`,
  `lookupFirst`, `visibleStream`, `visibleIDs`) on its own — no reassembler here.  `lookupFirst` is `find?`
  by first-packet key over the entries of all index files, oldest file first (`lookupFirst_eq_find`).
-/
import Pk.Props.ImportSpec
import Pk.Proofs.Import
import Pk.Proofs.ImportChronoSort

namespace Pk.Proofs.ImportChrono
open Pk.Import Pk.Props.C08

def firstKey (s : Stream) : Option (String × Nat) := s.pktsRev.getLast?.map (fun x => PRef.key x.1)

theorem byFirstPacket_eq (ix : Index) (f : String) (n : Nat) :
    ix.byFirstPacket f n = (ix.streams.find? (fun e => firstKey e.2 = some (f, n))).map (·.1) := by
  have hp : ∀ p q : Nat × Stream → Bool, p = q →
      (match ix.streams.find? p with | some e => some e.1 | none => none) = (ix.streams.find? q).map (·.1) := by
    rintro p _ rfl
    cases ix.streams.find? p <;> rfl
  refine hp _ _ (funext fun e => ?_)
  unfold firstKey
  cases e.2.pktsRev.getLast? with
  | none => rfl
  | some x => simp [PRef.key]

theorem lookupFirst_eq_find (ex : List Index) (f : String) (n : Nat) :
    lookupFirst ex f n = ((ex.flatMap (·.streams)).find? (fun e => firstKey e.2 = some (f, n))).map (·.1) := by
  induction ex with
  | nil => rfl
  | cons ix rest ih =>
    rw [lookupFirst, byFirstPacket_eq, List.flatMap_cons, List.find?_append, ih]
    cases ix.streams.find? _ <;> rfl

theorem lookupFirst_eq {ex : List Index} {f : String} {n k : Nat}
    (hex : ∃ ix ∈ ex, ∃ e ∈ ix.streams, firstKey e.2 = some (f, n))
    (hall : ∀ ix ∈ ex, ∀ e ∈ ix.streams, firstKey e.2 = some (f, n) → e.1 = k) :
    lookupFirst ex f n = some k := by
  rw [lookupFirst_eq_find]
  cases h : (ex.flatMap (·.streams)).find? (fun e => firstKey e.2 = some (f, n)) with
  | none =>
    obtain ⟨ix, hm, e, he, hk⟩ := hex
    exact absurd (decide_eq_true hk) (List.find?_eq_none.mp h e (List.mem_flatMap.mpr ⟨ix, hm, he⟩))
  | some e =>
    obtain ⟨ix, hm, he⟩ := List.mem_flatMap.mp (List.mem_of_find?_eq_some h)
    have hk := List.find?_some h
    exact congrArg some (hall ix hm e he (of_decide_eq_true hk))

theorem cw_some_old (nf : List String) (ex : List Index) (id : Nat) (t : Bool) (rest : List (PRef × Bool)) :
    ∀ (old : List (PRef × Bool)), (∀ x ∈ old, x.1.file ∉ nf) →
      classifyWalk nf ex (old ++ rest) (some id) t = classifyWalk nf ex rest (some id) t := by
  intro old
  induction old with
  | nil => intro _; rfl
  | cons x old ih =>
    intro h
    rw [List.cons_append, Proofs.Import.classifyWalk_old_some ex x.2 _ id t (h x (List.mem_cons_self ..))]
    exact ih (fun y hy => h y (List.mem_cons_of_mem _ hy))

/-- a stream that continues a stored one: old packets (the first of which is found in the stack
    under `k`), then packets of the new captures -/
theorem cw_continued (nf : List String) (ex : List Index) (k : Nat) (r : PRef) (d : Bool)
    (old np : List (PRef × Bool)) (hr : r.file ∉ nf) (hold : ∀ x ∈ old, x.1.file ∉ nf)
    (hnp : ∀ x ∈ np, x.1.file ∈ nf) (hl : lookupFirst ex r.file r.idx = some k) :
    classifyWalk nf ex ((r, d) :: old ++ np) none false =
      (some k, if np = [] then .added else .updated, !np.isEmpty) := by
  rw [List.cons_append, Proofs.Import.classifyWalk_old_none ex d _ false hr, if_neg Bool.false_ne_true, hl,
    cw_some_old nf ex k false np old hold]
  cases np with
  | nil => rfl
  | cons x np => rw [Proofs.Import.classifyWalk_new ex x.2 np _ false (hnp x (List.mem_cons_self ..))]; rfl

theorem cw_new (nf : List String) (ex : List Index) : ∀ (ps : List (PRef × Bool)) (t : Bool),
    (∀ x ∈ ps, x.1.file ∈ nf) → classifyWalk nf ex ps none t = (none, .added, t || !ps.isEmpty) := by
  intro ps
  induction ps with
  | nil => intro t _; cases t <;> rfl
  | cons x ps ih =>
    intro t h
    rw [Proofs.Import.classifyWalk_new ex x.2 ps none t (h x (List.mem_cons_self ..)), Option.isSome_none, if_neg Bool.false_ne_true,
      ih true (fun y hy => h y (List.mem_cons_of_mem _ hy)), Bool.true_or]
    cases t <;> rfl

def touchedOf (nf : List String) (ex : List Index) (s : Stream) : Bool := (classifyWalk nf ex s.pkts none false).2.2
def idOf (nf : List String) (ex : List Index) (s : Stream) : Option Nat := (classifyWalk nf ex s.pkts none false).1

theorem assignStep_eq (nf : List String) (ex : List Index) (a : Assigned) (s : Import.Stream) :
    (assignStep nf ex a s).next =
      (if touchedOf nf ex s = true ∧ idOf nf ex s = none then a.next + 1 else a.next) ∧
    (assignStep nf ex a s).index =
      a.index ++ if touchedOf nf ex s then [((idOf nf ex s).getD a.next, s)] else [] :=
  Proofs.Import.assignStep_spec nf ex a s

/-- one step of the loop at position `k`, where the positions below `n0` are those of stored streams
    (found under their position if touched) and those from `n0` on are new: a touched stream is
    written under `k` -/
theorem assignStep_at {nf : List String} {ex : List Index} {n0 k : Nat} {a : Assigned} {s : Import.Stream}
    (ha : a.next = max n0 k)
    (hid : touchedOf nf ex s = true → idOf nf ex s = if k < n0 then some k else none)
    (hnew : n0 ≤ k → touchedOf nf ex s = true) :
    (assignStep nf ex a s).next = max n0 (k + 1) ∧
    (assignStep nf ex a s).index = a.index ++ if touchedOf nf ex s then [(k, s)] else [] := by
  rw [(assignStep_eq nf ex a s).1, (assignStep_eq nf ex a s).2, ha]
  rcases Nat.lt_or_ge k n0 with hk | hk
  · rw [Nat.max_eq_left (Nat.le_of_lt hk), Nat.max_eq_left hk]
    by_cases ht : touchedOf nf ex s = true
    · rw [hid ht, if_pos hk, if_neg (fun h => nomatch h.2)]
      exact ⟨rfl, rfl⟩
    · rw [if_neg (fun h => ht h.1), if_neg ht, if_neg ht]
      exact ⟨rfl, rfl⟩
  · have ht := hnew hk
    rw [Nat.max_eq_right hk, Nat.max_eq_right (Nat.le_succ_of_le hk), hid ht, if_neg (Nat.not_lt.mpr hk),
      if_pos ⟨ht, rfl⟩]
    exact ⟨rfl, rfl⟩

theorem visibleStream_append (stack : List Index) (ix : Index) (id : Nat) :
    visibleStream (stack ++ [ix]) id =
      match ix.streams.find? (fun e => e.1 = id) with
      | some e => some e.2
      | none => visibleStream stack id := by
  unfold visibleStream
  rw [List.foldl_append]
  rfl

theorem visibleStream_mem {stack : List Index} {id : Nat} {V : Import.Stream} (h : visibleStream stack id = some V) :
    ∃ ix ∈ stack, (id, V) ∈ ix.streams := by
  unfold visibleStream at h
  refine List.foldlRecOn (motive := fun acc => acc = some V → ∃ ix ∈ stack, (id, V) ∈ ix.streams) stack _ (b := none)
    (fun h => nomatch h) (fun acc ih ix hix h => ?_) h
  split at h
  · rename_i e he
    have hid : e.1 = id := by simpa using List.find?_some he
    exact ⟨ix, hix, hid ▸ Option.some.inj h ▸ List.mem_of_find?_eq_some he⟩
  · exact ih h

theorem find_id {l : List (Nat × Import.Stream)} {k : Nat} {s : Import.Stream} (hm : (k, s) ∈ l)
    (huniq : ∀ e ∈ l, e.1 = k → e.2 = s) : l.find? (fun e => e.1 = k) = some (k, s) := by
  cases h : l.find? (fun e => e.1 = k) with
  | none =>
    have := List.find?_eq_none.mp h (k, s) hm
    simp at this
  | some e =>
    have h1 : e.1 = k := by simpa using List.find?_some h
    have h2 := huniq e (List.mem_of_find?_eq_some h) h1
    obtain ⟨a, b⟩ := e
    simp only at h1 h2
    rw [h1, h2]

theorem find_id_none {l : List (Nat × Import.Stream)} {k : Nat} (h : ∀ e ∈ l, e.1 ≠ k) :
    l.find? (fun e => e.1 = k) = none := by
  apply List.find?_eq_none.mpr
  intro e he
  simpa using h e he

theorem dedup_fold (ks : List Nat) : ∀ acc : List Nat, acc.Nodup →
    (ks.foldl (fun acc k => if acc.contains k then acc else acc ++ [k]) acc).Nodup ∧
    ∀ x, x ∈ ks.foldl (fun acc k => if acc.contains k then acc else acc ++ [k]) acc ↔ x ∈ acc ∨ x ∈ ks := by
  induction ks with
  | nil => exact fun acc h => ⟨h, fun x => (or_iff_left List.not_mem_nil).symm⟩
  | cons k ks ih =>
    intro acc h
    rw [List.foldl_cons]
    by_cases hc : k ∈ acc
    · rw [if_pos (List.contains_iff_mem.mpr hc)]
      refine ⟨(ih acc h).1, fun x => ?_⟩
      rw [(ih acc h).2, List.mem_cons]
      exact ⟨Or.imp_right Or.inr, fun h => h.elim Or.inl (Or.elim · (fun e => Or.inl (e ▸ hc)) Or.inr)⟩
    · rw [if_neg (mt List.contains_iff_mem.mp hc)]
      have hnd : (acc ++ [k]).Nodup :=
        List.nodup_append.mpr ⟨h, List.pairwise_singleton _ _, fun a ha b hb => by
          rw [List.mem_singleton.mp hb]; exact fun e => hc (e ▸ ha)⟩
      refine ⟨(ih _ hnd).1, fun x => ?_⟩
      rw [(ih _ hnd).2, List.mem_append, List.mem_singleton, List.mem_cons, or_assoc]

theorem visibleIDs_eq (stack : List Index) : visibleIDs stack =
    (((stack.flatMap (·.streams)).map (·.1)).foldl (fun acc k => if acc.contains k then acc else acc ++ [k]) []).mergeSort
      (fun a b => a ≤ b) := by
  unfold visibleIDs
  rw [List.foldl_map, List.foldl_flatMap]

theorem visibleIDs_range (stack : List Index) (n : Nat)
    (h1 : ∀ ix ∈ stack, ∀ e ∈ ix.streams, e.1 < n)
    (h2 : ∀ k, k < n → ∃ ix ∈ stack, ∃ e ∈ ix.streams, e.1 = k) :
    visibleIDs stack = List.range n := by
  rw [visibleIDs_eq]
  obtain ⟨nd, mem⟩ := dedup_fold ((stack.flatMap (·.streams)).map (·.1)) [] List.nodup_nil
  apply List.Perm.eq_of_pairwise (le := fun a b => a ≤ b) (fun a b _ _ => Nat.le_antisymm)
  · exact (List.pairwise_mergeSort (le := fun (a b : Nat) => decide (a ≤ b))
      (fun a b c hab hbc => decide_eq_true (Nat.le_trans (of_decide_eq_true hab) (of_decide_eq_true hbc)))
      (fun a b => by simpa using Nat.le_total a b) _).imp of_decide_eq_true
  · exact List.pairwise_lt_range.imp Nat.le_of_lt
  · refine (List.mergeSort_perm _ _).trans ((List.perm_ext_iff_of_nodup nd List.nodup_range).mpr fun x => ?_)
    rw [mem x, List.mem_range, or_iff_right List.not_mem_nil, List.mem_map]
    constructor
    · rintro ⟨e, he, rfl⟩
      obtain ⟨ix, hm, he⟩ := List.mem_flatMap.mp he
      exact h1 ix hm e he
    · intro hx
      obtain ⟨ix, hm, e, he, h⟩ := h2 x hx
      exact ⟨e, List.mem_flatMap.mpr ⟨ix, hm, he⟩, h⟩

/-- a stack whose index files list the ids in increasing order (every chronological history does): `visible` does
    not have to sort -/
theorem visible_of_sorted (stack : List Index) (ids : List Nat)
    (h : stack.foldl (fun acc i => i.streams.foldl (fun acc e => if acc.contains e.1 then acc else acc ++ [e.1]) acc) [] = ids)
    (hs : ids.Pairwise (fun a b => a ≤ b)) :
    visible stack = ids.filterMap (fun id => (visibleStream stack id).map (fun s => (id, s))) := by
  unfold visible visibleIDs
  rw [h, List.mergeSort_of_pairwise (by simpa using hs)]

end Pk.Proofs.ImportChrono
