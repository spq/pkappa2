/-
  The codecs of Pk/Model/Bytes.lean: the little-endian round trip and the round trip of the segmentation varint,
  one group of seven bits at a time (`dec_group`).
-/
import Pk.Model.Bytes
namespace Pk.Bytes
open Pk

theorem le_length (k n : Nat) : (le k n).length = k := by
  induction k generalizing n with
  | zero => rfl
  | succ k ih => simp [le, ih]

theorem val_le (k n : Nat) : val (le k n) = n % 256 ^ k := by
  induction k generalizing n with
  | zero => rw [Nat.pow_zero, Nat.mod_one]; rfl
  | succ k ih =>
    rw [le, val, ih, UInt8.toNat_ofNat', show (2 : Nat) ^ 8 = 256 from rfl, Nat.mod_mod, Nat.pow_succ,
      Nat.mul_comm (256 ^ k) 256, Nat.mod_mul]

theorem val_lt (bs : Bytes) : val bs < 256 ^ bs.length := by
  induction bs with
  | nil => simp [val]
  | cons b bs ih =>
    simp only [val, List.length_cons, Nat.pow_succ]
    have := b.toNat_lt
    omega

theorem take_le_append (k n : Nat) (rest : Bytes) : (le k n ++ rest).take k = le k n := by
  rw [List.take_append_of_le_length (by simp [le_length])]
  exact List.take_of_length_le (by simp [le_length])

theorem drop_le_append (k n : Nat) (rest : Bytes) : (le k n ++ rest).drop k = rest := by
  have h := List.drop_left (l₁ := le k n) (l₂ := rest)
  rwa [le_length] at h

/-- one group: with the higher groups `sz / 128` read, the byte of the lowest group completes `sz` -/
theorem dec_group (sz flag : Nat) (acc : Bytes) (h : sz < 2 ^ 64) (hf : flag = 0 ∨ flag = 128) :
    decVarintAux (sz / 128) (UInt8.ofNat (sz % 128 + flag) :: acc) =
      if flag = 0 then some (sz, acc) else decVarintAux sz acc := by
  have hb : (UInt8.ofNat (sz % 128 + flag)).toNat = sz % 128 + flag := by
    rw [UInt8.toNat_ofNat']; omega
  rw [decVarintAux, hb, Nat.mod_eq_of_lt (Nat.lt_of_le_of_lt (Nat.div_mul_le_self sz 128) h)]
  rcases hf with rfl | rfl
  · rw [Nat.add_zero, if_pos (Nat.mod_lt _ (by decide)), if_pos rfl, Nat.mod_mod, Nat.div_add_mod']
  · rw [if_neg (by omega), if_neg (by decide), Nat.add_mod_right, Nat.mod_mod, Nat.div_add_mod']

/-- the groups above the lowest one bring the accumulator from 0 to `sz` -/
theorem dec_enc_hi (rest : Bytes) (sz : Nat) : ∀ (acc : Bytes), sz < 2 ^ 64 →
    decVarintAux 0 (encVarintAux sz 128 acc ++ rest) = decVarintAux sz (acc ++ rest) := by
  induction sz using Nat.strongRecOn with
  | _ sz ih =>
    intro acc h
    have hg := dec_group sz 128 (acc ++ rest) h (Or.inr rfl)
    rw [if_neg (by decide)] at hg
    rw [encVarintAux]
    split
    · rename_i h0
      rw [h0] at hg; exact hg
    · rw [ih (sz / 128) (by omega) _ (by omega)]; exact hg

theorem varint_roundtrip (n : Nat) (h : n < 2 ^ 64) (rest : Bytes) :
    decVarint (encVarint n ++ rest) = some (n, rest) := by
  have hg := dec_group n 0 rest h (Or.inl rfl)
  rw [if_pos rfl] at hg
  rw [decVarint, encVarint, encVarintAux]
  split
  · rename_i h0
    rw [h0] at hg; exact hg
  · rw [dec_enc_hi rest _ _ (by omega)]; exact hg

end Pk.Bytes
