/- Go's `sort.Search`, modelled by well-founded recursion in the index model and with fuel in the search model:
   what it finds without any assumption on `f` (`sortSearch_boundary`), over positions sorted under a strict total
   order (`search_sorted`), and that the two models agree. -/
import Pk.Model.IndexFormat
import Pk.Model.Search
import Pk.Proofs.Order

namespace Pk.Index

theorem sortSearch_boundary (f : Nat → Bool) (n i j : Nat) (hij : i ≤ j) (hjn : j ≤ n)
    (hi : 0 < i → f (i - 1) = false) (hj : j < n → f j = true) :
    i ≤ sortSearch f i j ∧ sortSearch f i j ≤ j ∧ (0 < sortSearch f i j → f (sortSearch f i j - 1) = false) ∧
      (sortSearch f i j < n → f (sortSearch f i j) = true) := by
  fun_induction sortSearch f i j with
  | case1 i j hlt m hm ih =>
    obtain ⟨a, b, c⟩ := ih (by omega) hjn (fun _ => by simpa using hm) hj
    exact ⟨by omega, b, c⟩
  | case2 i j hlt m hm ih =>
    obtain ⟨a, b, c⟩ := ih (by omega) (by omega) hi (fun _ => by simpa using hm)
    exact ⟨a, by omega, c⟩
  | case3 i j hlt =>
    obtain rfl : i = j := by omega
    exact ⟨Nat.le_refl _, Nat.le_refl _, hi, hj⟩

theorem sortSearch_threshold (f : Nat → Bool) (n : Nat) (hmono : ∀ i j, i ≤ j → j < n → f i = true → f j = true) :
    sortSearch f 0 n ≤ n ∧ (∀ i, i < sortSearch f 0 n → f i = false) ∧
    (∀ i, sortSearch f 0 n ≤ i → i < n → f i = true) := by
  obtain ⟨-, h1, h2, h3⟩ := sortSearch_boundary f n 0 n (Nat.zero_le _) (Nat.le_refl _) (fun h => nomatch h)
    (fun h => absurd h (Nat.lt_irrefl _))
  refine ⟨h1, fun i hi => ?_, fun i hi hin => hmono _ i hi hin (h3 (by omega))⟩
  cases hfi : f i with
  | false => rfl
  | true => rw [hmono i _ (by omega) (by omega) hfi] at h2; exact h2 (by omega)

theorem search_sorted {α : Type} {lt : α → α → Bool} (hlt : Pk.Proofs.Search.SWO lt) (htot : ∀ a b, a ≠ b → lt a b = true ∨ lt b a = true)
    (g : Nat → α) (n : Nat) (target : α) (hs : ∀ i j, i ≤ j → j < n → lt (g j) (g i) = false)
    (k : Nat) (hks : k = sortSearch (fun i => !lt (g i) target) 0 n) :
    (k < n ∧ g k = target) ∨ ∀ i, i < n → g i ≠ target := by
  obtain ⟨hk, hlo, hhi⟩ := sortSearch_threshold (fun i => !lt (g i) target) n
    (fun i j hij hj hi => by
      simp only [Bool.not_eq_true'] at hi ⊢
      exact hlt.incomp _ _ _ (hs i j hij hj) hi)
  rw [← hks] at hk hlo hhi
  by_cases hgood : k < n ∧ g k = target
  · exact .inl hgood
  · -- a position `i` with the value stands at or behind `k`, so the value at `k` is neither below nor above it
    refine .inr fun i hi heq => ?_
    have hki : k ≤ i := by
      rcases Nat.lt_or_ge i k with h | h
      · have := hlo i h; rw [heq, hlt.irrefl] at this; cases this
      · exact h
    have hkn : k < n := by omega
    have h1 := hhi k (Nat.le_refl _) hkn
    have h2 := hs k i hki hi
    rw [heq] at h2
    refine hgood ⟨hkn, Classical.byContradiction fun hne => ?_⟩
    rcases htot _ _ hne with h | h
    · rw [h] at h1; cases h1
    · rw [h] at h2; cases h2

end Pk.Index

namespace Pk.Search

theorem sortSearchAux_eq (f : Nat → Bool) : ∀ fuel i j, j < i + fuel → sortSearchAux f fuel i j = Pk.Index.sortSearch f i j := by
  intro fuel
  induction fuel with
  | zero =>
    intro i j h
    rw [sortSearchAux, Pk.Index.sortSearch, dif_neg (by omega)]
  | succ fuel ih =>
    intro i j h
    rw [sortSearchAux, Pk.Index.sortSearch]
    by_cases hlt : i < j
    · simp only [hlt, if_true, dite_true]
      rw [ih _ _ (by omega), ih _ _ (by omega)]
    · simp only [hlt, if_false, dite_false]

theorem sortSearch_eq (n : Nat) (f : Nat → Bool) : sortSearch n f = Pk.Index.sortSearch f 0 n :=
  sortSearchAux_eq f _ _ _ (by omega)

end Pk.Search
