/-
  What a flush does when it does something.  `tcpFlush k ts` leaves every connection untouched that
  belongs to another assembler or that is fresh (seen within the timeout, no queued page older than
  the timeout), keeps their order, and changes only the streams of the other connections, and those
  only by delivering data / setting `complete` (`StreamExt`).  `udpFlush ts` removes exactly the flows
  older than the timeout and sets `complete` on exactly their streams.
  `StreamExt` also bounds what a packet does to its stream (`tcpBody_ext`, `udpBody_ext`): the endpoints
  stay (`tcpBody_key`, `udpBody_key`) and the packet is recorded (`tcpBody_pkts`, `udpBody_pkts`).
-/
import Pk.Proofs.ImportReasmWindow

namespace Pk.Proofs.ImportReasm
open Pk.Import

def StreamExt (st st' : Stream) : Prop :=
  ∃ more c, st' = { st with dataRev := more ++ st.dataRev, complete := c }

theorem StreamExt.refl (st : Import.Stream) : StreamExt st st := ⟨[], st.complete, rfl⟩

theorem StreamExt.trans {a b c : Import.Stream} (h1 : StreamExt a b) (h2 : StreamExt b c) : StreamExt a c := by
  obtain ⟨m1, c1, rfl⟩ := h1
  obtain ⟨m2, c2, rfl⟩ := h2
  exact ⟨m2 ++ m1, c2, by simp only [List.append_assoc]⟩

theorem StreamExt.key {a b : Stream} (h : StreamExt a b) : Stream.keyPkt b = Stream.keyPkt a := by
  obtain ⟨m, c, rfl⟩ := h; rfl

theorem StreamExt.pkts {a b : Import.Stream} (h : StreamExt a b) : b.pktsRev = a.pktsRev ∧ b.npkts = a.npkts ∧ b.fsm = a.fsm := by
  obtain ⟨m, c, rfl⟩ := h; exact ⟨rfl, rfl, rfl⟩

theorem addData_ext (s : Import.Stream) (r : PRef) (b : Bytes) : StreamExt s (s.addData r b) := by
  unfold Stream.addData
  split
  · rename_i i _; exact ⟨[(i, b)], s.complete, rfl⟩
  · exact StreamExt.refl s

theorem deliver_ext (st : Import.Stream) (d : Option (PRef × Bytes)) : StreamExt st (Stream.deliver st d) := by
  cases d with
  | none => exact StreamExt.refl st
  | some d => exact addData_ext ..

theorem assembleHalf_ext (st : Import.Stream) (h : Half) (p : Pkt) : StreamExt st (assembleHalf st h p).1 := by
  obtain ⟨d, h', hu, _⟩ := assembleHalf_frame h p
  rw [hu]
  exact deliver_ext st d

theorem complete_ext (st : Import.Stream) (q : Prop) [Decidable q] :
    StreamExt st (if q then { st with complete := true } else st) := by
  split
  · exact ⟨[], true, rfl⟩
  · exact StreamExt.refl st

/-- `StreamExt` fixes `pktsRev` and `fsm`, which `tcpBody` changes first: hence `addPkt` and `∃ f` -/
theorem tcpBody_ext (c : TcpConn) (st : Import.Stream) (p : Pkt) (d : Bool) :
    ∃ f, StreamExt { st.addPkt p.ref d with fsm := f } (tcpBody c st p d).2 := by
  have h1 : StreamExt { st.addPkt p.ref d with fsm := ((st.addPkt p.ref d).fsm.check p d).1 }
      (acceptHalf st (touch (if d = true then c.s2c else c.c2s) p.ts) p d).1 := by
    unfold acceptHalf
    simp only
    split
    · exact assembleHalf_ext ..
    · exact StreamExt.refl _
  refine ⟨((st.addPkt p.ref d).fsm.check p d).1, ?_⟩
  unfold tcpBody
  simp only
  generalize acceptHalf st (touch (if d = true then c.s2c else c.c2s) p.ts) p d = r at h1 ⊢
  exact h1.trans (complete_ext _ _)

theorem tcpBody_key (c : TcpConn) (st : Import.Stream) (p : Pkt) (d : Bool) : Stream.keyPkt (tcpBody c st p d).2 = Stream.keyPkt st := by
  obtain ⟨f, h⟩ := tcpBody_ext c st p d
  exact h.key

theorem tcpBody_pkts (c : TcpConn) (st : Import.Stream) (p : Pkt) (d : Bool) :
    (tcpBody c st p d).2.pktsRev = (p.ref, d) :: st.pktsRev := by
  obtain ⟨f, h⟩ := tcpBody_ext c st p d
  exact h.pkts.1

theorem udpBody_ext (st : Import.Stream) (p : Pkt) (d : Bool) : StreamExt (st.addPkt p.ref d) (udpBody st p d) := by
  unfold udpBody
  simp only
  split
  · exact StreamExt.refl _
  · exact addData_ext ..

theorem udpBody_key (st : Import.Stream) (p : Pkt) (d : Bool) : Stream.keyPkt (udpBody st p d) = Stream.keyPkt st :=
  (udpBody_ext st p d).key

theorem udpBody_pkts (st : Import.Stream) (p : Pkt) (d : Bool) : (udpBody st p d).pktsRev = (p.ref, d) :: st.pktsRev :=
  (udpBody_ext st p d).pkts.1

theorem skipFlushLoop_ext (ts : Nat) : ∀ (n : Nat) (st : Import.Stream) (h : Half),
    StreamExt st (skipFlushLoop ts n st h).1 ∧ (skipFlushLoop ts n st h).2.lastSeen = h.lastSeen := by
  intro n
  induction n with
  | zero => intro st h; exact ⟨StreamExt.refl st, rfl⟩
  | succ n ih =>
    intro st h
    rw [skipFlushLoop]
    split
    · exact ⟨StreamExt.refl st, rfl⟩
    · split
      · exact ⟨StreamExt.refl st, rfl⟩
      · split
        · rename_i pg rest _ _
          obtain ⟨d, h', n, hs, hls, _⟩ := sendToConnection_frame { h with queue := rest } pg.seq pg.bytes pg.ref pg.fin
          rw [hs]
          have h3 := ih (Stream.deliver st d) { h' with nextSeq := some n }
          exact ⟨(deliver_ext st d).trans h3.1, h3.2.trans hls⟩
        · exact ⟨StreamExt.refl st, rfl⟩

theorem markComplete_ext (b : Bool) (st : Import.Stream) : StreamExt st (markComplete b st) :=
  complete_ext st _

def ConnSame (c c' : TcpConn) : Prop :=
  c'.k = c.k ∧ c'.src = c.src ∧ c'.dst = c.dst ∧ c'.sport = c.sport ∧ c'.dport = c.dport ∧ c'.stream = c.stream ∧
  c'.c2s.lastSeen = c.c2s.lastSeen ∧ c'.s2c.lastSeen = c.s2c.lastSeen

theorem flushStep_ext (k ts : Nat) (c : TcpConn) (st : Import.Stream) : StreamExt st (flushStep k ts c st).2 := by
  unfold flushStep
  split
  · exact StreamExt.refl st
  · have e1 := (skipFlushLoop_ext ts c.s2c.queue.length st c.s2c).1
    have e2 := (skipFlushLoop_ext ts c.c2s.queue.length (skipFlushLoop ts c.s2c.queue.length st c.s2c).1 c.c2s).1
    exact (e1.trans e2).trans (markComplete_ext _ _)

theorem flushStep_same (k ts : Nat) (c : TcpConn) (st : Import.Stream) (c' : TcpConn) (h : (flushStep k ts c st).1 = some c') :
    ConnSame c c' := by
  unfold flushStep at h
  split at h
  · cases h; exact ⟨rfl, rfl, rfl, rfl, rfl, rfl, rfl, rfl⟩
  · have e1 := (skipFlushLoop_ext ts c.s2c.queue.length st c.s2c).2
    have e2 := (skipFlushLoop_ext ts c.c2s.queue.length (skipFlushLoop ts c.s2c.queue.length st c.s2c).1 c.c2s).2
    simp only at h
    split at h
    · cases h
    · cases h
      refine ⟨rfl, rfl, rfl, rfl, rfl, rfl, ?_, ?_⟩
      · simp only [closeIfOld_lastSeen]; exact e2
      · simp only [closeIfOld_lastSeen]; exact e1

theorem array_set!_get!_ext (ss : Array Import.Stream) (i j : Nat) (x : Import.Stream) (h : StreamExt ss[j]! x) :
    StreamExt ss[i]! (ss.set! j x)[i]! := by
  by_cases hj : j = i
  · subst hj
    rw [array_set!_get!_eq]
    split
    · exact h
    · exact StreamExt.refl _
  · rw [array_set!_get!_ne ss i j x hj]; exact StreamExt.refl _

theorem tcpFlush_u (k ts : Nat) : ∀ (cs : List TcpConn) (ss : Array Stream) (u : Bool), (tcpFlush k ts cs ss u).2.2 = u := by
  intro cs
  induction cs with
  | nil => intro ss u; rfl
  | cons c cs ih => intro ss u; rw [tcpFlush_cons]; exact ih _ u

theorem tcpFlush_size (k ts : Nat) : ∀ (cs : List TcpConn) (ss : Array Import.Stream) (u : Bool),
    (tcpFlush k ts cs ss u).2.1.size = ss.size := by
  intro cs
  induction cs with
  | nil => intro ss u; rfl
  | cons c cs ih => intro ss u; rw [tcpFlush_cons]; simp only; rw [ih]; simp

theorem tcpFlush_ext (k ts : Nat) : ∀ (cs : List TcpConn) (ss : Array Import.Stream) (u : Bool) (i : Nat),
    StreamExt ss[i]! (tcpFlush k ts cs ss u).2.1[i]! := by
  intro cs
  induction cs with
  | nil => intro ss u i; exact StreamExt.refl _
  | cons c cs ih =>
    intro ss u i
    rw [tcpFlush_cons]
    exact (array_set!_get!_ext ss i c.stream _ (flushStep_ext k ts c _)).trans (ih _ u i)

theorem tcpFlush_streams (k ts : Nat) : ∀ (cs : List TcpConn) (ss : Array Import.Stream) (u : Bool) (i : Nat),
    (∀ c ∈ cs, ¬ FlushKeeps k ts c → c.stream ≠ i) → (tcpFlush k ts cs ss u).2.1[i]! = ss[i]! := by
  intro cs
  induction cs with
  | nil => intro ss u i _; rfl
  | cons c cs ih =>
    intro ss u i h
    rw [tcpFlush_cons]
    simp only
    rw [ih _ u i (fun c hm => h c (List.mem_cons_of_mem _ hm))]
    by_cases hk : FlushKeeps k ts c
    · rw [flushStep_keeps k ts c _ hk, array_set!_self]
    · exact array_set!_get!_ne ss i c.stream _ (h c (List.mem_cons_self ..) hk)

theorem tcpFlush_keeps (k ts : Nat) : ∀ (cs : List TcpConn) (ss : Array Import.Stream) (u : Bool),
    (cs.filter (fun c => decide (FlushKeeps k ts c))).Sublist (tcpFlush k ts cs ss u).1 := by
  intro cs
  induction cs with
  | nil => intro ss u; exact List.Sublist.slnil
  | cons c cs ih =>
    intro ss u
    rw [tcpFlush_cons]
    simp only [List.filter_cons]
    by_cases hk : FlushKeeps k ts c
    · simp only [hk, decide_true, if_true, flushStep_keeps k ts c _ hk, Option.toList_some, List.singleton_append]
      exact (ih _ u).cons_cons c
    · simp only [hk, decide_false, Bool.false_eq_true, if_false]
      exact List.Sublist.trans (ih _ u) (List.sublist_append_right _ _)

theorem tcpFlush_conns (k ts : Nat) : ∀ (cs : List TcpConn) (ss : Array Import.Stream) (u : Bool),
    ∀ c' ∈ (tcpFlush k ts cs ss u).1, ∃ c ∈ cs, ConnSame c c' ∧ (FlushKeeps k ts c → c' = c) := by
  intro cs
  induction cs with
  | nil => intro ss u c' hm; cases hm
  | cons c cs ih =>
    intro ss u c' hm
    rw [tcpFlush_cons] at hm
    rcases List.mem_append.mp hm with hm | hm
    · have hs : (flushStep k ts c ss[c.stream]!).1 = some c' := by
        cases h : (flushStep k ts c ss[c.stream]!).1 with
        | none => rw [h] at hm; cases hm
        | some x => rw [h] at hm; simp only [Option.toList_some, List.mem_singleton] at hm; rw [hm]
      refine ⟨c, List.mem_cons_self .., flushStep_same k ts c _ c' hs, ?_⟩
      intro hk
      rw [flushStep_keeps k ts c _ hk] at hs
      cases hs; rfl
    · obtain ⟨c0, m0, h0⟩ := ih _ u c' hm
      exact ⟨c0, List.mem_cons_of_mem _ m0, h0⟩

theorem udpFlush_conns (ts : Nat) : ∀ (cs : List UdpConn) (ss : Array Import.Stream),
    (udpFlush ts cs ss).1 = cs.filter (fun c => !decide (c.lastActivity + timeout < ts)) := by
  intro cs
  induction cs with
  | nil => intro ss; rfl
  | cons c cs ih =>
    intro ss
    rw [udpFlush]
    split
    · rename_i h; simp only [List.filter_cons, h, decide_true, Bool.not_true, Bool.false_eq_true, if_false]; exact ih _
    · rename_i h; simp only [List.filter_cons, h, decide_false, Bool.not_false, if_true, ih]

theorem udpFlush_size (ts : Nat) : ∀ (cs : List UdpConn) (ss : Array Import.Stream), (udpFlush ts cs ss).2.size = ss.size := by
  intro cs
  induction cs with
  | nil => intro ss; rfl
  | cons c cs ih =>
    intro ss
    rw [udpFlush]
    split
    · rw [ih]; simp
    · exact ih ss

/-- the stream `i` belongs to a flow that `udpFlush ts` removes -/
def udpOld (ts : Nat) (cs : List UdpConn) (i : Nat) : Bool :=
  cs.any (fun c => decide (c.lastActivity + timeout < ts) && c.stream == i)

theorem udpOld_cons (ts : Nat) (c : UdpConn) (cs : List UdpConn) (i : Nat) :
    udpOld ts (c :: cs) i = ((decide (c.lastActivity + timeout < ts) && c.stream == i) || udpOld ts cs i) := rfl

theorem markComplete_or (a b : Bool) (s : Import.Stream) : markComplete a (markComplete b s) = markComplete (b || a) s := by
  cases a <;> cases b <;> rfl

theorem udpFlush_streams (ts : Nat) : ∀ (cs : List UdpConn) (ss : Array Import.Stream) (i : Nat),
    (udpFlush ts cs ss).2[i]? = ss[i]?.map (markComplete (udpOld ts cs i)) := by
  intro cs
  induction cs with
  | nil => intro ss i; exact Option.map_id'.symm
  | cons c cs ih =>
    intro ss i
    rw [udpFlush, udpOld_cons]
    split
    · rename_i h
      rw [ih, Array.getElem?_modify, decide_eq_true h, Bool.true_and]
      by_cases hi : c.stream = i
      · rw [if_pos hi, Option.map_map, beq_iff_eq.mpr hi]
        exact congrArg (Option.map · _) (funext fun s => markComplete_or _ true s)
      · rw [if_neg hi, beq_eq_false_iff_ne.mpr hi, Bool.false_or]
    · rename_i h
      rw [decide_eq_false h, Bool.false_and, Bool.false_or]
      exact ih ss i

end Pk.Proofs.ImportReasm
