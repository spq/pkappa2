/-
  C14 (reference-time shift), part 4: term translation.

  * `trTerm (ref + d) t = (trTerm ref t).map (shiftG d)` for every term (no hypothesis);
  * the time conditions a time term produces, described by two counters of the bound they come
    from: `partsAbs` (signed number of absolute time literals) and `partsVar` (signed number of
    packet-time variables): `rtf = ∓partsAbs`, `tot sum = ±(partsVar - 1)`.
-/
import Pk.Proofs.Query.ShiftSet
import Pk.Proofs.Query.Total

namespace Pk.Query

/-- signed number of absolute time literals of a bound (`+` counts 1, `-` counts -1) -/
def partsAbs : List TimePart → Int
  | [] => 0
  | .abs ops _ :: rest => opsFactor ops + partsAbs rest
  | .dur _ _ :: rest => partsAbs rest
  | .var _ _ :: rest => partsAbs rest

/-- signed number of packet-time variables (`@sub:ftime@`, `@sub:ltime@`) of a bound -/
def partsVar : List TimePart → Int
  | [] => 0
  | .var ops _ :: rest => opsFactor ops + partsVar rest
  | .dur _ _ :: rest => partsVar rest
  | .abs _ _ :: rest => partsVar rest

namespace Shift
open TermSound

theorem mapOutcome_map {α β : Type} (f1 f2 : α → Outcome β) (g : β → β) :
    ∀ (l : List α), (∀ x ∈ l, f2 x = (f1 x).map g) → mapOutcome f2 l = (mapOutcome f1 l).map (List.map g)
  | [], _ => rfl
  | x :: xs, h => by
    simp only [mapOutcome]
    rw [h x List.mem_cons_self, mapOutcome_map f1 f2 g xs (fun y hy => h y (List.mem_cons_of_mem _ hy))]
    cases f1 x <;> simp only [Outcome.map_ok, Outcome.map_err, Outcome.map_panic, Outcome.map_diverged]
    cases mapOutcome f1 xs <;> simp

theorem timeParts_shift (ref d : Int) : ∀ (r : List TimePart) (tc : TimeC),
    timeParts (ref + d) r (shiftT d tc) = (timeParts ref r tc).map (shiftT d)
  | [], _ => rfl
  | .dur ops ns :: rest, tc => by
    simp only [timeParts]
    rw [← timeParts_shift ref d rest]
    congr 1
    simp only [shiftT, TimeC.mk.injEq, true_and, and_true]
    omega
  | .abs ops c :: rest, tc => by
    simp only [timeParts]
    rw [← timeParts_shift ref d rest]
    congr 1
    simp only [shiftT, TimeC.mk.injEq, true_and, and_true]
    grind
  | .var ops v :: rest, tc => by
    simp only [timeParts, shiftT_sum]
    cases timeAddVar tc.sum v.sub v.name (opsFactor ops) with
    | ok sum => exact timeParts_shift ref d rest { sum := sum, dur := tc.dur, rtf := tc.rtf }
    | err m => rfl
    | panic s => rfl
    | diverged s => rfl

theorem shiftT_z (d : Int) : shiftT d { sum := [], dur := 0, rtf := 0 } = { sum := [], dur := 0, rtf := 0 } := by
  simp [shiftT]

def shiftB (d : Int) (b : TimeC × TimeC × Bool × Bool) : TimeC × TimeC × Bool × Bool :=
  (shiftT d b.1, shiftT d b.2.1, b.2.2.1, b.2.2.2)

theorem timeBounds_shift (ref d : Int) (ranges : List (List TimePart)) :
    timeBounds (ref + d) ranges = (timeBounds ref ranges).map (shiftB d) := by
  have hz := fun r => timeParts_shift ref d r { sum := [], dur := 0, rtf := 0 }
  simp only [shiftT_z] at hz
  match ranges with
  | [] => simp [timeBounds, shiftB, shiftT_z]
  | [r] =>
    simp only [timeBounds, hz]
    cases timeParts ref r _ <;> simp [shiftB]
  | [r0, r1] =>
    simp only [timeBounds, hz]
    cases timeParts ref r0 _ <;> simp only [Outcome.map_ok, Outcome.map_err, Outcome.map_panic, Outcome.map_diverged]
    cases timeParts ref r1 _ <;> simp [shiftB]
  | _ :: _ :: _ :: _ => simp [timeBounds]

theorem timeOwn_shift (t : Term) (tci : Nat) (d : Int) (tc : TimeC) :
    timeOwn t tci (shiftT d tc) = (timeOwn t tci tc).map (shiftT d) := by
  unfold timeOwn
  simp only [shiftT_sum]
  split <;> rfl

theorem neg_shift (d : Int) (tc : TimeC) : TimeC.neg (shiftT d tc) = shiftT d (TimeC.neg tc) := by
  simp only [TimeC.neg, shiftT, TimeC.mk.injEq, true_and, and_true]
  grind

theorem trTimeEntry_shift (t : Term) (ref d : Int) (ranges : List (List TimePart)) :
    trTimeEntry t (ref + d) ranges = (trTimeEntry t ref ranges).map (shiftJ d) := by
  unfold trTimeEntry
  rw [timeBounds_shift]
  cases timeBounds ref ranges with
  | ok b =>
    simp only [Outcome.map_ok, shiftB, timeOwn_shift]
    cases timeOwn t 0 b.1 with
    | ok lo =>
      simp only [Outcome.map_ok]
      cases timeOwn t 1 b.2.1 with
      | ok hi =>
        simp only [Outcome.map_ok, neg_shift]
        cases b.2.2.1 <;> cases b.2.2.2 <;> rfl
      | err m => rfl
      | panic s => rfl
      | diverged s => rfl
    | err m => rfl
    | panic s => rfl
    | diverged s => rfl
  | err m => rfl
  | panic s => rfl
  | diverged s => rfl

theorem trTimes_shift (t : Term) (ref d : Int) (l : List (List (List TimePart))) :
    trTimes t (ref + d) l = (trTimes t ref l).map (shiftS d) :=
  mapOutcome_map _ _ _ l (fun e _ => trTimeEntry_shift t ref d e)

theorem liftSet_shift (d : Int) (o : Outcome CSet) :
    liftSet (o.map (shiftS d)) = (liftSet o).map (shiftG d) := by
  cases o <;> simp [liftSet, nilIfEmpty_shift]

theorem nilIfEmpty_noTime {cs : CSet} (h : NoTime cs) : NoTime (nilIfEmpty cs).items := by
  rw [items_nilIfEmpty]; exact h

/-- a term that is not a time filter is translated without a look at the reference time and to
    conditions of its own kind (`trTerm_kind`), so nothing is moved -/
theorem trTerm_noTime (ref ref' d : Int) (t : Term) (hv : ∀ l, t.value ≠ .times l) :
    trTerm ref' t = (trTerm ref t).map (shiftG d) := by
  have href : trTerm ref' t = trTerm ref t := by
    unfold trTerm
    cases h : t.value <;> first | rfl | exact absurd h (hv _)
  rw [href]
  cases h : trTerm ref t with
  | ok g =>
    cases g with
    | none => rfl
    | some cs =>
      have hk := trTerm_kind ref t cs h
      have : NoTime cs := by
        intro c hc tc htc
        have := hk c hc _ htc
        cases h' : t.value <;> rw [h'] at this <;> first | exact hv _ h' | cases this
      rw [Outcome.map_ok, shiftG_some, this.shift]
  | err m => rfl
  | panic s => rfl
  | diverged s => rfl

theorem trTerm_shift (ref d : Int) (t : Term) : trTerm (ref + d) t = (trTerm ref t).map (shiftG d) := by
  cases hv : t.value with
  | times l =>
    unfold trTerm
    rw [hv]
    split
    · rfl
    · simp only [trTimes_shift, liftSet_shift]
  | _ => exact trTerm_noTime ref _ d t (fun l h => by rw [hv] at h; cases h)

theorem timeAddVar_coeff (l : List TimeSummand) (sub name : String) (f : Int) (r : List TimeSummand)
    (h : timeAddVar l sub name f = .ok r) : tot r = tot l + f := by
  obtain ⟨v, _, _, hn⟩ := timeAddVar_spec (fun _ => unitStream) sub name f l r h
  have : timeVarVal (fun _ => unitStream) sub name = 1 := by
    unfold timeVarVal
    rcases hn with rfl | rfl <;> rfl
  unfold tot
  rw [v, this, Int.mul_one]

theorem timeParts_facts (ref : Int) : ∀ (r : List TimePart) (tc tc' : TimeC), timeParts ref r tc = .ok tc' →
    tc'.rtf = tc.rtf - partsAbs r ∧ tot tc'.sum = tot tc.sum + partsVar r
  | [], tc, tc', h => by
    simp only [timeParts, Outcome.ok.injEq] at h
    subst h; simp [partsAbs, partsVar]
  | .dur ops ns :: rest, tc, tc', h => by
    simp only [timeParts] at h
    have := timeParts_facts ref rest _ tc' h
    simpa [partsAbs, partsVar] using this
  | .abs ops c :: rest, tc, tc', h => by
    simp only [timeParts] at h
    have := timeParts_facts ref rest _ tc' h
    simp only [partsAbs, partsVar] at this ⊢
    omega
  | .var ops v :: rest, tc, tc', h => by
    simp only [timeParts] at h
    split at h
    · rename_i sum hsum
      have := timeParts_facts ref rest _ tc' h
      have ht := timeAddVar_coeff _ _ _ _ sum hsum
      simp only [partsAbs, partsVar] at this ⊢
      omega
    all_goals cases h

theorem timeOwn_rtf (t : Term) (tci : Nat) (tc r : TimeC) (h : timeOwn t tci tc = .ok r) : r.rtf = tc.rtf := by
  unfold timeOwn at h
  simp only at h
  split at h
  · cases h; rfl
  all_goals cases h

theorem ownTimeVal_unit (t : Term) (tci : Nat) : ownTimeVal (fun _ => unitStream) t tci = 1 := by
  unfold ownTimeVal
  simp only [unitStream]
  split
  · rfl
  · split
    · rfl
    · omega

theorem timeOwn_facts (t : Term) (tci : Nat) (tc r : TimeC) (hk : TK tc.sum) (h : timeOwn t tci tc = .ok r) :
    r.rtf = tc.rtf ∧ tot r.sum = tot tc.sum - 1 := by
  refine ⟨timeOwn_rtf t tci tc r h, ?_⟩
  have := (timeOwn_val (fun _ => unitStream) t tci tc r hk h).1
  rw [ownTimeVal_unit] at this
  exact this

theorem neg_facts (tc : TimeC) : (TimeC.neg tc).rtf = -tc.rtf ∧ tot (TimeC.neg tc).sum = - tot tc.sum := by
  refine ⟨?_, timeSumVal_negOne _ _⟩
  simp only [TimeC.neg]; omega

/-- facts about the two bounds `timeBounds` returns: each comes from a non-empty range of the
    entry, or its "empty" flag is set, or the entry has no range at all (then both are zero) -/
theorem timeBounds_facts (ref : Int) (e : List (List TimePart)) (b : TimeC × TimeC × Bool × Bool)
    (h : timeBounds ref e = .ok b) :
    TK b.1.sum ∧ TK b.2.1.sum ∧
    (b.2.2.1 = true ∨ ∃ r, (r ∈ e ∧ r ≠ [] ∨ e = [] ∧ r = []) ∧
      b.1.rtf = -partsAbs r ∧ tot b.1.sum = partsVar r) ∧
    (b.2.2.2 = true ∨ ∃ r, (r ∈ e ∧ r ≠ [] ∨ e = [] ∧ r = []) ∧
      b.2.1.rtf = -partsAbs r ∧ tot b.2.1.sum = partsVar r) := by
  have hfacts := fun r tc' h' => timeParts_facts ref r { sum := [], dur := 0, rtf := 0 } tc' h'
  have one : ∀ (r : List TimePart) (tc : TimeC), r ∈ e →
      timeParts ref r { sum := [], dur := 0, rtf := 0 } = .ok tc →
      r.isEmpty = true ∨ ∃ r', (r' ∈ e ∧ r' ≠ [] ∨ e = [] ∧ r' = []) ∧
        tc.rtf = -partsAbs r' ∧ tot tc.sum = partsVar r' := by
    intro r tc hr htc
    have hf := hfacts r tc htc
    simp only [tot_nil] at hf
    cases r with
    | nil => exact Or.inl rfl
    | cons p ps => exact Or.inr ⟨p :: ps, Or.inl ⟨hr, by simp⟩, by omega, by omega⟩
  rcases timeBounds_shape h with ⟨rfl, rfl⟩ | ⟨r, tc, rfl, htc, rfl⟩ | ⟨r0, r1, tc0, tc1, rfl, h0, h1, rfl⟩
  · exact ⟨TK_nil, TK_nil, Or.inr ⟨[], Or.inr ⟨rfl, rfl⟩, by simp [partsAbs], by simp [partsVar]⟩,
      Or.inr ⟨[], Or.inr ⟨rfl, rfl⟩, by simp [partsAbs], by simp [partsVar]⟩⟩
  · have hk := (timeRange_spec htc).1
    have hb := one r tc (List.mem_singleton.mpr rfl) htc
    exact ⟨hk, hk, hb, hb⟩
  · exact ⟨(timeRange_spec h0).1, (timeRange_spec h1).1,
      one r0 tc0 (by simp) h0, one r1 tc1 (by simp) h1⟩

/-- the upper bound condition made from the bound `r` has `rtf = -partsAbs r` and `tot sum = partsVar r - 1`,
    the lower one the negatives -/
theorem trTimeEntry_tp {P : TimeC → Prop} (hP : TInv P) (t : Term) (ref : Int) (e : List (List TimePart))
    (conj : Conj) (h : trTimeEntry t ref e = .ok conj)
    (hR : ∀ r, (r ∈ e ∧ r ≠ [] ∨ e = [] ∧ r = []) →
      ∀ tc : TimeC, tc.rtf = -partsAbs r → tot tc.sum = partsVar r - 1 → P tc) : Conj.TP P conj := by
  obtain ⟨b, lo, hi, hb, hlo, hhi, rfl⟩ := trTimeEntry_shape h
  obtain ⟨k1, k2, f1, f2⟩ := timeBounds_facts ref e b hb
  have hl := timeOwn_facts t 0 _ lo k1 hlo
  have hh := timeOwn_facts t 1 _ hi k2 hhi
  intro tc htc
  rcases List.mem_append.mp htc with htc | htc
  · rcases f1 with f1 | ⟨r, hr, ha, hv⟩
    · rw [f1] at htc; cases htc
    · cases hb1 : b.2.2.1 <;> rw [hb1] at htc
      · rw [Cond.time.inj (List.mem_singleton.mp htc)]
        exact hP.sym lo _ (.inr (neg_facts lo)) (hR r hr lo (by omega) (by omega))
      · cases htc
  · rcases f2 with f2 | ⟨r, hr, ha, hv⟩
    · rw [f2] at htc; cases htc
    · cases hb2 : b.2.2.2 <;> rw [hb2] at htc
      · rw [Cond.time.inj (List.mem_singleton.mp htc)]
        exact hR r hr hi (by omega) (by omega)
      · cases htc

theorem trTerm_tp {P : TimeC → Prop} (hP : TInv P) (ref : Int) (t : Term) (cs : CSet)
    (hR : ∀ l, t.value = .times l → ∀ e ∈ l, ∀ r, (r ∈ e ∧ r ≠ [] ∨ e = [] ∧ r = []) →
      ∀ tc : TimeC, tc.rtf = -partsAbs r → tot tc.sum = partsVar r - 1 → P tc)
    (h : trTerm ref t = .ok (some cs)) : CSet.TP P cs := by
  intro c hc tc htc
  have hk := trTerm_kind ref t cs h c hc _ htc
  cases hv : t.value <;> rw [hv] at hk <;> try cases hk
  next l =>
  obtain ⟨e, he, hce⟩ := (trTimes_mem (trTerm_times hv h)).2 c hc
  exact trTimeEntry_tp hP t ref e c hce (hR l hv e he) tc htc

end Shift
end Pk.Query
