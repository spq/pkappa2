/-
  C14 `dnf_size_bound`: the number of conjuncts (and their width) after translation is bounded by
  an explicit function of the expression: sum over OR, product over AND, exponential only under
  negation.  Relative to the width laws `WidthLaws K F` (proved below for K = 4, F = 4) and to a
  bound for single terms (`TermBound`).  `BdG g p` (well-shaped conjuncts within the bound `p`) is kept
  by each operation with its step on the bounds (`BdG.or`, `BdG.and`, `BdG.invert`, `BdG.seq`); `Run.bd`
  carries it along an operand list, `translate_bd` through `translate_ind`.
-/
import Pk.Proofs.Query.TermSound
import Pk.Proofs.Query.CleanTag
import Pk.Proofs.Query.CleanFlag
import Pk.Proofs.Query.CleanHost
import Pk.Proofs.Query.CleanData

namespace Pk.Query

def Cond.wt (x : Cond) : Nat := max 1 (Cond.invert x).length
/-- a bound for the number of conjuncts of the conjunct's negation (`length_flatMap_invert_le`) -/
def Conj.wt (c : Conj) : Nat := (c.map Cond.wt).sum

@[simp] theorem Conj.wt_nil : Conj.wt [] = 0 := rfl
@[simp] theorem Conj.wt_cons (x : Cond) (c : Conj) : Conj.wt (x :: c) = Cond.wt x + Conj.wt c := by
  simp [Conj.wt]
@[simp] theorem Conj.wt_append (a b : Conj) : Conj.wt (a ++ b) = Conj.wt a + Conj.wt b := by
  simp [Conj.wt, List.sum_append]

theorem Cond.wt_pos (x : Cond) : 1 ≤ Cond.wt x := by unfold Cond.wt; omega

theorem wt_eq (c : Conj) : Conj.wt c = wsum Cond.wt c := rfl
namespace Width
@[simp] theorem wt_tag (c : TagC) : Cond.wt (.tag c) = 1 := by simp [Cond.wt, Cond.invert]
@[simp] theorem wt_flag (c : FlagC) : Cond.wt (.flag c) = 1 := by simp [Cond.wt, Cond.invert]
@[simp] theorem wt_host (c : HostC) : Cond.wt (.host c) = 1 := by simp [Cond.wt, Cond.invert]
@[simp] theorem wt_time (c : TimeC) : Cond.wt (.time c) = 1 := by simp [Cond.wt, Cond.invert]
@[simp] theorem wt_num (c : NumC) : Cond.wt (.num c) = 1 := by simp [Cond.wt, Cond.invert]
@[simp] theorem wt_data (c : DataC) : Cond.wt (.data c) = max 1 c.els.length := by
  simp [Cond.wt, Cond.invert]
@[simp] theorem wt_impossible : Cond.wt .impossible = 1 := by simp [Cond.wt, Cond.invert]
end Width

/-- `K`: blow-up of the width by `Conj.clean`; `F`: width of the negation of a single condition -/
structure WidthLaws (K F : Nat) : Prop where
  clean_wt : ∀ c, Conj.OK c → Conj.wt (Conj.clean c) ≤ K * Conj.wt c + 1
  invert_wt : ∀ x, Cond.OK x → ∀ d ∈ Cond.invert x, Conj.wt d ≤ max F (Cond.wt x)
  oneK : 1 ≤ K
  oneF : 1 ≤ F

def Bd (cs : CSet) (p : Nat × Nat) : Prop := cs.length ≤ p.1 ∧ ∀ c ∈ cs, Conj.wt c ≤ p.2

def BdG (g : GSet) (p : Nat × Nat) : Prop := CSet.OK g.items ∧ Bd g.items p

def orB (p q : Nat × Nat) : Nat × Nat := (p.1 + q.1, max p.2 q.2)
def andB (K : Nat) (p q : Nat × Nat) : Nat × Nat := (p.1 * q.1, K * (p.2 + q.2) + 1)
def invB (F w : Nat) : Nat × Nat := (max 1 w, max F w)
def iterB (f : Nat × Nat → Nat × Nat) : Nat → Nat × Nat → Nat × Nat
  | 0, p => p
  | n + 1, p => iterB f n (f p)
/-- bound for the negation of a set with ≤ `p.1` conjuncts of width ≤ `p.2` -/
def notB (K F : Nat) (p : Nat × Nat) : Nat × Nat :=
  iterB (fun acc => andB K acc (invB F p.2)) p.1 (1, 0)

theorem Bd.mono {cs : CSet} {p q : Nat × Nat} (h : Bd cs p) (h1 : p.1 ≤ q.1) (h2 : p.2 ≤ q.2) :
    Bd cs q :=
  ⟨Nat.le_trans h.1 h1, fun c hc => Nat.le_trans (h.2 c hc) h2⟩

theorem Bd_nil (p : Nat × Nat) : Bd [] p := ⟨Nat.zero_le _, fun c hc => by cases hc⟩

theorem BdG_none (p : Nat × Nat) : BdG none p := ⟨CSet.OK_nil, Bd_nil p⟩

theorem BdG.mono {g : GSet} {p q : Nat × Nat} (h : BdG g p) (h1 : p.1 ≤ q.1) (h2 : p.2 ≤ q.2) : BdG g q :=
  ⟨h.1, h.2.mono h1 h2⟩

theorem Bd_append {a b : CSet} {p q : Nat × Nat} (ha : Bd a p) (hb : Bd b q) :
    Bd (a ++ b) (orB p q) := by
  constructor
  · simp only [List.length_append, orB]; have := ha.1; have := hb.1; omega
  · intro c hc
    simp only [orB]
    rcases List.mem_append.mp hc with h | h
    · have := ha.2 c h; omega
    · have := hb.2 c h; omega

theorem BdG.or {a b : GSet} {p q : Nat × Nat} (ha : BdG a p) (hb : BdG b q) : BdG (GSet.Or a b) (orB p q) :=
  ⟨or_ok a b ha.1 hb.1, or_items a b ▸ Bd_append ha.2 hb.2⟩

/-- the bound of AND and THEN on sets: the product of the counts, the width as `hw` says; `hl`, `hr`
    for a skipped operand -/
theorem lift2_bd {f : Conj → Conj → Conj} {a b : GSet} {p q r : Nat × Nat}
    (hl : p.1 ≤ r.1 ∧ p.2 ≤ r.2) (hr : q.1 ≤ r.1 ∧ q.2 ≤ r.2) (hn : p.1 * q.1 ≤ r.1)
    (hw : ∀ c1 ∈ a.items, ∀ c2 ∈ b.items, Conj.wt c1 ≤ p.2 → Conj.wt c2 ≤ q.2 → Conj.wt (f c1 c2) ≤ r.2)
    (ha : Bd a.items p) (hb : Bd b.items q) : Bd (GSet.lift2 f a b).items r := by
  refine GSet.lift2_ind (fun g => Bd g.items r) (ha.mono hl.1 hl.2) (hb.mono hr.1 hr.2) fun _ _ => ?_
  refine ⟨?_, fun c hc => ?_⟩
  · rw [GSet.items_some, pairs, Lib.length_flatMap_map]; exact Nat.le_trans (Nat.mul_le_mul ha.1 hb.1) hn
  · obtain ⟨c1, h1, c2, h2, rfl⟩ := mem_pairs.mp hc
    exact hw c1 h1 c2 h2 (ha.2 c1 h1) (hb.2 c2 h2)

theorem andB_left_le {K : Nat} (hK : 1 ≤ K) (p q : Nat × Nat) (hq : 1 ≤ q.1) :
    p.1 ≤ (andB K p q).1 ∧ p.2 ≤ (andB K p q).2 := by
  simp only [andB]
  constructor
  · exact Nat.le_mul_of_pos_right _ hq
  · have : 1 * (p.2 + q.2) ≤ K * (p.2 + q.2) := Nat.mul_le_mul_right _ hK
    omega

theorem andB_right_le {K : Nat} (hK : 1 ≤ K) (p q : Nat × Nat) (hp : 1 ≤ p.1) :
    q.1 ≤ (andB K p q).1 ∧ q.2 ≤ (andB K p q).2 := by
  simp only [andB]
  constructor
  · exact Nat.le_mul_of_pos_left _ hp
  · have : 1 * (p.2 + q.2) ≤ K * (p.2 + q.2) := Nat.mul_le_mul_right _ hK
    omega

theorem BdG.and (L : Laws) {K F : Nat} (W : WidthLaws K F) {a b : GSet} {p q : Nat × Nat}
    (hp : 1 ≤ p.1) (hq : 1 ≤ q.1) (ha : BdG a p) (hb : BdG b q) : BdG (GSet.And a b) (andB K p q) := by
  refine ⟨and_ok L a b ha.1 hb.1, ?_⟩
  rw [And_eq_lift2]
  refine lift2_bd (andB_left_le W.oneK p q hq) (andB_right_le W.oneK p q hp) (Nat.le_refl _)
    (fun c1 h1 c2 h2 h3 h4 => ?_) ha.2 hb.2
  have := W.clean_wt (c1 ++ c2) (Conj.OK_append.mpr ⟨ha.1 c1 h1, hb.1 c2 h2⟩)
  rw [Conj.wt_append] at this
  exact Nat.le_trans this (Nat.succ_le_succ (Nat.mul_le_mul_left K (Nat.add_le_add h3 h4)))

theorem length_flatMap_invert_le (c : Conj) : (c.flatMap Cond.invert).length ≤ Conj.wt c := by
  induction c with
  | nil => simp
  | cons x rest ih =>
    simp only [List.flatMap_cons, List.length_append, Conj.wt_cons]
    have : (Cond.invert x).length ≤ Cond.wt x := by unfold Cond.wt; omega
    omega

theorem BdG.conj_invert (L : Laws) {K F : Nat} (W : WidthLaws K F) {c : Conj} (ok : Conj.OK c)
    {w : Nat} (hw : Conj.wt c ≤ w) : BdG (Conj.invert c) (invB F w) := by
  refine ⟨(okInv L).conj_invert ok, ?_⟩
  by_cases hc : c = []
  · subst hc
    exact ⟨Nat.le_max_left _ _, fun d hd => by
      rw [List.mem_singleton.mp hd]; exact Nat.le_trans W.oneF (Nat.le_max_left _ _)⟩
  · rw [conj_invert_items c hc]
    refine ⟨Nat.le_trans (length_flatMap_invert_le c) (Nat.le_trans hw (Nat.le_max_right _ _)), fun d hd => ?_⟩
    obtain ⟨x, hx, hdx⟩ := List.mem_flatMap.mp hd
    exact Nat.le_trans (W.invert_wt x (ok x hx) d hdx) (Nat.max_le.mpr ⟨Nat.le_max_left _ _,
      Nat.le_trans (Nat.le_trans (wsum_mem Cond.wt hx) hw) (Nat.le_max_right _ _)⟩)

theorem invB_pos (F w : Nat) : 1 ≤ (invB F w).1 := by simp only [invB]; omega

theorem iterB_ge {K : Nat} (hK : 1 ≤ K) (q : Nat × Nat) (hq : 1 ≤ q.1) (n : Nat) (p : Nat × Nat) :
    p.1 ≤ (iterB (fun acc => andB K acc q) n p).1 ∧ p.2 ≤ (iterB (fun acc => andB K acc q) n p).2 := by
  induction n generalizing p with
  | zero => simp [iterB]
  | succ n ih =>
    simp only [iterB]
    have h1 := andB_left_le hK p q hq
    have h2 := ih (andB K p q)
    omega

theorem notB_pos {K : Nat} (hK : 1 ≤ K) (F : Nat) (p : Nat × Nat) : 1 ≤ (notB K F p).1 :=
  (iterB_ge hK _ (invB_pos F p.2) p.1 (1, 0)).1

theorem BdG.invert_fold (L : Laws) {K F : Nat} (W : WidthLaws K F) (w : Nat) (cs : CSet)
    (ok : CSet.OK cs) (hw : ∀ c ∈ cs, Conj.wt c ≤ w) (n : Nat) (hn : cs.length ≤ n) (acc : GSet)
    (p : Nat × Nat) (hp : 1 ≤ p.1) (hacc : BdG acc p) :
    BdG (cs.foldl (fun conds cc => GSet.And conds (Conj.invert cc)) acc)
      (iterB (fun a => andB K a (invB F w)) n p) := by
  induction cs generalizing acc p n with
  | nil =>
    have := iterB_ge W.oneK (invB F w) (invB_pos F w) n p
    exact hacc.mono this.1 this.2
  | cons c rest ih =>
    have ⟨okc, okr⟩ := CSet.OK_cons.mp ok
    cases n with
    | zero => simp at hn
    | succ n =>
      exact ih okr (fun c hc => hw c (by simp [hc])) n (by simpa using hn) _ _
        (Nat.le_trans hp (andB_left_le W.oneK p _ (invB_pos F w)).1)
        (hacc.and L W hp (invB_pos F w) (.conj_invert L W okc (hw c (by simp))))

theorem BdG.invert (L : Laws) {K F : Nat} (W : WidthLaws K F) {cs : CSet} {p : Nat × Nat}
    (h : BdG (some cs) p) : BdG (CSet.invert cs) (notB K F p) :=
  BdG.invert_fold L W p.2 cs h.1 h.2.2 p.1 h.2.1 (some []) (1, 0) (Nat.le_refl 1) ⟨CSet.OK_nil, Bd_nil _⟩

def seqB (p q : Nat × Nat) : Nat × Nat := (p.1 * q.1, p.2 + q.2 + 2 * p.2 * q.2)

theorem seqB_left_le (p q : Nat × Nat) (hq : 1 ≤ q.1) :
    p.1 ≤ (seqB p q).1 ∧ p.2 ≤ (seqB p q).2 := by
  simp only [seqB]
  exact ⟨Nat.le_mul_of_pos_right _ hq, by omega⟩

theorem seqB_right_le (p q : Nat × Nat) (hp : 1 ≤ p.1) :
    q.1 ≤ (seqB p q).1 ∧ q.2 ≤ (seqB p q).2 := by
  simp only [seqB]
  exact ⟨Nat.le_mul_of_pos_left _ hp, by omega⟩

namespace Seq

def nd (c : Conj) : Conj := c.filter (fun x => (Cond.data? x).isNone)
def dd (c : Conj) : List DataC := c.filterMap Cond.data?
def dwt (l : List DataC) : Nat := (l.map (fun d => max 1 d.els.length)).sum

@[simp] theorem dwt_nil : dwt [] = 0 := rfl

def dw (d : DataC) : Nat := max 1 d.els.length

theorem wt_split (c : Conj) : Conj.wt c = Conj.wt (Seq.nd c) + Seq.dwt (Seq.dd c) :=
  wsum_split Cond.data? Cond.wt dw (fun x y h => by cases x <;> cases h; exact Width.wt_data _) c

theorem len_le_dwt (l : List DataC) : l.length ≤ Seq.dwt l := by
  rw [length_eq_wsum]; exact wsum_mono fun d _ => Nat.le_max_left _ _

theorem wt_map_data (l : List DataC) : Conj.wt (l.map Cond.data) = Seq.dwt l := by
  rw [wt_eq, wsum_map]; exact congrArg (wsum · l) (funext Width.wt_data)

/-- the data conditions `Conj.seq` produces for one payload chain of the left operand -/
def row (bdcs : List DataC) (adc : DataC) : Conj :=
  let l := if adc.inv then adc.els.length - 1 else adc.els.length
  (if adc.inv then [Cond.data adc] else []) ++
    bdcs.map (fun bdc => Cond.data { els := adc.els.take l ++ bdc.els, inv := bdc.inv })

theorem seq_eq (a b : Conj) : Conj.seq a b =
    if Seq.dd a = [] ∨ Seq.dd b = [] then Seq.nd a ++ Seq.nd b ++ (Seq.dd a).map Cond.data ++ (Seq.dd b).map Cond.data
    else Seq.nd a ++ Seq.nd b ++ (Seq.dd a).flatMap (Seq.row (Seq.dd b)) := rfl

theorem pre_wt (d : DataC) : wsum Cond.wt (if d.inv then [Cond.data d] else []) ≤ dw d :=
  ite_cases (fun r => wsum Cond.wt r ≤ dw d) _ (fun _ => by rw [wsum_cons, Width.wt_data]; exact Nat.le_refl _) (fun _ => Nat.zero_le _)

theorem cell_wt (l : Nat) (d e : DataC) : Cond.wt (.data { els := d.els.take l ++ e.els, inv := e.inv }) ≤ dw d + dw e := by
  rw [Width.wt_data, List.length_append, List.length_take]
  exact Nat.max_le.mpr ⟨Nat.le_trans (Nat.le_max_left _ _) (Nat.le_add_right _ _),
    Nat.add_le_add (Nat.le_trans (Nat.min_le_right _ _) (Nat.le_max_right _ _)) (Nat.le_max_right _ _)⟩

theorem seq_arith {N M A B na nb : Nat} (ha : na ≤ A) (hb : nb ≤ B) :
    N + M + (A + nb * A + na * B) ≤ (N + A) + (M + B) + 2 * (N + A) * (M + B) := by
  have h1 : nb * A ≤ (N + A) * (M + B) := by
    rw [Nat.mul_comm]; exact Nat.mul_le_mul (Nat.le_add_left _ _) (Nat.le_trans hb (Nat.le_add_left _ _))
  have h2 : na * B ≤ (N + A) * (M + B) :=
    Nat.mul_le_mul (Nat.le_trans ha (Nat.le_add_left _ _)) (Nat.le_add_left _ _)
  rw [Nat.mul_assoc, Nat.two_mul]
  omega

theorem seq_wt (a b : Conj) :
    Conj.wt (Conj.seq a b) ≤ Conj.wt a + Conj.wt b + 2 * Conj.wt a * Conj.wt b := by
  rw [wt_split a, wt_split b, seq_eq]
  refine ite_cases (fun r => Conj.wt r ≤ _) _ (fun _ => ?_) (fun _ => ?_)
  · rw [Conj.wt_append, Conj.wt_append, Conj.wt_append, wt_map_data, wt_map_data]
    exact Nat.le_trans (Nat.le_of_eq (by omega)) (Nat.le_add_right _ _)
  · rw [Conj.wt_append, Conj.wt_append]
    exact Nat.le_trans (Nat.add_le_add_left (wsum_rows_le Cond.wt dw dw _ _ pre_wt (fun d => cell_wt _ d) _ _) _)
      (seq_arith (len_le_dwt _) (len_le_dwt _))

end Seq

theorem seqW_mono {a b p q : Nat} (h1 : a ≤ p) (h2 : b ≤ q) : a + b + 2 * a * b ≤ p + q + 2 * p * q :=
  Nat.add_le_add (Nat.add_le_add h1 h2) (Nat.mul_le_mul (Nat.mul_le_mul_left 2 h1) h2)

theorem BdG.seq (L : Laws) {a b : GSet} {p q : Nat × Nat} (hp : 1 ≤ p.1) (hq : 1 ≤ q.1)
    (ha : BdG a p) (hb : BdG b q) : BdG (GSet.seq a b) (seqB p q) :=
  ⟨(okInv L).gseq ha.1 hb.1, lift2_bd (seqB_left_le p q hq) (seqB_right_le p q hp) (Nat.le_refl _)
    (fun c1 _ c2 _ h3 h4 => Nat.le_trans (Seq.seq_wt c1 c2) (seqW_mono h3 h4)) ha.2 hb.2⟩

/-- count at least 1 (so that skipping an operand of AND never breaks the bound) -/
def normB (p : Nat × Nat) : Nat × Nat := (max 1 p.1, p.2)

/-- explicit bound (number of conjuncts, width) for the translation of an expression; `tb` bounds
    single terms.  The accumulator versions mirror `translateList`. -/
def dnfBoundWith (K F : Nat) (tb : Term → Nat × Nat) : Expr → Nat × Nat
  | .term t => normB (tb t)
  | .aux => (1, 0)
  | .not e => notB K F (dnfBoundWith K F tb e)
  | .grp e => dnfBoundWith K F tb e
  | .and es => andAll K F tb es (1, 0)
  | .or es => normB (orAll K F tb es (0, 0))
  | .seq es => seqAll K F tb es (1, 0)
where
  andAll (K F : Nat) (tb : Term → Nat × Nat) : List Expr → Nat × Nat → Nat × Nat
    | [], p => p
    | e :: es, p => andAll K F tb es (andB K p (dnfBoundWith K F tb e))
  orAll (K F : Nat) (tb : Term → Nat × Nat) : List Expr → Nat × Nat → Nat × Nat
    | [], p => p
    | e :: es, p => orAll K F tb es (orB p (dnfBoundWith K F tb e))
  seqAll (K F : Nat) (tb : Term → Nat × Nat) : List Expr → Nat × Nat → Nat × Nat
    | [], p => p
    | e :: es, p => seqAll K F tb es (seqB p (dnfBoundWith K F tb e))

def TermBound (ref : Int) (P : Term → Prop) (tb : Term → Nat × Nat) : Prop :=
  ∀ t cs, P t → trTerm ref t = .ok (some cs) → BdG (some cs) (tb t)

/-- the three accumulator bounds (`andAll`, `orAll`, `seqAll`) are folds of a step `opB` over the
    operands' bounds -/
structure FoldB (opB : Nat × Nat → Nat × Nat → Nat × Nat) (B : Expr → Nat × Nat)
    (F : List Expr → Nat × Nat → Nat × Nat) : Prop where
  nil : ∀ p, F [] p = p
  cons : ∀ e es p, F (e :: es) p = F es (opB p (B e))

theorem FoldB.pos {opB : Nat × Nat → Nat × Nat → Nat × Nat} {B : Expr → Nat × Nat}
    {F : List Expr → Nat × Nat → Nat × Nat} (hF : FoldB opB B F)
    (hmul : ∀ p q, 1 ≤ p.1 → 1 ≤ q.1 → 1 ≤ (opB p q).1) (es : List Expr)
    (h : ∀ e ∈ es, 1 ≤ (B e).1) (p : Nat × Nat) (hp : 1 ≤ p.1) : 1 ≤ (F es p).1 := by
  induction es generalizing p with
  | nil => rwa [hF.nil]
  | cons e rest ih =>
    rw [hF.cons]
    exact ih (fun e he => h e (List.mem_cons_of_mem _ he)) _ (hmul _ _ hp (h e List.mem_cons_self))

theorem dnfBoundWith_pos {K : Nat} (hK : 1 ≤ K) (F : Nat) (tb : Term → Nat × Nat) (e : Expr) :
    1 ≤ (dnfBoundWith K F tb e).1 := by
  induction e using exprInd with
  | term t => simp only [dnfBoundWith, normB]; omega
  | aux => simp [dnfBoundWith]
  | not _ _ => simp only [dnfBoundWith]; exact notB_pos hK F _
  | grp _ ih => simpa [dnfBoundWith] using ih
  | and es ih =>
    exact FoldB.pos (F := dnfBoundWith.andAll K F tb) ⟨fun _ => rfl, fun _ _ _ => rfl⟩
      (fun _ _ hp hq => Nat.mul_pos hp hq) es ih _ (Nat.le_refl 1)
  | or _ _ => simp only [dnfBoundWith, normB]; omega
  | seq es ih =>
    exact FoldB.pos (F := dnfBoundWith.seqAll K F tb) ⟨fun _ => rfl, fun _ _ _ => rfl⟩
      (fun _ _ hp hq => Nat.mul_pos hp hq) es ih _ (Nat.le_refl 1)

/-- the bound of an operand list, for a list operator `op` whose result is within the step `opB` of
    its operands' bounds; `Pos` is what the step needs of the bounds (a positive count, for AND and
    THEN, whose skipped nil operand must not shrink the bound) -/
theorem Run.bd {op : GSet → GSet → GSet} {opB : Nat × Nat → Nat × Nat → Nat × Nat} {B : Expr → Nat × Nat}
    {F : List Expr → Nat × Nat → Nat × Nat} (hF : FoldB opB B F) (Pos : Nat × Nat → Prop)
    (hB : ∀ e, Pos (B e))
    (hstep : ∀ {acc : GSet} {cs : CSet} {p q}, Pos p → Pos q → BdG acc p → BdG (some cs) q →
      BdG (op acc (some cs)) (opB p q))
    (hskip : ∀ {p q}, Pos p → Pos q → Pos (opB p q) ∧ p.1 ≤ (opB p q).1 ∧ p.2 ≤ (opB p q).2)
    {es : List Expr} {acc g : GSet} (r : Run (fun e g => BdG g (B e)) op es acc g) :
    ∀ p, Pos p → BdG acc p → BdG g (F es p) := by
  induction r with
  | nil => intro p _ h; rwa [hF.nil]
  | @skip e _ _ _ _ _ ih =>
    intro p hp h
    have hs := hskip hp (hB e)
    rw [hF.cons]; exact ih _ hs.1 (h.mono hs.2.1 hs.2.2)
  | @step e _ _ _ _ hq _ ih =>
    intro p hp h
    rw [hF.cons]; exact ih _ (hskip hp (hB e)).1 (hstep hp (hB e) h hq)

theorem translate_bd (L : Laws) {K F : Nat} (W : WidthLaws K F) (ref : Int) (P : Term → Prop)
    (tb : Term → Nat × Nat) (TB : TermBound ref P tb) (e : Expr) :
    TermsOf P e → ∀ (g : GSet), translate ref e = .ok g → BdG g (dnfBoundWith K F tb e) := by
  refine translate_ind (Q := fun e g => BdG g (dnfBoundWith K F tb e)) ?_ (BdG_none _) (fun _ _ => BdG_none _)
    (fun _ _ => .invert L W) (fun _ _ h => h) ?_ ?_ ?_ e
  · intro t g hp h
    cases g with
    | none => exact BdG_none _
    | some cs =>
      have := TB t cs hp h
      refine this.mono ?_ ?_ <;> simp only [dnfBoundWith, normB] <;> omega
  · intro es g r
    exact r.bd (F := dnfBoundWith.andAll K F tb) ⟨fun _ => rfl, fun _ _ _ => rfl⟩
      (fun p => 1 ≤ p.1) (dnfBoundWith_pos W.oneK F tb) (BdG.and L W)
      (fun hp hq => ⟨Nat.mul_pos hp hq, andB_left_le W.oneK _ _ hq⟩) (1, 0) (Nat.le_refl 1) (BdG_none _)
  · intro es g r
    have := r.bd (F := dnfBoundWith.orAll K F tb) ⟨fun _ => rfl, fun _ _ _ => rfl⟩
      (fun _ => True) (fun _ => trivial) (fun _ _ => BdG.or)
      (fun {p q} _ _ => ⟨trivial, Nat.le_add_right _ _, Nat.le_max_left _ _⟩) (0, 0) trivial (BdG_none _)
    refine this.mono ?_ ?_ <;> simp only [dnfBoundWith, normB] <;> omega
  · intro es g _ r
    exact r.bd (F := dnfBoundWith.seqAll K F tb) ⟨fun _ => rfl, fun _ _ _ => rfl⟩
      (fun p => 1 ≤ p.1) (dnfBoundWith_pos W.oneK F tb) (BdG.seq L)
      (fun hp hq => ⟨Nat.mul_pos hp hq, seqB_left_le _ _ hq⟩) (1, 0) (Nat.le_refl 1) (BdG_none _)


theorem dnf_size_bound_of_laws (L : Laws) {K F : Nat} (W : WidthLaws K F) (ref : Int) (P : Term → Prop)
    (tb : Term → Nat × Nat) (TB : TermBound ref P tb) (e : Expr)
    (hp : TermsOf P e) (cs : CSet) (h : translate ref e = .ok (some cs)) :
    cs.length ≤ (dnfBoundWith K F tb e).1 ∧ ∀ c ∈ cs, Conj.wt c ≤ (dnfBoundWith K F tb e).2 :=
  (translate_bd L W ref P tb TB e hp (some cs) h).2

namespace Width

theorem tagMerge_len (m : List TagC) (lc : TagC) (m' : List TagC) (h : tagMerge m lc = some m') :
    m'.length ≤ m.length + 1 := by
  induction m generalizing m' with
  | nil => simp [tagMerge] at h; subst h; simp
  | cons e es ih =>
    simp only [tagMerge] at h
    split at h
    · split at h
      · cases h
      · simp only [Option.some.injEq] at h; subst h; simp
    · obtain ⟨r', hr, rfl⟩ := Option.map_eq_some_iff.mp h
      have := ih r' hr
      simp only [List.length_cons]; omega

theorem tagFold_len (m l r : List TagC) (h : tagFold m l = some r) :
    r.length ≤ m.length + l.length := by
  induction l generalizing m with
  | nil => simp [tagFold] at h; subst h; simp
  | cons lc rest ih =>
    simp only [tagFold] at h
    split at h
    · cases h
    · split at h
      · cases h
      · next m' hm =>
        have h1 := tagMerge_len m lc m' hm
        have h2 := ih m' h
        simp only [List.length_cons]; omega

theorem cleanTag_len (l r : List TagC) (h : cleanTag l = some r) : r.length ≤ l.length := by
  unfold cleanTag at h
  cases hf : tagFold [] l with
  | none => simp [hf] at h
  | some m =>
    simp only [hf, Option.map_some, Option.some.injEq] at h
    subst h
    have := tagFold_len [] l m hf
    rw [length_isort]; simpa using this

/-! hosts, numbers, times, payload chains: the cleaned list is a sub-list of a permutation of the
normalised input (`cleanHost_sub` … in the Clean files) -/

theorem cleanHost_len (l r : List HostC) (h : cleanHost l = some r) : r.length ≤ l.length :=
  Nat.le_trans (cleanHost_sub l r h).length_le
    (Nat.le_trans (List.length_filter_le _ _) (Nat.le_of_eq (List.length_map _)))

theorem cleanNumber_len (l r : List NumC) (h : cleanNumber l = some r) : r.length ≤ l.length :=
  Nat.le_trans (cleanNumber_sub l r h).length_le (Nat.le_of_eq (List.length_map _))

theorem cleanTime_len (l r : List TimeC) (h : cleanTime l = some r) : r.length ≤ l.length :=
  Nat.le_trans (cleanTime_sub l r h).length_le (Nat.le_of_eq (List.length_map _))

def dataWt (l : List DataC) : Nat := (l.map (fun d => max 1 d.els.length)).sum

@[simp] theorem dataWt_nil : dataWt [] = 0 := rfl

theorem cleanData_wt (l r : List DataC) (h : cleanData l = some r) : dataWt r ≤ dataWt l :=
  (cleanData_sub l r h).sum_map_le _

/-! flags: a group emits at most the four sub-masks of its mask -/

theorem flagInfoAdd_len (infos : List FlagInfo) (sqs : List String) (fc : FlagC) :
    (flagInfoAdd infos sqs fc).length ≤ infos.length + 1 := by
  induction infos with
  | nil => exact Nat.le_refl _
  | cons i is ih =>
    rw [flagInfoAdd]
    exact ite_cases (fun l : List FlagInfo => l.length ≤ (i :: is).length + 1) _
      (fun _ => Nat.le_succ _) (fun _ => Nat.succ_le_succ ih)

theorem flagCollect_len (l : List FlagC) : ∀ (infos r : List FlagInfo), flagCollect infos l = some r →
    r.length ≤ infos.length + l.length := by
  induction l with
  | nil => intro infos r hr; cases hr; exact Nat.le_refl _
  | cons fc rest ih =>
    intro infos r hr
    rw [flagCollect] at hr
    by_cases hk : cancelPairs (isort (fun a b => decide (a < b)) fc.sqs) = []
    · rw [if_pos hk] at hr
      by_cases hz : fc.value &&& fc.mask = 0
      · rw [if_pos hz] at hr; cases hr
      · rw [if_neg hz] at hr
        exact Nat.le_trans (ih infos r hr) (Nat.add_le_add_left (Nat.le_succ _) _)
    · rw [if_neg hk] at hr
      have := ih _ r hr
      have := flagInfoAdd_len infos (cancelPairs (isort (fun a b => decide (a < b)) fc.sqs)) fc
      simp only [List.length_cons]; omega

theorem subMasksDesc_len : ∀ m : Fin 4, (subMasksDesc m.val).length ≤ 4 := by decide +kernel

theorem flagEmit_len (infos : List FlagInfo) (hw : ∀ i ∈ infos, CleanFlag.WFI i) :
    ∀ r, flagEmit infos = some r → r.length ≤ 4 * infos.length := by
  induction infos with
  | nil => intro r hr; cases hr; exact Nat.le_refl _
  | cons i is ih =>
    intro r hr
    have ih' := ih (fun x hx => hw x (List.mem_cons_of_mem _ hx))
    rw [flagEmit] at hr
    by_cases h0 : i.mask = 0
    · rw [if_pos h0] at hr
      by_cases hfb : i.forbidden 0 = true
      · rw [if_pos hfb] at hr; cases hr
      · rw [if_neg hfb] at hr
        have := ih' r hr
        simp only [List.length_cons]; omega
    · rw [if_neg h0] at hr
      obtain ⟨tl, htl, rfl⟩ := Option.map_eq_some_iff.mp hr
      have h1 := ih' tl htl
      have h2 : (subMasksDesc i.mask).length ≤ 4 :=
        subMasksDesc_len ⟨i.mask, (CleanFlag.info_key i (hw i List.mem_cons_self) 0).1⟩
      have h3 := List.length_filter_le i.forbidden (subMasksDesc i.mask)
      simp only [List.length_append, List.length_map, List.length_cons]
      omega

theorem cleanFlag_len (l r : List FlagC) (hl : ∀ fc ∈ l, fc.OK) (h : cleanFlag l = some r) :
    r.length ≤ 4 * l.length := by
  unfold cleanFlag at h
  split at h
  · cases h
  · next infos hc =>
    obtain ⟨r', he, rfl⟩ := Option.map_eq_some_iff.mp h
    have h1 := flagCollect_len l [] infos hc
    have h2 := flagEmit_len infos (CleanFlag.flagCollect_wf l hl [] (fun _ hi => by cases hi) infos hc) r' he
    rw [length_isort]
    simp only [List.length_nil, Nat.zero_add] at h1
    omega

theorem wt_map_one {α : Type} (f : α → Cond) (hf : ∀ a, Cond.wt (f a) = 1) (l : List α) :
    Conj.wt (l.map f) = l.length := by
  rw [wt_eq, wsum_map, length_eq_wsum]; exact congrArg (wsum · l) (funext hf)

theorem wt_split_le (c : Conj) :
    (c.filterMap Cond.tag?).length + (c.filterMap Cond.flag?).length +
      (c.filterMap Cond.host?).length + (c.filterMap Cond.num?).length +
      (c.filterMap Cond.time?).length + Width.dataWt (c.filterMap Cond.data?) ≤ Conj.wt c := by
  rw [length_eq_wsum, length_eq_wsum, length_eq_wsum, length_eq_wsum, length_eq_wsum]
  show _ + wsum Seq.dw _ ≤ _
  simp only [wsum_filterMap, ← wsum_add]
  refine wsum_mono fun x _ => ?_
  cases x with
  | data d => exact Nat.le_of_eq ((Nat.zero_add _).trans (Width.wt_data d).symm)
  | impossible => exact Nat.zero_le _
  | _ => exact Nat.le_refl _

theorem wt_assemble (l1 : List TagC) (l2 : List FlagC) (l3 : List HostC) (l4 : List NumC) (l5 : List TimeC)
    (l6 : List DataC) :
    Conj.wt (l1.map Cond.tag ++ l2.map Cond.flag ++ l3.map Cond.host ++ l4.map Cond.num ++ l5.map Cond.time ++
      l6.map Cond.data) = l1.length + l2.length + l3.length + l4.length + l5.length + Width.dataWt l6 := by
  rw [Conj.wt_append, Conj.wt_append, Conj.wt_append, Conj.wt_append, Conj.wt_append,
    wt_map_one _ Width.wt_tag, wt_map_one _ Width.wt_flag, wt_map_one _ Width.wt_host, wt_map_one _ Width.wt_num,
    wt_map_one _ Width.wt_time, Seq.wt_map_data]
  rfl

theorem clean_wt (c : Conj) (ok : Conj.OK c) : Conj.wt (Conj.clean c) ≤ 4 * Conj.wt c + 1 := by
  have himp : Conj.wt impossibleConj ≤ 4 * Conj.wt c + 1 := Nat.le_add_left _ _
  rw [conj_clean_eq]
  refine ite_cases (fun r => Conj.wt r ≤ 4 * Conj.wt c + 1) _ (fun _ => himp) fun _ => ?_
  rcases assemble_cases (cleanTag (c.filterMap Cond.tag?)) (cleanFlag (c.filterMap Cond.flag?))
      (cleanHost (c.filterMap Cond.host?)) (cleanNumber (c.filterMap Cond.num?))
      (cleanTime (c.filterMap Cond.time?)) (cleanData (c.filterMap Cond.data?)) with
    ⟨lcs, fcs, hcs, ncs, tcs, dcs, h1, h2, h3, h4, h5, h6, e⟩ | ⟨_, e⟩
  · rw [e, wt_assemble]
    refine Nat.le_succ_of_le (Nat.le_trans ?_ (Nat.mul_le_mul_left 4 (wt_split_le c)))
    have k : ∀ {a b : Nat}, a ≤ b → a ≤ 4 * b := fun h => Nat.le_trans h (Nat.le_mul_of_pos_left _ (by decide))
    simp only [Nat.mul_add]
    exact Nat.add_le_add (Nat.add_le_add (Nat.add_le_add (Nat.add_le_add (Nat.add_le_add
      (k (Width.cleanTag_len _ _ h1))
      (Width.cleanFlag_len _ _ (fun fc hfc => ok _ (mem_filterMap_flag.mp hfc)) h2))
      (k (Width.cleanHost_len _ _ h3))) (k (Width.cleanNumber_len _ _ h4))) (k (Width.cleanTime_len _ _ h5)))
      (k (Width.cleanData_wt _ _ h6))
  · rw [e]; exact himp

theorem flagInvertValues_len (value mask : Nat) (h : mask < 4) :
    (flagInvertValues value mask).length ≤ 4 := by
  unfold flagInvertValues
  simp only [List.length_append]
  have h1 := Lib.filter_disjoint_len (fun x => decide (x < value &&& mask))
    (fun x => decide (x > value &&& mask)) (subMasksDesc mask) (by
      intro x; simp only [decide_eq_true_eq]; omega)
  have h2 : (subMasksDesc mask).length ≤ 4 := subMasksDesc_len ⟨mask, h⟩
  omega

theorem invert_flag_wt (fc : FlagC) (hm : fc.mask < 4) :
    ∀ d ∈ Cond.invert (.flag fc), Conj.wt d ≤ 4 := by
  intro d hd
  simp only [Cond.invert, List.mem_cons, List.not_mem_nil, or_false] at hd
  subst hd
  rw [wt_map_one _ (fun v => wt_flag _)]
  exact flagInvertValues_len fc.value fc.mask hm

theorem invert_wt (x : Cond) (ok : Cond.OK x) : ∀ d ∈ Cond.invert x, Conj.wt d ≤ max 4 (Cond.wt x) := by
  intro d hd
  cases x with
  | tag c => simp [Cond.invert] at hd; subst hd; simp
  | flag c => exact Nat.le_trans (invert_flag_wt c ok.1 d hd) (Nat.le_max_left _ _)
  | host c => simp [Cond.invert] at hd; subst hd; simp
  | time c => simp [Cond.invert] at hd; subst hd; simp
  | num c => simp [Cond.invert] at hd; subst hd; simp
  | data c =>
    simp only [Cond.invert, List.mem_map, List.mem_range] at hd
    obtain ⟨i, hi, rfl⟩ := hd
    simp only [Conj.wt_cons, wt_data, Conj.wt_nil, List.length_take]
    omega
  | impossible => simp [Cond.invert] at hd; subst hd; simp

end Width

theorem widthLaws : WidthLaws 4 4 := ⟨Width.clean_wt, Width.invert_wt, by decide, by decide⟩

/-- explicit bound for a single term: number of list entries (times the number of directions for
    the `port`/`host`/`bytes`/`data` shorthands), width ≤ 4 -/
def termBound (t : Term) : Nat × Nat :=
  match t.value with
  | .tags names => (names.length, 1)
  | .protos l => (l.length, 4)
  | .hosts l => (2 * l.length, 1)
  | .nums l => (2 * l.length, 2)
  | .times l => (l.length, 2)
  | .data _ _ => (2, 1)
  | .other => (0, 0)

namespace Width

open TermSound in
theorem termBound_size (ref : Int) (t : Term) (cs : CSet) (h : trTerm ref t = .ok (some cs)) :
    Bd cs (termBound t) := by
  have hbound : ∀ (lo hi : Cond) (e0 e1 : Bool), Cond.wt lo = 1 → Cond.wt hi = 1 →
      Conj.wt ((if e0 then [] else [lo]) ++ (if e1 then [] else [hi])) ≤ 2 := by
    intro lo hi e0 e1 h1 h2
    cases e0 <;> cases e1 <;> simp [h1, h2]
  unfold trTerm at h
  split at h
  · cases h
  · unfold termBound
    split at h
    · next names hv =>
      simp only [Outcome.ok.injEq] at h
      rw [nilIfEmpty_some h, hv]
      refine ⟨by simp [trTags], fun c hc => ?_⟩
      obtain ⟨v, _, rfl⟩ := List.mem_map.mp hc
      simp
    · next l hv =>
      obtain ⟨ll, rfl, hll⟩ := trProtos_rows t wfEnv _ _ (liftSet_some h)
      have hlen := hll.length_eq
      rw [hv]
      have hr : ∀ row ∈ ll, row.length ≤ 1 ∧ ∀ c ∈ row, Conj.wt c ≤ 4 := by
        intro row hr
        obtain ⟨_, _, hp⟩ := hll.mem_right hr
        rcases hp.1 with rfl | ⟨sqs, f, _, rfl⟩
        · exact ⟨Nat.le_refl 1, fun c hc => by rw [List.mem_singleton.mp hc]; simp⟩
        · exact ⟨Nat.le_refl 1, invert_flag_wt _ (by decide : (3 : Nat) < 4)⟩
      refine ⟨by have := flatten_len_le ll 1 (fun r hr' => (hr r hr').1); simp only; omega, fun c hc => ?_⟩
      obtain ⟨row, hr', hcr⟩ := List.mem_flatten.mp hc
      exact (hr row hr').2 c hcr
    · next l hv =>
      have hm := trHosts_mem (liftSet_some h)
      rw [hv]
      refine ⟨hm.1, fun c hc => ?_⟩
      obtain ⟨server, e, _, he⟩ := hm.2 c hc
      obtain ⟨hc', rfl⟩ := trHostEntry_shape he
      simp
    · next l hv =>
      have hm := trNums_mem (liftSet_some h)
      rw [hv]
      refine ⟨hm.1, fun c hc => ?_⟩
      obtain ⟨e, _, b, ty, _, he⟩ := hm.2 c hc
      obtain ⟨lo, hi, _, _, rfl⟩ := numEntryFor_shape he
      exact hbound _ _ _ _ (wt_num _) (wt_num _)
    · next l hv =>
      have hm := trTimes_mem (liftSet_some h)
      rw [hv]
      refine ⟨hm.1, fun c hc => ?_⟩
      obtain ⟨e, _, he⟩ := hm.2 c hc
      obtain ⟨b, lo, hi, _, _, _, rfl⟩ := trTimeEntry_shape he
      exact hbound _ _ _ _ (wt_time _) (wt_time _)
    · next content vars hv =>
      simp only [Outcome.ok.injEq] at h
      rw [nilIfEmpty_some h, hv]
      refine ⟨by simpa [trData] using (dataFlags_len t.key).2, fun c hc => ?_⟩
      obtain ⟨v, _, rfl⟩ := List.mem_map.mp hc
      simp
    · cases h

end Width

/-- the explicit bound (number of conjuncts, width of a conjunct) of an expression:
    * a term: its number of list entries (×2 for the client/server shorthands), width ≤ 4;
    * OR: the sum of the counts, the maximum of the widths;
    * AND: the product of the counts, width `4·(w₁+w₂)+1`;
    * THEN: the product of the counts, width `w₁+w₂+2·w₁·w₂`;
    * NOT of `n` conjuncts of width `w`: `n`-fold AND of sets with `max 1 w` conjuncts of width
      `max 4 w`, i.e. at most `(max 1 w)^n` conjuncts. -/
def dnfBound (e : Expr) : Nat × Nat := dnfBoundWith 4 4 termBound e

/-- the only thing assumed about single terms: their conditions are well-shaped (`Cond.OK`) -/
def TermOK (ref : Int) (P : Term → Prop) : Prop :=
  ∀ t cs, P t → trTerm ref t = .ok (some cs) → CSet.OK cs

theorem TermOK_of_TermLaw (ref : Int) (P : Term → Prop) (T : TermLaw ref P) : TermOK ref P := by
  intro t cs hp h
  obtain ⟨cs', h1, _, h3, _⟩ := T t (some cs) wfEnv hp h
  cases h1
  exact h3

/-- the two bounds with the concrete constants (flag conditions on the two protocol bits:
    `Conj.clean` multiplies the width by at most 4, the negation of a condition has width ≤ 4) -/
theorem dnf_bound (L : Laws) (ref : Int) (P : Term → Prop) (hok : TermOK ref P) (e : Expr)
    (hp : TermsOf P e) (cs : CSet) (h : translate ref e = .ok (some cs)) :
    cs.length ≤ (dnfBound e).1 ∧ ∀ c ∈ cs, Conj.wt c ≤ (dnfBound e).2 :=
  dnf_size_bound_of_laws L widthLaws ref P termBound
    (fun t cs hpt ht => ⟨hok t cs hpt ht, Width.termBound_size ref t cs ht⟩) e hp cs h

/-- C14: the number of conjuncts after translation is at most `(dnfBound e).1` (and every conjunct
    has width at most `(dnfBound e).2`), for every expression of the grammar. -/
theorem dnf_size_bound (L : Laws) (ref : Int) (P : Term → Prop) (hok : TermOK ref P) (e : Expr)
    (hp : TermsOf P e) (cs : CSet) (h : translate ref e = .ok (some cs)) :
    cs.length ≤ (dnfBound e).1 :=
  (dnf_bound L ref P hok e hp cs h).1

theorem dnf_width_bound (L : Laws) (ref : Int) (P : Term → Prop) (hok : TermOK ref P) (e : Expr)
    (hp : TermsOf P e) (cs : CSet) (h : translate ref e = .ok (some cs)) :
    ∀ c ∈ cs, Conj.wt c ≤ (dnfBound e).2 :=
  (dnf_bound L ref P hok e hp cs h).2

/-- the count bound at a glance (sanity checks of the shape of `dnfBound`) -/
theorem dnfBound_or2 (a b : Expr) :
    (dnfBound (.or [a, b])).1 = max 1 ((dnfBound a).1 + (dnfBound b).1) := by
  simp [dnfBound, dnfBoundWith, dnfBoundWith.orAll, orB, normB]

theorem dnfBound_and2 (a b : Expr) :
    (dnfBound (.and [a, b])).1 = (dnfBound a).1 * (dnfBound b).1 := by
  simp [dnfBound, dnfBoundWith, dnfBoundWith.andAll, andB]

end Pk.Query
