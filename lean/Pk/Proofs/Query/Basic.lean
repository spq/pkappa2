/-
  What the per-kind files rest on: `Conj.clean` as the assembly of six per-kind results (`conj_clean_eq`,
  `assemble_cases`); the shape invariant `Cond.OK`; the common form of the per-kind cleaners, a first loop that
  sieves the normalised conditions, a sort, a pass over neighbours (`IsSieve`, `sortPass`, `IsDedup`; `Adj` is
  what insertion sort establishes between neighbours, `Subperm` what a cleaned list is of its input); `sumv`, the
  value of a summand list; a host condition on two operands as the masked comparison `maskedEq` of the surface
  semantics (`evalHost_pair`).
-/
import Pk.Model.Query.Sem
import Pk.Proofs.Lib

namespace Pk.Query

/-- `none` is the `impossible` result of a per-kind cleaner -/
def optAll {α : Type} (ev : α → Bool) : Option (List α) → Bool
  | some r => r.all ev
  | none => false

@[simp] theorem optAll_some {α : Type} (ev : α → Bool) (r : List α) : optAll ev (some r) = r.all ev := rfl
@[simp] theorem optAll_none {α : Type} (ev : α → Bool) : optAll ev none = false := rfl

theorem insertBy_perm {α : Type} (lt : α → α → Bool) (x : α) (l : List α) :
    (insertBy lt x l).Perm (x :: l) := by
  induction l with
  | nil => simp [insertBy]
  | cons y ys ih =>
    simp only [insertBy]
    split
    · exact (List.Perm.cons y ih).trans (List.Perm.swap x y ys)
    · exact List.Perm.refl _

theorem isort_perm {α : Type} (lt : α → α → Bool) (l : List α) : (isort lt l).Perm l := by
  induction l with
  | nil => simp [isort]
  | cons x xs ih =>
    have : isort lt (x :: xs) = insertBy lt x (isort lt xs) := rfl
    rw [this]
    exact (insertBy_perm lt x _).trans (List.Perm.cons x ih)

theorem insertBy_map {α : Type} (lt : α → α → Bool) (f : α → α) (h : ∀ a b, lt (f a) (f b) = lt a b)
    (x : α) (l : List α) : insertBy lt (f x) (l.map f) = (insertBy lt x l).map f := by
  induction l with
  | nil => rfl
  | cons y ys ih =>
    simp only [List.map_cons, insertBy, h]
    split
    · rw [ih]; rfl
    · rfl

theorem isort_map {α : Type} (lt : α → α → Bool) (f : α → α) (h : ∀ a b, lt (f a) (f b) = lt a b)
    (l : List α) : isort lt (l.map f) = (isort lt l).map f := by
  induction l with
  | nil => rfl
  | cons x xs ih =>
    have e1 : isort lt (x :: xs) = insertBy lt x (isort lt xs) := rfl
    have e2 : isort lt ((x :: xs).map f) = insertBy lt (f x) (isort lt (xs.map f)) := rfl
    rw [e1, e2, ih, insertBy_map lt f h]

theorem mem_isort {α : Type} (lt : α → α → Bool) (l : List α) (x : α) : x ∈ isort lt l ↔ x ∈ l :=
  (isort_perm lt l).mem_iff

theorem all_isort {α : Type} (lt : α → α → Bool) (l : List α) (p : α → Bool) :
    (isort lt l).all p = l.all p := by
  apply Bool.eq_iff_iff.mpr
  simp only [List.all_eq_true]
  constructor
  · intro h x hx; exact h x ((mem_isort lt l x).mpr hx)
  · intro h x hx; exact h x ((mem_isort lt l x).mp hx)

theorem length_isort {α : Type} (lt : α → α → Bool) (l : List α) : (isort lt l).length = l.length :=
  (isort_perm lt l).length_eq

theorem all_congr_mem {α : Type} {l : List α} {p q : α → Bool} (h : ∀ x ∈ l, p x = q x) : l.all p = l.all q := by
  induction l with
  | nil => rfl
  | cons a as ih => rw [List.all_cons, List.all_cons, h a List.mem_cons_self, ih (fun x hx => h x (List.mem_cons_of_mem _ hx))]

theorem any_congr_mem {α : Type} {l : List α} {p q : α → Bool} (h : ∀ x ∈ l, p x = q x) : l.any p = l.any q := by
  induction l with
  | nil => rfl
  | cons a as ih => rw [List.any_cons, List.any_cons, h a List.mem_cons_self, ih (fun x hx => h x (List.mem_cons_of_mem _ hx))]

theorem forall_mem_pair {α : Type} {P : α → Prop} {a b : α} (ha : P a) (hb : P b) : ∀ x ∈ [a, b], P x :=
  List.forall_mem_cons.mpr ⟨ha, List.forall_mem_singleton.mpr hb⟩

theorem all_and {α : Type} {l : List α} {p q : α → Bool} :
    (l.all p && l.all q) = l.all (fun a => p a && q a) := by
  induction l with
  | nil => rfl
  | cons a l ih => simp only [List.all_cons, ← ih, Bool.and_assoc, Bool.and_left_comm (l.all p)]

theorem optAll_map_cons {α : Type} (ev : α → Bool) (a : α) (o : Option (List α)) :
    optAll ev (o.map (a :: ·)) = (ev a && optAll ev o) := by
  cases o <;> simp

theorem and_small (x b n : Nat) (hb : b < 2 ^ n) : x &&& b = (x % 2 ^ n) &&& b := by
  have h1 : x &&& b < 2 ^ n := Nat.and_lt_two_pow x hb
  have h2 : (x &&& b) % 2 ^ n = (x % 2 ^ n) &&& (b % 2 ^ n) := Nat.and_mod_two_pow
  rw [Nat.mod_eq_of_lt h1, Nat.mod_eq_of_lt hb] at h2
  exact h2

theorem xorBytes_comm : ∀ a b : List Nat, xorBytes a b = xorBytes b a
  | [], [] => rfl
  | [], _ :: _ => rfl
  | _ :: _, [] => rfl
  | a :: as, b :: bs => by simp [xorBytes, Nat.xor_comm, xorBytes_comm as bs]

theorem mem_filterMap_inv {α β : Type} {f : α → Option β} {g : β → α} (h : ∀ x y, f x = some y ↔ x = g y)
    {l : List α} {y : β} : y ∈ l.filterMap f ↔ g y ∈ l := by
  simp only [List.mem_filterMap, h]
  exact ⟨fun ⟨_, hx, e⟩ => e ▸ hx, fun hy => ⟨_, hy, rfl⟩⟩

theorem mem_filterMap_flag {c : Conj} {f : FlagC} : f ∈ c.filterMap Cond.flag? ↔ Cond.flag f ∈ c :=
  mem_filterMap_inv (fun x y => by cases x <;> simp [Cond.flag?])
theorem mem_filterMap_host {c : Conj} {f : HostC} : f ∈ c.filterMap Cond.host? ↔ Cond.host f ∈ c :=
  mem_filterMap_inv (fun x y => by cases x <;> simp [Cond.host?])
theorem mem_filterMap_time {c : Conj} {f : TimeC} : f ∈ c.filterMap Cond.time? ↔ Cond.time f ∈ c :=
  mem_filterMap_inv (fun x y => by cases x <;> simp [Cond.time?])
theorem mem_filterMap_num {c : Conj} {f : NumC} : f ∈ c.filterMap Cond.num? ↔ Cond.num f ∈ c :=
  mem_filterMap_inv (fun x y => by cases x <;> simp [Cond.num?])
theorem mem_filterMap_data {c : Conj} {f : DataC} : f ∈ c.filterMap Cond.data? ↔ Cond.data f ∈ c :=
  mem_filterMap_inv (fun x y => by cases x <;> simp [Cond.data?])

theorem and_two_pow_ne_zero (x k : Nat) : ((x &&& 2 ^ k) != 0) = x.testBit k := by
  have hk : (x &&& 2 ^ k).testBit k = x.testBit k := by
    rw [Nat.testBit_and, Nat.testBit_two_pow_self, Bool.and_true]
  cases h : x.testBit k
  · have : x &&& 2 ^ k = 0 := Nat.eq_of_testBit_eq fun i => by
      rw [Nat.testBit_and, Nat.testBit_two_pow, Nat.zero_testBit]
      by_cases e : k = i
      · rw [← e, h]; rfl
      · rw [decide_eq_false e, Bool.and_false]
    rw [this]; rfl
  · rw [h] at hk
    exact bne_iff_ne.mpr fun e => by rw [e, Nat.zero_testBit] at hk; cases hk

theorem tagBit_pow (m u : Bool) : ∃ k, k < 4 ∧ tagBit m u = 2 ^ k := by
  cases m <;> cases u
  · exact ⟨1, by decide, rfl⟩
  · exact ⟨3, by decide, rfl⟩
  · exact ⟨0, by decide, rfl⟩
  · exact ⟨2, by decide, rfl⟩

theorem evalHost_flip (c : HostC) (ρ : Env) :
    evalHost { c with inv := !c.inv } ρ = !evalHost c ρ := by
  rw [evalHost, evalHost, show hostOperands { c with inv := !c.inv } ρ = hostOperands c ρ from rfl]
  cases hostOperands c ρ with
  | nil => rfl
  | cons h0 rest =>
    show (if _ then _ else _) = !(if _ then _ else _)
    rw [apply_ite (!·)]
    exact ite_congr rfl (fun _ => Bool.bne_not ..) (fun _ => rfl)

theorem maskedEq_comm (a b m4 m6 : List Nat) :
    maskedEq a b (if a.length = 16 then m6 else m4) = maskedEq b a (if b.length = 16 then m6 else m4) := by
  unfold maskedEq
  by_cases hl : a.length = b.length
  · rw [hl, xorBytes_comm]
  · rw [decide_eq_false (fun h => hl h.1), decide_eq_false (fun h => hl h.1.symm)]

/-- a host condition on two operands: a constant and a stream's address, or two streams' addresses -/
theorem evalHost_pair (c : HostC) (ρ : Env) {a b : List Nat} (h : hostOperands c ρ = [a, b]) :
    evalHost c ρ = (maskedEq a b (if a.length = 16 then c.m6 else c.m4) != c.inv) := by
  rw [evalHost, h, maskedEq]
  simp only [List.all_cons, List.all_nil, Bool.and_true, decide_eq_true_eq, List.foldl_cons, List.foldl_nil]
  by_cases hl : b.length = a.length
  · rw [if_pos hl, Bool.decide_and, decide_eq_true hl.symm, Bool.true_and, Bool.decide_eq_true]
  · rw [if_neg hl, decide_eq_false (fun h => hl h.1.symm), Bool.false_bne]

/-- the last step of `Conditions.clean`: the six cleaned lists side by side, or `impossible` -/
def Conj.assemble (o1 : Option (List TagC)) (o2 : Option (List FlagC)) (o3 : Option (List HostC))
    (o4 : Option (List NumC)) (o5 : Option (List TimeC)) (o6 : Option (List DataC)) : Conj :=
  match o1, o2, o3, o4, o5, o6 with
  | some lcs, some fcs, some hcs, some ncs, some tcs, some dcs =>
    lcs.map Cond.tag ++ fcs.map Cond.flag ++ hcs.map Cond.host ++ ncs.map Cond.num ++
      tcs.map Cond.time ++ dcs.map Cond.data
  | _, _, _, _, _, _ => impossibleConj

theorem conj_clean_eq (c : Conj) :
    Conj.clean c = if c.any (· = Cond.impossible) then impossibleConj else
      Conj.assemble (cleanTag (c.filterMap Cond.tag?)) (cleanFlag (c.filterMap Cond.flag?))
        (cleanHost (c.filterMap Cond.host?)) (cleanNumber (c.filterMap Cond.num?))
        (cleanTime (c.filterMap Cond.time?)) (cleanData (c.filterMap Cond.data?)) := rfl

theorem assemble_cases (o1 : Option (List TagC)) (o2 : Option (List FlagC)) (o3 : Option (List HostC))
    (o4 : Option (List NumC)) (o5 : Option (List TimeC)) (o6 : Option (List DataC)) :
    (∃ l1 l2 l3 l4 l5 l6, o1 = some l1 ∧ o2 = some l2 ∧ o3 = some l3 ∧ o4 = some l4 ∧ o5 = some l5 ∧
      o6 = some l6 ∧ Conj.assemble o1 o2 o3 o4 o5 o6 =
        l1.map Cond.tag ++ l2.map Cond.flag ++ l3.map Cond.host ++ l4.map Cond.num ++
          l5.map Cond.time ++ l6.map Cond.data) ∨
    ((o1 = none ∨ o2 = none ∨ o3 = none ∨ o4 = none ∨ o5 = none ∨ o6 = none) ∧
      Conj.assemble o1 o2 o3 o4 o5 o6 = impossibleConj) := by
  cases o1 with
  | none => exact Or.inr ⟨Or.inl rfl, rfl⟩
  | some l1 =>
  cases o2 with
  | none => exact Or.inr ⟨Or.inr (Or.inl rfl), rfl⟩
  | some l2 =>
  cases o3 with
  | none => exact Or.inr ⟨Or.inr (Or.inr (Or.inl rfl)), rfl⟩
  | some l3 =>
  cases o4 with
  | none => exact Or.inr ⟨Or.inr (Or.inr (Or.inr (Or.inl rfl))), rfl⟩
  | some l4 =>
  cases o5 with
  | none => exact Or.inr ⟨Or.inr (Or.inr (Or.inr (Or.inr (Or.inl rfl)))), rfl⟩
  | some l5 =>
  cases o6 with
  | none => exact Or.inr ⟨Or.inr (Or.inr (Or.inr (Or.inr (Or.inr rfl)))), rfl⟩
  | some l6 => exact Or.inl ⟨l1, l2, l3, l4, l5, l6, rfl, rfl, rfl, rfl, rfl, rfl, rfl⟩

def Cond.InCleaned (c : Conj) : Cond → Prop
  | .tag a => ∃ l, cleanTag (c.filterMap Cond.tag?) = some l ∧ a ∈ l
  | .flag a => ∃ l, cleanFlag (c.filterMap Cond.flag?) = some l ∧ a ∈ l
  | .host a => ∃ l, cleanHost (c.filterMap Cond.host?) = some l ∧ a ∈ l
  | .time a => ∃ l, cleanTime (c.filterMap Cond.time?) = some l ∧ a ∈ l
  | .num a => ∃ l, cleanNumber (c.filterMap Cond.num?) = some l ∧ a ∈ l
  | .data a => ∃ l, cleanData (c.filterMap Cond.data?) = some l ∧ a ∈ l
  | .impossible => True

theorem mem_clean_kind {c : Conj} {x : Cond} (h : x ∈ Conj.clean c) : x.InCleaned c := by
  have himp : x ∈ impossibleConj → x.InCleaned c := fun hx => by rw [List.mem_singleton.mp hx]; trivial
  rw [conj_clean_eq] at h
  by_cases hany : c.any (· = Cond.impossible) = true
  · rw [if_pos hany] at h; exact himp h
  · rw [if_neg hany] at h
    rcases assemble_cases _ _ _ _ _ _ with ⟨l1, l2, l3, l4, l5, l6, h1, h2, h3, h4, h5, h6, e⟩ | ⟨_, e⟩
    · rw [e] at h
      simp only [List.mem_append, List.mem_map] at h
      rcases h with ((((⟨a, ha, rfl⟩ | ⟨a, ha, rfl⟩) | ⟨a, ha, rfl⟩) | ⟨a, ha, rfl⟩) | ⟨a, ha, rfl⟩) |
        ⟨a, ha, rfl⟩
      · exact ⟨l1, h1, ha⟩
      · exact ⟨l2, h2, ha⟩
      · exact ⟨l3, h3, ha⟩
      · exact ⟨l4, h4, ha⟩
      · exact ⟨l5, h5, ha⟩
      · exact ⟨l6, h6, ha⟩
    · rw [e] at h; exact himp h

def Cond.kind : Cond → Nat
  | .tag _ => 0 | .flag _ => 1 | .host _ => 2 | .time _ => 3 | .num _ => 4 | .data _ => 5
  | .impossible => 6

theorem invert_kind {x y : Cond} {d : Conj} (hd : d ∈ Cond.invert x) (hy : y ∈ d) : y.kind = x.kind := by
  cases x with
  | flag c =>
    simp only [Cond.invert, List.mem_singleton] at hd
    subst hd
    obtain ⟨v, _, rfl⟩ := List.mem_map.mp hy
    rfl
  | data c =>
    obtain ⟨i, _, rfl⟩ := List.mem_map.mp hd
    rw [List.mem_singleton.mp hy]
    rfl
  | impossible =>
    rw [List.mem_singleton.mp hd] at hy
    cases hy
  | _ =>
    rw [List.mem_singleton.mp hd] at hy
    rw [List.mem_singleton.mp hy]
    rfl

export Pk.Lib (ite_cases wsum wsum_cons wsum_append wsum_map wsum_mono wsum_mem wsum_add wsum_const
  length_eq_wsum wsum_split wsum_filterMap wsum_rows_le)

theorem numKeyTypes_len (key : String) : 1 ≤ (numKeyTypes key).length ∧ (numKeyTypes key).length ≤ 2 := by
  unfold numKeyTypes
  iterate 6 (refine ite_cases (fun l : List NumType => 1 ≤ l.length ∧ l.length ≤ 2) _ (fun _ => by decide) fun _ => ?_)
  decide

theorem hostTypes_len (key : String) : 1 ≤ (hostTypes key).length ∧ (hostTypes key).length ≤ 2 := by
  unfold hostTypes
  iterate 2 (refine ite_cases (fun l : List Bool => 1 ≤ l.length ∧ l.length ≤ 2) _ (fun _ => by decide) fun _ => ?_)
  decide

theorem dataFlags_len (key : String) : 1 ≤ (dataFlags key).length ∧ (dataFlags key).length ≤ 2 := by
  unfold dataFlags
  iterate 2 (refine ite_cases (fun l : List Nat => 1 ≤ l.length ∧ l.length ≤ 2) _ (fun _ => by decide) fun _ => ?_)
  decide

theorem mapOutcome_ok {α β : Type} (f : α → Outcome β) :
    ∀ (l : List α) (r : List β), mapOutcome f l = .ok r → Index.All₂ (fun x y => f x = .ok y) l r
  | [], r, h => by
    simp only [mapOutcome, Outcome.ok.injEq] at h
    subst h; exact .nil
  | x :: xs, r, h => by
    simp only [mapOutcome] at h
    split at h
    · rename_i y hy
      split at h
      · rename_i ys hys
        simp only [Outcome.ok.injEq] at h
        subst h
        exact .cons hy (mapOutcome_ok f xs ys hys)
      all_goals cases h
    all_goals cases h

/-- the value of a list of summands; `numSumVal ρ`, `timeSumVal ρ` are instances by `rfl` -/
def sumv {σ : Type} (val : σ → Int) (l : List σ) : Int := (l.map val).sum

theorem sumv_append {σ : Type} (val : σ → Int) (a b : List σ) : sumv val (a ++ b) = sumv val a + sumv val b := by
  simp [sumv, List.sum_append]

theorem sumv_cons {σ : Type} (val : σ → Int) (a : σ) (b : List σ) : sumv val (a :: b) = val a + sumv val b := by
  simp [sumv]

theorem sumv_perm {σ : Type} (val : σ → Int) {a b : List σ} (h : a.Perm b) : sumv val a = sumv val b := by
  induction h with
  | nil => rfl
  | cons x _ ih => simp only [sumv_cons, ih]
  | swap x y l => simp only [sumv_cons]; omega
  | trans _ _ ih1 ih2 => exact ih1.trans ih2

theorem sumv_map_neg {σ : Type} (val : σ → Int) (g : σ → σ) (hg : ∀ s, val (g s) = - val s) (l : List σ) :
    sumv val (l.map g) = - sumv val l := by
  induction l with
  | nil => rfl
  | cons s l ih => rw [List.map_cons, sumv_cons, sumv_cons, ih, hg, Int.neg_add]

/-! `Cond.OK`: the shape of the conditions the term translation produces (`trTerm_soundV`), which every operation
(`Conj.clean`, `Cond.invert`, AND/OR/THEN) preserves. -/

/-- the parser builds flag conditions on the two protocol bits only (`mask < 4`); the forbidden value is a sub-mask
    of the mask (otherwise `v &&& mask = value` of cleanFlagConditions and `(x ^^^ value) &&& mask ≠ 0` disagree) -/
def FlagC.OK (f : FlagC) : Prop := f.mask < 4 ∧ f.value &&& f.mask = f.value

def HostC.OK (h : HostC) : Prop :=
  (h.srcs.length = 1 ∧ (h.host.length = 4 ∨ h.host.length = 16) ∨ h.srcs.length = 2 ∧ h.host = []) ∧
    h.m4.length = 4 ∧ h.m6.length = 16

def DataC.OK (d : DataC) : Prop := d.els ≠ []

def Cond.OK : Cond → Prop
  | .flag f => f.OK
  | .host h => h.OK
  | .data d => d.OK
  | _ => True

def Conj.OK (c : Conj) : Prop := ∀ x ∈ c, x.OK
def CSet.OK (cs : CSet) : Prop := ∀ c ∈ cs, Conj.OK c

inductive Verdict
  | reject
  | drop
  | keep
  deriving DecidableEq

/-- what a verdict claims about the value `orig` of the element looked at and the value `kept` of what
    is kept for it -/
def Verdict.Sound (v : Verdict) (kept orig : Bool) : Prop :=
  match v with
  | .reject => orig = false
  | .drop => orig = true
  | .keep => kept = orig

def Verdict.act {β : Type} (v : Verdict) (y : β) (tl : Option (List β)) : Option (List β) :=
  match v with
  | .reject => none
  | .drop => tl
  | .keep => tl.map (y :: ·)

theorem Verdict.act_ite {β : Type} (c : Prop) [Decidable c] (a b : Verdict) (y : β) (tl : Option (List β)) :
    (if c then a else b).act y tl = if c then a.act y tl else b.act y tl :=
  apply_ite (Verdict.act · y tl) c a b

/-- `f` is a loop that for each `x` looks at `g x` and, as `p (g x)` says, gives up with `none`, drops
    the element or keeps `g x` (`numFirst`, `numSigns`, `hostFirst`, `timeFirst`) -/
structure IsSieve {α β : Type} (g : α → β) (p : β → Verdict) (f : List α → Option (List β)) : Prop where
  nil : f [] = some []
  cons : ∀ x l, f (x :: l) = (p (g x)).act (g x) (f l)

theorem IsSieve.eq_filter {α β : Type} {g : α → β} {p : β → Verdict} {f : List α → Option (List β)}
    (h : IsSieve g p f) : ∀ l r, f l = some r → r = (l.map g).filter (fun y => p y = .keep)
  | [], r, hr => by rw [h.nil] at hr; cases hr; rfl
  | x :: l, r, hr => by
    rw [h.cons] at hr
    rw [List.map_cons, List.filter_cons]
    cases hp : p (g x) <;> rw [hp] at hr
    · cases hr
    · exact h.eq_filter l r hr
    · obtain ⟨r', hr', rfl⟩ := Option.map_eq_some_iff.mp hr
      rw [h.eq_filter l r' hr']; rfl

theorem IsSieve.sublist {α β : Type} {g : α → β} {p : β → Verdict} {f : List α → Option (List β)}
    (h : IsSieve g p f) {l : List α} {r : List β} (hr : f l = some r) : r.Sublist (l.map g) :=
  h.eq_filter l r hr ▸ List.filter_sublist

theorem IsSieve.sound {α β : Type} {g : α → β} {p : β → Verdict} {f : List α → Option (List β)}
    (h : IsSieve g p f) (ev : β → Bool) (ev' : α → Bool) :
    ∀ l : List α, (∀ x ∈ l, (p (g x)).Sound (ev (g x)) (ev' x)) → optAll ev (f l) = l.all ev'
  | [], _ => by rw [h.nil]; rfl
  | x :: l, hl => by
    have ih := h.sound ev ev' l fun y hy => hl y (List.mem_cons_of_mem _ hy)
    have hx := hl x List.mem_cons_self
    rw [h.cons, List.all_cons]
    cases hp : p (g x) <;> rw [hp] at hx
    · rw [show ev' x = false from hx]; rfl
    · rw [show ev' x = true from hx]; exact ih
    · rw [← show ev (g x) = ev' x from hx, ← ih]; exact optAll_map_cons ev _ _

namespace CleanNum

def Adj {α : Type} (R : α → α → Prop) : List α → Prop
  | [] => True
  | [_] => True
  | a :: b :: l => R a b ∧ Adj R (b :: l)

theorem adj_tail {α : Type} {R : α → α → Prop} {a : α} {l : List α} (h : Adj R (a :: l)) : Adj R l := by
  cases l with
  | nil => trivial
  | cons b l => exact h.2

theorem adj_insertBy_aux {α : Type} (lt : α → α → Bool) (R : α → α → Prop)
    (h1 : ∀ a b, lt a b = true → R a b) (h2 : ∀ a b, lt a b = false → R b a) (x : α) (ys : List α) :
    ∀ y, R y x → Adj R (y :: ys) → Adj R (y :: insertBy lt x ys) := by
  induction ys with
  | nil => intro y hyx _; exact ⟨hyx, trivial⟩
  | cons z zs ih =>
    intro y hyx hadj
    simp only [insertBy]
    split
    · rename_i hlt
      exact ⟨hadj.1, ih z (h1 z x hlt) hadj.2⟩
    · rename_i hlt
      exact ⟨hyx, h2 z x (by simpa using hlt), hadj.2⟩

theorem adj_insertBy {α : Type} (lt : α → α → Bool) (R : α → α → Prop)
    (h1 : ∀ a b, lt a b = true → R a b) (h2 : ∀ a b, lt a b = false → R b a) (x : α) (l : List α)
    (h : Adj R l) : Adj R (insertBy lt x l) := by
  cases l with
  | nil => trivial
  | cons y ys =>
    simp only [insertBy]
    split
    · rename_i hlt
      exact adj_insertBy_aux lt R h1 h2 x ys y (h1 y x hlt) h
    · rename_i hlt
      exact ⟨h2 y x (by simpa using hlt), h⟩

/-- insertion sort establishes between neighbours whatever both outcomes of the comparison imply;
    no transitivity of `lt` is needed -/
theorem adj_isort {α : Type} (lt : α → α → Bool) (R : α → α → Prop)
    (h1 : ∀ a b, lt a b = true → R a b) (h2 : ∀ a b, lt a b = false → R b a) (l : List α) :
    Adj R (isort lt l) := by
  induction l with
  | nil => trivial
  | cons x xs ih => exact adj_insertBy lt R h1 h2 x _ ih

end CleanNum

theorem lexCmp_refl {α : Type} (cmp : α → α → Ordering) (h : ∀ a, cmp a a = .eq) :
    ∀ l : List α, lexCmp cmp l l = .eq
  | [] => rfl
  | a :: as => by rw [lexCmp, h a]; exact lexCmp_refl cmp h as

theorem lexCmp_eq_of {α : Type} {cmp : α → α → Ordering} (h : ∀ a b, cmp a b = .eq → a = b) :
    ∀ a b : List α, lexCmp cmp a b = .eq → a = b
  | [], [], _ => rfl
  | [], _ :: _, e => by cases e
  | _ :: _, [], e => by cases e
  | x :: xs, y :: ys, e => by
    rw [lexCmp] at e
    cases hc : cmp x y <;> rw [hc] at e
    · cases e
    · rw [h x y hc, lexCmp_eq_of h xs ys e]
    · cases e

/-- `d` walks along a list and drops the later of two neighbours that `same` relates
    (`numDedup`, `timeDedup`) -/
structure IsDedup {α : Type} (same : α → α → Prop) [DecidableRel same] (d : α → List α → List α) : Prop where
  nil : ∀ a, d a [] = [a]
  cons : ∀ a b l, d a (b :: l) = if same a b then d a l else a :: d b l

theorem IsDedup.sublist {α : Type} {same : α → α → Prop} [DecidableRel same] {d : α → List α → List α}
    (h : IsDedup same d) : ∀ (l : List α) (a : α), (d a l).Sublist (a :: l)
  | [], a => by rw [h.nil]; exact List.Sublist.refl _
  | b :: l, a => by
    rw [h.cons]
    split
    · exact (h.sublist l a).trans (.cons_cons a (.cons b (.refl l)))
    · exact (h.sublist l b).cons_cons a

open CleanNum in
theorem IsDedup.all_eq {α : Type} {same : α → α → Prop} [DecidableRel same] {d : α → List α → List α}
    (h : IsDedup same d) (ev : α → Bool) (heuc : ∀ a b c, same a b → same a c → same b c) :
    ∀ (l : List α) (a : α), Adj (fun a b => same a b → ev a = true → ev b = true) (a :: l) →
      (d a l).all ev = (a :: l).all ev
  | [], a, _ => by rw [h.nil]
  | b :: l, a, hadj => by
    rw [h.cons]
    split
    · rename_i hs
      have hab := hadj.1 hs
      have hadj' : Adj (fun a b => same a b → ev a = true → ev b = true) (a :: l) := by
        cases l with
        | nil => trivial
        | cons c l => exact ⟨fun hac ha => hadj.2.1 (heuc a b c hs hac) (hab ha), hadj.2.2⟩
      rw [h.all_eq ev heuc l a hadj', List.all_cons, List.all_cons, List.all_cons]
      cases ha : ev a with
      | false => rfl
      | true => rw [hab ha]; rfl
    · rw [List.all_cons, h.all_eq ev heuc l b hadj.2]; rfl

theorem pass_sublist {α : Type} (d : α → List α → Option (List α)) (hnil : ∀ a, d a [] = some [a])
    (hcons : ∀ a b l, d a (b :: l) = none ∨ d a (b :: l) = d a l ∨ d a (b :: l) = d b l ∨
      d a (b :: l) = (d b l).map (a :: ·)) :
    ∀ (l : List α) (a : α) (r : List α), d a l = some r → r.Sublist (a :: l)
  | [], a, r, h => by rw [hnil] at h; cases h; exact .refl _
  | b :: l, a, r, h => by
    rcases hcons a b l with e | e | e | e <;> rw [e] at h
    · cases h
    · exact (pass_sublist d hnil hcons l a r h).trans (.cons_cons a (.cons b (.refl l)))
    · exact (pass_sublist d hnil hcons l b r h).cons a
    · obtain ⟨r', hr', rfl⟩ := Option.map_eq_some_iff.mp h
      exact (pass_sublist d hnil hcons l b r' hr').cons_cons a

def Subperm {α : Type} (r l : List α) : Prop := ∃ s, r.Sublist s ∧ s.Perm l

theorem Subperm.subset {α : Type} {r l : List α} (h : Subperm r l) : ∀ x ∈ r, x ∈ l := by
  obtain ⟨s, h1, h2⟩ := h
  exact fun x hx => h2.mem_iff.mp (h1.subset hx)

theorem Subperm.length_le {α : Type} {r l : List α} (h : Subperm r l) : r.length ≤ l.length := by
  obtain ⟨s, h1, h2⟩ := h
  exact h2.length_eq ▸ h1.length_le

theorem Subperm.sum_map_le {α : Type} {r l : List α} (h : Subperm r l) (w : α → Nat) :
    (r.map w).sum ≤ (l.map w).sum := by
  obtain ⟨s, h1, h2⟩ := h
  rw [← List.Perm.sum_nat (h2.map w)]
  clear h2
  induction h1 with
  | slnil => exact Nat.le_refl _
  | cons a _ ih => rw [List.map_cons, List.sum_cons]; exact Nat.le_trans ih (Nat.le_add_left _ _)
  | cons_cons a _ ih => rw [List.map_cons, List.map_cons, List.sum_cons, List.sum_cons]; exact Nat.add_le_add_left ih _

/-- what `cleanHost`, `cleanNumber`, `cleanTime`, `cleanData` do with the outcome of their first loop:
    sort, then a pass `d` over neighbours -/
def sortPass {α : Type} (lt : α → α → Bool) (d : α → List α → Option (List α)) :
    Option (List α) → Option (List α)
  | none => none
  | some l =>
    match isort lt l with
    | [] => some []
    | a :: rest => d a rest

/-- `S` is what sorting establishes and the pass relies on -/
theorem optAll_sortPass {α : Type} (ev : α → Bool) (lt : α → α → Bool) (S : List α → Prop)
    (d : α → List α → Option (List α)) (hS : ∀ l, S (isort lt l))
    (hd : ∀ a l, S (a :: l) → optAll ev (d a l) = (a :: l).all ev) :
    ∀ first, optAll ev (sortPass lt d first) = optAll ev first
  | none => rfl
  | some l => by
    have hs := hS l
    rw [optAll_some, ← all_isort lt l ev]
    rw [sortPass]
    generalize isort lt l = s at hs
    cases s with
    | nil => rfl
    | cons a rest => exact hd a rest hs

theorem subperm_sortPass {α : Type} (lt : α → α → Bool) (d : α → List α → Option (List α))
    (hd : ∀ a l r, d a l = some r → r.Sublist (a :: l)) {l m r : List α} (hl : l.Sublist m)
    (h : sortPass lt d (some l) = some r) : Subperm r m := by
  obtain ⟨t, ht⟩ := hl.exists_perm_append
  refine ⟨isort lt l ++ t, ?_, ((isort_perm lt l).append_right t).trans ht.symm⟩
  rw [sortPass] at h
  generalize isort lt l = s at h
  cases s with
  | nil => cases h; exact List.nil_sublist _
  | cons a rest => exact (hd a rest r h).trans (List.sublist_append_left _ _)

theorem IsSieve.subperm_sortPass {α β : Type} {g : α → β} {p : β → Verdict} {f : List α → Option (List β)}
    (h : IsSieve g p f) (lt : β → β → Bool) (d : β → List β → Option (List β))
    (hd : ∀ a l r, d a l = some r → r.Sublist (a :: l)) {l : List α} {m r : List β}
    (hm : ((l.map g).filter fun y => p y = .keep).Sublist m) (hr : sortPass lt d (f l) = some r) : Subperm r m := by
  cases hf : f l with
  | none => rw [hf] at hr; cases hr
  | some k => exact Query.subperm_sortPass lt d hd (h.eq_filter l k hf ▸ hm) (hf ▸ hr)

end Pk.Query
