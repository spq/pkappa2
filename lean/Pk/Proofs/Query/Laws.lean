/-
  Instantiation of the set-level results (SetLevel / SizeBound) with the per-kind lemmas:
  `laws : Laws`, `termLaw`, and the closed theorems for the fragment `Frag` / `Term.Frag`, with a concrete
  query (`Example`); for terms with variables and sub-queries (`Term.FragV`) `termLawV` and
  `translate_sound_fragV`, with examples of such terms (`ExampleV`).
-/
import Pk.Proofs.Query.CleanTag
import Pk.Proofs.Query.CleanNum
import Pk.Proofs.Query.CleanTime
import Pk.Proofs.Query.CleanFlag
import Pk.Proofs.Query.CleanHost
import Pk.Proofs.Query.CleanData
import Pk.Proofs.Query.Invert
import Pk.Proofs.Query.TermSound
import Pk.Proofs.Query.SizeBound

namespace Pk.Query

theorem evalConj_partition (c : Conj) (ρ : Env) :
    evalConj c ρ =
      ((!c.any (· = Cond.impossible)) &&
        (c.filterMap Cond.tag?).all (fun x => evalTag x ρ) &&
        (c.filterMap Cond.flag?).all (fun x => evalFlag x ρ) &&
        (c.filterMap Cond.host?).all (fun x => evalHost x ρ) &&
        (c.filterMap Cond.num?).all (fun x => evalNum x ρ) &&
        (c.filterMap Cond.time?).all (fun x => evalTime x ρ) &&
        (c.filterMap Cond.data?).all (fun x => evalData x ρ)) := by
  unfold evalConj
  rw [List.not_any_eq_all_not]
  simp only [List.all_filterMap, all_and]
  apply List.all_congr rfl
  intro x
  cases x <;> simp [evalCond, Cond.tag?, Cond.flag?, Cond.host?, Cond.num?, Cond.time?, Cond.data?]

theorem evalConj_map {α : Type} (f : α → Cond) (l : List α) (ρ : Env) :
    evalConj (l.map f) ρ = l.all (fun x => evalCond (f x) ρ) := by
  simp [evalConj, List.all_map, Function.comp_def]

theorem evalConj_assemble (ρ : Env) (o1 : Option (List TagC)) (o2 : Option (List FlagC))
    (o3 : Option (List HostC)) (o4 : Option (List NumC)) (o5 : Option (List TimeC))
    (o6 : Option (List DataC)) :
    evalConj (Conj.assemble o1 o2 o3 o4 o5 o6) ρ =
      (optAll (fun x => evalTag x ρ) o1 && optAll (fun x => evalFlag x ρ) o2 &&
        optAll (fun x => evalHost x ρ) o3 && optAll (fun x => evalNum x ρ) o4 &&
        optAll (fun x => evalTime x ρ) o5 && optAll (fun x => evalData x ρ) o6) := by
  rcases assemble_cases o1 o2 o3 o4 o5 o6 with
    ⟨l1, l2, l3, l4, l5, l6, rfl, rfl, rfl, rfl, rfl, rfl, h⟩ | ⟨hn, h⟩
  · rw [h]
    simp only [evalConj_append, evalConj_map, optAll_some]
    rfl
  · rw [h, evalConj_impossible]
    rcases hn with rfl | rfl | rfl | rfl | rfl | rfl <;> simp

theorem conj_clean_sound (c : Conj) (ρ : Env) (ok : Conj.OK c) (hρ : Env.WF ρ) :
    evalConj (Conj.clean c) ρ = evalConj c ρ := by
  rw [evalConj_partition c ρ, ← cleanTag_sound,
    ← cleanFlag_sound_ok _ ρ (fun f hf => ok _ (mem_filterMap_flag.mp hf)),
    ← cleanHost_sound_ok _ ρ (fun f hf => ok _ (mem_filterMap_host.mp hf)),
    ← cleanNumber_sound, ← cleanTime_sound _ ρ hρ, ← cleanData_sound', conj_clean_eq]
  split
  · next h => simp [h]
  · next h => simp only [h, evalConj_assemble, Bool.not_false, Bool.true_and, Bool.and_assoc]

theorem conj_clean_ok (c : Conj) (ok : Conj.OK c) : Conj.OK (Conj.clean c) := by
  intro x hx
  have := mem_clean_kind hx
  cases x with
  | flag a =>
    obtain ⟨l, hl, hm⟩ := this
    exact cleanFlag_ok _ (fun f hf => ok _ (mem_filterMap_flag.mp hf)) l hl a hm
  | host a =>
    obtain ⟨l, hl, hm⟩ := this
    exact cleanHost_ok _ (fun f hf => ok _ (mem_filterMap_host.mp hf)) l hl a hm
  | data a =>
    obtain ⟨l, hl, hm⟩ := this
    exact cleanData_ok _ (fun f hf => ok _ (mem_filterMap_data.mp hf)) l hl a hm
  | _ => trivial

theorem laws : Laws where
  clean_sound := conj_clean_sound
  clean_ok := conj_clean_ok
  invert_sound := invert_cond_sound_ok
  invert_ok := invert_cond_ok
  invert_ne_nil := invert_cond_ne_nil

theorem termLaw (ref : Int) : TermLaw ref Term.Frag :=
  fun t g ρ hf h => trTerm_sound ref t g ρ hf h

theorem translate_sound_frag (ref : Int) (e : Expr) (hf : Frag e) (hp : TermsOf Term.Frag e)
    (g : GSet) (h : translate ref e = .ok g) (ρ : Env) (hρ : Env.WF ρ) :
    ∃ cs, g = some cs ∧ cs ≠ [] ∧ CSet.OK cs ∧ evalSet cs ρ = evalExpr ref ρ e :=
  translate_sound laws ref Term.Frag (termLaw ref) e hf hp g h ρ hρ

theorem normalise_sound_frag (ref : Int) (e : Expr) (hf : Frag e) (hp : TermsOf Term.Frag e)
    (p : Parsed) (h : parse ref e = .ok p) (ρ : Env) (hρ : Env.WF ρ) (hid : Env.IdOK ρ) :
    evalParsed p ρ = evalExpr ref ρ e :=
  normalise_sound_of_laws laws ref Term.Frag (termLaw ref) e hf hp p h ρ hρ hid

theorem impossible_only_if_unsat_frag (ref : Int) (e : Expr) (hf : Frag e)
    (hp : TermsOf Term.Frag e) (h : parse ref e = .ok .nothing) (ρ : Env) (hρ : Env.WF ρ)
    (hid : Env.IdOK ρ) : evalExpr ref ρ e = false :=
  impossible_only_if_unsat_of_laws laws ref Term.Frag (termLaw ref) e hf hp h ρ hρ hid

theorem dnf_size_bound_frag (ref : Int) (e : Expr) (hp : TermsOf Term.Frag e) (cs : CSet)
    (h : translate ref e = .ok (some cs)) : cs.length ≤ (dnfBound e).1 :=
  dnf_size_bound laws ref Term.Frag (TermOK_of_TermLaw ref Term.Frag (termLaw ref)) e hp cs h

namespace Example

deriving instance DecidableEq for Parsed
deriving instance DecidableEq for Outcome

/-- `id:1,5:9` -/
def idTerm : Term :=
  { sq := "", key := "id", conv := "", value := .nums [[[.num "" 1]], [[.num "" 5], [.num "" 9]]] }
/-- `cport:80` -/
def portTerm : Term := { sq := "", key := "cport", conv := "", value := .nums [[[.num "" 80]]] }
/-- `protocol:tcp` -/
def protoTerm : Term := { sq := "", key := "protocol", conv := "", value := .protos [.token "tcp"] }
/-- `host:10.0.0.0/8` (address as produced by `net.ParseIP`) -/
def hostTerm : Term :=
  { sq := "", key := "host", conv := "",
    value := .hosts [{ var := none, host := [0,0,0,0,0,0,0,0,0,0,255,255,10,0,0,0], masks := some [8] }] }

theorem idTerm_frag : idTerm.Frag := by unfold Term.Frag idTerm; decide
theorem portTerm_frag : portTerm.Frag := by unfold Term.Frag portTerm; decide
theorem protoTerm_frag : protoTerm.Frag := by simp [Term.Frag, protoTerm]
theorem hostTerm_frag : hostTerm.Frag := by unfold Term.Frag hostTerm; decide

/-- `-(id:1,5:9) or (cport:80 host:10.0.0.0/8)` -/
def e0 : Expr := .or [.not (.grp (.term idTerm)), .grp (.and [.term portTerm, .term hostTerm])]

/-- `-(id:1,5:9) or (protocol:tcp host:10.0.0.0/8)` (`protoValue` uses `String.toLower`, which the
    kernel does not evaluate, so only `e0` is parsed by `decide`) -/
def e1 : Expr := .or [.not (.grp (.term idTerm)), .grp (.and [.term protoTerm, .term hostTerm])]

/-- `e0` and `e1` differ in one term -/
theorem frag_and_terms (p : Term) (hp : p.Frag) :
    Frag (.or [.not (.grp (.term idTerm)), .grp (.and [.term p, .term hostTerm])]) ∧
      TermsOf Term.Frag (.or [.not (.grp (.term idTerm)), .grp (.and [.term p, .term hostTerm])]) :=
  ⟨.or (List.cons_ne_nil _ _) (forall_mem_pair (.not (.grp (.term _)))
      (.grp (.and (List.cons_ne_nil _ _) (forall_mem_pair (.term _) (.term _))))),
   .or (forall_mem_pair (.not (.grp (.term idTerm_frag)))
      (.grp (.and (forall_mem_pair (.term hp) (.term hostTerm_frag)))))⟩

theorem e0_frag : Frag e0 := (frag_and_terms _ portTerm_frag).1
theorem e1_frag : Frag e1 := (frag_and_terms _ protoTerm_frag).1
theorem e0_terms : TermsOf Term.Frag e0 := (frag_and_terms _ portTerm_frag).2
theorem e1_terms : TermsOf Term.Frag e1 := (frag_and_terms _ protoTerm_frag).2

/-- the normal form of `e0`: `id ≤ 0 ∨ 2 ≤ id ≤ 4 ∨ id ≥ 10 ∨ (chost ∈ 10/8 ∧ cport = 80) ∨
    (shost ∈ 10/8 ∧ cport = 80)` -/
def p0 : Parsed := .set
  [[.num { sum := [{ sq := "", factor := -1, ty := 0 }], n := 0 }],
   [.num { sum := [{ sq := "", factor := -1, ty := 0 }], n := 4 },
    .num { sum := [{ sq := "", factor := 1, ty := 0 }], n := -2 }],
   [.num { sum := [{ sq := "", factor := 1, ty := 0 }], n := -10 }],
   [.host { srcs := [{ sq := "", server := false }], host := [10, 0, 0, 0], m4 := [255, 0, 0, 0],
            m6 := [255, 0, 0, 0, 0, 0, 0, 0, 0, 0, 0, 0, 0, 0, 0, 0], inv := false },
    .num { sum := [{ sq := "", factor := -1, ty := 3 }], n := 80 },
    .num { sum := [{ sq := "", factor := 1, ty := 3 }], n := -80 }],
   [.host { srcs := [{ sq := "", server := true }], host := [10, 0, 0, 0], m4 := [255, 0, 0, 0],
            m6 := [255, 0, 0, 0, 0, 0, 0, 0, 0, 0, 0, 0, 0, 0, 0, 0], inv := false },
    .num { sum := [{ sq := "", factor := -1, ty := 3 }], n := 80 },
    .num { sum := [{ sq := "", factor := 1, ty := 3 }], n := -80 }]]

theorem e0_parse : parse 0 e0 = .ok p0 := by decide +kernel

/-- `normalise_sound_frag` applies to a concrete query: the hypotheses are satisfiable -/
theorem e0_sound (ρ : Env) (hρ : Env.WF ρ) (hid : Env.IdOK ρ) :
    evalParsed p0 ρ = evalExpr 0 ρ e0 :=
  normalise_sound_frag 0 e0 e0_frag e0_terms p0 e0_parse ρ hρ hid

theorem e1_size (ref : Int) (cs : CSet) (h : translate ref e1 = .ok (some cs)) : cs.length ≤ 18 :=
  dnf_size_bound_frag ref e1 e1_terms cs h

end Example


theorem termLawV (ref : Int) : TermLaw ref Term.FragV :=
  fun t g ρ hf h => trTerm_soundV ref t g ρ hf h

theorem translate_sound_fragV (ref : Int) (e : Expr) (hf : Frag e) (hp : TermsOf Term.FragV e)
    (g : GSet) (h : translate ref e = .ok g) (ρ : Env) (hρ : Env.WF ρ) :
    ∃ cs, g = some cs ∧ cs ≠ [] ∧ CSet.OK cs ∧ evalSet cs ρ = evalExpr ref ρ e :=
  translate_sound laws ref Term.FragV (termLawV ref) e hf hp g h ρ hρ

namespace ExampleV

/-- `cport:@a:sport@+1:` -/
def portVar : Term :=
  { sq := "", key := "cport", conv := "", value := .nums [[[.var "" ⟨"a", "sport"⟩, .num "+" 1], []]] }
/-- `@b:ftime:@a:ltime@+1s` -/
def timeVar : Term :=
  { sq := "b", key := "ftime", conv := "", value := .times [[[.var "" ⟨"a", "ltime"⟩, .dur "+" 1000000000]]] }
/-- `chost:@a:shost@/24` -/
def hostVar : Term :=
  { sq := "", key := "chost", conv := "", value := .hosts [{ var := some ⟨"a", "shost"⟩, host := [], masks := some [24] }] }
/-- `protocol:@a:protocol@,udp` -/
def protoVar : Term :=
  { sq := "", key := "protocol", conv := "", value := .protos [.var ⟨"a", "protocol"⟩, .token "udp"] }

theorem portVar_fragV : portVar.FragV := by simp [Term.FragV, portVar]
theorem timeVar_fragV : timeVar.FragV := by simp [Term.FragV, timeVar]
theorem hostVar_fragV : hostVar.FragV := by simp [Term.FragV, hostVar]
theorem protoVar_fragV : protoVar.FragV := by simp [Term.FragV, protoVar]

/-- the hypothesis `trTerm ref t = .ok g` of `trTerm_soundV` is satisfiable for a term with a
    variable: `cport:@a:sport@+1:` becomes `cport - @a:sport - 1 ≥ 0` -/
theorem portVar_ok : trTerm 0 portVar = .ok (some
    [[.num { sum := [{ sq := "a", factor := -1, ty := 4 }, { sq := "", factor := 1, ty := 3 }], n := -1 }]]) := by
  decide

theorem portVar_sound (ρ : Env) (hρ : Env.WF ρ) :
    evalSet [[.num { sum := [{ sq := "a", factor := -1, ty := 4 }, { sq := "", factor := 1, ty := 3 }], n := -1 }]] ρ =
      evalTerm 0 portVar ρ := by
  have _ := hρ
  obtain ⟨cs, h1, _, _, h4⟩ := trTerm_soundV 0 portVar _ ρ portVar_fragV portVar_ok
  cases h1
  exact h4

theorem timeVar_ok : (match trTerm 0 timeVar with | .ok (some _) => true | _ => false) = true := by
  decide +kernel
theorem hostVar_ok : (match trTerm 0 hostVar with | .ok (some _) => true | _ => false) = true := by
  decide +kernel

end ExampleV

end Pk.Query
