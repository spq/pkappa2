/-
  Soundness of `cleanNumber` (cleanNumberConditions), and the shape `NumC.OK` (distinct keys, no zero factor) of the
  number conditions the parser builds: `cleanNumber` keeps it, and under it the divide-by-zero site `numNormSite`
  is not reached.
-/
import Pk.Proofs.Query.Basic

namespace Pk.Query

@[simp] theorem numSumVal_nil (ρ : Env) : numSumVal ρ [] = 0 := rfl

@[simp] theorem numSumVal_cons (ρ : Env) (s : NumSummand) (l : List NumSummand) :
    numSumVal ρ (s :: l) = s.factor * numVar (ρ s.sq) s.ty + numSumVal ρ l := by
  simp [numSumVal]

theorem numSumVal_perm (ρ : Env) {l₁ l₂ : List NumSummand} (h : l₁.Perm l₂) :
    numSumVal ρ l₁ = numSumVal ρ l₂ := sumv_perm _ h

theorem numVar_nonneg (s : Stream) (ty : NumType) : 0 ≤ numVar s ty := by
  unfold numVar
  iterate 5 refine ite_cases (0 ≤ ·) _ (fun _ => Int.natCast_nonneg _) fun _ => ?_
  exact Int.le_refl 0

theorem evalNum_eq (c : NumC) (ρ : Env) : evalNum c ρ = decide (0 ≤ c.n + numSumVal ρ c.sum) := rfl

theorem evalNum_congr (a b : NumC) (ρ : Env) (hn : a.n = b.n)
    (hs : numSumVal ρ a.sum = numSumVal ρ b.sum) : evalNum a ρ = evalNum b ρ := by
  rw [evalNum_eq, evalNum_eq, hn, hs]

theorem numMerge_val (ρ : Env) (a : NumSummand) (rest : List NumSummand) :
    numSumVal ρ (numMerge a rest) = numSumVal ρ (a :: rest) := by
  induction rest generalizing a with
  | nil => rfl
  | cons b rest ih =>
    rw [numMerge]
    refine ite_cases (numSumVal ρ · = _) _ (fun h => ?_) fun _ => ite_cases (numSumVal ρ · = _) _ (fun h0 => ?_) fun _ => ?_
    · rw [ih]
      simp only [numSumVal_cons]
      rw [h.1, h.2, Int.add_mul]; omega
    · rw [ih, numSumVal_cons ρ a, h0, Int.zero_mul, Int.zero_add]
    · rw [numSumVal_cons, ih, ← numSumVal_cons]

theorem numMerge_head (a : NumSummand) (rest : List NumSummand) :
    (∃ s, numMerge a rest = [s]) ∨ ∃ s0 more, numMerge a rest = s0 :: more ∧ s0.factor ≠ 0 := by
  induction rest generalizing a with
  | nil => exact Or.inl ⟨a, rfl⟩
  | cons b rest ih =>
    let P := fun m : List NumSummand => (∃ s, m = [s]) ∨ ∃ s0 more, m = s0 :: more ∧ s0.factor ≠ 0
    rw [numMerge]
    exact ite_cases P _ (fun _ => ih _) fun _ => ite_cases P _ (fun _ => ih _) fun h0 => Or.inr ⟨a, _, rfl, h0⟩

theorem searchDown_dvd (old f d : Nat) (hd : d ≠ 0) :
    searchDown old f d ∣ old ∧ searchDown old f d ∣ f := by
  induction d with
  | zero => exact absurd rfl hd
  | succ d ih =>
    cases d with
    | zero => exact ⟨Nat.one_dvd _, Nat.one_dvd _⟩
    | succ d =>
      simp only [searchDown]
      split
      · rename_i h
        exact ⟨Nat.dvd_of_mod_eq_zero h.1, Nat.dvd_of_mod_eq_zero h.2⟩
      · exact ih (Nat.succ_ne_zero d)

theorem cfStep_dvd (cf f : Nat) : cfStep cf f ∣ cf ∧ cfStep cf f ∣ f := by
  refine ite_cases (fun x => x ∣ cf ∧ x ∣ f) _ (fun h => ⟨Nat.dvd_refl _, Nat.dvd_of_mod_eq_zero h⟩) fun h1 =>
    ite_cases (fun x => x ∣ cf ∧ x ∣ f) _ (fun h => ⟨Nat.dvd_of_mod_eq_zero h, Nat.dvd_refl _⟩) fun h2 =>
      searchDown_dvd cf f (cf - 1) fun h => ?_
  -- `cf` is 0 or 1: the first or the second test would have succeeded
  rcases (by omega : cf = 0 ∨ cf = 1) with h0 | h0
  · subst h0; exact h2 (Nat.zero_mod f)
  · subst h0; exact h1 (Nat.mod_one f)

theorem cfLoop_dvd (cf : Nat) (l : List NumSummand) :
    cfLoop cf l ∣ cf ∧ ∀ s ∈ l, cfLoop cf l ∣ iabs s.factor := by
  induction l generalizing cf with
  | nil => exact ⟨Nat.dvd_refl _, fun _ h => absurd h List.not_mem_nil⟩
  | cons s rest ih =>
    simp only [cfLoop]
    split
    · exact ⟨Nat.one_dvd _, fun _ _ => Nat.one_dvd _⟩
    · have hs := cfStep_dvd cf (iabs s.factor)
      have hi := ih (cfStep cf (iabs s.factor))
      refine ⟨Nat.dvd_trans hi.1 hs.1, fun t ht => ?_⟩
      rcases List.mem_cons.mp ht with rfl | ht
      · exact Nat.dvd_trans hi.1 hs.2
      · exact hi.2 t ht

theorem natCast_dvd_of_dvd_iabs (c : Nat) (x : Int) (h : c ∣ iabs x) : (c : Int) ∣ x :=
  Int.dvd_natAbs.mp (Int.natCast_dvd_natCast.mpr h)

theorem common_factor_divides (s0 : NumSummand) (more : List NumSummand) :
    ∀ s ∈ s0 :: more, (cfLoop (iabs s0.factor) more : Int) ∣ s.factor := by
  intro s hs
  have h := cfLoop_dvd (iabs s0.factor) more
  rcases List.mem_cons.mp hs with rfl | hs
  · exact natCast_dvd_of_dvd_iabs _ _ h.1
  · exact natCast_dvd_of_dvd_iabs _ _ (h.2 s hs)

def numDiv (d : Int) (sum : List NumSummand) : List NumSummand :=
  sum.map (fun s => { s with factor := s.factor.tdiv d })

theorem numSumVal_div (ρ : Env) (d : Int) (hd : d ≠ 0) (sum : List NumSummand)
    (h : ∀ s ∈ sum, d ∣ s.factor) : numSumVal ρ sum = d * numSumVal ρ (numDiv d sum) := by
  induction sum with
  | nil => exact (Int.mul_zero d).symm
  | cons s rest ih =>
    obtain ⟨k, hk⟩ := h s (List.mem_cons_self)
    have ih' := ih (fun t ht => h t (List.mem_cons_of_mem _ ht))
    simp only [numDiv, List.map_cons, numSumVal_cons] at ih' ⊢
    rw [ih', hk, Int.mul_tdiv_cancel_left _ hd, Int.mul_add, Int.mul_assoc]

theorem evalNum_div (ρ : Env) (d : Int) (hd : 0 < d) (sum : List NumSummand) (n : Int)
    (hn : d ∣ n) (h : ∀ s ∈ sum, d ∣ s.factor) :
    evalNum { sum := numDiv d sum, n := n.tdiv d } ρ = evalNum { sum := sum, n := n } ρ := by
  have hd0 : d ≠ 0 := by omega
  obtain ⟨k, hk⟩ := hn
  simp only [evalNum_eq]
  rw [numSumVal_div ρ d hd0 sum h, hk, Int.mul_tdiv_cancel_left _ hd0, ← Int.mul_add]
  refine decide_eq_decide.mpr ⟨fun hx => Int.mul_nonneg (by omega) hx, fun hx => ?_⟩
  exact Int.not_lt.mp fun hneg => by have := Int.mul_neg_of_pos_of_neg hd hneg; omega

/-- the site predicate of the Go panic `f % commonFactor` with `commonFactor == 0`, for a whole
    condition: after sorting and merging the first summand has factor 0 -/
def numNormSite (nc : NumC) : Bool :=
  match isort numSumLt nc.sum with
  | [] => false
  | a :: rest => numDivZeroSite (numMerge a rest)

def numMerged (sum : List NumSummand) : List NumSummand :=
  match isort numSumLt sum with
  | [] => []
  | a :: rest => numMerge a rest

theorem numMerged_val (ρ : Env) (sum : List NumSummand) : numSumVal ρ (numMerged sum) = numSumVal ρ sum := by
  have hperm := numSumVal_perm ρ (isort_perm numSumLt sum)
  unfold numMerged
  generalize isort numSumLt sum = srt at hperm
  cases srt with
  | nil => exact hperm
  | cons a rest => exact (numMerge_val ρ a rest).trans hperm

def NumDivided (n : Int) (m : List NumSummand) (c : NumC) : Prop :=
  ∃ d : Int, 0 < d ∧ d ∣ n ∧ (∀ s ∈ m, d ∣ s.factor) ∧ c = { sum := numDiv d m, n := n.tdiv d }

theorem NumDivided.one (n : Int) (m : List NumSummand) : NumDivided n m { sum := m, n := n } := by
  refine ⟨1, by decide, Int.one_dvd _, fun _ _ => Int.one_dvd _, ?_⟩
  simp only [numDiv, Int.tdiv_one, List.map_id']

theorem numNorm_eq (nc : NumC) : NumDivided nc.n (numMerged nc.sum) (numNorm nc) := by
  unfold numNorm numMerged
  cases isort numSumLt nc.sum with
  | nil => exact .one _ _
  | cons a rest =>
    dsimp only
    cases numMerge a rest with
    | nil => exact .one _ _
    | cons s0 more =>
      dsimp only
      refine ite_cases (NumDivided nc.n (s0 :: more)) _ (fun _ => .one _ _) fun hz => ?_
      refine ite_cases (NumDivided nc.n (s0 :: more)) _ (fun _ => .one _ _) fun hcf1 => ?_
      have hcf0 : 0 < cfLoop (iabs s0.factor) more :=
        Nat.pos_of_dvd_of_pos (cfLoop_dvd (iabs s0.factor) more).1 (Int.natAbs_pos.mpr hz)
      have hdvd := common_factor_divides s0 more
      generalize cfLoop (iabs s0.factor) more = cf at hcf1 hcf0 hdvd
      have hfd : ∀ cf', cf' = (if iabs nc.n % cf ≠ 0 then searchDown cf (iabs nc.n) (cf - 1) else cf) →
          cf' ∣ cf ∧ cf' ∣ iabs nc.n := fun cf' e => e ▸
        ite_cases (fun x => x ∣ cf ∧ x ∣ iabs nc.n) _
          (fun _ => searchDown_dvd cf (iabs nc.n) (cf - 1) (by omega))
          (fun hmod => ⟨Nat.dvd_refl _, Nat.dvd_of_mod_eq_zero (Decidable.not_not.mp hmod)⟩)
      generalize (if iabs nc.n % cf ≠ 0 then searchDown cf (iabs nc.n) (cf - 1) else cf) = cf' at hfd
      obtain ⟨h1, h2⟩ := hfd cf' rfl
      exact ⟨cf', Int.natCast_pos.mpr (Nat.pos_of_dvd_of_pos h1 hcf0), natCast_dvd_of_dvd_iabs _ _ h2,
        fun s hs => Int.dvd_trans (Int.natCast_dvd_natCast.mpr h1) (hdvd s hs), rfl⟩

theorem numNorm_sound (nc : NumC) (ρ : Env) : evalNum (numNorm nc) ρ = evalNum nc ρ := by
  obtain ⟨d, hd, hn, hs, e⟩ := numNorm_eq nc
  rw [e, evalNum_div ρ d hd _ _ hn hs]
  exact evalNum_congr _ _ ρ rfl (numMerged_val ρ nc.sum)

/-- the side condition on the divide-by-zero site is not needed -/
theorem numNorm_sound_partial (nc : NumC) (ρ : Env) (_hsite : numNormSite nc = false ∨ 0 ≤ nc.n) :
    evalNum (numNorm nc) ρ = evalNum nc ρ := numNorm_sound nc ρ

/-- a condition without summands is a constant -/
def numVerdict (c : NumC) : Verdict :=
  if c.sum = [] then if c.n < 0 then .reject else .drop else .keep

theorem numFirst_sieve : IsSieve numNorm numVerdict numFirst where
  nil := rfl
  cons nc l := by rw [numFirst, numVerdict, Verdict.act_ite, Verdict.act_ite]; rfl

theorem numVerdict_sound (c : NumC) (ρ : Env) : (numVerdict c).Sound (evalNum c ρ) (evalNum c ρ) := by
  refine ite_cases (Verdict.Sound · _ _) _ (fun hnil => ?_) fun _ => rfl
  have hev : evalNum c ρ = decide (0 ≤ c.n) := by rw [evalNum_eq, hnil, numSumVal_nil, Int.add_zero]
  exact ite_cases (Verdict.Sound · _ _) _ (fun _ => hev.trans (decide_eq_false (by omega)))
    fun _ => hev.trans (decide_eq_true (by omega))

theorem numFirst_sound (ncs : List NumC) (ρ : Env) :
    optAll (fun c => evalNum c ρ) (numFirst ncs) = ncs.all (fun c => evalNum c ρ) :=
  numFirst_sieve.sound _ _ ncs fun nc _ => by
    rw [← numNorm_sound nc ρ]
    exact numVerdict_sound (numNorm nc) ρ

theorem cmpNumSummand_refl (a : NumSummand) : cmpNumSummand a a = .eq := by
  simp [cmpNumSummand]

theorem numLt_of_sum_eq {a b : NumC} (hs : a.sum = b.sum) : numLt a b = decide (a.n < b.n) := by
  unfold numLt
  rw [hs, lexCmp_refl _ cmpNumSummand_refl]
  simp

theorem evalNum_mono {a b : NumC} (ρ : Env) (hs : a.sum = b.sum) (hn : a.n ≤ b.n)
    (ha : evalNum a ρ = true) : evalNum b ρ = true := by
  simp only [evalNum_eq, hs, decide_eq_true_eq] at ha ⊢
  omega

theorem numDedup_isDedup : IsDedup (fun a b : NumC => a.sum = b.sum) numDedup :=
  ⟨fun _ => rfl, fun _ _ _ => rfl⟩

theorem numSumVal_nonneg (ρ : Env) (sum : List NumSummand)
    (h : sum.all (fun s => decide (¬ s.factor < 0)) = true) : 0 ≤ numSumVal ρ sum := by
  induction sum with
  | nil => exact Int.le_refl 0
  | cons s rest ih =>
    simp only [List.all_cons, Bool.and_eq_true, decide_eq_true_eq] at h
    have h1 := Int.mul_nonneg (Int.not_lt.mp h.1) (numVar_nonneg (ρ s.sq) s.ty)
    have h2 := ih h.2
    simp only [numSumVal_cons]; omega

theorem numSumVal_nonpos (ρ : Env) (sum : List NumSummand)
    (h : sum.all (fun s => decide (¬ s.factor > 0)) = true) : numSumVal ρ sum ≤ 0 := by
  induction sum with
  | nil => exact Int.le_refl 0
  | cons s rest ih =>
    simp only [List.all_cons, Bool.and_eq_true, decide_eq_true_eq] at h
    have h1 := Int.mul_nonpos_of_nonpos_of_nonneg (Int.not_lt.mp h.1) (numVar_nonneg (ρ s.sq) s.ty)
    have h2 := ih h.2
    simp only [numSumVal_cons]; omega

def signVerdict (c : NumC) : Verdict :=
  if numAllPositive c then .drop else if numAllNegative c then .reject else .keep

theorem numSigns_sieve : IsSieve id signVerdict numSigns where
  nil := rfl
  cons nc l := by rw [numSigns, signVerdict, Verdict.act_ite, Verdict.act_ite]; rfl

theorem signVerdict_sound (c : NumC) (ρ : Env) : (signVerdict c).Sound (evalNum c ρ) (evalNum c ρ) := by
  refine ite_cases (Verdict.Sound · _ _) _ (fun hp => ?_) fun _ =>
    ite_cases (Verdict.Sound · _ _) _ (fun hn => ?_) fun _ => rfl
  · simp only [numAllPositive, Bool.decide_and, Bool.and_eq_true, decide_eq_true_eq] at hp
    have := numSumVal_nonneg ρ c.sum hp.2
    exact decide_eq_true (by omega)
  · simp only [numAllNegative, Bool.decide_and, Bool.and_eq_true, decide_eq_true_eq] at hn
    have := numSumVal_nonpos ρ c.sum hn.2
    exact decide_eq_false (by omega)

theorem cleanNumber_eq (ncs : List NumC) :
    cleanNumber ncs = sortPass numLt (fun a rest => numSigns (numDedup a rest)) (numFirst ncs) := by
  unfold cleanNumber sortPass
  cases numFirst ncs with
  | none => rfl
  | some l =>
    dsimp only
    cases isort numLt l <;> rfl

open CleanNum in
theorem cleanNumber_sound (ncs : List NumC) (ρ : Env) :
    optAll (fun c => evalNum c ρ) (cleanNumber ncs) = ncs.all (fun c => evalNum c ρ) := by
  rw [cleanNumber_eq, ← numFirst_sound ncs ρ]
  refine optAll_sortPass _ numLt
    (Adj fun a b => a.sum = b.sum → evalNum a ρ = true → evalNum b ρ = true) _
    (adj_isort numLt _ ?_ ?_) ?_ _
  · intro a b h hs
    rw [numLt_of_sum_eq hs, decide_eq_true_eq] at h
    exact evalNum_mono ρ hs (by omega)
  · intro a b h hs
    rw [numLt_of_sum_eq hs.symm, decide_eq_false_iff_not] at h
    exact evalNum_mono ρ hs (by omega)
  · intro a l hadj
    rw [numSigns_sieve.sound (fun c => evalNum c ρ) (fun c => evalNum c ρ) _ fun c _ => signVerdict_sound c ρ]
    exact numDedup_isDedup.all_eq _ (fun _ _ _ h1 h2 => h1.symm.trans h2) l a hadj

/-- the side conditions on the divide-by-zero site are not needed -/
theorem cleanNumber_sound_partial (ncs : List NumC) (ρ : Env)
    (_hsite : ∀ nc ∈ ncs, numNormSite nc = false ∨ 0 ≤ nc.n) :
    optAll (fun c => evalNum c ρ) (cleanNumber ncs) = ncs.all (fun c => evalNum c ρ) :=
  cleanNumber_sound ncs ρ

theorem cleanNumber_sound_of_noSite (ncs : List NumC) (ρ : Env)
    (_hsite : ∀ nc ∈ ncs, numNormSite nc = false) :
    optAll (fun c => evalNum c ρ) (cleanNumber ncs) = ncs.all (fun c => evalNum c ρ) :=
  cleanNumber_sound ncs ρ

theorem cleanNumber_sub (ncs r : List NumC) (hr : cleanNumber ncs = some r) :
    Subperm r (ncs.map numNorm) :=
  numFirst_sieve.subperm_sortPass numLt _
    (fun a l _ h => (List.map_id _ ▸ numSigns_sieve.sublist h).trans (numDedup_isDedup.sublist l a))
    List.filter_sublist (cleanNumber_eq ncs ▸ hr)

/-- what the term translation produces (`Total.trTerm_numOK`) -/
def NumC.OK (nc : NumC) : Prop :=
  (nc.sum.map (fun s => (s.sq, s.ty))).Nodup ∧ ∀ s ∈ nc.sum, s.factor ≠ 0

def SumOK (l : List NumSummand) : Prop :=
  (l.map (fun s => (s.sq, s.ty))).Nodup ∧ ∀ s ∈ l, s.factor ≠ 0

theorem NumC.ok_iff (nc : NumC) : nc.OK ↔ SumOK nc.sum := Iff.rfl

theorem sumOK_perm {l₁ l₂ : List NumSummand} (h : l₁.Perm l₂) (h2 : SumOK l₂) : SumOK l₁ :=
  ⟨((h.map _).nodup_iff).mpr h2.1, fun s hs => h2.2 s (h.mem_iff.mp hs)⟩

theorem sumOK_tail {a : NumSummand} {l : List NumSummand} (h : SumOK (a :: l)) : SumOK l :=
  ⟨(List.nodup_cons.mp h.1).2, fun s hs => h.2 s (List.mem_cons_of_mem _ hs)⟩

theorem numMerge_of_ok (a : NumSummand) (rest : List NumSummand) (h : SumOK (a :: rest)) :
    numMerge a rest = a :: rest := by
  induction rest generalizing a with
  | nil => rfl
  | cons b rest ih =>
    have hkey : ¬ (a.sq = b.sq ∧ a.ty = b.ty) := fun hk =>
      (List.nodup_cons.mp h.1).1 (List.mem_cons.mpr (Or.inl (show (a.sq, a.ty) = (b.sq, b.ty) by rw [hk.1, hk.2])))
    have hf : a.factor ≠ 0 := h.2 a List.mem_cons_self
    simp only [numMerge, hkey, hf, if_false]
    rw [ih b (sumOK_tail h)]

theorem numMerged_of_ok (sum : List NumSummand) (h : SumOK sum) :
    numMerged sum = isort numSumLt sum ∧ SumOK (numMerged sum) := by
  have hs : SumOK (isort numSumLt sum) := sumOK_perm (isort_perm numSumLt sum) h
  unfold numMerged
  generalize isort numSumLt sum = srt at hs
  cases srt with
  | nil => exact ⟨rfl, hs⟩
  | cons a rest =>
    show numMerge a rest = a :: rest ∧ SumOK (numMerge a rest)
    rw [numMerge_of_ok a rest hs]
    exact ⟨rfl, hs⟩

theorem numNormSite_of_ok (nc : NumC) (h : nc.OK) : numNormSite nc = false := by
  have hm := numMerged_of_ok nc.sum h
  have e : numNormSite nc = numDivZeroSite (numMerged nc.sum) := by
    unfold numNormSite numMerged; split <;> rfl
  rw [e]
  generalize numMerged nc.sum = m at hm
  cases m with
  | nil => rfl
  | cons a rest => exact decide_eq_false (hm.2.2 a List.mem_cons_self)

theorem sumOK_map {l : List NumSummand} (h : SumOK l) (g : Int → Int) (hg : ∀ s ∈ l, g s.factor ≠ 0) :
    SumOK (l.map fun s => { s with factor := g s.factor }) := by
  refine ⟨?_, fun s' hs' => ?_⟩
  · rw [List.map_map]
    exact h.1
  · obtain ⟨s, hs, rfl⟩ := List.mem_map.mp hs'
    exact hg s hs

theorem sumOK_div (l : List NumSummand) (d : Int) (hd : d ≠ 0) (h : SumOK l)
    (hdvd : ∀ s ∈ l, d ∣ s.factor) : SumOK (numDiv d l) :=
  sumOK_map h (·.tdiv d) fun s hs => by
    obtain ⟨k, hk⟩ := hdvd s hs
    rw [hk, Int.mul_tdiv_cancel_left _ hd]
    intro hk0
    rw [hk0, Int.mul_zero] at hk
    exact h.2 s hs hk

theorem numNorm_ok (nc : NumC) (h : nc.OK) : (numNorm nc).OK := by
  obtain ⟨d, hd, _, hs, e⟩ := numNorm_eq nc
  rw [e]
  exact sumOK_div _ d (by omega) (numMerged_of_ok nc.sum h).2 hs

theorem cleanNumber_ok (ncs : List NumC) (h : ∀ nc ∈ ncs, nc.OK) (r : List NumC)
    (hr : cleanNumber ncs = some r) : ∀ nc ∈ r, nc.OK := by
  intro c hc
  obtain ⟨nc, hnc, rfl⟩ := List.mem_map.mp ((cleanNumber_sub ncs r hr).subset c hc)
  exact numNorm_ok nc (h nc hnc)

end Pk.Query
