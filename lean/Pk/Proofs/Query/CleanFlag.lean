/-
  `cleanFlag` (cleanFlagConditions) preserves the meaning of a conjunction of flag conditions that
  satisfy `FlagC.OK` (mask below 4, value a sub-mask of the mask; any list of sub-queries), and
  its output satisfies `FlagC.OK` again.
-/
import Pk.Proofs.Query.Invert

namespace Pk.Query

namespace CleanFlag

theorem and_lt4 (x m : Nat) (hm : m < 4) : x &&& m = (x % 4) &&& m :=
  and_small x m 2 hm

theorem xor_and_lt4 (x v m : Nat) (hm : m < 4) : (x ^^^ v) &&& m = ((x % 4) ^^^ (v % 4)) &&& m := by
  rw [and_small (x ^^^ v) m 2 hm, Nat.xor_mod_two_pow]

/-- a forbidden bitmap as four Booleans, so that `fin_key` quantifies over a finite type -/
def tbl (g0 g1 g2 g3 : Bool) (v : Nat) : Bool :=
  match v % 4 with
  | 0 => g0
  | 1 => g1
  | 2 => g2
  | _ => g3

/-- `FlagInfo.mask` as a function of the union `U` and the forbidden bitmap `G` -/
def maskGU (U : Nat) (G : Nat → Bool) : Nat :=
  ((List.range 16).filter (fun b => U.testBit b &&
    (subMasksDesc U).any (fun v => G v != G (v ^^^ 2 ^ b)))).foldl (fun m b => m ||| 2 ^ b) 0

/-- what the conditions emitted for a group with forbidden bitmap `G` and mask `m` say of the bits `x` -/
def emitVal (G : Nat → Bool) (m x : Nat) : Bool :=
  if m = 0 then !G 0
  else ((subMasksDesc m).filter G).all (fun v => ((x ^^^ (v % 4)) &&& m) != 0)

/-- The idea of the file: under `FlagC.OK` all masks are below 4, so what `FlagInfo.mask` (relevant-bit
    inference) and `flagEmit` do to one group is a statement about 4 unions, 16 bitmaps and 4 stream
    values, which the kernel decides; `info_key` transports it to a `FlagInfo`. -/
theorem fin_key : ∀ U : Fin 4, ∀ g0 g1 g2 g3 : Bool,
    (∀ v : Fin 4, tbl g0 g1 g2 g3 v.val = tbl g0 g1 g2 g3 (v.val &&& U.val)) →
    maskGU U.val (tbl g0 g1 g2 g3) < 4 ∧ ∀ x : Fin 4,
      emitVal (tbl g0 g1 g2 g3) (maskGU U.val (tbl g0 g1 g2 g3)) x.val = !tbl g0 g1 g2 g3 x.val := by
  decide +kernel

theorem or_and_fin : ∀ R u m : Fin 4, R.val &&& (u.val ||| m.val) = (u.val ||| m.val) →
    R.val &&& u.val = u.val ∧ R.val &&& m.val = m.val := by decide +kernel

/-- `sort.Strings` + removal of equal pairs: the grouping key of a condition -/
def skey (sqs : List String) : List String := cancelPairs (isort (fun a b => decide (a < b)) sqs)

theorem foldl_xor_cancelPairs (ρ : Env) (l : List String) (init : Nat) :
    (cancelPairs l).foldl (fun x s => x ^^^ (ρ s).flags) init = l.foldl (fun x s => x ^^^ (ρ s).flags) init := by
  fun_induction cancelPairs l generalizing init with
  | case1 a rest ih =>
    simp only [List.foldl_cons, Nat.xor_assoc, Nat.xor_self, Nat.xor_zero]
    exact ih init
  | case2 a b rest hne ih =>
    simp only [List.foldl_cons] at ih ⊢
    exact ih _
  | case3 l h => rfl

theorem xorFlags_skey (ρ : Env) (sqs : List String) : xorFlags ρ (skey sqs) = xorFlags ρ sqs := by
  unfold xorFlags skey
  rw [foldl_xor_cancelPairs]
  apply List.Perm.foldl_eq' (isort_perm _ sqs)
  intro x _ y _ z
  rw [Nat.xor_assoc, Nat.xor_assoc, Nat.xor_comm (ρ x).flags]

def WFI (i : FlagInfo) : Prop := ∀ fc ∈ i.conds, skey fc.sqs = i.sqs ∧ fc.OK

theorem forbidden_mod (i : FlagInfo) (hw : WFI i) (v : Nat) : i.forbidden v = i.forbidden (v % 4) :=
  any_congr_mem fun fc hfc => by rw [and_lt4 v fc.mask (hw fc hfc).2.1]

theorem forbidden_tbl (i : FlagInfo) (hw : WFI i) :
    i.forbidden = tbl (i.forbidden 0) (i.forbidden 1) (i.forbidden 2) (i.forbidden 3) := by
  funext v
  rw [forbidden_mod i hw v]
  unfold tbl
  have hlt : v % 4 < 4 := Nat.mod_lt _ (by decide)
  generalize v % 4 = r at hlt ⊢
  match r, hlt with
  | 0, _ => rfl
  | 1, _ => rfl
  | 2, _ => rfl
  | 3, _ => rfl

theorem union_facts (i : FlagInfo) (hw : WFI i) :
    i.union < 4 ∧ ∀ fc ∈ i.conds, i.union &&& fc.mask = fc.mask := by
  unfold FlagInfo.union
  have : ∀ (l : List FlagC) (u : Nat), (∀ fc ∈ l, fc.mask < 4) → u < 4 →
      l.foldl (fun u fc => u ||| (fc.mask % 65536)) u < 4 ∧
      l.foldl (fun u fc => u ||| (fc.mask % 65536)) u &&& u = u ∧
      ∀ fc ∈ l, l.foldl (fun u fc => u ||| (fc.mask % 65536)) u &&& fc.mask = fc.mask := by
    intro l
    induction l with
    | nil => exact fun u _ hu => ⟨hu, Nat.and_self u, fun _ h => absurd h List.not_mem_nil⟩
    | cons fc l ih =>
      intro u hl hu
      have hm : fc.mask < 4 := hl fc List.mem_cons_self
      have hmod : fc.mask % 65536 = fc.mask := Nat.mod_eq_of_lt (by omega)
      have hu' : u ||| fc.mask < 4 := Nat.or_lt_two_pow (n := 2) hu hm
      rw [List.foldl_cons, hmod]
      obtain ⟨h1, h2, h3⟩ := ih (u ||| fc.mask) (fun x hx => hl x (List.mem_cons_of_mem _ hx)) hu'
      have := or_and_fin ⟨_, h1⟩ ⟨u, hu⟩ ⟨fc.mask, hm⟩ h2
      refine ⟨h1, this.1, fun x hx => ?_⟩
      rcases List.mem_cons.mp hx with e | e
      · subst e; exact this.2
      · exact h3 x e
  have h := this i.conds 0 (fun fc hfc => (hw fc hfc).2.1) (by decide)
  exact ⟨h.1, h.2.2⟩

theorem forbidden_union (i : FlagInfo) (hw : WFI i) (v : Nat) :
    i.forbidden v = i.forbidden (v &&& i.union) :=
  any_congr_mem fun fc hfc => by rw [Nat.and_assoc, (union_facts i hw).2 fc hfc]

theorem info_key (i : FlagInfo) (hw : WFI i) (x : Nat) :
    i.mask < 4 ∧ emitVal i.forbidden i.mask (x % 4) = !i.forbidden x := by
  have hyp : ∀ v : Fin 4, i.forbidden v.val = i.forbidden (v.val &&& i.union) :=
    fun v => forbidden_union i hw v.val
  have hm : i.mask = maskGU i.union i.forbidden := rfl
  rw [forbidden_mod i hw x, hm]
  rw [forbidden_tbl i hw] at hyp ⊢
  obtain ⟨h1, h2⟩ := fin_key ⟨i.union, (union_facts i hw).1⟩ _ _ _ _ hyp
  exact ⟨h1, h2 ⟨x % 4, Nat.mod_lt _ (by decide)⟩⟩

theorem group_sem (i : FlagInfo) (ρ : Env) (hw : WFI i) :
    i.conds.all (fun fc => evalFlag fc ρ) = !i.forbidden (xorFlags ρ i.sqs) := by
  unfold FlagInfo.forbidden
  rw [List.all_eq_not_any_not]
  refine congrArg _ (any_congr_mem fun fc hfc => ?_)
  obtain ⟨h1, h2⟩ := hw fc hfc
  unfold evalFlag
  rw [← xorFlags_skey, h1, bne, Bool.not_not]
  apply Bool.eq_iff_iff.mpr
  rw [beq_iff_eq, decide_eq_true_eq, Invert.xor_and_eq_zero, h2.2]

theorem optAll_map_append {α : Type} (ev : α → Bool) (l : List α) (o : Option (List α)) :
    optAll ev (o.map (fun tl => l ++ tl)) = (l.all ev && optAll ev o) := by
  cases o <;> simp

theorem flagEmit_sound (ρ : Env) (infos : List FlagInfo) (hw : ∀ i ∈ infos, WFI i) :
    optAll (fun c => evalFlag c ρ) (flagEmit infos) =
      infos.all (fun i => i.conds.all (fun fc => evalFlag fc ρ)) := by
  induction infos with
  | nil => rfl
  | cons i is ih =>
    have hwi := hw i List.mem_cons_self
    have ih' := ih (fun x hx => hw x (List.mem_cons_of_mem _ hx))
    obtain ⟨hmlt, key⟩ := info_key i hwi (xorFlags ρ i.sqs)
    rw [List.all_cons, group_sem i ρ hwi, ← key, emitVal, flagEmit]
    by_cases h0 : i.mask = 0
    · rw [if_pos h0, if_pos h0]
      refine ite_cases (fun o => optAll _ o = _) _ (fun hf => ?_) fun hf => ?_
      · rw [hf]; rfl
      · rw [Bool.not_eq_true] at hf
        rw [ih', hf]; rfl
    · rw [if_neg h0, if_neg h0, optAll_map_append, ih', List.all_map]
      refine congrArg (· && _) (List.all_congr rfl fun v => ?_)
      show ((xorFlags ρ i.sqs ^^^ v) &&& i.mask != 0) = _
      rw [xor_and_lt4 _ _ _ hmlt]

theorem flagEmit_ok (infos : List FlagInfo) (hw : ∀ i ∈ infos, WFI i) :
    ∀ r, flagEmit infos = some r → ∀ f ∈ r, f.OK := by
  induction infos with
  | nil => intro r hr f hf; cases hr; cases hf
  | cons i is ih =>
    intro r hr f hf
    have hwi := hw i List.mem_cons_self
    have ih' := ih (fun x hx => hw x (List.mem_cons_of_mem _ hx))
    have hmlt := (info_key i hwi 0).1
    rw [flagEmit] at hr
    by_cases h0 : i.mask = 0
    · rw [if_pos h0] at hr
      by_cases hfb : i.forbidden 0 = true
      · rw [if_pos hfb] at hr; cases hr
      · rw [if_neg hfb] at hr; exact ih' r hr f hf
    · rw [if_neg h0] at hr
      obtain ⟨tl, htl, rfl⟩ := Option.map_eq_some_iff.mp hr
      rcases List.mem_append.mp hf with h | h
      · obtain ⟨v, hv, rfl⟩ := List.mem_map.mp h
        exact ⟨hmlt, (Invert.mem_subMasksDesc i.mask v (by omega)).mp (List.mem_filter.mp hv).1⟩
      · exact ih' tl htl f h

theorem flagInfoAdd_wf (infos : List FlagInfo) (fc : FlagC) (hf : fc.OK)
    (hw : ∀ i ∈ infos, WFI i) : ∀ i ∈ flagInfoAdd infos (skey fc.sqs) fc, WFI i := by
  induction infos with
  | nil =>
    intro i hi x hx
    cases List.mem_singleton.mp hi
    cases List.mem_singleton.mp hx
    exact ⟨rfl, hf⟩
  | cons j js ih =>
    intro i hi
    rw [flagInfoAdd] at hi
    by_cases hj : j.sqs = skey fc.sqs
    · rw [if_pos hj] at hi
      rcases List.mem_cons.mp hi with h | h
      · subst h
        intro x hx
        rcases List.mem_append.mp hx with hx | hx
        · exact hw j List.mem_cons_self x hx
        · cases List.mem_singleton.mp hx; exact ⟨hj.symm, hf⟩
      · exact hw i (List.mem_cons_of_mem _ h)
    · rw [if_neg hj] at hi
      rcases List.mem_cons.mp hi with h | h
      · subst h; exact hw _ List.mem_cons_self
      · exact ih (fun x hx => hw x (List.mem_cons_of_mem _ hx)) i h

theorem flagInfoAdd_sem (ev : FlagC → Bool) (infos : List FlagInfo) (sqs : List String) (fc : FlagC) :
    (flagInfoAdd infos sqs fc).all (fun i => i.conds.all ev) =
      (infos.all (fun i => i.conds.all ev) && ev fc) := by
  induction infos with
  | nil => simp [flagInfoAdd]
  | cons j js ih =>
    rw [flagInfoAdd]
    refine ite_cases (fun l : List FlagInfo => l.all _ = _) _ (fun _ => ?_) fun _ => ?_
    · simp only [List.all_cons, List.all_append, List.all_nil, Bool.and_true]
      cases j.conds.all ev <;> cases ev fc <;> simp
    · rw [List.all_cons, ih, List.all_cons, Bool.and_assoc]

theorem evalFlag_nil_key (fc : FlagC) (ρ : Env) (hk : skey fc.sqs = []) :
    evalFlag fc ρ = ((fc.value &&& fc.mask) != 0) := by
  unfold evalFlag
  rw [← xorFlags_skey, hk]
  simp [xorFlags]

theorem flagCollect_wf (fcs : List FlagC) (hf : ∀ f ∈ fcs, f.OK) :
    ∀ infos : List FlagInfo, (∀ i ∈ infos, WFI i) →
      ∀ infos', flagCollect infos fcs = some infos' → ∀ i ∈ infos', WFI i := by
  induction fcs with
  | nil => intro infos hw infos' h; cases h; exact hw
  | cons fc rest ih =>
    intro infos hw infos' h
    have ihr := ih (fun f h => hf f (List.mem_cons_of_mem _ h))
    rw [flagCollect, ← skey] at h
    by_cases hk : skey fc.sqs = []
    · rw [if_pos hk] at h
      by_cases hz : fc.value &&& fc.mask = 0
      · rw [if_pos hz] at h; cases h
      · rw [if_neg hz] at h; exact ihr infos hw infos' h
    · rw [if_neg hk] at h
      exact ihr _ (flagInfoAdd_wf infos fc (hf fc List.mem_cons_self) hw) infos' h

theorem flagCollect_sound (ρ : Env) (fcs : List FlagC) : ∀ infos : List FlagInfo,
    optAll (fun i => i.conds.all (fun c => evalFlag c ρ)) (flagCollect infos fcs) =
      (infos.all (fun i => i.conds.all (fun c => evalFlag c ρ)) && fcs.all (fun c => evalFlag c ρ)) := by
  induction fcs with
  | nil => intro infos; rw [flagCollect, List.all_nil, Bool.and_true]; rfl
  | cons fc rest ih =>
    intro infos
    rw [flagCollect, ← skey, List.all_cons]
    by_cases hk : skey fc.sqs = []
    · rw [if_pos hk, evalFlag_nil_key fc ρ hk]
      by_cases hz : fc.value &&& fc.mask = 0
      · rw [if_pos hz, hz]; simp
      · rw [if_neg hz, ih, bne_iff_ne.mpr hz, Bool.true_and]
    · rw [if_neg hk, ih, flagInfoAdd_sem, Bool.and_assoc]

end CleanFlag

open CleanFlag

theorem cleanFlag_sound_ok (fcs : List FlagC) (ρ : Env) (h : ∀ f ∈ fcs, f.OK) :
    optAll (fun c => evalFlag c ρ) (cleanFlag fcs) = fcs.all (fun c => evalFlag c ρ) := by
  have hc := flagCollect_sound ρ fcs []
  have hwf := flagCollect_wf fcs h [] (fun _ hi => absurd hi List.not_mem_nil)
  unfold cleanFlag
  cases hcol : flagCollect [] fcs with
  | none => rw [hcol] at hc; exact hc
  | some infos =>
    rw [hcol] at hc
    dsimp only
    rw [← hc.trans (Bool.true_and _), optAll_some, ← flagEmit_sound ρ infos (hwf infos hcol)]
    cases flagEmit infos with
    | none => rfl
    | some r => exact all_isort flagLt r _

theorem cleanFlag_ok (fcs : List FlagC) (h : ∀ f ∈ fcs, f.OK) (r : List FlagC)
    (hr : cleanFlag fcs = some r) : ∀ f ∈ r, f.OK := by
  have hwf := flagCollect_wf fcs h [] (fun _ hi => absurd hi List.not_mem_nil)
  unfold cleanFlag at hr
  cases hcol : flagCollect [] fcs with
  | none => rw [hcol] at hr; cases hr
  | some infos =>
    rw [hcol] at hr
    obtain ⟨r', he, rfl⟩ := Option.map_eq_some_iff.mp hr
    exact fun f hf => flagEmit_ok infos (hwf infos hcol) r' he f ((mem_isort _ _ _).mp hf)

/-- protocol conditions (`protocol:x`, `protocol:@sub:protocol`, and their negations); the
    restriction to one sub-query is not needed -/
theorem cleanFlag_sound_partial (fcs : List FlagC) (ρ : Env)
    (h : ∀ f ∈ fcs, f.mask = 3 ∧ f.value < 4 ∧ f.sqs.length = 1) :
    optAll (fun c => evalFlag c ρ) (cleanFlag fcs) = fcs.all (fun c => evalFlag c ρ) := by
  refine cleanFlag_sound_ok fcs ρ fun f hf => ?_
  obtain ⟨h1, h2, _⟩ := h f hf
  refine ⟨by omega, ?_⟩
  rw [h1, Nat.and_two_pow_sub_one_eq_mod f.value 2]
  omega

end Pk.Query
