/-
  Set-level soundness of the query normaliser, relative to the per-kind laws (`Laws`):
  OR / AND / NOT / THEN on condition sets, `ConditionsSet.Clean`, `finish`, and the recursive
  translation.

  `translate_ind` is the one induction over the recursive translation: what holds of the results of
  terms and is kept by NOT, AND, OR, THEN holds of every successful run.  Soundness (`translate_goodT`)
  carries `Good g b ρ`, a non-empty set of well-shaped conjuncts with value `b`; `ConjInv Q` is what makes
  a property `Q` of conjuncts an invariant of all of these operations (`ConjInv.translate_all`).

  THEN with several operands: the surface meaning `evalExprT` of such a node is *defined* as the
  value of the sequencing combination (`GSet.seq`) of its operands' translations; everything above
  and around THEN nodes is Boolean.  `translate_goodT` is the compiler theorem for the fragment
  `FragT`; on `Frag` (THEN with one operand only) `evalExprT` is `evalExpr`.

  Everything that goes through the simple-ID fast path of `CSet.Clean` carries the hypothesis
  `Env.IdOK ρ`, without which it is false (`C03.simpleID_needs_idOK`); the general path
  (`Clean_sound_partial`) needs no bound.
-/
import Pk.Proofs.Query.Basic

namespace Pk.Query

/-- the per-kind facts; proved in Laws.lean (`laws`) -/
structure Laws : Prop where
  clean_sound : ∀ (c : Conj) (ρ : Env), Conj.OK c → Env.WF ρ → evalConj (Conj.clean c) ρ = evalConj c ρ
  clean_ok : ∀ (c : Conj), Conj.OK c → Conj.OK (Conj.clean c)
  invert_sound : ∀ (c : Cond) (ρ : Env), c.OK → evalSet (Cond.invert c) ρ = !evalCond c ρ
  invert_ok : ∀ (c : Cond), c.OK → CSet.OK (Cond.invert c)
  invert_ne_nil : ∀ (c : Cond), c.OK → Cond.invert c ≠ []

@[simp] theorem evalConj_nil (ρ : Env) : evalConj [] ρ = true := rfl
@[simp] theorem evalConj_cons (x : Cond) (c : Conj) (ρ : Env) :
    evalConj (x :: c) ρ = (evalCond x ρ && evalConj c ρ) := by simp [evalConj]
@[simp] theorem evalConj_append (a b : Conj) (ρ : Env) :
    evalConj (a ++ b) ρ = (evalConj a ρ && evalConj b ρ) := by simp [evalConj, List.all_append]
@[simp] theorem evalSet_nil (ρ : Env) : evalSet [] ρ = false := rfl
@[simp] theorem evalSet_cons (c : Conj) (cs : CSet) (ρ : Env) :
    evalSet (c :: cs) ρ = (evalConj c ρ || evalSet cs ρ) := by simp [evalSet]
@[simp] theorem evalSet_append (a b : CSet) (ρ : Env) :
    evalSet (a ++ b) ρ = (evalSet a ρ || evalSet b ρ) := by simp [evalSet, List.any_append]
@[simp] theorem evalConj_impossible (ρ : Env) : evalConj impossibleConj ρ = false := by
  simp [impossibleConj, evalCond]

@[simp] theorem GSet.items_none : GSet.items none = [] := rfl
@[simp] theorem GSet.items_some (l : CSet) : GSet.items (some l) = l := rfl

theorem items_nilIfEmpty (l : CSet) : (nilIfEmpty l).items = l := by
  unfold nilIfEmpty
  split
  · next h => simp [h]
  · rfl

theorem liftSet_ok {o : Outcome CSet} {g : GSet} (h : liftSet o = .ok g) :
    ∃ cs, o = .ok cs ∧ g = nilIfEmpty cs := by
  cases o <;> simp [liftSet] at h
  exact ⟨_, rfl, h.symm⟩

theorem nilIfEmpty_ne {cs : CSet} (h : cs ≠ []) : nilIfEmpty cs = some cs := by
  simp [nilIfEmpty, h]

theorem nilIfEmpty_some {l cs : CSet} (h : nilIfEmpty l = some cs) : cs = l := by
  unfold nilIfEmpty at h
  split at h
  · cases h
  · exact (Option.some.inj h).symm

theorem liftSet_some {o : Outcome CSet} {cs : CSet} (h : liftSet o = .ok (some cs)) : o = .ok cs := by
  obtain ⟨l, rfl, hl⟩ := liftSet_ok h
  rw [nilIfEmpty_some hl.symm]

theorem Conj.OK_nil : Conj.OK [] := by intro x hx; cases hx
theorem Conj.OK_cons {x : Cond} {c : Conj} : Conj.OK (x :: c) ↔ x.OK ∧ Conj.OK c := by
  simp [Conj.OK]
theorem Conj.OK_append {a b : Conj} : Conj.OK (a ++ b) ↔ Conj.OK a ∧ Conj.OK b := by
  simp only [Conj.OK, List.forall_mem_append]
theorem CSet.OK_nil : CSet.OK [] := by intro x hx; cases hx
theorem CSet.OK_cons {c : Conj} {cs : CSet} : CSet.OK (c :: cs) ↔ Conj.OK c ∧ CSet.OK cs := by
  simp [CSet.OK]
theorem CSet.OK_append {a b : CSet} : CSet.OK (a ++ b) ↔ CSet.OK a ∧ CSet.OK b := by
  simp only [CSet.OK, List.forall_mem_append]
theorem Conj.OK_impossible : Conj.OK impossibleConj := by
  intro x hx
  simp [impossibleConj] at hx
  subst hx
  trivial

theorem or_items (a b : GSet) : (GSet.Or a b).items = a.items ++ b.items :=
  items_nilIfEmpty _

theorem or_sound (a b : GSet) (ρ : Env) :
    evalSet (GSet.Or a b).items ρ = (evalSet a.items ρ || evalSet b.items ρ) := by
  rw [or_items, evalSet_append]

theorem or_ne_nil_right (a b : GSet) (hb : b.items ≠ []) : (GSet.Or a b).items ≠ [] := by
  rw [or_items]; simp [hb]

theorem or_ne_nil_left (a b : GSet) (ha : a.items ≠ []) : (GSet.Or a b).items ≠ [] := by
  rw [or_items]; simp [ha]

theorem and_left_empty (a b : GSet) (ha : a.items = []) : GSet.And a b = b := by
  simp [GSet.And, ha]

theorem and_right_empty (a b : GSet) (ha : a.items ≠ []) (hb : b.items = []) : GSet.And a b = a := by
  simp [GSet.And, ha, hb]

theorem and_eq (a b : GSet) (ha : a.items ≠ []) (hb : b.items ≠ []) :
    GSet.And a b = some (CSet.andPairs a.items b.items) := by
  simp [GSet.And, ha, hb]

theorem then_left_empty (a b : GSet) (ha : a.items = []) : GSet.seq a b = b := by
  simp [GSet.seq, ha]

/-- the conjuncts AND and THEN build: one for every pair of the operands' conjuncts -/
def pairs (f : Conj → Conj → Conj) (a b : CSet) : CSet := a.flatMap fun c1 => b.map (f c1)

/-- the common shape of `GSet.And` (`f = Conj.and`) and `GSet.seq` (`f = Conj.seq`): an empty operand
    is skipped -/
def GSet.lift2 (f : Conj → Conj → Conj) (a b : GSet) : GSet :=
  if a.items = [] then b else if b.items = [] then a else nilIfEmpty (pairs f a.items b.items)

theorem mem_pairs {f : Conj → Conj → Conj} {a b : CSet} {c : Conj} :
    c ∈ pairs f a b ↔ ∃ c1 ∈ a, ∃ c2 ∈ b, f c1 c2 = c := by
  simp only [pairs, List.mem_flatMap, List.mem_map]

theorem pairs_ne_nil {f : Conj → Conj → Conj} : ∀ {a b : CSet}, a ≠ [] → b ≠ [] → pairs f a b ≠ []
  | _ :: _, _ :: _, _, _ => by simp [pairs]
  | [], _, h, _ => absurd rfl h
  | _ :: _, [], _, h => absurd rfl h

theorem seq_eq_lift2 (a b : GSet) : GSet.seq a b = GSet.lift2 Conj.seq a b := rfl

theorem lift2_of_ne_nil {f : Conj → Conj → Conj} {a b : GSet} (ha : a.items ≠ []) (hb : b.items ≠ []) :
    GSet.lift2 f a b = some (pairs f a.items b.items) := by
  rw [GSet.lift2, if_neg ha, if_neg hb, nilIfEmpty_ne (pairs_ne_nil ha hb)]

theorem And_eq_lift2 (a b : GSet) : GSet.And a b = GSet.lift2 Conj.and a b := by
  unfold GSet.And GSet.lift2
  split
  · rfl
  · split
    · rfl
    · next ha hb => exact (nilIfEmpty_ne (pairs_ne_nil ha hb)).symm

theorem GSet.lift2_ind {f : Conj → Conj → Conj} {a b : GSet} (M : GSet → Prop) (hl : M a) (hr : M b)
    (hp : a.items ≠ [] → b.items ≠ [] → M (some (pairs f a.items b.items))) : M (GSet.lift2 f a b) := by
  by_cases ha : a.items = []
  · rwa [GSet.lift2, if_pos ha]
  · by_cases hb : b.items = []
    · rwa [GSet.lift2, if_neg ha, if_pos hb]
    · rw [lift2_of_ne_nil ha hb]; exact hp ha hb

theorem lift2_all {Q : Conj → Prop} {f : Conj → Conj → Conj} (hf : ∀ {c1 c2}, Q c1 → Q c2 → Q (f c1 c2))
    {a b : GSet} (ha : ∀ c ∈ a.items, Q c) (hb : ∀ c ∈ b.items, Q c) :
    ∀ c ∈ (GSet.lift2 f a b).items, Q c := by
  refine GSet.lift2_ind (fun g => ∀ c ∈ g.items, Q c) ha hb fun _ _ c hc => ?_
  obtain ⟨c1, h1, c2, h2, rfl⟩ := mem_pairs.mp hc
  exact hf (ha c1 h1) (hb c2 h2)

theorem conj_invert_fold_items (c : Conj) (acc : GSet) :
    (c.foldl (fun res x => GSet.Or res (some (Cond.invert x))) acc).items
      = acc.items ++ c.flatMap Cond.invert := by
  induction c generalizing acc with
  | nil => simp
  | cons x rest ih =>
    simp only [List.foldl_cons, ih, or_items, GSet.items_some, List.flatMap_cons, List.append_assoc]

theorem conj_invert_items (c : Conj) (hc : c ≠ []) :
    (Conj.invert c).items = c.flatMap Cond.invert := by
  unfold Conj.invert
  rw [if_neg hc, conj_invert_fold_items]
  simp

/-- where the conditions of `Conditions.then` come from: the operands, or a payload chain of the left
    operand (cut at `l`) continued by one of the right operand -/
theorem mem_conj_seq {a b : Conj} {x : Cond} (h : x ∈ Conj.seq a b) :
    x ∈ a ∨ x ∈ b ∨ ∃ adc bdc l, Cond.data adc ∈ a ∧ Cond.data bdc ∈ b ∧
      x = .data { els := adc.els.take l ++ bdc.els, inv := bdc.inv } := by
  unfold Conj.seq at h
  simp only at h
  split at h
  · simp only [List.mem_append, List.mem_filter, List.mem_map] at h
    rcases h with ((⟨h, _⟩ | ⟨h, _⟩) | ⟨d, hd, rfl⟩) | ⟨d, hd, rfl⟩
    · exact Or.inl h
    · exact Or.inr (Or.inl h)
    · exact Or.inl (mem_filterMap_data.mp hd)
    · exact Or.inr (Or.inl (mem_filterMap_data.mp hd))
  · simp only [List.mem_append, List.mem_filter, List.mem_flatMap, List.mem_map] at h
    rcases h with (⟨h, _⟩ | ⟨h, _⟩) | ⟨adc, ha, h | ⟨bdc, hb, rfl⟩⟩
    · exact Or.inl h
    · exact Or.inr (Or.inl h)
    · split at h
      · rw [List.mem_singleton.mp h]; exact Or.inl (mem_filterMap_data.mp ha)
      · cases h
    · exact Or.inr (Or.inr ⟨adc, bdc, _, mem_filterMap_data.mp ha, mem_filterMap_data.mp hb, rfl⟩)

theorem then_conj_ok (a b : Conj) (oka : Conj.OK a) (okb : Conj.OK b) : Conj.OK (Conj.seq a b) := by
  intro x hx
  rcases mem_conj_seq hx with h | h | ⟨adc, bdc, l, _, hb, rfl⟩
  · exact oka x h
  · exact okb x h
  · have : bdc.els ≠ [] := okb _ hb
    show _ ++ bdc.els ≠ []
    simp [this]

/-- the fragment covered by `translate_sound`: no sort/limit/group terms, non-empty AND/OR lists,
    THEN only with a single operand -/
inductive Frag : Expr → Prop
  | term (t : Term) : Frag (.term t)
  | not {e : Expr} : Frag e → Frag (.not e)
  | grp {e : Expr} : Frag e → Frag (.grp e)
  | and {es : List Expr} : es ≠ [] → (∀ e ∈ es, Frag e) → Frag (.and es)
  | or {es : List Expr} : es ≠ [] → (∀ e ∈ es, Frag e) → Frag (.or es)
  | seq1 {e : Expr} : Frag e → Frag (.seq [e])

/-- like `Frag`, plus THEN nodes with ≥ 2 operands (whose operands are again in the fragment) -/
inductive FragT : Expr → Prop
  | term (t : Term) : FragT (.term t)
  | not {e : Expr} : FragT e → FragT (.not e)
  | grp {e : Expr} : FragT e → FragT (.grp e)
  | and {es : List Expr} : es ≠ [] → (∀ e ∈ es, FragT e) → FragT (.and es)
  | or {es : List Expr} : es ≠ [] → (∀ e ∈ es, FragT e) → FragT (.or es)
  | seq1 {e : Expr} : FragT e → FragT (.seq [e])
  | seqN {es : List Expr} : 2 ≤ es.length → (∀ e ∈ es, FragT e) → FragT (.seq es)

theorem Frag.toFragT {e : Expr} (h : Frag e) : FragT e := by
  induction h with
  | term t => exact .term t
  | not _ ih => exact .not ih
  | grp _ ih => exact .grp ih
  | and hne _ ih => exact .and hne ih
  | or hne _ ih => exact .or hne ih
  | seq1 _ ih => exact .seq1 ih

inductive TermsOf (P : Term → Prop) : Expr → Prop
  | term {t : Term} : P t → TermsOf P (.term t)
  | aux : TermsOf P .aux
  | not {e : Expr} : TermsOf P e → TermsOf P (.not e)
  | grp {e : Expr} : TermsOf P e → TermsOf P (.grp e)
  | and {es : List Expr} : (∀ e ∈ es, TermsOf P e) → TermsOf P (.and es)
  | or {es : List Expr} : (∀ e ∈ es, TermsOf P e) → TermsOf P (.or es)
  | seq {es : List Expr} : (∀ e ∈ es, TermsOf P e) → TermsOf P (.seq es)

/-- `Expr` is a nested inductive (lists of sub-expressions), on which the `induction` tactic does not
    work; this is the principle to use with `induction … using` -/
theorem exprInd {P : Expr → Prop} (term : ∀ t, P (.term t)) (aux : P .aux)
    (not : ∀ e, P e → P (.not e)) (grp : ∀ e, P e → P (.grp e))
    (and : ∀ es, (∀ e ∈ es, P e) → P (.and es)) (or : ∀ es, (∀ e ∈ es, P e) → P (.or es))
    (seq : ∀ es, (∀ e ∈ es, P e) → P (.seq es)) : ∀ e, P e :=
  go
where
  go : ∀ e, P e
    | .term t => term t
    | .aux => aux
    | .not e => not e (go e)
    | .grp e => grp e (go e)
    | .and es => and es (goL es)
    | .or es => or es (goL es)
    | .seq es => seq es (goL es)
  goL : ∀ es : List Expr, ∀ e ∈ es, P e
    | [] => fun e he => by cases he
    | x :: xs => fun e he => by
      rcases List.mem_cons.mp he with h | h
      · rw [h]; exact go x
      · exact goL xs e h

theorem termsOf_mono {P Q : Term → Prop} (h : ∀ t, P t → Q t) {e : Expr} (he : TermsOf P e) : TermsOf Q e := by
  induction he with
  | term ht => exact .term (h _ ht)
  | aux => exact .aux
  | not _ ih => exact .not ih
  | grp _ ih => exact .grp ih
  | and _ ih => exact .and ih
  | or _ ih => exact .or ih
  | seq _ ih => exact .seq ih

theorem termsOf_true (e : Expr) : TermsOf (fun _ => True) e := by
  induction e using exprInd with
  | term t => exact .term trivial
  | aux => exact .aux
  | not e ih => exact .not ih
  | grp e ih => exact .grp ih
  | and es ih => exact .and ih
  | or es ih => exact .or ih
  | seq es ih => exact .seq ih

theorem translateList_ok {ref : Int} {op : GSet → GSet → GSet} {e : Expr} {rest : List Expr}
    {acc g : GSet} (h : translateList ref op (e :: rest) acc = .ok g) :
    ∃ g1, translate ref e = .ok g1 ∧
      translateList ref op rest (match g1 with | some cs => op acc (some cs) | none => acc) = .ok g := by
  simp only [translateList] at h
  split at h
  · next cs hcs => exact ⟨_, hcs, h⟩
  · next hn => exact ⟨_, hn, h⟩
  all_goals cases h

theorem translate_not_ok {ref : Int} {e : Expr} {g : GSet} (h : translate ref (.not e) = .ok g) :
    ∃ g1, translate ref e = .ok g1 ∧
      g = (match g1 with | some cs => CSet.invert cs | none => none) := by
  simp only [translate] at h
  split at h
  · next cs hcs => cases h; exact ⟨_, hcs, rfl⟩
  · next hne =>
    cases g with
    | none => exact ⟨none, h, rfl⟩
    | some cs => exact absurd h (hne cs)

/-- what a successful `translateList ref op es acc` did, given a description `Q` of the operands'
    results: nil operands are skipped, the others are combined into the accumulator from the left -/
inductive Run (Q : Expr → GSet → Prop) (op : GSet → GSet → GSet) : List Expr → GSet → GSet → Prop
  | nil (acc : GSet) : Run Q op [] acc acc
  | skip {e es acc g} : Q e none → Run Q op es acc g → Run Q op (e :: es) acc g
  | step {e es acc g cs} : Q e (some cs) → Run Q op es (op acc (some cs)) g → Run Q op (e :: es) acc g

theorem run_of_translateList {ref : Int} {op : GSet → GSet → GSet} {Q : Expr → GSet → Prop} :
    ∀ (es : List Expr), (∀ e ∈ es, ∀ g, translate ref e = .ok g → Q e g) →
    ∀ acc g, translateList ref op es acc = .ok g → Run Q op es acc g
  | [], _, acc, g, h => by
    simp only [translateList, Outcome.ok.injEq] at h
    subst h; exact .nil acc
  | e :: rest, hes, acc, g, h => by
    obtain ⟨g1, h1, h2⟩ := translateList_ok h
    have ih := run_of_translateList (op := op) rest (fun x hx => hes x (List.mem_cons_of_mem _ hx))
    have hq := hes e List.mem_cons_self g1 h1
    cases g1 with
    | none => exact .skip hq (ih _ _ h2)
    | some cs => exact .step hq (ih _ _ h2)

/-- the one induction over `translate`: every successful run is built by these rules, so a property
    `Q e g` of expression and result that the rules keep holds of every run.  The operand lists of
    AND/OR/THEN appear as `Run`s; the rule for THEN also gets the run it describes, because the
    meaning `evalExprT` of a THEN node is defined through it. -/
theorem translate_ind {ref : Int} {P : Term → Prop} {Q : Expr → GSet → Prop}
    (term : ∀ t g, P t → trTerm ref t = .ok g → Q (.term t) g)
    (aux : Q .aux none)
    (notNone : ∀ e, Q e none → Q (.not e) none)
    (notSome : ∀ e cs, Q e (some cs) → Q (.not e) (CSet.invert cs))
    (grp : ∀ e g, Q e g → Q (.grp e) g)
    (and : ∀ es g, Run Q GSet.And es none g → Q (.and es) g)
    (or : ∀ es g, Run Q GSet.Or es none g → Q (.or es) g)
    (seq : ∀ es g, translate ref (.seq es) = .ok g → Run Q GSet.seq es none g → Q (.seq es) g)
    (e : Expr) (he : TermsOf P e) (g : GSet) (h : translate ref e = .ok g) : Q e g := by
  induction he generalizing g with
  | term ht => exact term _ g ht (by simpa [translate] using h)
  | aux =>
    simp only [translate, Outcome.ok.injEq] at h
    subst h; exact aux
  | not _ ih =>
    obtain ⟨g1, h1, rfl⟩ := translate_not_ok h
    cases g1 with
    | none => exact notNone _ (ih _ h1)
    | some cs => exact notSome _ cs (ih _ h1)
  | grp _ ih => exact grp _ g (ih g (by simpa [translate] using h))
  | and _ ih => exact and _ g (run_of_translateList _ ih none g (by simpa [translate] using h))
  | or _ ih => exact or _ g (run_of_translateList _ ih none g (by simpa [translate] using h))
  | seq _ ih => exact seq _ g h (run_of_translateList _ ih none g (by simpa [translate] using h))

theorem absorb_cases {cc cc2 : Conj} {rest new' : List Conj} (h : absorb cc (cc2 :: rest) = some new') :
    (new' = cc2 :: rest ∧ (cc2 = cc ∨ Conj.clean (Conj.and cc cc2) = cc)) ∨
    (new' = cc :: rest ∧ Conj.clean (Conj.and cc cc2) = cc2) ∨
    ∃ r, absorb cc rest = some r ∧ new' = cc2 :: r := by
  simp only [absorb] at h
  by_cases h1 : cc2 = cc
  · rw [if_pos h1] at h; cases h; exact Or.inl ⟨rfl, Or.inl h1⟩
  · rw [if_neg h1] at h
    by_cases h2 : Conj.clean (Conj.and cc cc2) = cc
    · rw [if_pos h2] at h; cases h; exact Or.inl ⟨rfl, Or.inr h2⟩
    · rw [if_neg h2] at h
      by_cases h3 : Conj.clean (Conj.and cc cc2) = cc2
      · rw [if_pos h3] at h; cases h; exact Or.inr (Or.inl ⟨rfl, h3⟩)
      · rw [if_neg h3] at h
        cases hr : absorb cc rest with
        | none => rw [hr] at h; cases h
        | some r => rw [hr] at h; cases h; exact Or.inr (Or.inr ⟨r, rfl, rfl⟩)

structure ConjInv (Q : Conj → Prop) : Prop where
  impossible : Q impossibleConj
  idRange : ∀ lo hi, Q (idRangeConj lo hi)
  append : ∀ {a b}, Q a → Q b → Q (a ++ b)
  clean : ∀ {c}, Q c → Q (Conj.clean c)
  seq : ∀ {a b}, Q a → Q b → Q (Conj.seq a b)
  invertCond : ∀ {c x}, Q c → x ∈ c → ∀ d ∈ Cond.invert x, Q d

namespace ConjInv

variable {Q : Conj → Prop}

theorem or {a b : GSet} (ha : ∀ c ∈ a.items, Q c) (hb : ∀ c ∈ b.items, Q c) :
    ∀ c ∈ (GSet.Or a b).items, Q c := by
  rw [or_items]
  exact List.forall_mem_append.mpr ⟨ha, hb⟩

theorem and (I : ConjInv Q) {a b : GSet} (ha : ∀ c ∈ a.items, Q c) (hb : ∀ c ∈ b.items, Q c) :
    ∀ c ∈ (GSet.And a b).items, Q c :=
  And_eq_lift2 a b ▸ lift2_all (fun h1 h2 => I.clean (I.append h1 h2)) ha hb

theorem gseq (I : ConjInv Q) {a b : GSet} (ha : ∀ c ∈ a.items, Q c) (hb : ∀ c ∈ b.items, Q c) :
    ∀ c ∈ (GSet.seq a b).items, Q c :=
  seq_eq_lift2 a b ▸ lift2_all I.seq ha hb

theorem conj_invert (I : ConjInv Q) {c : Conj} (h : Q c) : ∀ d ∈ (Conj.invert c).items, Q d := by
  intro d hd
  by_cases hc : c = []
  · subst hc
    rw [List.mem_singleton.mp hd]
    exact I.impossible
  · rw [conj_invert_items c hc] at hd
    obtain ⟨x, hx, hdx⟩ := List.mem_flatMap.mp hd
    exact I.invertCond h hx d hdx

theorem invert (I : ConjInv Q) {cs : CSet} (h : ∀ c ∈ cs, Q c) : ∀ d ∈ (CSet.invert cs).items, Q d :=
  List.foldlRecOn (motive := fun g : GSet => ∀ d ∈ g.items, Q d) cs _ (fun _ hc => by cases hc)
    fun _ ha c hc => I.and ha (I.conj_invert (h c hc))

theorem absorb_all {cc : Conj} (hcc : Q cc) : ∀ {new new' : List Conj}, (∀ c ∈ new, Q c) →
    absorb cc new = some new' → ∀ c ∈ new', Q c
  | [], _, _, h => by cases h
  | cc2 :: rest, new', hn, h => by
    have hrest : ∀ c ∈ rest, Q c := fun c hc => hn c (List.mem_cons_of_mem _ hc)
    rcases absorb_cases h with ⟨rfl, _⟩ | ⟨rfl, _⟩ | ⟨r, hr, rfl⟩
    · exact hn
    · exact List.forall_mem_cons.mpr ⟨hcc, hrest⟩
    · exact List.forall_mem_cons.mpr ⟨hn _ List.mem_cons_self, absorb_all hcc hrest hr⟩

theorem cleanLoop_all (I : ConjInv Q) : ∀ {rest new : List Conj}, (∀ c ∈ new, Q c) →
    (∀ c ∈ rest, Q c) → ∀ c ∈ cleanLoop new rest, Q c
  | [], new, hn, _ => by simpa [cleanLoop] using hn
  | cc :: rest, new, hn, hr => by
    have hcl : Q (Conj.clean cc) := I.clean (hr cc List.mem_cons_self)
    have hrest : ∀ c ∈ rest, Q c := fun c hc => hr c (List.mem_cons_of_mem _ hc)
    simp only [cleanLoop]
    split
    · exact I.cleanLoop_all hn hrest
    · split
      · next new' ha => exact I.cleanLoop_all (absorb_all hcl hn ha) hrest
      · exact I.cleanLoop_all
          (List.forall_mem_append.mpr ⟨hn, fun c hc => by rw [List.mem_singleton.mp hc]; exact hcl⟩) hrest

theorem run_all {op : GSet → GSet → GSet}
    (hop : ∀ {a b : GSet}, (∀ c ∈ a.items, Q c) → (∀ c ∈ b.items, Q c) → ∀ c ∈ (op a b).items, Q c)
    {es : List Expr} {acc g : GSet} (r : Run (fun _ g => ∀ c ∈ g.items, Q c) op es acc g)
    (ha : ∀ c ∈ acc.items, Q c) : ∀ c ∈ g.items, Q c := by
  induction r with
  | nil => exact ha
  | skip _ _ ih => exact ih ha
  | step h _ ih => exact ih (hop ha h)

theorem translate_all (I : ConjInv Q) (ref : Int) (P : Term → Prop)
    (hterm : ∀ t cs, P t → trTerm ref t = .ok (some cs) → ∀ c ∈ cs, Q c) (e : Expr)
    (he : TermsOf P e) (g : GSet) (h : translate ref e = .ok g) : ∀ c ∈ g.items, Q c :=
  have nil : ∀ c ∈ GSet.items none, Q c := fun _ hc => by cases hc
  translate_ind (Q := fun _ g => ∀ c ∈ g.items, Q c)
    (fun t g ht h => by
      cases g with
      | none => exact nil
      | some cs => exact hterm t cs ht h)
    nil (fun _ _ => nil) (fun _ _ => I.invert) (fun _ _ h => h)
    (fun _ _ r => run_all I.and r nil) (fun _ _ r => run_all ConjInv.or r nil)
    (fun _ _ _ r => run_all I.gseq r nil) e he g h

end ConjInv

theorem okInv (L : Laws) : ConjInv Conj.OK where
  impossible := Conj.OK_impossible
  idRange _ _ := by intro x hx; simp [idRangeConj] at hx; rcases hx with rfl | rfl <;> trivial
  append ha hb := Conj.OK_append.mpr ⟨ha, hb⟩
  clean h := L.clean_ok _ h
  seq ha hb := then_conj_ok _ _ ha hb
  invertCond h hx := L.invert_ok _ (h _ hx)

theorem or_ok (a b : GSet) (oka : CSet.OK a.items) (okb : CSet.OK b.items) :
    CSet.OK (GSet.Or a b).items := ConjInv.or oka okb

theorem and_ok (L : Laws) (a b : GSet) (oka : CSet.OK a.items) (okb : CSet.OK b.items) :
    CSet.OK (GSet.And a b).items := (okInv L).and oka okb

theorem conj_and_sound (L : Laws) {a b : Conj} {ρ : Env} (oka : Conj.OK a) (okb : Conj.OK b)
    (hρ : Env.WF ρ) : evalConj (Conj.and a b) ρ = (evalConj a ρ && evalConj b ρ) := by
  unfold Conj.and
  rw [L.clean_sound _ ρ (Conj.OK_append.mpr ⟨oka, okb⟩) hρ, evalConj_append]

theorem andPairs_sound (L : Laws) (a b : CSet) {ρ : Env} (oka : CSet.OK a) (okb : CSet.OK b)
    (hρ : Env.WF ρ) : evalSet (CSet.andPairs a b) ρ = (evalSet a ρ && evalSet b ρ) := by
  have row : ∀ c1, Conj.OK c1 →
      evalSet (b.map (fun c2 => Conj.and c1 c2)) ρ = (evalConj c1 ρ && evalSet b ρ) := by
    intro c1 ok1
    induction b with
    | nil => simp
    | cons c2 rest ih =>
      have ⟨ok2, okr⟩ := CSet.OK_cons.mp okb
      simp only [List.map_cons, evalSet_cons, ih okr, conj_and_sound L ok1 ok2 hρ, Bool.and_or_distrib_left]
  induction a with
  | nil => simp [CSet.andPairs]
  | cons c1 rest ih =>
    have ⟨ok1, okr⟩ := CSet.OK_cons.mp oka
    have ih' := ih okr
    unfold CSet.andPairs at ih' ⊢
    simp only [List.flatMap_cons, evalSet_append, evalSet_cons, ih', row c1 ok1, Bool.and_or_distrib_right]

theorem and_sound (L : Laws) (a b : GSet) (ha : a.items ≠ []) (hb : b.items ≠ [])
    (oka : CSet.OK a.items) (okb : CSet.OK b.items) {ρ : Env} (hρ : Env.WF ρ) :
    evalSet (GSet.And a b).items ρ = (evalSet a.items ρ && evalSet b.items ρ) := by
  rw [and_eq a b ha hb]
  exact andPairs_sound L _ _ oka okb hρ

theorem and_ne_nil (a b : GSet) (ha : a.items ≠ []) (hb : b.items ≠ []) :
    (GSet.And a b).items ≠ [] := by
  rw [and_eq a b ha hb]
  exact pairs_ne_nil ha hb

/-- a non-empty set of well-shaped conjuncts whose value under `ρ` is `b`: what the translation of an
    expression of the fragment is, and what OR, AND and NOT keep -/
def Good (g : GSet) (b : Bool) (ρ : Env) : Prop :=
  ∃ cs, g = some cs ∧ cs ≠ [] ∧ CSet.OK cs ∧ evalSet cs ρ = b

theorem Good.of_items {g : GSet} {b : Bool} {ρ : Env} (h1 : g.items ≠ []) (h2 : CSet.OK g.items)
    (h3 : evalSet g.items ρ = b) : Good g b ρ := by
  cases g with
  | none => exact absurd rfl h1
  | some cs => exact ⟨cs, rfl, h1, h2, h3⟩

theorem Good.items {g : GSet} {b : Bool} {ρ : Env} (h : Good g b ρ) :
    g.items ≠ [] ∧ CSet.OK g.items ∧ evalSet g.items ρ = b := by
  obtain ⟨cs, rfl, h1, h2, h3⟩ := h
  exact ⟨h1, h2, h3⟩

theorem Good.ne_none {b : Bool} {ρ : Env} (h : Good none b ρ) : False := by
  obtain ⟨_, h, _⟩ := h; cases h

theorem Good.or {a b : GSet} {y : Bool} {ρ : Env} (oka : CSet.OK a.items) (hb : Good b y ρ) :
    Good (GSet.Or a b) (evalSet a.items ρ || y) ρ := by
  have ⟨b1, b2, b3⟩ := hb.items
  exact .of_items (or_ne_nil_right a b b1) (or_ok a b oka b2) (by rw [or_sound, b3])

theorem Good.and (L : Laws) {a b : GSet} {x y : Bool} {ρ : Env} (hρ : Env.WF ρ) (ha : Good a x ρ)
    (hb : Good b y ρ) : Good (GSet.And a b) (x && y) ρ := by
  have ⟨a1, a2, a3⟩ := ha.items
  have ⟨b1, b2, b3⟩ := hb.items
  exact .of_items (and_ne_nil a b a1 b1) (and_ok L a b a2 b2) (by rw [and_sound L a b a1 b1 a2 b2 hρ, a3, b3])

theorem conj_invert_sound (L : Laws) (c : Conj) (ok : Conj.OK c) (ρ : Env) :
    evalSet (Conj.invert c).items ρ = !evalConj c ρ := by
  by_cases hc : c = []
  · subst hc
    simp [Conj.invert]
  · rw [conj_invert_items c hc]
    clear hc
    induction c with
    | nil => simp
    | cons x rest ih =>
      have ⟨okx, okr⟩ := Conj.OK_cons.mp ok
      simp only [List.flatMap_cons, evalSet_append, L.invert_sound x ρ okx, ih okr, evalConj_cons,
        Bool.not_and]

theorem Good.conj_invert (L : Laws) {c : Conj} (ok : Conj.OK c) (ρ : Env) :
    Good (Conj.invert c) (!evalConj c ρ) ρ := by
  refine .of_items ?_ ((okInv L).conj_invert ok) (conj_invert_sound L c ok ρ)
  cases c with
  | nil => simp [Conj.invert]
  | cons x rest =>
    rw [conj_invert_items _ (by simp)]
    have := L.invert_ne_nil x (ok x (by simp))
    simp [this]

theorem Good.invert_fold (L : Laws) {ρ : Env} (hρ : Env.WF ρ) : ∀ (cs : CSet) {acc : GSet} {b : Bool},
    CSet.OK cs → Good acc b ρ →
    Good (cs.foldl (fun conds cc => GSet.And conds (Conj.invert cc)) acc) (b && !evalSet cs ρ) ρ
  | [], _, _, _, h => by simpa using h
  | c :: rest, _, _, ok, h => by
    have ⟨okc, okr⟩ := CSet.OK_cons.mp ok
    have := Good.invert_fold L hρ rest okr (h.and L hρ (.conj_invert L okc ρ))
    rwa [Bool.and_assoc, ← Bool.not_or, ← evalSet_cons] at this

theorem Good.invert (L : Laws) {cs : CSet} {b : Bool} {ρ : Env} (hρ : Env.WF ρ) (h : Good (some cs) b ρ) :
    Good (CSet.invert cs) (!b) ρ := by
  obtain ⟨_, hcs, hne, ok, rfl⟩ := h
  cases hcs
  cases cs with
  | nil => exact absurd rfl hne
  | cons c rest =>
    have ⟨okc, okr⟩ := CSet.OK_cons.mp ok
    have := Good.invert_fold L hρ rest okr (.conj_invert L okc ρ)
    rw [← Bool.not_or, ← evalSet_cons] at this
    rwa [CSet.invert, List.foldl_cons, and_left_empty (some []) _ rfl]

theorem invert_set_sound (L : Laws) (cs : CSet) (hne : cs ≠ []) (ok : CSet.OK cs) {ρ : Env}
    (hρ : Env.WF ρ) : evalSet (CSet.invert cs).items ρ = !evalSet cs ρ :=
  (Good.invert L hρ ⟨cs, rfl, hne, ok, rfl⟩).items.2.2

/-- an environment satisfying `Env.WF`, through which ρ-free facts (`invert_set_ne_nil`) are obtained
    from statements about an environment -/
def wfEnv : Env := fun _ =>
  { id := 0, cport := 0, sport := 0, cbytes := 0, sbytes := 0,
    chost := [0, 0, 0, 0], shost := [0, 0, 0, 0], flags := 0, ftime := 0, ltime := 0,
    tagMatch := fun _ => false, tagUncertain := fun _ => false, step := fun _ _ => none }

theorem wfEnv_wf : Env.WF wfEnv := by
  intro sq; simp [wfEnv]

theorem invert_set_ok (L : Laws) (cs : CSet) (hne : cs ≠ []) (ok : CSet.OK cs) :
    CSet.OK (CSet.invert cs).items := by
  have _ := hne
  exact (okInv L).invert ok

theorem invert_set_ne_nil (L : Laws) (cs : CSet) (hne : cs ≠ []) (ok : CSet.OK cs) :
    (CSet.invert cs).items ≠ [] :=
  (Good.invert L wfEnv_wf ⟨cs, rfl, hne, ok, rfl⟩).items.1

theorem isImpossible_eq {c : Conj} (h : Conj.isImpossible c = true) : c = impossibleConj := by
  simpa [Conj.isImpossible] using h

/-- absorption is subsumption: a conjunct is dropped only when the meaning of the set stays -/
theorem absorb_sound (L : Laws) (cc : Conj) (okcc : Conj.OK cc) {ρ : Env} (hρ : Env.WF ρ)
    (new new' : List Conj) (oknew : CSet.OK new) (h : absorb cc new = some new') :
    evalSet new' ρ = (evalSet new ρ || evalConj cc ρ) := by
  induction new generalizing new' with
  | nil => simp [absorb] at h
  | cons cc2 rest ih =>
    have ⟨ok2, okr⟩ := CSet.OK_cons.mp oknew
    have hand : evalConj (Conj.clean (Conj.and cc cc2)) ρ = (evalConj cc ρ && evalConj cc2 ρ) := by
      rw [L.clean_sound (Conj.and cc cc2) ρ ((okInv L).clean ((okInv L).append okcc ok2)) hρ,
        conj_and_sound L okcc ok2 hρ]
    rcases absorb_cases h with ⟨rfl, rfl | heq⟩ | ⟨rfl, heq⟩ | ⟨r, hr, rfl⟩
    · simp only [evalSet_cons]
      cases evalConj cc2 ρ <;> simp
    · -- `cc` implies `cc2`
      rw [heq] at hand
      simp only [evalSet_cons]
      revert hand
      cases evalConj cc ρ <;> cases evalConj cc2 ρ <;> simp
    · -- `cc2` implies `cc`
      rw [heq] at hand
      simp only [evalSet_cons]
      revert hand
      cases evalConj cc ρ <;> cases evalConj cc2 ρ <;> simp
    · simp only [evalSet_cons, ih r okr hr, Bool.or_assoc]

theorem cleanLoop_sound (L : Laws) {ρ : Env} (hρ : Env.WF ρ) (rest new : List Conj)
    (okr : CSet.OK rest) (okn : CSet.OK new) :
    evalSet (cleanLoop new rest) ρ = (evalSet new ρ || evalSet rest ρ) := by
  induction rest generalizing new with
  | nil => simp [cleanLoop]
  | cons cc rest ih =>
    have ⟨okc, okr'⟩ := CSet.OK_cons.mp okr
    have okcc := L.clean_ok cc okc
    have hcc := L.clean_sound cc ρ okc hρ
    simp only [cleanLoop]
    split
    · next himp =>
      rw [ih new okr' okn, evalSet_cons, ← hcc, isImpossible_eq himp]
      simp
    · split
      · next new' ha =>
        rw [ih new' okr' (ConjInv.absorb_all okcc okn ha), absorb_sound L _ okcc hρ new new' okn ha,
          hcc, evalSet_cons, Bool.or_assoc]
      · rw [ih _ okr' (CSet.OK_append.mpr ⟨okn, CSet.OK_cons.mpr ⟨okcc, CSet.OK_nil⟩⟩)]
        simp only [evalSet_append, evalSet_cons, evalSet_nil, hcc, Bool.or_false, Bool.or_assoc]

/-- the general (non simple-ID) result of `CSet.Clean` -/
def CSet.cleanGeneral (c : CSet) : CSet :=
  let new := cleanLoop [] c
  if new = [] ∧ c ≠ [] then [impossibleConj] else new

theorem cleanGeneral_sound (L : Laws) (cs : CSet) (ok : CSet.OK cs) {ρ : Env} (hρ : Env.WF ρ) :
    evalSet (CSet.cleanGeneral cs) ρ = evalSet cs ρ := by
  have h := cleanLoop_sound L hρ cs [] ok CSet.OK_nil
  simp only [evalSet_nil, Bool.false_or] at h
  unfold CSet.cleanGeneral
  simp only
  split
  · next hc =>
    rw [← h, hc.1]
    simp
  · exact h

theorem cleanGeneral_ne_nil (cs : CSet) (hne : cs ≠ []) : CSet.cleanGeneral cs ≠ [] := by
  unfold CSet.cleanGeneral
  simp only
  split
  · simp
  · next hc =>
    intro h
    exact hc ⟨h, hne⟩

theorem Clean_eq (cs : CSet) :
    CSet.Clean cs = match CSet.cleanSimpleID cs with
      | some r => r
      | none => CSet.cleanGeneral cs := rfl

theorem Clean_sound_partial (L : Laws) (cs : CSet) (ok : CSet.OK cs) {ρ : Env} (hρ : Env.WF ρ)
    (hs : CSet.cleanSimpleID cs = none) : evalSet (CSet.Clean cs) ρ = evalSet cs ρ := by
  rw [Clean_eq, hs]
  exact cleanGeneral_sound L cs ok hρ

/-- stream ids are `uint64` in the Go code; `Stream.id` is an unbounded `Nat` and `Env.WF` does not
    bound it, so the bound needed by the simple-ID fast path is an explicit hypothesis -/
def Env.IdOK (ρ : Env) : Prop := (ρ "").id ≤ maxUint

/-- non-vacuity of the two environment hypotheses -/
theorem wfEnv_idOK : Env.WF wfEnv ∧ Env.IdOK wfEnv :=
  ⟨wfEnv_wf, by simp [Env.IdOK, wfEnv]⟩

theorem evalNum_id (ρ : Env) (nc : NumC) (s : NumSummand) (h : nc.sum = [s])
    (hty : s.ty = NumType.id) (hsq : s.sq = "") :
    evalCond (.num nc) ρ = decide (nc.n + s.factor * ((ρ "").id : Int) ≥ 0) := by
  simp [evalCond, evalNum, numSumVal, numVar, h, hty, hsq]

theorem extractLoop_spec (ρ : Env) (c : List Cond) (mn0 mx0 mn mx : Nat)
    (h : extractLoop c mn0 mx0 = some (mn, mx)) :
    (evalConj c ρ = true ∧ mn0 ≤ (ρ "").id ∧ (ρ "").id ≤ mx0) ↔
      (mn ≤ (ρ "").id ∧ (ρ "").id ≤ mx) := by
  fun_induction extractLoop c mn0 mx0 with
  | case1 mn0 mx0 => cases h; simp
  | case3 nc rest mn0 mx0 s hs hc hf mn' ih =>
    have hev := evalNum_id ρ nc s hs (Decidable.byContradiction fun h1 => hc (Or.inl h1))
      (Decidable.byContradiction fun h1 => hc (Or.inr h1))
    have ha : (evalCond (.num nc) ρ = true ∧ mn0 ≤ (ρ "").id) ↔ mn' ≤ (ρ "").id := by
      rw [hev, hf, decide_eq_true_eq]; simp only [mn']; split <;> omega
    rw [← ih h, evalConj_cons, Bool.and_eq_true, ← ha]
    constructor
    · exact fun ⟨⟨a, b⟩, c, d⟩ => ⟨b, ⟨a, c⟩, d⟩
    · exact fun ⟨b, ⟨a, c⟩, d⟩ => ⟨⟨a, b⟩, c, d⟩
  | case5 nc rest mn0 mx0 s hs hc _ hf hn ih =>
    have hev := evalNum_id ρ nc s hs (Decidable.byContradiction fun h1 => hc (Or.inl h1))
      (Decidable.byContradiction fun h1 => hc (Or.inr h1))
    have ha : (evalCond (.num nc) ρ = true ∧ (ρ "").id ≤ mx0) ↔
        (ρ "").id ≤ (if mx0 > nc.n.toNat then nc.n.toNat else mx0) := by
      rw [hev, hf, decide_eq_true_eq]; split <;> omega
    rw [← ih h, evalConj_cons, Bool.and_eq_true, ← ha]
    constructor
    · exact fun ⟨⟨a, b⟩, c, d⟩ => ⟨b, c, a, d⟩
    · exact fun ⟨b, c, a, d⟩ => ⟨⟨a, b⟩, c, d⟩
  | _ => cases h

theorem extractSimpleID_spec (ρ : Env) (hid : Env.IdOK ρ) (c : Conj) (mn : Nat)
    (h : Conj.extractSimpleID c = some (mn, mn)) : evalConj c ρ = true ↔ (ρ "").id = mn := by
  unfold Conj.extractSimpleID at h
  split at h
  · cases h
  · have := extractLoop_spec ρ c 0 maxUint mn mn h
    unfold Env.IdOK at hid
    constructor
    · intro hc
      have := this.mp ⟨hc, Nat.zero_le _, hid⟩
      omega
    · intro he
      exact (this.mpr (by omega)).1

theorem simpleIDs_spec (L : Laws) {ρ : Env} (hρ : Env.WF ρ) (hid : Env.IdOK ρ) (cs : CSet)
    (ok : CSet.OK cs) (ids : List Nat) (h : simpleIDs cs = some ids) :
    evalSet cs ρ = true ↔ (ρ "").id ∈ ids := by
  induction cs generalizing ids with
  | nil =>
    simp only [simpleIDs, Option.some.injEq] at h
    subst h
    simp
  | cons cc rest ih =>
    have ⟨okc, okr⟩ := CSet.OK_cons.mp ok
    simp only [simpleIDs] at h
    split at h
    · next mn mx hex =>
      split at h
      · cases h
      · next hmm =>
        have hmm : mn = mx := Decidable.byContradiction hmm
        subst hmm
        cases hr : simpleIDs rest with
        | none => simp [hr] at h
        | some ids' =>
          simp only [hr, Option.map_some, Option.some.injEq] at h
          subst h
          have hcc := extractSimpleID_spec ρ hid _ mn hex
          rw [L.clean_sound cc ρ okc hρ] at hcc
          have := ih okr ids' hr
          simp only [evalSet_cons, Bool.or_eq_true, List.mem_cons, hcc, this]
    · cases h

theorem mem_dedupSorted (x : Nat) (l : List Nat) : x ∈ dedupSorted l ↔ x ∈ l := by
  fun_induction dedupSorted l <;> simp_all

theorem idRuns_spec (id : Nat) (l : List Nat) (lo hi : Nat) (hle : lo ≤ hi) :
    (∃ r ∈ idRuns lo hi l, r.1 ≤ id ∧ id ≤ r.2) ↔ ((lo ≤ id ∧ id ≤ hi) ∨ id ∈ l) := by
  fun_induction idRuns lo hi l with
  | case1 lo hi => simp
  | case2 lo hi rest ih =>
    rw [ih (Nat.le_succ_of_le hle), List.mem_cons, ← or_assoc]
    exact or_congr_left (by omega)
  | case3 lo hi x rest hx ih =>
    simp only [List.mem_cons, or_and_right, exists_or, exists_eq_left, ih (Nat.le_refl _)]
    exact or_congr_right (or_congr_left (by omega))

theorem idRuns_ne_nil (l : List Nat) (lo hi : Nat) : idRuns lo hi l ≠ [] := by
  induction l generalizing lo hi with
  | nil => simp [idRuns]
  | cons x rest ih =>
    simp only [idRuns]
    split
    · exact ih _ _
    · simp

theorem evalConj_idRange (ρ : Env) (lo hi : Nat) :
    evalConj (idRangeConj lo hi) ρ = true ↔ (lo ≤ (ρ "").id ∧ (ρ "").id ≤ hi) := by
  simp [idRangeConj, evalCond, evalNum, numSumVal, numVar, NumType.id]
  omega

theorem evalSet_idRanges (ρ : Env) (runs : List (Nat × Nat)) :
    evalSet (runs.map (fun r => idRangeConj r.1 r.2)) ρ = true ↔
      ∃ r ∈ runs, r.1 ≤ (ρ "").id ∧ (ρ "").id ≤ r.2 := by
  simp only [evalSet, List.any_map, List.any_eq_true, Function.comp, evalConj_idRange]

theorem cleanSimpleID_eq {cs r : CSet} (h : CSet.cleanSimpleID cs = some r) :
    ∃ ids, simpleIDs cs = some ids ∧
      ∃ x rest, dedupSorted (isort (fun a b => decide (a < b)) ids) = x :: rest ∧
        r = (idRuns x x rest).map (fun r => idRangeConj r.1 r.2) := by
  unfold CSet.cleanSimpleID at h
  split at h
  · cases h
  · next hne =>
    split at h
    · cases h
    · next ids hids =>
      have hnil : ids ≠ [] := by
        rintro rfl
        cases cs with
        | nil => exact hne rfl
        | cons cc rest =>
          simp only [simpleIDs] at hids
          split at hids
          · split at hids
            · cases hids
            · cases hr : simpleIDs rest <;> simp [hr] at hids
          · cases hids
      refine ⟨ids, hids, ?_⟩
      split at h
      · next hd =>
        cases ids with
        | nil => exact absurd rfl hnil
        | cons a t =>
          have : a ∈ dedupSorted (isort (fun a b => decide (a < b)) (a :: t)) := by
            rw [mem_dedupSorted, mem_isort]; simp
          rw [hd] at this
          cases this
      · next x rest hd =>
        cases h
        exact ⟨x, rest, hd, rfl⟩

theorem simpleID_sound (L : Laws) (cs : CSet) (ok : CSet.OK cs) {ρ : Env} (hρ : Env.WF ρ)
    (hid : Env.IdOK ρ) (r : CSet) (h : CSet.cleanSimpleID cs = some r) :
    evalSet r ρ = evalSet cs ρ := by
  obtain ⟨ids, hids, x, rest, hd, rfl⟩ := cleanSimpleID_eq h
  apply Bool.eq_iff_iff.mpr
  rw [simpleIDs_spec L hρ hid cs ok ids hids, ← mem_isort (fun a b => decide (a < b)),
    ← mem_dedupSorted, hd, evalSet_idRanges, idRuns_spec _ _ _ _ (Nat.le_refl _), List.mem_cons]
  by_cases hm : (ρ "").id ∈ rest
  · simp [hm]
  · simp only [hm, or_false]; omega

theorem simpleID_ne_nil (cs : CSet) (r : CSet) (h : CSet.cleanSimpleID cs = some r) : r ≠ [] := by
  obtain ⟨_, _, x, rest, _, rfl⟩ := cleanSimpleID_eq h
  simp [idRuns_ne_nil]

theorem cleanSimpleID_all {Q : Conj → Prop} (hid : ∀ lo hi, Q (idRangeConj lo hi)) {cs r : CSet}
    (h : CSet.cleanSimpleID cs = some r) : ∀ c ∈ r, Q c := by
  obtain ⟨_, _, x, rest, _, rfl⟩ := cleanSimpleID_eq h
  intro c hc
  obtain ⟨r, _, rfl⟩ := List.mem_map.mp hc
  exact hid _ _

theorem ConjInv.Clean_all {Q : Conj → Prop} (I : ConjInv Q) {cs : CSet} (h : ∀ c ∈ cs, Q c) :
    ∀ c ∈ CSet.Clean cs, Q c := by
  unfold CSet.Clean
  split
  · next r hr => exact cleanSimpleID_all I.idRange hr
  · simp only
    split
    · intro c hc
      rw [List.mem_singleton.mp hc]
      exact I.impossible
    · exact I.cleanLoop_all (fun _ hc => by cases hc) h

theorem Clean_sound (L : Laws) (cs : CSet) (ok : CSet.OK cs) {ρ : Env} (hρ : Env.WF ρ)
    (hid : Env.IdOK ρ) : evalSet (CSet.Clean cs) ρ = evalSet cs ρ := by
  rw [Clean_eq]
  split
  · next r h => exact simpleID_sound L cs ok hρ hid r h
  · exact cleanGeneral_sound L cs ok hρ

theorem Clean_ne_nil (cs : CSet) (hne : cs ≠ []) : CSet.Clean cs ≠ [] := by
  rw [Clean_eq]
  split
  · next r h => exact simpleID_ne_nil cs r h
  · exact cleanGeneral_ne_nil cs hne

theorem evalSet_isImpossible {c : CSet} (h : CSet.isImpossible c = true) (ρ : Env) : evalSet c ρ = false := by
  unfold CSet.isImpossible at h
  split at h
  · rw [isImpossible_eq h]; simp
  · cases h

theorem finish_none (ρ : Env) : evalParsed (finish none) ρ = true := by
  simp [finish, evalParsed]

theorem finish_sound (L : Laws) (cs : CSet) (hne : cs ≠ []) (ok : CSet.OK cs) {ρ : Env}
    (hρ : Env.WF ρ) (hid : Env.IdOK ρ) : evalParsed (finish (some cs)) ρ = evalSet cs ρ := by
  rw [← Clean_sound L cs ok hρ hid]
  unfold finish
  simp only
  split
  · next h => exact (evalSet_isImpossible h ρ).symm
  · rw [if_neg (Clean_ne_nil cs hne)]; rfl

theorem finish_nothing (L : Laws) (cs : CSet) (ok : CSet.OK cs) {ρ : Env}
    (hρ : Env.WF ρ) (hid : Env.IdOK ρ) (h : finish (some cs) = .nothing) : evalSet cs ρ = false := by
  by_cases hne : cs = []
  · rw [hne]; rfl
  · rw [← finish_sound L cs hne ok hρ hid, h]; rfl

/-- for concrete expressions: `TermsOf_of_termsB p _ e (by decide)` -/
def termsB (p : Term → Bool) : Expr → Bool
  | .term t => p t
  | .aux => true
  | .not e => termsB p e
  | .grp e => termsB p e
  | .and es => allB p es
  | .or es => allB p es
  | .seq es => allB p es
where
  allB (p : Term → Bool) : List Expr → Bool
    | [] => true
    | e :: es => termsB p e && allB p es

theorem termsB.allB_mem {p : Term → Bool} {es : List Expr} (h : termsB.allB p es = true) :
    ∀ e ∈ es, termsB p e = true := by
  induction es with
  | nil => intro e he; cases he
  | cons x xs ih =>
    simp only [termsB.allB, Bool.and_eq_true] at h
    exact List.forall_mem_cons.mpr ⟨h.1, ih h.2⟩

theorem TermsOf_of_termsB {P : Term → Prop} (p : Term → Bool) (hp : ∀ t, p t = true → P t)
    (e : Expr) : termsB p e = true → TermsOf P e := by
  induction e using exprInd with
  | term t => intro h; simp only [termsB] at h; exact TermsOf.term (hp t h)
  | aux => intro _; exact TermsOf.aux
  | not e ih => intro h; simp only [termsB] at h; exact TermsOf.not (ih h)
  | grp e ih => intro h; simp only [termsB] at h; exact TermsOf.grp (ih h)
  | and es ih =>
    intro h; simp only [termsB] at h
    exact TermsOf.and (fun e he => ih e he (termsB.allB_mem h e he))
  | or es ih =>
    intro h; simp only [termsB] at h
    exact TermsOf.or (fun e he => ih e he (termsB.allB_mem h e he))
  | seq es ih =>
    intro h; simp only [termsB] at h
    exact TermsOf.seq (fun e he => ih e he (termsB.allB_mem h e he))

/-- like `evalExpr`, except that a THEN node with other than one operand denotes the value of its
    translation (`translate ref (.seq es) = translateList ref GSet.seq es none`) -/
def evalExprT (ref : Int) (ρ : Env) : Expr → Bool
  | .term t => evalTerm ref t ρ
  | .aux => true
  | .not e => !evalExprT ref ρ e
  | .grp e => evalExprT ref ρ e
  | .and es => allT ref ρ es
  | .or es => anyT ref ρ es
  | .seq es => seqT ref ρ es
where
  allT (ref : Int) (ρ : Env) : List Expr → Bool
    | [] => true
    | e :: es => evalExprT ref ρ e && allT ref ρ es
  anyT (ref : Int) (ρ : Env) : List Expr → Bool
    | [] => false
    | e :: es => evalExprT ref ρ e || anyT ref ρ es
  seqT (ref : Int) (ρ : Env) : List Expr → Bool
    | [e] => evalExprT ref ρ e
    | es =>
      match translateList ref GSet.seq es none with
      | .ok g => evalGSet g ρ
      | _ => false

theorem evalExprT_seq_one (ref : Int) (ρ : Env) (e : Expr) :
    evalExprT ref ρ (.seq [e]) = evalExprT ref ρ e := by
  simp [evalExprT, evalExprT.seqT]

theorem evalExprT_seq_many (ref : Int) (ρ : Env) (e1 e2 : Expr) (es : List Expr) :
    evalExprT ref ρ (.seq (e1 :: e2 :: es)) =
      (match translate ref (.seq (e1 :: e2 :: es)) with
       | .ok g => evalGSet g ρ
       | _ => false) := by
  simp only [evalExprT, evalExprT.seqT, translate]

theorem allT_eq (ref : Int) (ρ : Env) (es : List Expr) :
    evalExprT.allT ref ρ es = es.all (evalExprT ref ρ) := by
  induction es with
  | nil => rfl
  | cons e rest ih => simp only [evalExprT.allT, List.all_cons, ih]

theorem anyT_eq (ref : Int) (ρ : Env) (es : List Expr) :
    evalExprT.anyT ref ρ es = es.any (evalExprT ref ρ) := by
  induction es with
  | nil => rfl
  | cons e rest ih => simp only [evalExprT.anyT, List.any_cons, ih]

theorem evalExprAll_eq (ref : Int) (ρ : Env) (es : List Expr) :
    evalExpr.evalExprAll ref ρ es = es.all (evalExpr ref ρ) := by
  induction es with
  | nil => rfl
  | cons e rest ih => simp only [evalExpr.evalExprAll, List.all_cons, ih]

theorem evalExprAny_eq (ref : Int) (ρ : Env) (es : List Expr) :
    evalExpr.evalExprAny ref ρ es = es.any (evalExpr ref ρ) := by
  induction es with
  | nil => rfl
  | cons e rest ih => simp only [evalExpr.evalExprAny, List.any_cons, ih]

theorem evalExprT_eq_evalExpr (ref : Int) (ρ : Env) (e : Expr) (hf : Frag e) :
    evalExprT ref ρ e = evalExpr ref ρ e := by
  induction hf with
  | term t => simp [evalExprT, evalExpr]
  | not _ ih => simp [evalExprT, evalExpr, ih]
  | grp _ ih => simp [evalExprT, evalExpr, ih]
  | @and es _ _ ih =>
    simp only [evalExprT, evalExpr, allT_eq, evalExprAll_eq]
    exact all_congr_mem ih
  | @or es _ _ ih =>
    simp only [evalExprT, evalExpr, anyT_eq, evalExprAny_eq]
    exact any_congr_mem ih
  | seq1 _ ih =>
    rw [evalExprT_seq_one, ih]
    simp [evalExpr, evalExpr.evalExprAll]

def TermLaw (ref : Int) (P : Term → Prop) : Prop :=
  ∀ t g ρ, P t → trTerm ref t = .ok g → Good g (evalTerm ref t ρ) ρ

def GoodS (g : GSet) : Prop := ∃ cs, g = some cs ∧ cs ≠ [] ∧ CSet.OK cs

theorem Good.goodS {g : GSet} {b : Bool} {ρ : Env} (h : Good g b ρ) : GoodS g :=
  let ⟨cs, h0, h1, h2, _⟩ := h; ⟨cs, h0, h1, h2⟩

/-- a run of AND or THEN, which replace a nil accumulator by the first operand (`hnil`): if the operands'
    results are `G` with the values `v e` and the operation keeps `G` with the conjunction of the values,
    the result is `G` with the conjunction of all -/
theorem Run.good_all {Q : Expr → GSet → Prop} {op : GSet → GSet → GSet} {G : GSet → Bool → Prop}
    {v : Expr → Bool} (hnil : ∀ cs, op none (some cs) = some cs) (hnone : ∀ b, ¬ G none b)
    (hop : ∀ {a cs x y}, G a x → G (some cs) y → G (op a (some cs)) (x && y))
    {es : List Expr} {acc g : GSet} (r : Run Q op es acc g) (hQ : ∀ e ∈ es, ∀ g, Q e g → G g (v e)) :
    (acc = none → es ≠ [] → G g (es.all v)) ∧ (∀ b, G acc b → G g (b && es.all v)) := by
  induction r with
  | nil => simp
  | skip hq _ _ => exact (hnone _ (hQ _ List.mem_cons_self _ hq)).elim
  | @step e es acc g cs hq _ ih =>
    have he := hQ e List.mem_cons_self _ hq
    have ihr := (ih fun e he => hQ e (List.mem_cons_of_mem _ he)).2
    constructor
    · rintro rfl _
      rw [hnil] at ihr
      simpa using ihr _ he
    · intro b hb
      simpa [Bool.and_assoc] using ihr _ (hop hb he)

theorem Run.good_or {Q : Expr → GSet → Prop} {ρ : Env} {v : Expr → Bool} {es : List Expr} {acc g : GSet}
    (r : Run Q GSet.Or es acc g) (hQ : ∀ e ∈ es, ∀ g, Q e g → Good g (v e) ρ)
    (hacc : CSet.OK acc.items) (hne : acc.items ≠ [] ∨ es ≠ []) :
    Good g (evalSet acc.items ρ || es.any v) ρ := by
  induction r with
  | nil => exact .of_items (hne.resolve_right fun h => h rfl) hacc (by simp)
  | skip hq _ _ => exact (hQ _ List.mem_cons_self _ hq).ne_none.elim
  | @step e es acc g cs hq _ ih =>
    have hg := (Good.or hacc (hQ e List.mem_cons_self _ hq)).items
    have := ih (fun e he => hQ e (List.mem_cons_of_mem _ he)) hg.2.1 (Or.inl hg.1)
    rwa [hg.2.2, Bool.or_assoc, ← List.any_cons] at this

theorem GoodS.seq {a b : GSet} (ha : GoodS a) (hb : GoodS b) : GoodS (GSet.seq a b) := by
  obtain ⟨a, rfl, ha1, ha2⟩ := ha
  obtain ⟨b, rfl, hb1, hb2⟩ := hb
  refine ⟨_, lift2_of_ne_nil ha1 hb1, pairs_ne_nil ha1 hb1, fun c hc => ?_⟩
  obtain ⟨c1, h1, c2, h2, rfl⟩ := mem_pairs.mp hc
  exact then_conj_ok c1 c2 (ha2 c1 h1) (hb2 c2 h2)

theorem translate_goodT (L : Laws) (ref : Int) (P : Term → Prop) (T : TermLaw ref P) (e : Expr)
    (hf : FragT e) (hp : TermsOf P e) (ρ : Env) (hρ : Env.WF ρ) (g : GSet)
    (h : translate ref e = .ok g) : Good g (evalExprT ref ρ e) ρ := by
  refine translate_ind (Q := fun e g => FragT e → Good g (evalExprT ref ρ e) ρ) ?_ (fun hf => nomatch hf)
    ?_ ?_ ?_ ?_ ?_ ?_ e hp g h hf
  · intro t g hpt h _
    simpa [evalExprT] using T t g ρ hpt h
  · intro e ih hf; cases hf with | not hfe => exact (ih hfe).ne_none.elim
  · intro e cs ih hf
    cases hf with | not hfe =>
    simpa [evalExprT] using (ih hfe).invert L hρ
  · intro e g ih hf; cases hf with | grp hfe => simpa [evalExprT] using ih hfe
  · intro es g r hf
    cases hf with | and hne hall =>
    simpa [evalExprT, allT_eq] using (r.good_all (G := (Good · · ρ)) (fun _ => and_left_empty _ _ rfl)
      (fun _ => Good.ne_none) (Good.and L hρ) fun e he _ hq => hq (hall e he)).1 rfl hne
  · intro es g r hf
    cases hf with | or hne hall =>
    simpa [evalExprT, anyT_eq] using r.good_or (fun e he _ hq => hq (hall e he)) CSet.OK_nil (Or.inr hne)
  · intro es g h r hf
    cases hf with
    | seq1 hfe =>
      cases r with
      | skip hq _ => exact (hq hfe).ne_none.elim
      | step hq r' =>
        cases r'
        obtain ⟨_, hcs, h1, h2, h3⟩ := hq hfe
        cases hcs
        exact ⟨_, by simp [GSet.seq], h1, h2, by rw [evalExprT_seq_one, h3]⟩
    | seqN hlen hall =>
      have hne : es ≠ [] := by intro h0; subst h0; simp at hlen
      obtain ⟨cs, rfl, h1, h2⟩ := (r.good_all (G := fun g _ => GoodS g) (v := fun _ => true)
        (fun _ => then_left_empty _ _ rfl) (fun _ h => nomatch h) GoodS.seq
        fun e he _ hq => Good.goodS (hq (hall e he))).1 rfl hne
      refine ⟨cs, rfl, h1, h2, ?_⟩
      match es, hlen, h with
      | e1 :: e2 :: rest, _, h => rw [evalExprT_seq_many, h]; rfl

theorem translate_sound (L : Laws) (ref : Int) (P : Term → Prop) (T : TermLaw ref P) (e : Expr)
    (hf : Frag e) (hp : TermsOf P e) (g : GSet) (h : translate ref e = .ok g) (ρ : Env)
    (hρ : Env.WF ρ) : Good g (evalExpr ref ρ e) ρ := by
  rw [← evalExprT_eq_evalExpr ref ρ e hf]
  exact translate_goodT L ref P T e hf.toFragT hp ρ hρ g h

theorem parse_sound (L : Laws) {ref : Int} {e : Expr} {p : Parsed} (h : parse ref e = .ok p) {ρ : Env}
    (hρ : Env.WF ρ) (hid : Env.IdOK ρ) {b : Bool}
    (hg : ∀ g, translate ref e = .ok g → Good g b ρ) : evalParsed p ρ = b := by
  unfold parse at h
  split at h
  · next g ht =>
    cases h
    obtain ⟨cs, rfl, h1, h2, h3⟩ := hg g ht
    rw [finish_sound L cs h1 h2 hρ hid, h3]
  all_goals cases h

theorem normalise_sound_of_laws (L : Laws) (ref : Int) (P : Term → Prop) (T : TermLaw ref P)
    (e : Expr) (hf : Frag e) (hp : TermsOf P e) (p : Parsed) (h : parse ref e = .ok p) (ρ : Env)
    (hρ : Env.WF ρ) (hid : Env.IdOK ρ) : evalParsed p ρ = evalExpr ref ρ e :=
  parse_sound L h hρ hid (fun g hg => translate_sound L ref P T e hf hp g hg ρ hρ)

theorem impossible_only_if_unsat_of_laws (L : Laws) (ref : Int) (P : Term → Prop)
    (T : TermLaw ref P) (e : Expr) (hf : Frag e) (hp : TermsOf P e)
    (h : parse ref e = .ok .nothing) : ∀ ρ, Env.WF ρ → Env.IdOK ρ → evalExpr ref ρ e = false := by
  intro ρ hρ hid
  rw [← normalise_sound_of_laws L ref P T e hf hp _ h ρ hρ hid]
  rfl

end Pk.Query
