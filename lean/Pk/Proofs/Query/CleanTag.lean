/-
  Soundness of `cleanTag` (cleanTagConditions).
-/
import Pk.Proofs.Query.Basic

namespace Pk.Query

theorem and_pow_ne_zero (a b k : Nat) :
    (((a &&& b) &&& 2 ^ k) != 0) = (((a &&& 2 ^ k) != 0) && ((b &&& 2 ^ k) != 0)) := by
  simp only [and_two_pow_ne_zero, Nat.testBit_and]

theorem evalTag_and (sq name : String) (a b : Nat) (ρ : Env) :
    evalTag { sq := sq, name := name, acc := a &&& b } ρ =
      (evalTag { sq := sq, name := name, acc := a } ρ && evalTag { sq := sq, name := name, acc := b } ρ) := by
  simp only [evalTag]
  obtain ⟨k, _, hk⟩ := tagBit_pow ((ρ sq).tagMatch name) ((ρ sq).tagUncertain name)
  rw [hk]
  exact and_pow_ne_zero a b k

theorem evalTag_zero (c : TagC) (ρ : Env) (h : c.acc = 0) : evalTag c ρ = false := by
  simp [evalTag, h]

theorem tagMerge_sound (m : List TagC) (lc : TagC) (ρ : Env) :
    optAll (fun c => evalTag c ρ) (tagMerge m lc) = (m.all (fun c => evalTag c ρ) && evalTag lc ρ) := by
  induction m with
  | nil => simp [tagMerge]
  | cons e es ih =>
    rw [tagMerge, List.all_cons]
    refine ite_cases (optAll _ · = _) _ (fun h => ?_) fun _ => ?_
    · have hand : evalTag { e with acc := e.acc &&& lc.acc } ρ = (evalTag e ρ && evalTag lc ρ) := by
        rw [evalTag_and, show ({ sq := e.sq, name := e.name, acc := lc.acc } : TagC) = lc by rw [h.1, h.2]]
      refine ite_cases (optAll _ · = _) _ (fun h0 => ?_) fun _ => ?_
      · rw [evalTag_zero _ ρ h0] at hand
        rw [Bool.and_right_comm, ← hand]; rfl
      · rw [optAll_some, List.all_cons, hand, Bool.and_right_comm]
    · rw [optAll_map_cons, ih, Bool.and_assoc]

theorem tagFold_sound (m lcs : List TagC) (ρ : Env) :
    optAll (fun c => evalTag c ρ) (tagFold m lcs) =
      (m.all (fun c => evalTag c ρ) && lcs.all (fun c => evalTag c ρ)) := by
  induction lcs generalizing m with
  | nil => simp [tagFold]
  | cons lc rest ih =>
    rw [tagFold, List.all_cons]
    refine ite_cases (optAll _ · = _) _ (fun h0 => ?_) fun _ => ?_
    · rw [evalTag_zero lc ρ h0, Bool.false_and, Bool.and_false]; rfl
    · have hm := tagMerge_sound m lc ρ
      rw [← Bool.and_assoc, ← hm]
      cases tagMerge m lc with
      | none => rfl
      | some m' => exact ih m'

theorem cleanTag_sound (lcs : List TagC) (ρ : Env) :
    optAll (fun c => evalTag c ρ) (cleanTag lcs) = lcs.all (fun c => evalTag c ρ) := by
  have h := tagFold_sound [] lcs ρ
  unfold cleanTag
  cases hf : tagFold [] lcs with
  | none => rw [hf] at h; exact h
  | some r => rw [hf] at h; exact (all_isort tagLt r _).trans h

end Pk.Query
