/-
  Soundness of `cleanTime` (cleanTimeConditions).
-/
import Pk.Proofs.Query.Basic

namespace Pk.Query

@[simp] theorem timeSumVal_nil (ρ : Env) : timeSumVal ρ [] = 0 := rfl

@[simp] theorem timeSumVal_cons (ρ : Env) (s : TimeSummand) (l : List TimeSummand) :
    timeSumVal ρ (s :: l) = s.f * (ρ s.sq).ftime + s.l * (ρ s.sq).ltime + timeSumVal ρ l := by
  simp [timeSumVal]

theorem timeSumVal_perm (ρ : Env) {l₁ l₂ : List TimeSummand} (h : l₁.Perm l₂) :
    timeSumVal ρ l₁ = timeSumVal ρ l₂ := sumv_perm _ h

theorem evalTime_eq (c : TimeC) (ρ : Env) : evalTime c ρ = decide (0 ≤ c.dur + timeSumVal ρ c.sum) := rfl

theorem timeMerge_val (ρ : Env) (a : TimeSummand) (rest : List TimeSummand) :
    timeSumVal ρ (timeMerge a rest) = timeSumVal ρ (a :: rest) := by
  induction rest generalizing a with
  | nil => rfl
  | cons b rest ih =>
    rw [timeMerge]
    refine ite_cases (timeSumVal ρ · = _) _ (fun h => ?_) fun _ =>
      ite_cases (timeSumVal ρ · = _) _ (fun h0 => ?_) fun _ => ?_
    · rw [ih]
      simp only [timeSumVal_cons]
      rw [h, Int.add_mul, Int.add_mul]; omega
    · rw [ih, timeSumVal_cons ρ a, h0.1, h0.2, Int.zero_mul, Int.zero_mul, Int.zero_add, Int.zero_add]
    · rw [timeSumVal_cons, ih, ← timeSumVal_cons]

theorem timeSumVal_getLast (ρ : Env) (l : List TimeSummand) (s : TimeSummand)
    (h : l.getLast? = some s) :
    timeSumVal ρ l = timeSumVal ρ l.dropLast + (s.f * (ρ s.sq).ftime + s.l * (ρ s.sq).ltime) := by
  obtain ⟨ys, rfl⟩ := List.getLast?_eq_some_iff.mp h
  rw [List.dropLast_concat]
  exact (sumv_append _ ys [s]).trans (congrArg _ (Int.add_zero _))

theorem dropLastZero_val (ρ : Env) (l : List TimeSummand) :
    timeSumVal ρ (dropLastZero l) = timeSumVal ρ l := by
  unfold dropLastZero
  cases hs : l.getLast? with
  | none => rfl
  | some s =>
    refine ite_cases (timeSumVal ρ · = _) _ (fun hz => ?_) fun _ => rfl
    rw [timeSumVal_getLast ρ l s hs, hz.1, hz.2, Int.zero_mul, Int.zero_mul, Int.add_zero, Int.add_zero]

theorem timeNorm_dur (tc : TimeC) : (timeNorm tc).dur = tc.dur := by
  unfold timeNorm; split <;> rfl

theorem timeNorm_val (tc : TimeC) (ρ : Env) :
    timeSumVal ρ (timeNorm tc).sum = timeSumVal ρ tc.sum := by
  have hperm := timeSumVal_perm ρ (isort_perm timeSumLt tc.sum)
  unfold timeNorm
  generalize isort timeSumLt tc.sum = srt at hperm
  cases srt with
  | nil => exact hperm
  | cons a rest => exact (dropLastZero_val ρ _).trans ((timeMerge_val ρ a rest).trans hperm)

theorem timeNorm_sound (tc : TimeC) (ρ : Env) : evalTime (timeNorm tc) ρ = evalTime tc ρ := by
  rw [evalTime_eq, evalTime_eq, timeNorm_dur, timeNorm_val]

/-- a condition without summands is a constant, and so is one with the single summand
    `f·(ftime - ltime)` up to the sign of `f`, because `ftime ≤ ltime` -/
def timeVerdict (c : TimeC) : Verdict :=
  match c.sum with
  | [] => if c.dur < 0 then .reject else .drop
  | [s] =>
    if s.f + s.l ≠ 0 then .keep
    else if s.f > 0 then
      if c.dur < 0 then .reject else .keep
    else
      if c.dur ≥ 0 then .drop else .keep
  | _ => .keep

theorem timeFirst_sieve : IsSieve timeNorm timeVerdict timeFirst where
  nil := rfl
  cons tc l := by
    rw [timeFirst, timeVerdict]
    generalize timeNorm tc = c
    generalize c.sum = sum
    match sum with
    | [] => exact (Verdict.act_ite (c.dur < 0) .reject .drop c (timeFirst l)).symm
    | [s] =>
      dsimp only
      rw [Verdict.act_ite, Verdict.act_ite, Verdict.act_ite, Verdict.act_ite]
      rfl
    | _ :: _ :: _ => rfl

theorem timeVerdict_sound (c : TimeC) (ρ : Env) (hρ : Env.WF ρ) :
    (timeVerdict c).Sound (evalTime c ρ) (evalTime c ρ) := by
  unfold timeVerdict
  rw [evalTime_eq]
  match c.sum with
  | [] =>
    exact ite_cases (Verdict.Sound · _ _) _ (fun _ => decide_eq_false (by rw [timeSumVal_nil]; omega))
      fun _ => decide_eq_true (by rw [timeSumVal_nil]; omega)
  | [s] =>
    refine ite_cases (Verdict.Sound · _ _) _ (fun _ => rfl) fun hfl => ?_
    have hwf := (hρ s.sq).1
    have hval : timeSumVal ρ [s] = s.f * ((ρ s.sq).ftime - (ρ s.sq).ltime) := by
      rw [timeSumVal_cons, timeSumVal_nil, (by omega : s.l = -s.f), Int.mul_sub, Int.neg_mul]; omega
    rw [hval]
    refine ite_cases (Verdict.Sound · _ _) _ (fun hpos => ?_) fun hpos => ?_
    · have := Int.mul_nonpos_of_nonneg_of_nonpos (a := s.f) (b := (ρ s.sq).ftime - (ρ s.sq).ltime)
        (by omega) (by omega)
      exact ite_cases (Verdict.Sound · _ _) _ (fun _ => decide_eq_false (by omega)) fun _ => rfl
    · have := Int.mul_nonneg_of_nonpos_of_nonpos (a := s.f) (b := (ρ s.sq).ftime - (ρ s.sq).ltime)
        (by omega) (by omega)
      exact ite_cases (Verdict.Sound · _ _) _ (fun _ => decide_eq_true (by omega)) fun _ => rfl
  | _ :: _ :: _ => exact rfl

theorem timeFirst_sound (tcs : List TimeC) (ρ : Env) (hρ : Env.WF ρ) :
    optAll (fun c => evalTime c ρ) (timeFirst tcs) = tcs.all (fun c => evalTime c ρ) :=
  timeFirst_sieve.sound _ _ tcs fun tc _ => by
    rw [← timeNorm_sound tc ρ]
    exact timeVerdict_sound (timeNorm tc) ρ hρ

theorem cmpTimeSummand_refl (a : TimeSummand) : cmpTimeSummand a a = .eq := by
  simp [cmpTimeSummand]

theorem timeLt_of_key_eq {a b : TimeC} (hs : a.sum = b.sum ∧ a.rtf = b.rtf) :
    timeLt a b = decide (a.dur < b.dur) := by
  unfold timeLt
  rw [hs.1, hs.2, lexCmp_refl _ cmpTimeSummand_refl]
  simp

theorem evalTime_mono {a b : TimeC} (ρ : Env) (hs : a.sum = b.sum) (hn : a.dur ≤ b.dur)
    (ha : evalTime a ρ = true) : evalTime b ρ = true := by
  simp only [evalTime_eq, hs, decide_eq_true_eq] at ha ⊢
  omega

theorem timeDedup_isDedup : IsDedup (fun a b : TimeC => a.sum = b.sum ∧ a.rtf = b.rtf) timeDedup :=
  ⟨fun _ => rfl, fun _ _ _ => rfl⟩

theorem cleanTime_eq (tcs : List TimeC) :
    cleanTime tcs = sortPass timeLt (fun a rest => some (timeDedup a rest)) (timeFirst tcs) := by
  unfold cleanTime sortPass
  cases timeFirst tcs with
  | none => rfl
  | some l =>
    dsimp only
    cases isort timeLt l <;> rfl

open CleanNum in
theorem cleanTime_sound (tcs : List TimeC) (ρ : Env) (hρ : Env.WF ρ) :
    optAll (fun c => evalTime c ρ) (cleanTime tcs) = tcs.all (fun c => evalTime c ρ) := by
  rw [cleanTime_eq, ← timeFirst_sound tcs ρ hρ]
  refine optAll_sortPass _ timeLt
    (Adj fun a b => a.sum = b.sum ∧ a.rtf = b.rtf → evalTime a ρ = true → evalTime b ρ = true) _
    (adj_isort timeLt _ ?_ ?_) ?_ _
  · intro a b h hs
    rw [timeLt_of_key_eq hs, decide_eq_true_eq] at h
    exact evalTime_mono ρ hs.1 (by omega)
  · intro a b h hs
    rw [timeLt_of_key_eq ⟨hs.1.symm, hs.2.symm⟩, decide_eq_false_iff_not] at h
    exact evalTime_mono ρ hs.1 (by omega)
  · exact fun a l hadj => timeDedup_isDedup.all_eq _
      (fun _ _ _ h1 h2 => ⟨h1.1.symm.trans h2.1, h1.2.symm.trans h2.2⟩) l a hadj

theorem cleanTime_sub (tcs r : List TimeC) (hr : cleanTime tcs = some r) :
    Subperm r (tcs.map timeNorm) :=
  timeFirst_sieve.subperm_sortPass timeLt _ (fun a l _ h => by cases h; exact timeDedup_isDedup.sublist l a)
    List.filter_sublist (cleanTime_eq tcs ▸ hr)

end Pk.Query
