/-
  `cleanData` (cleanDataConditions) preserves the meaning of a conjunction of data chains.
-/
import Pk.Proofs.Query.Basic

namespace Pk.Query

structure CleanData.CmpOn {α κ : Type} (key : α → κ) (cmp : α → α → Ordering) : Prop where
  eq_iff : ∀ a b, cmp a b = .eq ↔ key a = key b
  lt_gt : ∀ a b, cmp a b = .lt → cmp b a = .gt

structure CleanData.CmpOK {α : Type} (cmp : α → α → Ordering) : Prop where
  eq : ∀ {a b}, cmp a b = .eq ↔ a = b
  lt_gt : ∀ a b, cmp a b = .lt → cmp b a = .gt

namespace CleanData

/-- one step of `cmpDataVar`, `cmpDataEl`: `if a.f ≠ b.f then c a.f b.f else` the next field -/
theorem CmpOn.lex {α β κ : Type} [DecidableEq β] (f : α → β) {c : β → β → Ordering} {k : α → κ}
    {c' : α → α → Ordering} (h : CmpOK c) (h' : CmpOn k c') :
    CmpOn (fun a => (f a, k a)) (fun a b => if f a ≠ f b then c (f a) (f b) else c' a b) where
  eq_iff a b := by
    by_cases e : f a = f b
    · rw [if_neg (not_not_intro e), h'.eq_iff, Prod.mk.injEq, and_iff_right e]
    · rw [if_pos e, h.eq, Prod.mk.injEq, iff_false_intro e, false_and]
  lt_gt a b hlt := by
    by_cases e : f a = f b
    · rw [if_neg (not_not_intro e)] at hlt
      rw [if_neg (not_not_intro e.symm)]
      exact h'.lt_gt a b hlt
    · rw [if_pos e] at hlt
      rw [if_pos (Ne.symm e)]
      exact h.lt_gt _ _ hlt

theorem CmpOK.on {α β : Type} {c : β → β → Ordering} (h : CmpOK c) (f : α → β) :
    CmpOn f (fun a b => c (f a) (f b)) :=
  ⟨fun _ _ => h.eq, fun _ _ => h.lt_gt _ _⟩

theorem CmpOn.of_inj {α κ : Type} {key : α → κ} {cmp : α → α → Ordering} (h : CmpOn key cmp)
    (inj : ∀ a b, key a = key b → a = b) : CmpOK cmp :=
  ⟨fun {a b} => (h.eq_iff a b).trans ⟨inj a b, congrArg key⟩, h.lt_gt⟩

theorem cmpString_ok : CmpOK cmpString := by
  constructor
  · intro a b
    unfold cmpString
    constructor
    · intro h
      split at h
      · cases h
      · split at h
        · assumption
        · cases h
    · intro h
      subst h
      simp [String.lt_irrefl]
  · intro a b h
    unfold cmpString at h ⊢
    split at h
    · rename_i hab
      have h1 : ¬ b < a := String.lt_asymm hab
      have h2 : ¬ b = a := by
        intro e; subst e; exact String.lt_irrefl _ hab
      simp [h1, h2]
    · split at h <;> cases h

theorem compareNat_ok : CmpOK (fun a b : Nat => compare a b) :=
  ⟨Nat.compare_eq_eq, fun _ _ h => Nat.compare_eq_gt.mpr (Nat.compare_eq_lt.mp h)⟩

theorem lexCmp_ok {α : Type} {cmp : α → α → Ordering} (h : CmpOK cmp) : CmpOK (lexCmp cmp) where
  eq := ⟨lexCmp_eq_of (fun _ _ => h.eq.mp) _ _, fun e => e ▸ lexCmp_refl cmp (fun _ => h.eq.mpr rfl) _⟩
  lt_gt a := by
    induction a with
    | nil => intro b; cases b <;> simp [lexCmp]
    | cons x xs ih =>
      intro b
      cases b with
      | nil => simp [lexCmp]
      | cons y ys =>
        rw [lexCmp, lexCmp]
        cases hc : cmp x y with
        | eq => rw [h.eq.mpr (h.eq.mp hc).symm]; exact ih ys
        | lt => rw [h.lt_gt x y hc]; exact fun _ => rfl
        | gt => exact fun e => Ordering.noConfusion e

theorem cmpDataVar_ok : CmpOK cmpDataVar :=
  (CmpOn.lex DataVar.pos compareNat_ok (CmpOn.lex DataVar.sq cmpString_ok (cmpString_ok.on DataVar.name))).of_inj
    fun ⟨_, _, _⟩ ⟨_, _, _⟩ e => by cases e; rfl

theorem cmpDataEl_ok : CmpOK cmpDataEl :=
  (CmpOn.lex DataEl.sq cmpString_ok (CmpOn.lex DataEl.flags compareNat_ok (CmpOn.lex DataEl.regex cmpString_ok
    (CmpOn.lex DataEl.conv cmpString_ok ((lexCmp_ok cmpDataVar_ok).on DataEl.vars))))).of_inj
    fun ⟨_, _, _, _, _⟩ ⟨_, _, _, _, _⟩ e => by cases e; rfl

theorem dataLt_asymm (a b : DataC) (h : dataLt a b = true) : dataLt b a = false := by
  unfold dataLt at h ⊢
  cases hc : lexCmp cmpDataEl a.els b.els with
  | lt => rw [(lexCmp_ok cmpDataEl_ok).lt_gt _ _ hc]
  | eq => rw [hc] at h; cases h
  | gt => rw [hc] at h; cases h

theorem compat_prefix (a b : List DataEl) (hc : dataCompat a b = true)
    (hs : lexCmp cmpDataEl b a ≠ .lt) : a <+: b := by
  induction a generalizing b with
  | nil => exact List.nil_prefix
  | cons x xs ih =>
    cases b with
    | nil => exact absurd rfl hs
    | cons y ys =>
      rw [dataCompat, Bool.and_eq_true, decide_eq_true_eq] at hc
      have e : x = y := cmpDataEl_ok.eq.mp hc.1
      subst e
      rw [lexCmp, cmpDataEl_ok.eq.mpr rfl] at hs
      exact List.cons_prefix_cons.mpr ⟨rfl, ih ys hc.2 hs⟩

def run (ρ : Env) : List DataEl → Nat → Option Nat
  | [], p => some p
  | e :: es, p =>
    match (ρ e.sq).step e p with
    | none => none
    | some p' => run ρ es p'

theorem chain_cons_ne (ρ : Env) (inv : Bool) (e : DataEl) (es : List DataEl) (p : Nat) (h : es ≠ []) :
    chain ρ inv (e :: es) p =
      match (ρ e.sq).step e p with
      | none => false
      | some p' => chain ρ inv es p' := by
  cases es with
  | nil => exact absurd rfl h
  | cons e2 es => rfl

theorem chain_append (ρ : Env) (inv : Bool) (xs ys : List DataEl) (p : Nat) (h : ys ≠ []) :
    chain ρ inv (xs ++ ys) p =
      match run ρ xs p with
      | none => false
      | some p' => chain ρ inv ys p' := by
  induction xs generalizing p with
  | nil => rfl
  | cons x xs ih =>
    rw [List.cons_append, chain_cons_ne _ _ _ _ _ (by simp [h]), run]
    cases (ρ x.sq).step x p with
    | none => rfl
    | some p' => exact ih p'

theorem chain_false_eq (ρ : Env) (xs : List DataEl) (p : Nat) :
    chain ρ false xs p = (run ρ xs p).isSome := by
  induction xs generalizing p with
  | nil => rfl
  | cons x xs ih =>
    cases xs with
    | nil =>
      rw [chain, run]
      cases (ρ x.sq).step x p <;> rfl
    | cons y ys =>
      rw [chain_cons_ne _ _ _ _ _ (List.cons_ne_nil _ _), run]
      cases (ρ x.sq).step x p with
      | none => rfl
      | some p' => exact ih p'

theorem chain_true_run (ρ : Env) (xs : List DataEl) (p : Nat) (h : chain ρ true xs p = true) :
    run ρ xs p = none := by
  induction xs generalizing p with
  | nil => cases h
  | cons x xs ih =>
    cases xs with
    | nil =>
      rw [chain] at h
      rw [run]
      cases hs : (ρ x.sq).step x p with
      | none => rfl
      | some p' => rw [hs] at h; cases h
    | cons y ys =>
      rw [chain_cons_ne _ _ _ _ _ (List.cons_ne_nil _ _)] at h
      rw [run]
      cases hs : (ρ x.sq).step x p with
      | none => rfl
      | some p' =>
        rw [hs] at h
        exact ih p' h

theorem run_prefix (ρ : Env) (b : DataC) (xs : List DataEl) (hp : xs <+: b.els)
    (h : xs.length < b.els.length ∨ b.inv = false) (hb : evalData b ρ = true) :
    (run ρ xs 0).isSome = true := by
  obtain ⟨t, ht⟩ := hp
  unfold evalData at hb
  by_cases htn : t = []
  · subst htn
    rw [List.append_nil] at ht
    subst ht
    rw [h.resolve_left (Nat.lt_irrefl _), chain_false_eq] at hb
    exact hb
  · rw [← ht, chain_append _ _ _ _ _ htn] at hb
    cases hr : run ρ xs 0 with
    | none => rw [hr] at hb; cases hb
    | some p' => rfl

/-- the two ways in which `dataDedup` finds neighbours contradictory -/
theorem data_contra (a b : DataC) (ρ : Env) (hp : a.els <+: b.els)
    (h : a.els.length = b.els.length ∧ a.inv ≠ b.inv ∨ a.inv = true ∧ a.els.length < b.els.length) :
    (evalData a ρ && evalData b ρ) = false := by
  unfold evalData
  cases ha : chain ρ a.inv a.els 0 with
  | false => rfl
  | true =>
    cases hb : chain ρ b.inv b.els 0 with
    | false => rfl
    | true =>
      exfalso
      rcases h with ⟨hl, hi⟩ | ⟨hi, hl⟩
      · have he := hp.eq_of_length hl
        cases hia : a.inv with
        | true =>
          have hr := chain_true_run ρ _ _ (hia ▸ ha)
          have := run_prefix ρ b a.els hp (Or.inr (by rw [← Bool.not_eq_true, ← hia]; exact Ne.symm hi)) hb
          rw [hr] at this; cases this
        | false =>
          have hib : b.inv = true := by rw [← Bool.not_eq_false, ← hia]; exact Ne.symm hi
          have hr := chain_true_run ρ _ _ (hib ▸ hb)
          have := run_prefix ρ a a.els (List.prefix_refl _) (Or.inr hia) ha
          rw [he, hr] at this; cases this
      · have hr := chain_true_run ρ _ _ (hi ▸ ha)
        have := run_prefix ρ b a.els hp (Or.inl hl) hb
        rw [hr] at this; cases this

theorem data_implied (a b : DataC) (ρ : Env) (hp : a.els <+: b.els)
    (h1 : ¬ (a.els.length = b.els.length ∧ a.inv ≠ b.inv))
    (h2 : ¬ (a.inv = true ∧ a.els.length < b.els.length)) (hb : evalData b ρ = true) :
    evalData a ρ = true := by
  by_cases hl : a.els.length = b.els.length
  · have he := hp.eq_of_length hl
    have hi : a.inv = b.inv := Decidable.not_not.mp fun hi => h1 ⟨hl, hi⟩
    rw [show a = b by cases a; cases b; cases he; cases hi; rfl]
    exact hb
  · have hlt : a.els.length < b.els.length := Nat.lt_of_le_of_ne hp.length_le hl
    have hi : a.inv = false := Bool.not_eq_true _ ▸ fun hi => h2 ⟨hi, hlt⟩
    unfold evalData
    rw [hi, chain_false_eq]
    exact run_prefix ρ b a.els hp (Or.inl hlt) hb

open CleanNum in
theorem dataDedup_sound (ρ : Env) (a : DataC) (rest : List DataC)
    (hs : Adj (fun x y => dataLt y x = false) (a :: rest)) :
    optAll (fun c => evalData c ρ) (dataDedup a rest) = (a :: rest).all (fun c => evalData c ρ) := by
  induction rest generalizing a with
  | nil => simp [dataDedup]
  | cons b rest ih =>
    have ih' := ih b hs.2
    rw [dataDedup, List.all_cons, List.all_cons]
    refine ite_cases (optAll _ · = _) _ (fun hc => ?_) fun _ => ?_
    · have hp : a.els <+: b.els := compat_prefix _ _ hc fun hlt => by
        have : dataLt b a = false := hs.1
        unfold dataLt at this; rw [hlt] at this; cases this
      refine ite_cases (optAll _ · = _) _ (fun h1 => ?_) fun h1 => ite_cases (optAll _ · = _) _ (fun h2 => ?_) fun h2 => ?_
      · rw [← Bool.and_assoc, data_contra a b ρ hp (Or.inl h1)]; rfl
      · rw [← Bool.and_assoc, data_contra a b ρ hp (Or.inr ⟨h2.1, h2.2⟩)]; rfl
      · rw [ih', List.all_cons]
        cases hb : evalData b ρ with
        | false => rw [Bool.false_and, Bool.and_false]
        | true => rw [data_implied a b ρ hp h1 (fun h => h2 ⟨h.1, h.2⟩) hb]; rfl
    · rw [optAll_map_cons, ih', List.all_cons]

theorem dataDedup_sublist : ∀ (l : List DataC) (a : DataC) (r : List DataC),
    dataDedup a l = some r → r.Sublist (a :: l) :=
  pass_sublist dataDedup (fun _ => rfl) fun a b l => by
    let P := fun x => x = none ∨ x = dataDedup a l ∨ x = dataDedup b l ∨ x = (dataDedup b l).map (a :: ·)
    rw [dataDedup]
    exact ite_cases P _ (fun _ => ite_cases P _ (fun _ => .inl rfl) fun _ =>
        ite_cases P _ (fun _ => .inl rfl) fun _ => .inr (.inr (.inl rfl)))
      fun _ => .inr (.inr (.inr rfl))

theorem cleanData_eq (dcs : List DataC) : cleanData dcs = sortPass dataLt dataDedup (some dcs) := by
  unfold cleanData sortPass
  dsimp only
  cases isort dataLt dcs <;> rfl

end CleanData

open CleanData

/-- the non-emptiness of the chains is not needed -/
theorem cleanData_sound' (dcs : List DataC) (ρ : Env) :
    optAll (fun c => evalData c ρ) (cleanData dcs) = dcs.all (fun c => evalData c ρ) := by
  rw [cleanData_eq]
  exact optAll_sortPass _ dataLt _ _
    (CleanNum.adj_isort dataLt (fun x y => dataLt y x = false) dataLt_asymm fun _ _ h => h)
    (fun a l h => dataDedup_sound ρ a l h) (some dcs)

set_option linter.unusedVariables false in
theorem cleanData_sound (dcs : List DataC) (ρ : Env) (hne : ∀ d ∈ dcs, d.els ≠ []) :
    optAll (fun c => evalData c ρ) (cleanData dcs) = dcs.all (fun c => evalData c ρ) :=
  cleanData_sound' dcs ρ

theorem cleanData_sub (dcs r : List DataC) (hr : cleanData dcs = some r) : Subperm r dcs :=
  subperm_sortPass dataLt _ (fun a l r => dataDedup_sublist l a r) (.refl dcs) (cleanData_eq dcs ▸ hr)

theorem cleanData_ok (dcs : List DataC) (h : ∀ d ∈ dcs, d.OK) (r : List DataC)
    (hr : cleanData dcs = some r) : ∀ d ∈ r, d.OK :=
  fun d hd => h d ((cleanData_sub dcs r hr).subset d hd)

end Pk.Query
