/-
  The "subtract the filter's own variable" loop (`ownLoop`, conditions.go:702-720 and 801-826),
  generic in the summand type: it terminates on every list (`ownLoop_terminates`), and on a list
  with pairwise distinct keys it subtracts the own variable exactly once, removes only summands of
  value 0, and leaves distinct keys and no zero summand (`runOwnLoop_spec`).
-/
import Pk.Model.Query.Translate
import Pk.Proofs.Query.Basic

namespace Pk.Query

section
variable {σ : Type} (isOwn : σ → Bool) (dec : σ → σ) (isZero : σ → Bool) (fresh : σ)

/-- `sc - i + 1` strictly decreases in every iteration (a non-removing step advances `i`, a removing
    step lowers `sc`), so `len + 2` units of fuel suffice for any input list: no hypothesis on the
    summands is needed. -/
theorem ownLoop_fuel :
    ∀ (fuel i : Nat) (sc : Int) (l : List σ), sc - (i : Int) + 1 < (fuel : Int) → 0 < fuel →
      ∃ r, ownLoop isOwn dec isZero fresh fuel i sc l = some r := by
  intro fuel
  induction fuel with
  | zero => intro i sc l _ h; exact absurd h (Nat.lt_irrefl 0)
  | succ fuel ih =>
    intro i sc l h _
    rw [ownLoop]
    by_cases hgt : (i : Int) > sc
    · rw [if_pos hgt]; exact ⟨l, rfl⟩
    · rw [if_neg hgt]
      have hf : 0 < fuel := by omega
      have hsc : ∀ b : Bool, (if b = true then sc - 1 else sc) ≤ sc := by
        intro b; cases b <;> simp <;> omega
      dsimp only
      cases (if i = l.length then l ++ [fresh] else l)[i]? with
      | none => exact ⟨_, rfl⟩
      | some s =>
        have := hsc (isOwn s)
        dsimp only
        by_cases hz : isZero (if isOwn s = true then dec s else s) = true
        · rw [if_pos hz]; exact ih _ _ _ (by omega) hf
        · rw [if_neg hz]; exact ih _ _ _ (by omega) hf

theorem ownLoop_terminates (l : List σ) : ∃ r, runOwnLoop isOwn dec isZero fresh l = .ok r := by
  obtain ⟨r, hr⟩ := ownLoop_fuel isOwn dec isZero fresh (2 * l.length + 3) 0 l.length l
    (by omega) (by omega)
  exact ⟨r, by simp [runOwnLoop, hr]⟩

theorem swapRemove_mid {α : Type} (pre : List α) (s : α) (rest : List α) :
    ∃ rest', swapRemove (pre ++ s :: rest) pre.length = pre ++ rest' ∧ rest'.Perm rest := by
  rcases List.eq_nil_or_concat rest with rfl | ⟨L, b, rfl⟩
  · exact ⟨[], by simp [swapRemove], List.Perm.refl _⟩
  · refine ⟨b :: L, ?_, by rw [List.concat_eq_append]; exact (List.perm_append_singleton b L).symm⟩
    have e : ∀ x, pre ++ x :: (L ++ [b]) = (pre ++ x :: L) ++ [b] := by simp
    have h1 : (pre ++ s :: (L ++ [b])).getLast? = some b := by rw [e, List.getLast?_concat]
    simp only [List.concat_eq_append, swapRemove, h1]
    rw [List.set_append_right _ _ (Nat.le_refl _), Nat.sub_self, List.set_cons_zero, e,
      List.dropLast_concat]

variable {isOwn dec isZero fresh}

theorem ownLoop_step (fuel : Nat) (sc : Int) (pre : List σ) (s : σ) (rest : List σ) (hsc : ¬ ((pre.length : Int) > sc)) :
    ownLoop isOwn dec isZero fresh (fuel + 1) pre.length sc (pre ++ s :: rest) =
      (if isZero (if isOwn s then dec s else s) then
        ownLoop isOwn dec isZero fresh fuel pre.length ((if isOwn s then sc - 1 else sc) - 1)
          (swapRemove (pre ++ (if isOwn s then dec s else s) :: rest) pre.length)
       else ownLoop isOwn dec isZero fresh fuel (pre.length + 1) (if isOwn s then sc - 1 else sc)
          (pre ++ (if isOwn s then dec s else s) :: rest)) := by
  rw [ownLoop]
  simp [hsc]

theorem ownLoop_exit {fuel i : Nat} {sc : Int} {l r : List σ} (h : (i : Int) > sc)
    (hr : ownLoop isOwn dec isZero fresh fuel i sc l = some r) : r = l := by
  cases fuel with
  | zero => simp [ownLoop] at hr
  | succ n => rw [ownLoop] at hr; simpa [h] using hr.symm

end

/-- what the loop is told about the summands: `key` identifies the summand of a variable, `k0` is the
    key of the filter's own variable, whose value is `x`; `dec` subtracts the own variable once -/
structure OwnSpec {σ κ : Type} (key : σ → κ) (k0 : κ) (isOwn : σ → Bool) (dec : σ → σ)
    (isZero : σ → Bool) (fresh : σ) (val : σ → Int) (x : Int) : Prop where
  own : ∀ s, isOwn s = true ↔ key s = k0
  decKey : ∀ s, key (dec s) = key s
  decVal : ∀ s, isOwn s = true → val (dec s) = val s - x
  zero : ∀ s, isZero s = true → val s = 0
  freshKey : key fresh = k0
  freshVal : val fresh = 0
  freshNZ : isZero (dec fresh) = false

variable {σ κ : Type} {key : σ → κ} {k0 : κ} {isOwn : σ → Bool} {dec : σ → σ} {isZero : σ → Bool}
  {fresh : σ} {val : σ → Int} {x : Int} (S : OwnSpec key k0 isOwn dec isZero fresh val x)
include S

/-- Invariant over `(i, sc, l)` with `l = pre ++ post`, `i = pre.length`: the keys of `l` are
    pairwise distinct and no summand of `pre` is zero; either the own summand was not met yet
    (`sc = len`, none in `pre`, value `V0`) or it was (`sc = len - 1`, none in `post`, value
    `V0 - x`).  The loop leaves with `post = []`. -/
theorem ownLoop_inv (V0 : Int) :
    ∀ (fuel : Nat) (pre post : List σ) (sc : Int) (r : List σ), ((pre ++ post).map key).Nodup →
    (∀ s ∈ pre, isZero s = false) →
    ((sc = ((pre ++ post).length : Int) ∧ (∀ s ∈ pre, isOwn s = false) ∧ sumv val (pre ++ post) = V0) ∨
     (sc = ((pre ++ post).length : Int) - 1 ∧ (∀ s ∈ post, isOwn s = false) ∧
        sumv val (pre ++ post) = V0 - x)) →
    ownLoop isOwn dec isZero fresh fuel pre.length sc (pre ++ post) = some r →
    (r.map key).Nodup ∧ (∀ s ∈ r, isZero s = false) ∧ sumv val r = V0 - x := by
  have hFreshOwn : isOwn fresh = true := (S.own fresh).mpr S.freshKey
  have snoc : ∀ {p : σ → Bool} {pre : List σ} {s : σ}, (∀ y ∈ pre, p y = false) → p s = false →
      ∀ y ∈ pre ++ [s], p y = false := by
    intro p pre s h1 h2 y hy
    rcases List.mem_append.mp hy with hy | hy
    · exact h1 y hy
    · rw [List.mem_singleton.mp hy]; exact h2
  -- the summands behind an own summand are not own: keys are distinct
  have ownRest : ∀ {pre rest : List σ} {s : σ}, ((pre ++ s :: rest).map key).Nodup → isOwn s = true →
      ∀ y ∈ rest, isOwn y = false := by
    intro pre rest s h hs y hy
    rw [List.map_append, List.map_cons] at h
    have h2 := (List.nodup_cons.mp (List.nodup_append.mp h).2.1).1
    cases hyo : isOwn y with
    | false => rfl
    | true =>
      exact absurd (List.mem_map.mpr ⟨y, hy, ((S.own y).mp hyo).trans ((S.own s).mp hs).symm⟩) h2
  -- removing a summand (and permuting what follows) keeps the keys distinct
  have remove : ∀ {pre rest rest' : List σ} {s : σ}, ((pre ++ s :: rest).map key).Nodup →
      rest'.Perm rest → ((pre ++ rest').map key).Nodup := by
    intro pre rest rest' s h hp
    exact (((List.Perm.append_left pre hp).map _).nodup_iff).mpr
      (List.Nodup.sublist ((List.Sublist.append_left (List.sublist_cons_self s rest) pre).map _) h)
  intro fuel
  induction fuel with
  | zero => intro pre post sc r _ _ _ h; simp [ownLoop] at h
  | succ fuel ih =>
    intro pre post sc r hkn hnz hmode h
    cases post with
    | nil =>
      simp only [List.append_nil] at h hkn hmode
      rcases hmode with ⟨hsc, hno, hv⟩ | ⟨hsc, _, hv⟩
      · -- own variable not met: a fresh summand is appended and decremented
        rw [ownLoop] at h
        subst hsc
        simp [hFreshOwn, S.freshNZ] at h
        have := ownLoop_exit (by omega) h
        subst this
        refine ⟨?_, snoc hnz S.freshNZ, ?_⟩
        · rw [List.map_append]
          refine List.nodup_append.mpr ⟨hkn, by simp, ?_⟩
          intro a ha b hb heq
          obtain ⟨y, hy, rfl⟩ := List.mem_map.mp ha
          rw [List.mem_singleton.mp hb, S.decKey, S.freshKey] at heq
          exact absurd ((S.own y).mpr heq) (by simp [hno y hy])
        · rw [sumv_append, sumv_cons, S.decVal fresh hFreshOwn, S.freshVal, hv]
          simp [sumv]
          omega
      · have := ownLoop_exit (by omega) h
        subst this
        exact ⟨hkn, hnz, hv⟩
    | cons s rest =>
      have hlen : ((pre ++ s :: rest).length : Int) = pre.length + rest.length + 1 := by
        simp; omega
      rw [ownLoop_step _ _ _ _ _ (by rcases hmode with ⟨hsc, _⟩ | ⟨hsc, _⟩ <;> omega)] at h
      have e1 : ∀ y, pre ++ y :: rest = (pre ++ [y]) ++ rest := by simp
      have e2 : ∀ y, pre.length + 1 = (pre ++ [y]).length := by simp
      by_cases hown : isOwn s = true
      · -- the own summand: only possible before it was met
        rcases hmode with ⟨hsc, hno, hv⟩ | ⟨_, hno, _⟩
        · simp only [hown, if_true] at h
          have hv' : sumv val (pre ++ dec s :: rest) = V0 - x := by
            rw [sumv_append, sumv_cons, S.decVal s hown]
            rw [sumv_append, sumv_cons] at hv
            omega
          by_cases hz : isZero (dec s) = true
          · simp only [hz, if_true] at h
            obtain ⟨rest', hsw, hperm⟩ := swapRemove_mid pre (dec s) rest
            rw [hsw] at h
            refine ih pre rest' _ r (remove hkn hperm) hnz (Or.inr ⟨?_, ?_, ?_⟩) h
            · have := hperm.length_eq
              simp only [List.length_append]
              omega
            · exact fun y hy => ownRest hkn hown y (hperm.mem_iff.mp hy)
            · rw [sumv_append, sumv_perm val hperm]
              rw [sumv_append, sumv_cons, S.zero _ hz] at hv'
              omega
          · simp only [hz] at h
            rw [e1] at hv'
            rw [e1, e2] at h
            refine ih (pre ++ [dec s]) rest _ r (by simpa [S.decKey] using hkn)
              (snoc hnz (by simpa using hz)) (Or.inr ⟨?_, ownRest hkn hown, hv'⟩) h
            simp only [List.length_append, List.length_cons, List.length_nil]
            omega
        · exact absurd hown (by simp [hno s List.mem_cons_self])
      · have hown' : isOwn s = false := by simpa using hown
        simp only [hown', Bool.false_eq_true, if_false] at h
        by_cases hz : isZero s = true
        · simp only [hz, if_true] at h
          obtain ⟨rest', hsw, hperm⟩ := swapRemove_mid pre s rest
          rw [hsw] at h
          have hl := hperm.length_eq
          have hsv : sumv val (pre ++ rest') = sumv val (pre ++ s :: rest) := by
            rw [sumv_append, sumv_perm val hperm, sumv_append, sumv_cons, S.zero _ hz]
            omega
          refine ih pre rest' _ r (remove hkn hperm) hnz ?_ h
          rcases hmode with ⟨hsc, hno, hv⟩ | ⟨hsc, hno, hv⟩
          · exact Or.inl ⟨by simp only [List.length_append]; omega, hno, by rw [hsv, hv]⟩
          · exact Or.inr ⟨by simp only [List.length_append]; omega,
              fun y hy => hno y (List.mem_cons_of_mem _ (hperm.mem_iff.mp hy)), by rw [hsv, hv]⟩
        · simp only [hz] at h
          rw [e1] at h hkn hmode
          rw [e2] at h
          refine ih (pre ++ [s]) rest _ r hkn (snoc hnz (by simpa using hz)) ?_ h
          rcases hmode with ⟨hsc, hno, hv⟩ | ⟨hsc, hno, hv⟩
          · exact Or.inl ⟨hsc, snoc hno hown', hv⟩
          · exact Or.inr ⟨hsc, fun y hy => hno y (List.mem_cons_of_mem _ hy), hv⟩

theorem runOwnLoop_spec (l r : List σ) (hk : (l.map key).Nodup)
    (h : runOwnLoop isOwn dec isZero fresh l = .ok r) :
    (r.map key).Nodup ∧ (∀ s ∈ r, isZero s = false) ∧ sumv val r = sumv val l - x := by
  unfold runOwnLoop at h
  split at h
  · next r' hl =>
    cases h
    exact ownLoop_inv S (sumv val l) _ [] l _ r hk (fun _ hs => absurd hs List.not_mem_nil)
      (Or.inl ⟨rfl, fun _ hs => absurd hs List.not_mem_nil, rfl⟩) hl
  · cases h

end Pk.Query
