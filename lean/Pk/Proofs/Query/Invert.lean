/-
  Negation of a single condition: `evalSet (Cond.invert c) ρ = !evalCond c ρ`.

  Tag, host, number and time conditions invert to one condition of the same kind whose value is flipped.
  A payload chain inverts to one alternative per prefix ("the first i elements match, the next fails").
  A flag condition inverts to the other sub-masks of its mask; the Go loop that enumerates them
  (`v--; v &= mask` on uint16, until it is back at the start) is shown to come back (`flagMask_terminates`, C14).
-/
import Pk.Proofs.Query.Basic

namespace Pk.Query

namespace Invert

theorem evalConj_single (x : Cond) (ρ : Env) : evalConj [x] ρ = evalCond x ρ := Bool.and_true _

theorem evalSet_single (x : Cond) (ρ : Env) : evalSet [[x]] ρ = evalCond x ρ :=
  (Bool.or_false _).trans (evalConj_single x ρ)

theorem ok_single {x : Cond} (h : x.OK) : ∀ conj ∈ [[x]], ∀ y ∈ conj, y.OK := by
  intro conj hc y hy
  rw [List.mem_singleton.mp hc] at hy
  rw [List.mem_singleton.mp hy]
  exact h

/-- `allAcc = 2^4 - 1` flips each of the four accept bits, and `tagBit` tests one of them -/
theorem evalTag_flip (c : TagC) (ρ : Env) :
    evalTag { c with acc := c.acc ^^^ allAcc } ρ = !evalTag c ρ := by
  obtain ⟨k, hk, hb⟩ := tagBit_pow ((ρ c.sq).tagMatch c.name) ((ρ c.sq).tagUncertain c.name)
  simp only [evalTag, hb, and_two_pow_ne_zero, Nat.testBit_xor]
  rw [show allAcc = 2 ^ 4 - 1 from rfl, Nat.testBit_two_pow_sub_one, decide_eq_true hk, Bool.xor_true]

theorem numSumVal_neg (ρ : Env) (sum : List NumSummand) :
    numSumVal ρ (sum.map (fun s => { s with factor := -s.factor })) = - numSumVal ρ sum :=
  sumv_map_neg _ _ (fun _ => Int.neg_mul ..) sum

/-- `x ≥ 0` fails exactly when `-x - 1 ≥ 0` holds -/
theorem neg_pred_nonneg (a b : Int) : decide (-a - 1 + -b ≥ 0) = !decide (a + b ≥ 0) := by
  rw [← decide_not]
  exact decide_eq_decide.mpr (by omega)

theorem evalNum_neg (c : NumC) (ρ : Env) :
    evalNum { sum := c.sum.map (fun s => { s with factor := -s.factor }), n := -c.n - 1 } ρ = !evalNum c ρ := by
  rw [evalNum, numSumVal_neg]
  exact neg_pred_nonneg ..

theorem timeSumVal_neg (ρ : Env) (sum : List TimeSummand) :
    timeSumVal ρ (sum.map (fun s => { s with f := -s.f, l := -s.l })) = - timeSumVal ρ sum :=
  sumv_map_neg _ _ (fun _ => by simp only [Int.neg_mul, Int.neg_add]) sum

theorem evalTime_neg (c : TimeC) (ρ : Env) :
    evalTime { sum := c.sum.map (fun s => { s with f := -s.f, l := -s.l }), dur := -c.dur - 1, rtf := -c.rtf } ρ
      = !evalTime c ρ := by
  rw [evalTime, timeSumVal_neg]
  exact neg_pred_nonneg ..

theorem any_range_succ (f : Nat → Bool) (n : Nat) :
    (List.range (n + 1)).any f = (f 0 || (List.range n).any fun i => f (i + 1)) := by
  rw [List.range_succ_eq_map, List.any_cons, List.any_map]; rfl

end Invert
open Invert

theorem chain_negation (ρ : Env) (inv : Bool) (els : List DataEl) (h : els ≠ []) (p : Nat) :
    (List.range els.length).any (fun i =>
      chain ρ (if i + 1 = els.length then !inv else true) (els.take (i + 1)) p)
      = !chain ρ inv els p := by
  induction els generalizing p with
  | nil => exact absurd rfl h
  | cons e es ih =>
    cases es with
    | nil => exact (Bool.or_false _).trans (Bool.bne_not ..)
    | cons e2 es =>
      -- alternative 0 says that `e` fails; the others step over `e` and are the alternatives of the tail
      rw [List.length_cons, any_range_succ]
      simp only [Nat.add_right_cancel_iff]
      show ((((ρ e.sq).step e p).isSome != true) || (List.range (e2 :: es).length).any fun i =>
          match (ρ e.sq).step e p with
          | none => false
          | some p' =>
            chain ρ (if i + 1 = (e2 :: es).length then !inv else true) (List.take (i + 1) (e2 :: es)) p') =
        !match (ρ e.sq).step e p with
          | none => false
          | some p' => chain ρ inv (e2 :: es) p'
      cases (ρ e.sq).step e p with
      | none => rfl
      | some p' => exact ih (List.cons_ne_nil _ _) p'

theorem invert_data_sound (c : DataC) (ρ : Env) (h : c.els ≠ []) :
    evalSet (Cond.invert (.data c)) ρ = !evalCond (.data c) ρ := by
  simp only [Cond.invert, evalSet, List.any_map, Function.comp_def, evalConj_single]
  exact chain_negation ρ c.inv c.els h 0

namespace Invert

theorem xor_eq_zero_iff' (a b : Nat) : a ^^^ b = 0 ↔ a = b :=
  ⟨fun h => by rw [← Nat.zero_xor b, ← Nat.xor_self a, Nat.xor_assoc, h, Nat.xor_zero],
   fun h => h ▸ Nat.xor_self a⟩

theorem xor_and_eq_zero (a b m : Nat) : (a ^^^ b) &&& m = 0 ↔ a &&& m = b &&& m := by
  rw [Nat.and_xor_distrib_right, xor_eq_zero_iff']

theorem and_and_self (x m : Nat) : (x &&& m) &&& m = x &&& m := by
  rw [Nat.and_assoc, Nat.and_self]

theorem submask_iff_testBit (v m : Nat) :
    v &&& m = v ↔ ∀ i, v.testBit i = true → m.testBit i = true := by
  rw [Nat.eq_iff_testBit_eq]
  refine forall_congr' fun i => ?_
  rw [Nat.testBit_and]
  cases v.testBit i <;> simp

theorem lt_two_pow_of_bits {v b : Nat} (h : ∀ i, v.testBit i = true → i < b) : v < 2 ^ b :=
  Nat.lt_pow_two_of_testBit v fun i hi => by
    cases hv : v.testBit i
    · rfl
    · exact absurd (h i hv) (Nat.not_lt.mpr hi)

theorem testBit_add_two_pow {w b : Nat} (h : w < 2 ^ b) (i : Nat) :
    (w + 2 ^ b).testBit i = (decide (b = i) || w.testBit i) := by
  rw [Nat.add_comm, ← Nat.mul_one (2 ^ b), Nat.two_pow_add_eq_or_of_lt h, Nat.testBit_or, Nat.mul_one,
    Nat.testBit_two_pow]

theorem mem_subMasksOfBits (bs : List Nat) (hd : bs.Pairwise (fun a b => a > b)) (v : Nat) :
    v ∈ subMasksOfBits bs ↔ ∀ i, v.testBit i = true → i ∈ bs := by
  induction bs generalizing v with
  | nil =>
    simp only [subMasksOfBits, List.mem_singleton, List.not_mem_nil]
    constructor
    · rintro rfl i hi
      rw [Nat.zero_testBit] at hi; cases hi
    · intro h
      exact Nat.eq_of_testBit_eq fun i => by
        rw [Nat.zero_testBit]
        exact Bool.eq_false_iff.mpr (h i)
  | cons b bs ih =>
    obtain ⟨hlt, hd'⟩ := List.pairwise_cons.mp hd
    have below : ∀ w, (∀ i, w.testBit i = true → i ∈ bs) → w < 2 ^ b :=
      fun w hw => lt_two_pow_of_bits fun i hi => hlt i (hw i hi)
    simp only [subMasksOfBits, List.mem_append, List.mem_map, List.mem_cons, ih hd']
    constructor
    · rintro (⟨w, hw, rfl⟩ | hv) i hi
      · rw [testBit_add_two_pow (below w hw), Bool.or_eq_true, decide_eq_true_eq] at hi
        exact hi.imp Eq.symm (hw i)
      · exact Or.inr (hv i hi)
    · intro h
      cases hvb : v.testBit b
      · exact Or.inr fun i hi => (h i hi).resolve_left fun e => by rw [e, hvb] at hi; cases hi
      · -- `2^b ≤ v < 2^(b+1)`: `v` is `2^b` on top of its bits below `b`
        have hv : v < (1 + 1) * 2 ^ b := by
          rw [Nat.mul_comm, ← Nat.pow_succ]
          exact lt_two_pow_of_bits fun i hi =>
            (h i hi).elim (fun e => e ▸ Nat.lt_succ_self b) fun e => Nat.lt_succ_of_lt (hlt i e)
        have hd := Nat.mod_add_div v (2 ^ b)
        rw [Nat.div_eq_of_lt_le ((Nat.one_mul _).symm ▸ Nat.ge_two_pow_of_testBit hvb) hv, Nat.mul_one] at hd
        refine Or.inl ⟨v % 2 ^ b, fun i hi => ?_, hd⟩
        rw [Nat.testBit_mod_two_pow, Bool.and_eq_true, decide_eq_true_eq] at hi
        exact (h i hi.2).resolve_left (Nat.ne_of_lt hi.1)

theorem mem_bitsDesc (mask i : Nat) : i ∈ bitsDesc mask ↔ i < 16 ∧ mask.testBit i = true := by
  simp [bitsDesc]

theorem bitsDesc_pairwise (mask : Nat) : (bitsDesc mask).Pairwise (fun a b => a > b) := by
  unfold bitsDesc
  apply List.Pairwise.filter
  rw [List.pairwise_reverse]
  exact List.pairwise_lt_range

theorem mem_subMasksDesc (mask v : Nat) (hm : mask < 65536) :
    v ∈ subMasksDesc mask ↔ v &&& mask = v := by
  unfold subMasksDesc
  rw [mem_subMasksOfBits _ (bitsDesc_pairwise mask), submask_iff_testBit]
  refine forall_congr' fun i => imp_congr_right fun _ => ?_
  rw [mem_bitsDesc]
  -- a bit of `mask < 2^16` lies below 16
  refine and_iff_right_of_imp fun h => Nat.lt_of_not_le fun hn => ?_
  rw [Nat.testBit_lt_two_pow (Nat.lt_of_lt_of_le hm (Nat.pow_le_pow_right (n := 2) (by decide) hn))] at h
  cases h

theorem mem_flagInvertValues (value mask v : Nat) (hm : mask < 65536) :
    v ∈ flagInvertValues value mask ↔ v &&& mask = v ∧ v ≠ value &&& mask := by
  simp only [flagInvertValues, List.mem_append, List.mem_filter, decide_eq_true_eq, mem_subMasksDesc _ _ hm]
  rw [← and_or_left, Nat.ne_iff_lt_or_gt]

end Invert

theorem invert_flag_sound (c : FlagC) (ρ : Env) (hm : c.mask < 65536) :
    evalSet (Cond.invert (.flag c)) ρ = !evalCond (.flag c) ρ := by
  simp only [Cond.invert, evalSet, evalConj, evalCond, evalFlag, List.any_cons, List.any_nil,
    Bool.or_false, List.all_map, Function.comp_def]
  apply Bool.eq_iff_iff.mpr
  simp only [List.all_eq_true, mem_flagInvertValues _ _ _ hm, bne_iff_ne, ne_eq, Bool.not_eq_true',
    bne_eq_false_iff_eq, xor_and_eq_zero]
  -- the stream's flags under the mask are themselves a sub-mask: only `value &&& mask` is left out
  constructor
  · intro h
    exact Decidable.byContradiction fun hne => h _ ⟨and_and_self .., hne⟩ (and_and_self ..).symm
  · rintro h v ⟨h1, h2⟩ e
    exact h2 (by rw [← h1, ← e, h])

/-- flag masks are uint16, data chains are non-empty -/
theorem invert_cond_sound (c : Cond) (ρ : Env)
    (hflag : ∀ f, c = .flag f → f.mask < 65536) (hdata : ∀ d, c = .data d → d.els ≠ []) :
    evalSet (Cond.invert c) ρ = !evalCond c ρ := by
  cases c with
  | tag c => exact (evalSet_single _ ρ).trans (evalTag_flip c ρ)
  | flag c => exact invert_flag_sound c ρ (hflag c rfl)
  | host c => exact (evalSet_single _ ρ).trans (evalHost_flip c ρ)
  | time c => exact (evalSet_single _ ρ).trans (evalTime_neg c ρ)
  | num c => exact (evalSet_single _ ρ).trans (evalNum_neg c ρ)
  | data c => exact invert_data_sound c ρ (hdata c rfl)
  | impossible => rfl

theorem invert_cond_sound_partial (c : Cond) (ρ : Env)
    (hflag : ∀ f, c = .flag f → f.mask = 3) (hdata : ∀ d, c = .data d → d.els ≠ []) :
    evalSet (Cond.invert c) ρ = !evalCond c ρ :=
  invert_cond_sound c ρ (fun f hf => by rw [hflag f hf]; decide) hdata

namespace Invert

theorem and_halves (x m : Nat) : x &&& m = 2 * (x / 2 &&& m / 2) + (x % 2 &&& m % 2) := by
  rw [← Nat.and_div_two, ← Nat.and_mod_two_pow (n := 1)]
  exact (Nat.div_add_mod _ 2).symm

theorem sub_half {x m : Nat} (h : x &&& m = x) : x / 2 &&& m / 2 = x / 2 := by
  rw [← Nat.and_div_two, h]

theorem sub_bit {x m : Nat} (h : x &&& m = x) : x % 2 ≤ m % 2 := by
  have : x % 2 &&& m % 2 = x % 2 := by rw [← Nat.and_mod_two_pow (n := 1), h]
  exact this ▸ Nat.and_le_right

/-- no sub-mask of `m` lies strictly between `v &&& m` and the sub-mask `v + 1`: the loop's
    `v-- ; v &= m` steps to the next smaller sub-mask -/
theorem submask_pred (v : Nat) :
    ∀ m v0, v0 &&& m = v0 → (v + 1) &&& m = v + 1 → v0 ≤ v → v0 ≤ v &&& m := by
  induction v using Nat.div2Induction with
  | _ v ih =>
    intro m v0 h0 hv hle
    have dv := sub_half hv
    rw [and_halves v m]
    rcases Nat.mod_two_eq_zero_or_one v with hp | hp
    · -- `v` is `v + 1` without bit 0, a sub-mask itself
      rw [Nat.succ_div_of_mod_ne_zero (by rw [Nat.add_mod, hp]; decide)] at dv
      rw [dv, show v % 2 &&& m % 2 = v % 2 by rw [hp, Nat.zero_and], Nat.div_add_mod]
      exact hle
    · -- bit 0 of `v &&& m` is that of `m`, which covers that of `v0`; the rest by induction
      rw [Nat.succ_div_of_mod_eq_zero (by rw [Nat.add_mod, hp])] at dv
      rw [hp, Nat.one_and_eq_mod_two, Nat.mod_mod, ← Nat.div_add_mod v0 2]
      have hpos : v > 0 := Nat.pos_of_ne_zero fun e => by rw [e] at hp; cases hp
      exact Nat.add_le_add
        (Nat.mul_le_mul_left 2 (ih hpos (m / 2) (v0 / 2) (sub_half h0) dv (Nat.div_le_div_right hle)))
        (sub_bit h0)

theorem loop_step {value mask v v1 : Nat} (h1 : ((v + 65535) % 65536) &&& mask = v1)
    (next : v1 ≠ value &&& mask → ∀ acc, ∃ fuel, flagInvertLoop value mask fuel v1 acc ≠ none)
    (acc : List Nat) : ∃ fuel, flagInvertLoop value mask fuel v acc ≠ none := by
  by_cases e : v1 = value &&& mask
  · refine ⟨1, ?_⟩
    rw [flagInvertLoop, h1, if_pos e]
    exact Option.some_ne_none _
  · obtain ⟨fuel, h⟩ := next e (acc ++ [v1])
    refine ⟨fuel + 1, ?_⟩
    rw [flagInvertLoop, h1, if_neg e]
    exact h

theorem dec16 {v : Nat} (h0 : 0 < v) (h : v < 65536) : (v + 65535) % 65536 = v - 1 := by
  obtain ⟨w, rfl⟩ : ∃ w, v = w + 1 := ⟨v - 1, (Nat.sub_add_cancel h0).symm⟩
  rw [Nat.add_assoc, Nat.add_mod_right, Nat.mod_eq_of_lt (Nat.lt_of_succ_lt h), Nat.add_sub_cancel]

/-- above `value &&& mask` the loop walks down the sub-masks and meets it -/
theorem loop_down (value mask v : Nat) :
    v &&& mask = v → value &&& mask < v → v < 65536 →
    ∀ acc, ∃ fuel, flagInvertLoop value mask fuel v acc ≠ none := by
  induction v using Nat.strongRecOn with
  | _ v ih =>
    intro hsub hlt hv
    have hpos : 0 < v := Nat.zero_lt_of_lt hlt
    refine loop_step (congrArg (· &&& mask) (dec16 hpos hv)) fun hne => ?_
    have h1 : value &&& mask ≤ (v - 1) &&& mask :=
      submask_pred (v - 1) mask _ (and_and_self ..) (by rwa [Nat.sub_add_cancel hpos]) (Nat.le_sub_one_of_lt hlt)
    have h2 : (v - 1) &&& mask < v := Nat.lt_of_le_of_lt Nat.and_le_left (Nat.sub_one_lt_of_lt hlt)
    exact ih _ h2 (and_and_self ..) (Nat.lt_of_le_of_ne h1 (Ne.symm hne)) (Nat.lt_trans h2 hv)

/-- from `value &&& mask` downwards the loop reaches 0, wraps around to `mask` and goes on as above -/
theorem loop_up (value mask : Nat) (hm : mask < 65536) (v : Nat) :
    v &&& mask = v → v ≤ value &&& mask →
    ∀ acc, ∃ fuel, flagInvertLoop value mask fuel v acc ≠ none := by
  induction v using Nat.strongRecOn with
  | _ v ih =>
    intro hsub hle
    rcases Nat.eq_zero_or_pos v with rfl | hpos
    · have e : (0 + 65535) % 65536 &&& mask = mask := by
        rw [Nat.and_comm]; exact Nat.and_two_pow_sub_one_of_lt_two_pow (n := 16) hm
      refine loop_step e fun hne => ?_
      exact loop_down value mask mask (Nat.and_self _) (Nat.lt_of_le_of_ne Nat.and_le_right (Ne.symm hne)) hm
    · have hv : v < 65536 := Nat.lt_of_le_of_lt (Nat.le_trans hle Nat.and_le_right) hm
      refine loop_step (congrArg (· &&& mask) (dec16 hpos hv)) fun _ => ?_
      have h2 : (v - 1) &&& mask < v := Nat.lt_of_le_of_lt Nat.and_le_left (Nat.sub_one_lt_of_lt hpos)
      exact ih _ h2 (and_and_self ..) (Nat.le_trans (Nat.le_of_lt h2) hle)

end Invert

theorem flagMask_terminates (value mask : Nat) (hm : mask < 65536) :
    ∃ fuel, flagInvertLoop value mask fuel (value &&& mask) [] ≠ none :=
  loop_up value mask hm _ (and_and_self ..) (Nat.le_refl _) []

theorem invert_cond_sound_ok (c : Cond) (ρ : Env) (h : c.OK) :
    evalSet (Cond.invert c) ρ = !evalCond c ρ := by
  apply invert_cond_sound
  · rintro f rfl
    exact Nat.lt_trans h.1 (by decide)
  · rintro d rfl; exact h

theorem invert_cond_ok (c : Cond) (h : c.OK) : ∀ conj ∈ Cond.invert c, ∀ x ∈ conj, x.OK := by
  cases c with
  | tag c => exact ok_single trivial
  | host c => exact ok_single (x := .host _) h
  | time c => exact ok_single trivial
  | num c => exact ok_single trivial
  | impossible =>
    intro conj hc x hx
    rw [List.mem_singleton.mp hc] at hx
    cases hx
  | flag c =>
    intro conj hc x hx
    rw [List.mem_singleton.mp hc] at hx
    obtain ⟨v, hv, rfl⟩ := List.mem_map.mp hx
    have hm : c.mask < 4 := h.1
    exact ⟨hm, ((mem_flagInvertValues _ _ v (Nat.lt_trans hm (by decide))).mp hv).1⟩
  | data c =>
    intro conj hc x hx
    obtain ⟨i, _, rfl⟩ := List.mem_map.mp hc
    rw [List.mem_singleton.mp hx]
    show List.take (i + 1) c.els ≠ []
    have hne : c.els ≠ [] := h
    cases hc' : c.els with
    | nil => exact absurd hc' hne
    | cons e es => exact List.cons_ne_nil _ _

theorem invert_cond_ne_nil (c : Cond) (h : c.OK) : Cond.invert c ≠ [] := by
  cases c with
  | data c =>
    intro e
    exact h (List.eq_nil_of_length_eq_zero (List.range_eq_nil.mp (List.map_eq_nil_iff.mp e)))
  | _ => exact List.cons_ne_nil _ _

end Pk.Query
