/-
  `cleanHost` (cleanHostConditions) preserves the meaning of a conjunction of host conditions that
  have a single source and a constant host (`HostC.WF1`) or two sources and no constant
  (`HostC.WF2`), and its output has one of these shapes again.
-/
import Pk.Proofs.Query.Basic

namespace Pk.Query

/-- what the translation of a host filter without variables produces -/
def HostC.WF1 (h : HostC) : Prop :=
  h.srcs.length = 1 ∧ (h.host.length = 4 ∨ h.host.length = 16) ∧ h.m4.length = 4 ∧ h.m6.length = 16

/-- what the translation of a host filter with a variable produces -/
def HostC.WF2 (h : HostC) : Prop := h.srcs.length = 2 ∧ h.host = []

namespace CleanHost

theorem length_andBytes : ∀ a m : List Nat, (andBytes a m).length = min a.length m.length
  | [], _ => (Nat.zero_min _).symm
  | _ :: _, [] => rfl
  | _ :: as, _ :: ms => by
    rw [andBytes, List.length_cons, length_andBytes as ms, List.length_cons, List.length_cons,
      Nat.succ_min_succ]

theorem and_xor_and (a m b : Nat) : ((a &&& m) ^^^ b) &&& m = (a ^^^ b) &&& m := by
  rw [Nat.and_xor_distrib_right, Nat.and_xor_distrib_right, Nat.and_assoc, Nat.and_self]

theorem andBytes_xor_and : ∀ a m b : List Nat,
    andBytes (xorBytes (andBytes a m) b) m = andBytes (xorBytes a b) m
  | [], _, _ => rfl
  | _ :: _, [], [] => rfl
  | _ :: _, [], _ :: _ => rfl
  | _ :: _, _ :: _, [] => rfl
  | x :: xs, y :: ys, z :: zs => by
    show _ :: andBytes (xorBytes (andBytes xs ys) zs) ys = _ :: andBytes (xorBytes xs zs) ys
    rw [and_xor_and, andBytes_xor_and xs ys zs]

theorem andBytes_xor_self : ∀ a m : List Nat, (andBytes (xorBytes a a) m).all (· = 0) = true
  | [], _ => rfl
  | _ :: _, [] => rfl
  | x :: xs, y :: ys => by
    simp only [xorBytes, andBytes, List.all_cons, Nat.xor_self, Nat.zero_and, decide_true,
      Bool.true_and, andBytes_xor_self xs ys]

theorem hostNorm_wf1 (h : HostC) (hw : h.WF1) :
    hostNorm h = { h with host := andBytes h.host (if h.host.length = 16 then h.m6 else h.m4) } ∧
      (andBytes h.host (if h.host.length = 16 then h.m6 else h.m4)).length = h.host.length := by
  obtain ⟨hs, hh, h4, h6⟩ := hw
  obtain ⟨s, hsr⟩ := List.length_eq_one_iff.mp hs
  have e : hostNorm h = { h with host := if h.host.length = 4 then andBytes h.host h.m4
      else if h.host.length = 16 then andBytes h.host h.m6 else h.host } := by
    unfold hostNorm; rw [hsr]; rfl
  rw [e, length_andBytes]
  rcases hh with hh | hh
  · rw [hh]; exact ⟨rfl, by show min 4 h.m4.length = 4; rw [h4]; rfl⟩
  · rw [hh]; exact ⟨rfl, by show min 16 h.m6.length = 16; rw [h6]; rfl⟩

theorem hostNorm_wf (h : HostC) (hw : h.WF1) : (hostNorm h).WF1 := by
  obtain ⟨hn, hlen⟩ := hostNorm_wf1 h hw
  rw [hn]
  exact ⟨hw.1, by rw [hlen]; exact hw.2.1, hw.2.2⟩

theorem hostOperands_one (c : HostC) (ρ : Env) (s : HostSrc) (hs : c.srcs = [s]) (hne : c.host ≠ []) :
    hostOperands c ρ = [c.host, srcHost ρ s] := by
  rw [hostOperands, if_neg hne, hs]; rfl

theorem hostOperands_two (c : HostC) (ρ : Env) (x y : HostSrc) (hs : c.srcs = [x, y]) (hh : c.host = []) :
    hostOperands c ρ = [srcHost ρ x, srcHost ρ y] := by
  rw [hostOperands, if_pos hh, hs]; rfl

theorem evalHost_norm (h : HostC) (ρ : Env) (hw : h.WF1) : evalHost (hostNorm h) ρ = evalHost h ρ := by
  obtain ⟨hn, hlen⟩ := hostNorm_wf1 h hw
  obtain ⟨hs, hh, -, -⟩ := hw
  obtain ⟨s, hsr⟩ := List.length_eq_one_iff.mp hs
  have hne : ∀ l : List Nat, l.length = h.host.length → l ≠ [] := fun l hl e => by
    rw [e] at hl; rcases hh with hh | hh <;> rw [hh] at hl <;> cases hl
  rw [evalHost_pair _ ρ (hostOperands_one (hostNorm h) ρ s (by rw [hn]; exact hsr) (hne _ (by rw [hn]; exact hlen))),
    evalHost_pair _ ρ (hostOperands_one h ρ s hsr (hne _ rfl)), hn, maskedEq, maskedEq]
  dsimp only
  rw [hlen, andBytes_xor_and]

theorem evalHost_two_swap (c d : HostC) (ρ : Env) (x y : HostSrc)
    (hc : c.srcs = [x, y]) (hd : d.srcs = [y, x]) (hch : c.host = []) (hdh : d.host = [])
    (h4 : c.m4 = d.m4) (h6 : c.m6 = d.m6) (hi : c.inv = d.inv) :
    evalHost c ρ = evalHost d ρ := by
  rw [evalHost_pair c ρ (hostOperands_two c ρ x y hc hch), evalHost_pair d ρ (hostOperands_two d ρ y x hd hdh), h4, h6,
    hi, maskedEq_comm]

theorem hostSrcs_two (a b : HostSrc) :
    hostSrcLoop (isort hcsLess [a, b]).length 1 (isort hcsLess [a, b]) =
      if a = b then [] else if hcsLess b a then [b, a] else [a, b] := by
  have hloop : ∀ x y : HostSrc, hostSrcLoop 2 1 [x, y] = if x = y then [] else [x, y] := fun _ _ => rfl
  have hsort : isort hcsLess [a, b] = if hcsLess b a then [b, a] else [a, b] := rfl
  rw [length_isort, hsort]
  show hostSrcLoop 2 1 _ = _
  by_cases hab : a = b
  · subst hab; rw [if_pos rfl, ite_self, hloop, if_pos rfl]
  · rw [if_neg hab]
    by_cases hlt : hcsLess b a = true
    · rw [if_pos hlt, hloop, if_neg (Ne.symm hab)]
    · rw [if_neg hlt, hloop, if_neg hab]

theorem hostNorm_wf2 (h : HostC) (a b : HostSrc) (hsr : h.srcs = [a, b]) (hh : h.host = []) :
    (hostNorm h).host = [] ∧
      (hostNorm h).srcs = if a = b then [] else if hcsLess b a then [b, a] else [a, b] := by
  constructor
  · show (if h.host.length = 4 then _ else if h.host.length = 16 then _ else h.host) = []
    rw [hh]; rfl
  · rw [← hostSrcs_two, ← hsr]; rfl

/-- a condition whose sources cancelled is a constant -/
def hostVerdict (c : HostC) : Verdict :=
  if c.srcs ≠ [] then .keep else if hostZero c = c.inv then .reject else .drop

theorem hostFirst_sieve : IsSieve hostNorm hostVerdict hostFirst where
  nil := rfl
  cons h l := by rw [hostFirst, hostVerdict, Verdict.act_ite, Verdict.act_ite]; rfl

def NormOK (ρ : Env) (h : HostC) : Prop :=
  (hostVerdict (hostNorm h)).Sound (evalHost (hostNorm h) ρ) (evalHost h ρ)

theorem normOK_wf1 (ρ : Env) (h : HostC) (hw : h.WF1) : NormOK ρ h := by
  have hne : (hostNorm h).srcs ≠ [] := fun e => by
    have := (hostNorm_wf h hw).1; rw [e] at this; cases this
  unfold NormOK hostVerdict
  rw [if_pos hne]
  exact evalHost_norm h ρ hw

theorem normOK_wf2 (ρ : Env) (h : HostC) (hw : h.WF2) : NormOK ρ h := by
  obtain ⟨hs, hh⟩ := hw
  match hsr : h.srcs, hs with
  | [a, b], _ =>
    obtain ⟨hhost, hsrcs⟩ := hostNorm_wf2 h a b hsr hh
    unfold NormOK hostVerdict
    by_cases hab : a = b
    · subst hab
      rw [if_pos rfl] at hsrcs
      have hz : hostZero (hostNorm h) = true := by rw [hostZero, hhost]; rfl
      have hev : evalHost h ρ = !h.inv := by
        rw [evalHost_pair h ρ (hostOperands_two h ρ a a hsr hh), maskedEq, andBytes_xor_self, decide_eq_true ⟨rfl, rfl⟩,
          Bool.true_bne]
      rw [if_neg (not_not_intro hsrcs), hz, hev]
      show (if true = h.inv then Verdict.reject else .drop).Sound _ (!h.inv)
      cases h.inv <;> exact rfl
    · rw [if_neg hab] at hsrcs
      by_cases hlt : hcsLess b a = true
      · rw [if_pos hlt] at hsrcs
        rw [if_pos (by rw [hsrcs]; exact List.cons_ne_nil _ _)]
        exact (evalHost_two_swap h (hostNorm h) ρ a b hsr hsrcs hh hhost rfl rfl rfl).symm
      · rw [if_neg hlt] at hsrcs
        rw [if_pos (by rw [hsrcs]; exact List.cons_ne_nil _ _)]
        show evalHost (hostNorm h) ρ = evalHost h ρ
        rw [evalHost_pair h ρ (hostOperands_two h ρ a b hsr hh),
          evalHost_pair _ ρ (hostOperands_two (hostNorm h) ρ a b hsrcs hhost)]
        rfl

theorem cmpHostSrc_eq (a b : HostSrc) (h : cmpHostSrc a b = .eq) : a = b := by
  by_cases h1 : hcsLess a b = true
  · rw [cmpHostSrc, if_pos h1] at h; cases h
  by_cases h2 : hcsLess b a = true
  · rw [cmpHostSrc, if_neg h1, if_pos h2] at h; cases h
  obtain ⟨asq, asv⟩ := a
  obtain ⟨bsq, bsv⟩ := b
  by_cases hsq : asq = bsq
  · subst hsq
    rw [hcsLess, if_neg (not_not_intro rfl)] at h1 h2
    by_cases hsv : asv = bsv
    · rw [hsv]
    · rw [if_pos hsv] at h1
      rw [if_pos (Ne.symm hsv)] at h2
      exfalso
      dsimp only at h1 h2
      revert hsv h1 h2
      cases asv <;> cases bsv <;> decide
  · rw [hcsLess, if_pos hsq, decide_eq_true_eq] at h1
    rw [hcsLess, if_pos (Ne.symm hsq), decide_eq_true_eq] at h2
    exact absurd (String.le_antisymm (String.not_lt.mp h2) (String.not_lt.mp h1)) hsq

theorem eq_of_hostSameKey {a b : HostC} (hk : hostSameKey a b = true) : b = { a with inv := b.inv } := by
  obtain ⟨as, ah, a4, a6, ai⟩ := a
  obtain ⟨bs, bh, b4, b6, bi⟩ := b
  simp only [hostSameKey, decide_eq_true_eq] at hk
  obtain ⟨_, h1, rfl, rfl, rfl⟩ := hk
  rw [lexCmp_eq_of cmpHostSrc_eq _ _ h1]

theorem hostDedup_sound (ρ : Env) (a : HostC) (rest : List HostC) :
    optAll (fun c => evalHost c ρ) (hostDedup a rest) = (a :: rest).all (fun c => evalHost c ρ) := by
  induction rest generalizing a with
  | nil => simp [hostDedup]
  | cons b rest ih =>
    rw [hostDedup]
    refine ite_cases (optAll _ · = _) _ (fun hk => ?_) fun _ => ?_
    · have hb := eq_of_hostSameKey hk
      refine ite_cases (optAll _ · = _) _ (fun hi => ?_) fun hi => ?_
      · rw [hb, Bool.eq_not_of_ne (Ne.symm hi), List.all_cons, List.all_cons, evalHost_flip]
        cases evalHost a ρ <;> rfl
      · have : b.inv = a.inv := (Decidable.not_not.mp hi).symm
        rw [ih a, hb, this, List.all_cons, List.all_cons, List.all_cons, ← Bool.and_assoc, Bool.and_self]
    · rw [optAll_map_cons, ih b]; rfl

theorem hostDedup_sublist : ∀ (l : List HostC) (a : HostC) (r : List HostC),
    hostDedup a l = some r → r.Sublist (a :: l) :=
  pass_sublist hostDedup (fun _ => rfl) fun a b l => by
    let P := fun x => x = none ∨ x = hostDedup a l ∨ x = hostDedup b l ∨ x = (hostDedup b l).map (a :: ·)
    rw [hostDedup]
    exact ite_cases P _ (fun _ => ite_cases P _ (fun _ => .inl rfl) fun _ => .inr (.inl rfl))
      fun _ => .inr (.inr (.inr rfl))

theorem cleanHost_eq (hcs : List HostC) : cleanHost hcs = sortPass hostLt hostDedup (hostFirst hcs) := by
  unfold cleanHost sortPass
  cases hostFirst hcs with
  | none => rfl
  | some l =>
    dsimp only
    cases isort hostLt l <;> rfl

theorem cleanHost_sound_of_normOK (hcs : List HostC) (ρ : Env) (hok : ∀ h ∈ hcs, NormOK ρ h) :
    optAll (fun c => evalHost c ρ) (cleanHost hcs) = hcs.all (fun c => evalHost c ρ) := by
  rw [cleanHost_eq, ← hostFirst_sieve.sound (fun c => evalHost c ρ) (fun c => evalHost c ρ) hcs hok]
  exact optAll_sortPass _ hostLt (fun _ => True) _ (fun _ => trivial)
    (fun a l _ => hostDedup_sound ρ a l) _

end CleanHost

open CleanHost

theorem cleanHost_sound_partial (hcs : List HostC) (ρ : Env) (hwf : ∀ h ∈ hcs, h.WF1) :
    optAll (fun c => evalHost c ρ) (cleanHost hcs) = hcs.all (fun c => evalHost c ρ) :=
  cleanHost_sound_of_normOK hcs ρ fun h hh => normOK_wf1 ρ h (hwf h hh)

theorem HostC.OK.wf {h : HostC} (hk : h.OK) : h.WF1 ∨ h.WF2 := by
  obtain ⟨hs, h4, h6⟩ := hk
  rcases hs with ⟨h1, h2⟩ | ⟨h1, h2⟩
  · exact Or.inl ⟨h1, h2, h4, h6⟩
  · exact Or.inr ⟨h1, h2⟩

theorem cleanHost_sound_ok (hcs : List HostC) (ρ : Env) (hwf : ∀ h ∈ hcs, h.OK) :
    optAll (fun c => evalHost c ρ) (cleanHost hcs) = hcs.all (fun c => evalHost c ρ) :=
  cleanHost_sound_of_normOK hcs ρ fun h hh =>
    (hwf h hh).wf.elim (normOK_wf1 ρ h) (normOK_wf2 ρ h)

theorem CleanHost.hostNorm_ok (h : HostC) (hk : h.OK) (hne : (hostNorm h).srcs ≠ []) : (hostNorm h).OK := by
  rcases hk.wf with hw | hw
  · obtain ⟨w1, w2, w3, w4⟩ := hostNorm_wf h hw
    exact ⟨Or.inl ⟨w1, w2⟩, w3, w4⟩
  · obtain ⟨hs, hh⟩ := hw
    match hsr : h.srcs, hs with
    | [a, b], _ =>
      obtain ⟨hhost, hsrcs⟩ := hostNorm_wf2 h a b hsr hh
      refine ⟨Or.inr ⟨?_, hhost⟩, hk.2⟩
      revert hne
      rw [hsrcs]
      refine ite_cases (fun s => s ≠ [] → s.length = 2) _ (fun _ hne => absurd rfl hne) fun _ _ => ?_
      exact ite_cases (fun s : List HostSrc => s.length = 2) _ (fun _ => rfl) fun _ => rfl

theorem cleanHost_sub (hcs r : List HostC) (hr : cleanHost hcs = some r) :
    Subperm r ((hcs.map hostNorm).filter (fun c => hostVerdict c = .keep)) :=
  hostFirst_sieve.subperm_sortPass hostLt _ (fun a l r => hostDedup_sublist l a r) (.refl _) (cleanHost_eq hcs ▸ hr)

theorem cleanHost_ok (hcs : List HostC) (h : ∀ x ∈ hcs, x.OK) (r : List HostC)
    (hr : cleanHost hcs = some r) : ∀ x ∈ r, x.OK := by
  intro x hx
  obtain ⟨hm, hv⟩ := List.mem_filter.mp ((cleanHost_sub hcs r hr).subset x hx)
  obtain ⟨y, hy, rfl⟩ := List.mem_map.mp hm
  refine hostNorm_ok y (h y hy) fun e => ?_
  rw [hostVerdict, if_neg (not_not_intro e)] at hv
  revert hv
  exact ite_cases (fun v => ¬ decide (v = Verdict.keep) = true) _ (fun _ => by decide) fun _ => by decide

end Pk.Query
