/-
  C14 (reference-time shift), part 5: the outcome kind of a translation (`kind` of Total.lean: ok, or the
  error message / site) does not depend on the reference time, for every expression (`translate_kind`); the
  recursive translation and the tail of `query.Parse` commute with the shift; invariants of the parse
  result; meaning of a shifted anchored result.
-/
import Pk.Proofs.Query.ShiftTerm

namespace Pk.Query

/-- the hypothesis of `reftime_shift_equiv`: a bound that mentions absolute times (net count
    `partsAbs ≠ 0`) does not have net packet-time variable count exactly 1.  (With count 1 the
    filter's own variable can cancel against it and the normaliser decides the sign of a constant
    that contains the reference time — see `reftime_shift_counterexample`.) -/
def RangeSafe (r : List TimePart) : Prop := partsAbs r = 0 ∨ partsVar r ≠ 1

def Term.TimeSafe (t : Term) : Prop :=
  match t.value with
  | .times l => ∀ e ∈ l, ∀ r ∈ e, RangeSafe r
  | _ => True

/-- every non-empty bound of every time filter denotes a point in time: the net count of absolute
    times and packet-time variables is 1 (`2020-01-01 1200`, `@a:ltime@+1h`,
    `2020-01-02 0000-2020-01-01 0000+@a:ftime@`); every list entry has a range -/
def Term.TimeAnchored (t : Term) : Prop :=
  match t.value with
  | .times l => ∀ e ∈ l, e ≠ [] ∧ ∀ r ∈ e, r ≠ [] → partsAbs r + partsVar r = 1
  | _ => True

/-- no bound of a time filter depends on absolute times (net count 0; in particular: bounds built
    from durations and variables only, the relative filters `-1h:`) -/
def Term.TimeFloating (t : Term) : Prop :=
  match t.value with
  | .times l => ∀ e ∈ l, ∀ r ∈ e, partsAbs r = 0
  | _ => True

def Parsed.TP (P : TimeC → Prop) : Parsed → Prop
  | .nothing => True
  | .set cs => CSet.TP P cs

def Env.shift (d : Int) (ρ : Env) : Env :=
  fun sq => { ρ sq with ftime := (ρ sq).ftime + d, ltime := (ρ sq).ltime + d }

namespace Shift

theorem trTerm_safe (ref : Int) (t : Term) (cs : CSet) (ht : t.TimeSafe) (h : trTerm ref t = .ok (some cs)) :
    CSet.TP TimeC.Safe cs := by
  refine trTerm_tp tinv_safe ref t cs (fun l hl e he r hr tc h1 h2 => ?_) h
  unfold Term.TimeSafe at ht
  rw [hl] at ht
  have hs : RangeSafe r := by
    rcases hr with ⟨hre, _⟩ | ⟨_, rfl⟩
    · exact ht e he r hre
    · exact Or.inl rfl
  unfold TimeC.Safe
  unfold RangeSafe at hs
  omega

theorem trTerm_anchored (ref : Int) (t : Term) (cs : CSet) (ht : t.TimeAnchored)
    (h : trTerm ref t = .ok (some cs)) : CSet.TP TimeC.Anchored cs := by
  refine trTerm_tp tinv_anchored ref t cs (fun l hl e he r hr tc h1 h2 => ?_) h
  unfold Term.TimeAnchored at ht
  rw [hl] at ht
  rcases hr with ⟨hre, hne⟩ | ⟨he0, _⟩
  · have := (ht e he).2 r hre hne
    unfold TimeC.Anchored
    omega
  · exact absurd he0 (ht e he).1

theorem trTerm_floating (ref : Int) (t : Term) (cs : CSet) (ht : t.TimeFloating)
    (h : trTerm ref t = .ok (some cs)) : CSet.TP TimeC.Floating cs := by
  refine trTerm_tp tinv_floating ref t cs (fun l hl e he r hr tc h1 h2 => ?_) h
  unfold Term.TimeFloating at ht
  rw [hl] at ht
  have hs : partsAbs r = 0 := by
    rcases hr with ⟨hre, _⟩ | ⟨_, rfl⟩
    · exact ht e he r hre
    · rfl
  unfold TimeC.Floating
  omega

theorem TimeAnchored.safe {t : Term} (h : t.TimeAnchored) : t.TimeSafe := by
  unfold Term.TimeAnchored at h
  unfold Term.TimeSafe
  split
  · rename_i l hl
    rw [hl] at h
    intro e he r hr
    cases r with
    | nil => exact Or.inl rfl
    | cons p ps =>
      have := (h e he).2 (p :: ps) hr (by simp)
      unfold RangeSafe; omega
  · trivial

theorem TimeFloating.safe {t : Term} (h : t.TimeFloating) : t.TimeSafe := by
  unfold Term.TimeFloating at h
  unfold Term.TimeSafe
  split
  · rename_i l hl
    rw [hl] at h
    exact fun e he r hr => Or.inl (h e he r hr)
  · trivial

theorem translate_tp {P : TimeC → Prop} (hP : TInv P) (Q : Term → Prop)
    (hQ : ∀ ref t cs, Q t → trTerm ref t = .ok (some cs) → CSet.TP P cs)
    (ref : Int) (e : Expr) (he : TermsOf Q e) (g : GSet) (h : translate ref e = .ok g) :
    CSet.TP P g.items :=
  (tpInv hP).translate_all ref Q (hQ ref) e he g h

theorem translate_safe (ref : Int) (e : Expr) (he : TermsOf Term.TimeSafe e) (g : GSet)
    (h : translate ref e = .ok g) : CSet.TP TimeC.Safe g.items :=
  translate_tp tinv_safe Term.TimeSafe (fun ref t cs ht h => trTerm_safe ref t cs ht h) ref e he g h

theorem trTerm_outcomeKind (r1 r2 : Int) (t : Term) : kind (trTerm r2 t) = kind (trTerm r1 t) := by
  have : r2 = r1 + (r2 - r1) := by omega
  rw [this, trTerm_shift, kind_map]

theorem translate_kind (r1 r2 : Int) (e : Expr) : kind (translate r2 e) = kind (translate r1 e) := by
  have hlist : ∀ (op : GSet → GSet → GSet) (es : List Expr),
      (∀ e ∈ es, kind (translate r2 e) = kind (translate r1 e)) →
      kind (translateList r2 op es none) = kind (translateList r1 op es none) := by
    intro op es ih
    rw [kind_translateList, kind_translateList, List.map_congr_left ih]
  induction e using exprInd with
  | term t => simp only [translate]; exact trTerm_outcomeKind r1 r2 t
  | aux => rfl
  | not e ih => rw [kind_translate_not, kind_translate_not, ih]
  | grp e ih => simp only [translate]; exact ih
  | and es ih => simp only [translate]; exact hlist _ es ih
  | or es ih => simp only [translate]; exact hlist _ es ih
  | seq es ih => simp only [translate]; exact hlist _ es ih

theorem map_of_kind {α : Type} {o o' : Outcome α} {f : α → α} (hk : kind o' = kind o)
    (hok : ∀ a, o = .ok a → o' = .ok (f a)) : o' = o.map f := by
  cases o with
  | ok a => exact hok a rfl
  | _ => cases o' <;> simp_all [kind, Outcome.map]

theorem Run.shift {ref d : Int} {op : GSet → GSet → GSet}
    (hop : ∀ a b, CSet.TP TimeC.Safe a.items → CSet.TP TimeC.Safe b.items →
      op (shiftG d a) (shiftG d b) = shiftG d (op a b))
    (hopP : ∀ a b, CSet.TP TimeC.Safe a.items → CSet.TP TimeC.Safe b.items → CSet.TP TimeC.Safe (op a b).items)
    {es : List Expr} {acc g : GSet}
    (r : Run (fun e g => CSet.TP TimeC.Safe g.items ∧ translate (ref + d) e = .ok (shiftG d g)) op es acc g)
    (ha : CSet.TP TimeC.Safe acc.items) :
    CSet.TP TimeC.Safe g.items ∧ translateList (ref + d) op es (shiftG d acc) = .ok (shiftG d g) := by
  induction r with
  | nil => exact ⟨ha, rfl⟩
  | skip hq _ ih => rw [translateList, hq.2]; exact ih ha
  | @step e es acc g cs hq _ ih =>
    simp only [translateList, hq.2, shiftG_some]
    rw [← shiftG_some, hop acc (some cs) ha hq.1]
    exact ih (hopP _ _ ha hq.1)

theorem translate_shift_ok (ref d : Int) (e : Expr) (he : TermsOf Term.TimeSafe e) (g : GSet)
    (h : translate ref e = .ok g) :
    CSet.TP TimeC.Safe g.items ∧ translate (ref + d) e = .ok (shiftG d g) := by
  have I := tpInv tinv_safe
  refine translate_ind
    (Q := fun e g => CSet.TP TimeC.Safe g.items ∧ translate (ref + d) e = .ok (shiftG d g))
    ?_ ⟨cset_tp_nil _, rfl⟩ ?_ ?_ ?_ ?_ ?_ ?_ e he g h
  · intro t g ht h
    refine ⟨?_, by rw [translate, trTerm_shift, h]; rfl⟩
    cases g with
    | none => exact cset_tp_nil _
    | some cs => exact trTerm_safe ref t cs ht h
  · exact fun e h => ⟨cset_tp_nil _, by rw [translate, h.2]; rfl⟩
  · exact fun e cs h => ⟨I.invert h.1, by simp only [translate, h.2, shiftG_some, cset_invert_shift d cs h.1]⟩
  · exact fun e g h => ⟨h.1, by rw [translate, h.2]⟩
  · exact fun es g r => by rw [translate]; exact Run.shift (And_shift d) (fun _ _ => I.and) r (cset_tp_nil _)
  · exact fun es g r => by
      rw [translate]; exact Run.shift (fun a b _ _ => Or_shift d a b) (fun _ _ => ConjInv.or) r (cset_tp_nil _)
  · exact fun es g _ r => by
      rw [translate]; exact Run.shift (fun a b _ _ => gseq_shift d a b) (fun _ _ => I.gseq) r (cset_tp_nil _)

theorem translate_shift (ref d : Int) (e : Expr) (he : TermsOf Term.TimeSafe e) :
    translate (ref + d) e = (translate ref e).map (shiftG d) :=
  map_of_kind (translate_kind ref (ref + d) e) fun g h => (translate_shift_ok ref d e he g h).2

theorem cset_isImpossible_shift (d : Int) (c : CSet) : CSet.isImpossible (shiftS d c) = CSet.isImpossible c := by
  match c with
  | [] => rfl
  | [x] => simp only [shiftS_cons, shiftS_nil, CSet.isImpossible, isImpossible_shift]
  | _ :: _ :: _ => rfl

theorem finish_shift (d : Int) (g : GSet) (h : CSet.TP TimeC.Safe g.items) :
    finish (shiftG d g) = shiftParsed d (finish g) := by
  cases g with
  | none => rfl
  | some cs =>
    simp only [shiftG_some, finish]
    rw [Clean_shift d cs h, cset_isImpossible_shift]
    by_cases h1 : CSet.isImpossible (CSet.Clean cs) = true
    · simp [h1, shiftParsed]
    · by_cases h2 : CSet.Clean cs = []
      · simp [h2, shiftParsed, CSet.isImpossible]
      · have h3 : shiftS d (CSet.Clean cs) ≠ [] := fun h' => h2 ((shiftS_eq_nil d _).mp h')
        simp [h1, h2, h3, shiftParsed]

theorem finish_tp {P : TimeC → Prop} (hP : TInv P) (g : GSet) (h : CSet.TP P g.items) : Parsed.TP P (finish g) := by
  cases g with
  | none => exact cset_tp_cons (tp_nil P) (cset_tp_nil P)
  | some cs =>
    simp only [finish]
    split
    · trivial
    · split
      · exact cset_tp_cons (tp_nil P) (cset_tp_nil P)
      · exact (tpInv hP).Clean_all h

theorem parse_shift (ref d : Int) (e : Expr) (he : TermsOf Term.TimeSafe e) :
    parse (ref + d) e = (parse ref e).map (shiftParsed d) := by
  unfold parse
  rw [translate_shift ref d e he]
  cases ht : translate ref e with
  | ok g => simp only [Outcome.map_ok, finish_shift d g (translate_safe ref e he g ht)]
  | err m => rfl
  | panic s => rfl
  | diverged s => rfl

theorem parse_tp {P : TimeC → Prop} (hP : TInv P) (Q : Term → Prop)
    (hQ : ∀ ref t cs, Q t → trTerm ref t = .ok (some cs) → CSet.TP P cs)
    (ref : Int) (e : Expr) (he : TermsOf Q e) (p : Parsed) (h : parse ref e = .ok p) : Parsed.TP P p := by
  unfold parse at h
  split at h
  · rename_i g hg
    simp only [Outcome.ok.injEq] at h
    subst h
    exact finish_tp hP g (translate_tp hP Q hQ ref e he g hg)
  all_goals cases h

theorem floating_shiftParsed (d : Int) (p : Parsed) (h : Parsed.TP TimeC.Floating p) : shiftParsed d p = p := by
  cases p with
  | nothing => rfl
  | set cs => simp only [shiftParsed, floating_shiftS d cs h]

theorem timeSumVal_envShift (d : Int) (ρ : Env) (l : List TimeSummand) :
    timeSumVal (Env.shift d ρ) l = timeSumVal ρ l + tot l * d := by
  induction l with
  | nil => simp
  | cons s l ih =>
    simp only [timeSumVal_cons, tot_cons, ih, Env.shift]
    grind

theorem chain_envShift (d : Int) (ρ : Env) (inv : Bool) : ∀ (els : List DataEl) (p : Nat),
    chain (Env.shift d ρ) inv els p = chain ρ inv els p
  | [], _ => rfl
  | [e], p => rfl
  | e :: e' :: es, p => by
    simp only [chain]
    show (match (ρ e.sq).step e p with
      | none => false
      | some p' => chain (Env.shift d ρ) inv (e' :: es) p') = _
    cases (ρ e.sq).step e p with
    | none => rfl
    | some p' => exact chain_envShift d ρ inv (e' :: es) p'

/-- an anchored condition, moved by `d`, holds exactly when the original holds for packet times
    that are `d` later; the other condition kinds do not look at packet times -/
theorem evalCond_shift (d : Int) (ρ : Env) (x : Cond) (h : ∀ tc, x = Cond.time tc → tc.Anchored) :
    evalCond (shiftC d x) ρ = evalCond x (Env.shift d ρ) := by
  cases x with
  | time tc =>
    have ha : tc.rtf = tot tc.sum := h tc rfl
    simp only [shiftC, evalCond, evalTime, shiftT_dur, shiftT_sum, timeSumVal_envShift, ha]
    apply decide_eq_decide.mpr
    omega
  | tag c => rfl
  | flag c => rfl
  | host c => rfl
  | num c => rfl
  | data c => simp only [shiftC, evalCond, evalData, chain_envShift]
  | impossible => rfl

theorem evalConj_shift (d : Int) (ρ : Env) (c : Conj) (h : Conj.TP TimeC.Anchored c) :
    evalConj (shiftJ d c) ρ = evalConj c (Env.shift d ρ) :=
  List.all_map.trans (all_congr_mem fun x hx => evalCond_shift d ρ x fun tc e => h tc (e ▸ hx))

theorem evalSet_shift (d : Int) (ρ : Env) (cs : CSet) (h : CSet.TP TimeC.Anchored cs) :
    evalSet (shiftS d cs) ρ = evalSet cs (Env.shift d ρ) :=
  List.any_map.trans (any_congr_mem fun c hc => evalConj_shift d ρ c (h c hc))

theorem evalParsed_shift (d : Int) (ρ : Env) (p : Parsed) (h : Parsed.TP TimeC.Anchored p) :
    evalParsed (shiftParsed d p) ρ = evalParsed p (Env.shift d ρ) := by
  cases p with
  | nothing => rfl
  | set cs => exact evalSet_shift d ρ cs h

end Shift
end Pk.Query
