/-
  C14 (reference-time shift), part 1: definitions and elementary facts.

  A time condition `{sum, dur, rtf}` means `dur + Σ f·ftime + l·ltime ≥ 0` with packet times taken
  relative to the reference time `ref` of the parse.  `timeParts` adds `±(civil - ref)` to `dur` for
  every absolute time literal and records the sign in `rtf`, so `dur - rtf·ref` does not depend on
  `ref`: parsing at `ref + d` instead of `ref` adds `rtf·d` to `dur`.  `shiftT d` is that move.
-/
import Pk.Proofs.Query.CleanTime
import Pk.Proofs.Query.Invert

namespace Pk.Query

/-- re-anchor a time condition to a reference time that is `d` ns later -/
def shiftT (d : Int) (c : TimeC) : TimeC := { c with dur := c.dur + c.rtf * d }

def shiftC (d : Int) : Cond → Cond
  | .time c => .time (shiftT d c)
  | x => x

def shiftJ (d : Int) (c : Conj) : Conj := c.map (shiftC d)
def shiftS (d : Int) (cs : CSet) : CSet := cs.map (shiftJ d)
def shiftG (d : Int) (g : GSet) : GSet := g.map (shiftS d)

def shiftParsed (d : Int) : Parsed → Parsed
  | .nothing => .nothing
  | .set cs => .set (shiftS d cs)

/-- a stream whose two packet times are 1 (its other fields are irrelevant) -/
def unitStream : Stream :=
  { id := 0, cport := 0, sport := 0, cbytes := 0, sbytes := 0, chost := [], shost := [], flags := 0,
    ftime := 1, ltime := 1, tagMatch := fun _ => false, tagUncertain := fun _ => false,
    step := fun _ _ => none }

/-- `Σ (f + l)` over the summands: by how much the sum moves when every packet time moves by 1.
    (Defined as the value of the sum where all packet times are 1, so that the value lemmas of
    `cleanTime` apply.) -/
def tot (l : List TimeSummand) : Int := timeSumVal (fun _ => unitStream) l

@[simp] theorem tot_nil : tot [] = 0 := rfl
@[simp] theorem tot_cons (s : TimeSummand) (l : List TimeSummand) : tot (s :: l) = s.f + s.l + tot l := by
  simp [tot, unitStream]

/-- the normaliser never decides the sign of a bound that depends on the reference time: either the
    bound does not mention the reference time, or the condition constrains a packet time for real
    (the coefficients do not cancel) -/
def TimeC.Safe (c : TimeC) : Prop := c.rtf = 0 ∨ tot c.sum ≠ 0

/-- the condition compares packet times with points in time: it is invariant under a move of the
    reference time (`rtf` compensates the move of the packet times) -/
def TimeC.Anchored (c : TimeC) : Prop := c.rtf = tot c.sum

/-- the bound does not mention the reference time (only durations and packet times) -/
def TimeC.Floating (c : TimeC) : Prop := c.rtf = 0

theorem TimeC.Anchored.safe {c : TimeC} (h : c.Anchored) : c.Safe := by
  unfold TimeC.Anchored at h; unfold TimeC.Safe; omega

theorem TimeC.Floating.safe {c : TimeC} (h : c.Floating) : c.Safe := Or.inl h

/-- negation of a time condition (`Cond.invert`) -/
def invT (c : TimeC) : TimeC :=
  { sum := c.sum.map (fun s => { s with f := -s.f, l := -s.l }), dur := -c.dur - 1, rtf := -c.rtf }

/-- `P` is a property of the pair (`rtf`, `tot sum`) up to its sign: it passes from `c` to every `c'` whose pair is
    that of `c` or its negative.  The two operations the normaliser applies to a single time condition keep such
    a `P` (`TInv.norm`, `TInv.inv`), and of the conditions a time term produces it is read off the counters of
    their bounds (`Shift.trTerm_tp`). -/
structure TInv (P : TimeC → Prop) : Prop where
  sym : ∀ c c', c'.rtf = c.rtf ∧ tot c'.sum = tot c.sum ∨ c'.rtf = -c.rtf ∧ tot c'.sum = -tot c.sum → P c → P c'

def Conj.TP (P : TimeC → Prop) (c : Conj) : Prop := ∀ tc, Cond.time tc ∈ c → P tc
def CSet.TP (P : TimeC → Prop) (cs : CSet) : Prop := ∀ c ∈ cs, Conj.TP P c

theorem tot_neg (l : List TimeSummand) :
    tot (l.map (fun s => { s with f := -s.f, l := -s.l })) = - tot l :=
  Invert.timeSumVal_neg _ l

theorem timeNorm_rtf (tc : TimeC) : (timeNorm tc).rtf = tc.rtf := by
  unfold timeNorm; split <;> rfl

theorem timeNorm_tot (tc : TimeC) : tot (timeNorm tc).sum = tot tc.sum := timeNorm_val tc _

theorem TInv.norm {P : TimeC → Prop} (h : TInv P) (c : TimeC) (hc : P c) : P (timeNorm c) :=
  h.sym c _ (.inl ⟨timeNorm_rtf c, timeNorm_tot c⟩) hc

theorem TInv.inv {P : TimeC → Prop} (h : TInv P) (c : TimeC) (hc : P c) : P (invT c) :=
  h.sym c _ (.inr ⟨rfl, tot_neg c.sum⟩) hc

theorem tinv_safe : TInv TimeC.Safe := ⟨fun c c' h hc => by unfold TimeC.Safe at *; omega⟩

theorem tinv_anchored : TInv TimeC.Anchored := ⟨fun c c' h hc => by unfold TimeC.Anchored at *; omega⟩

theorem tinv_floating : TInv TimeC.Floating := ⟨fun c c' h hc => by unfold TimeC.Floating at *; omega⟩

@[simp] theorem shiftT_sum (d : Int) (c : TimeC) : (shiftT d c).sum = c.sum := rfl
@[simp] theorem shiftT_rtf (d : Int) (c : TimeC) : (shiftT d c).rtf = c.rtf := rfl
@[simp] theorem shiftT_dur (d : Int) (c : TimeC) : (shiftT d c).dur = c.dur + c.rtf * d := rfl

theorem shiftT_shiftT (d e : Int) (c : TimeC) : shiftT d (shiftT e c) = shiftT (e + d) c := by
  cases c
  simp only [shiftT, TimeC.mk.injEq, true_and, and_true]
  rw [Int.mul_add]; omega

theorem shiftT_zero (c : TimeC) : shiftT 0 c = c := by
  cases c; simp [shiftT]

theorem shiftC_shiftC (d e : Int) (x : Cond) : shiftC d (shiftC e x) = shiftC (e + d) x := by
  cases x <;> simp [shiftC, shiftT_shiftT]

theorem shiftC_zero (x : Cond) : shiftC 0 x = x := by
  cases x <;> simp [shiftC, shiftT_zero]

theorem shiftJ_shiftJ (d e : Int) (c : Conj) : shiftJ d (shiftJ e c) = shiftJ (e + d) c := by
  simp [shiftJ, List.map_map, Function.comp_def, shiftC_shiftC]

theorem shiftJ_zero (c : Conj) : shiftJ 0 c = c := by
  have : shiftC 0 = id := funext shiftC_zero
  simp [shiftJ, this]

theorem shiftS_shiftS (d e : Int) (cs : CSet) : shiftS d (shiftS e cs) = shiftS (e + d) cs := by
  simp [shiftS, List.map_map, Function.comp_def, shiftJ_shiftJ]

theorem shiftS_zero (cs : CSet) : shiftS 0 cs = cs := by
  have : shiftJ 0 = id := funext shiftJ_zero
  simp [shiftS, this]

theorem shiftParsed_shiftParsed (d e : Int) (p : Parsed) :
    shiftParsed d (shiftParsed e p) = shiftParsed (e + d) p := by
  cases p <;> simp [shiftParsed, shiftS_shiftS]

theorem shiftParsed_zero (p : Parsed) : shiftParsed 0 p = p := by
  cases p <;> simp [shiftParsed, shiftS_zero]

theorem shiftJ_inj (d : Int) {a b : Conj} (h : shiftJ d a = shiftJ d b) : a = b := by
  have := congrArg (shiftJ (-d)) h
  rw [shiftJ_shiftJ, shiftJ_shiftJ] at this
  simpa [Int.add_right_neg, shiftJ_zero] using this

theorem shiftJ_eq_iff (d : Int) (a b : Conj) : shiftJ d a = shiftJ d b ↔ a = b :=
  ⟨shiftJ_inj d, fun h => h ▸ rfl⟩

@[simp] theorem shiftJ_nil (d : Int) : shiftJ d [] = [] := rfl
@[simp] theorem shiftJ_cons (d : Int) (x : Cond) (c : Conj) : shiftJ d (x :: c) = shiftC d x :: shiftJ d c := rfl
@[simp] theorem shiftJ_append (d : Int) (a b : Conj) : shiftJ d (a ++ b) = shiftJ d a ++ shiftJ d b := by
  simp [shiftJ]
@[simp] theorem shiftS_nil (d : Int) : shiftS d [] = [] := rfl
@[simp] theorem shiftS_cons (d : Int) (c : Conj) (cs : CSet) : shiftS d (c :: cs) = shiftJ d c :: shiftS d cs := rfl
@[simp] theorem shiftS_append (d : Int) (a b : CSet) : shiftS d (a ++ b) = shiftS d a ++ shiftS d b := by
  simp [shiftS]

theorem shiftJ_eq_nil (d : Int) (c : Conj) : shiftJ d c = [] ↔ c = [] := by
  simp [shiftJ]

theorem shiftS_eq_nil (d : Int) (cs : CSet) : shiftS d cs = [] ↔ cs = [] := by
  simp [shiftS]

@[simp] theorem shiftJ_impossible (d : Int) : shiftJ d impossibleConj = impossibleConj := rfl

def NoTimeJ (c : Conj) : Prop := ∀ tc, Cond.time tc ∉ c
def NoTime (cs : CSet) : Prop := ∀ c ∈ cs, NoTimeJ c

theorem NoTimeJ.tp {c : Conj} (h : NoTimeJ c) (P : TimeC → Prop) : Conj.TP P c :=
  fun tc htc => absurd htc (h tc)

theorem NoTime.tp {cs : CSet} (h : NoTime cs) (P : TimeC → Prop) : CSet.TP P cs :=
  fun c hc => (h c hc).tp P

theorem Shift.floating_shiftJ (d : Int) (c : Conj) (h : Conj.TP TimeC.Floating c) : shiftJ d c = c :=
  (List.map_congr_left fun x hx => by
    cases x with
    | time tc =>
      have : tc.rtf = 0 := h tc hx
      obtain ⟨s, du, r⟩ := tc
      simp only at this
      subst this
      simp [shiftC, shiftT]
    | _ => rfl).trans (List.map_id c)

theorem Shift.floating_shiftS (d : Int) (cs : CSet) (h : CSet.TP TimeC.Floating cs) : shiftS d cs = cs :=
  (List.map_congr_left fun c hc => floating_shiftJ d c (h c hc)).trans (List.map_id cs)

theorem NoTimeJ.shift {c : Conj} (h : NoTimeJ c) (d : Int) : shiftJ d c = c :=
  Shift.floating_shiftJ d c (h.tp _)

theorem NoTime.shift {cs : CSet} (h : NoTime cs) (d : Int) : shiftS d cs = cs :=
  Shift.floating_shiftS d cs (h.tp _)

theorem tp_nil (P : TimeC → Prop) : Conj.TP P [] := fun _ h => absurd h List.not_mem_nil

theorem tp_append {P : TimeC → Prop} {a b : Conj} (ha : Conj.TP P a) (hb : Conj.TP P b) :
    Conj.TP P (a ++ b) := by
  intro tc h
  rcases List.mem_append.mp h with h | h
  · exact ha tc h
  · exact hb tc h

theorem tp_impossible (P : TimeC → Prop) : Conj.TP P impossibleConj := by
  intro tc h
  simp [impossibleConj] at h

theorem cset_tp_nil (P : TimeC → Prop) : CSet.TP P [] := fun _ h => absurd h List.not_mem_nil

theorem cset_tp_append {P : TimeC → Prop} {a b : CSet} (ha : CSet.TP P a) (hb : CSet.TP P b) :
    CSet.TP P (a ++ b) := by
  intro c h
  rcases List.mem_append.mp h with h | h
  · exact ha c h
  · exact hb c h

theorem cset_tp_cons {P : TimeC → Prop} {c : Conj} {cs : CSet} (hc : Conj.TP P c) (hcs : CSet.TP P cs) :
    CSet.TP P (c :: cs) := by
  intro c' h
  rcases List.mem_cons.mp h with rfl | h
  · exact hc
  · exact hcs c' h

theorem cset_tp_tail {P : TimeC → Prop} {c : Conj} {cs : CSet} (h : CSet.TP P (c :: cs)) : CSet.TP P cs :=
  fun c' hc' => h c' (List.mem_cons_of_mem _ hc')

/-- the shift keeps every invariant that only looks at `sum` and `rtf` -/
theorem tp_shiftJ {P : TimeC → Prop} (hP : ∀ d c, P c → P (shiftT d c)) (d : Int) {c : Conj}
    (h : Conj.TP P c) : Conj.TP P (shiftJ d c) := by
  intro tc htc
  obtain ⟨x, hx, hxe⟩ := List.mem_map.mp htc
  cases x with
  | time tc' =>
    simp only [shiftC, Cond.time.injEq] at hxe
    subst hxe
    exact hP d tc' (h tc' hx)
  | _ => simp [shiftC] at hxe

theorem safe_shiftT (d : Int) (c : TimeC) (h : c.Safe) : (shiftT d c).Safe := h

end Pk.Query
