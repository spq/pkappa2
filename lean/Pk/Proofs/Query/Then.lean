/-
  THEN with several operands: `then_sound` is the definitional unfolding of sequencing on conjuncts;
  `translate_soundT` / `normalise_sound_then` are the compiler theorem for the fragment `FragT`
  (SetLevel.lean: `evalExprT`, `translate_goodT`) with the per-kind laws and terms with variables.
-/
import Pk.Proofs.Query.Laws
namespace Pk.Query

theorem then_sound (a b : Conj) (ρ : Env) : evalConj (Conj.seq a b) ρ =
    (evalConj (a.filter (fun c => (Cond.data? c).isNone)) ρ &&
     evalConj (b.filter (fun c => (Cond.data? c).isNone)) ρ &&
     (if a.filterMap Cond.data? = [] ∨ b.filterMap Cond.data? = [] then
        (a.filterMap Cond.data?).all (evalData · ρ) && (b.filterMap Cond.data?).all (evalData · ρ)
      else (a.filterMap Cond.data?).all (fun adc =>
        (!adc.inv || evalData adc ρ) &&
        (b.filterMap Cond.data?).all (fun bdc =>
          evalData { els := adc.els.take (if adc.inv then adc.els.length - 1 else adc.els.length)
                              ++ bdc.els, inv := bdc.inv } ρ)))) := by
  unfold Conj.seq
  simp only
  split
  · next h =>
    simp only [evalConj_append, evalConj_map, evalCond, Bool.and_assoc]
  · next h =>
    simp only [evalConj_append, Bool.and_assoc]
    congr 2
    simp only [evalConj, List.all_flatMap, List.all_append, List.all_map]
    congr 1
    funext adc
    cases hinv : adc.inv <;> simp [Function.comp_def, evalCond]

theorem translate_soundT (ref : Int) (e : Expr) (hf : FragT e) (hp : TermsOf Term.FragV e)
    (g : GSet) (h : translate ref e = .ok g) (ρ : Env) (hρ : Env.WF ρ) :
    ∃ cs, g = some cs ∧ cs ≠ [] ∧ CSet.OK cs ∧ evalSet cs ρ = evalExprT ref ρ e :=
  translate_goodT laws ref Term.FragV (termLawV ref) e hf hp ρ hρ g h

theorem normalise_sound_then (ref : Int) (e : Expr) (hf : FragT e) (hp : TermsOf Term.FragV e)
    (p : Parsed) (h : parse ref e = .ok p) (ρ : Env) (hρ : Env.WF ρ) (hid : Env.IdOK ρ) :
    evalParsed p ρ = evalExprT ref ρ e :=
  parse_sound laws h hρ hid (fun g hg => translate_soundT ref e hf hp g hg ρ hρ)

theorem impossible_only_if_unsat_then (ref : Int) (e : Expr) (hf : FragT e)
    (hp : TermsOf Term.FragV e) (h : parse ref e = .ok .nothing) (ρ : Env) (hρ : Env.WF ρ)
    (hid : Env.IdOK ρ) : evalExprT ref ρ e = false := by
  rw [← normalise_sound_then ref e hf hp _ h ρ hρ hid]
  rfl

namespace ExampleT

/-- `cdata:x`, `cdata:y`, `sdata:z` -/
def cx : Term := { sq := "", key := "cdata", conv := "", value := .data "x" [] }
def cy : Term := { sq := "", key := "cdata", conv := "", value := .data "y" [] }
def sz : Term := { sq := "", key := "sdata", conv := "", value := .data "z" [] }

theorem cx_fragV : cx.FragV := by simp [Term.FragV, cx]
theorem cy_fragV : cy.FragV := by simp [Term.FragV, cy]
theorem sz_fragV : sz.FragV := by simp [Term.FragV, sz]

/-- `-(cdata:x then cdata:y) (cdata:x then cdata:y then sdata:z)` -/
def e2 : Expr :=
  .and [.not (.grp (.seq [.term cx, .term cy])), .grp (.seq [.term cx, .term cy, .term sz])]

/-- `-(cdata:x then cdata:y) (cdata:x then sdata:z)` -/
def e3 : Expr :=
  .and [.not (.grp (.seq [.term cx, .term cy])), .grp (.seq [.term cx, .term sz])]

theorem seq_fragT (ts : List Term) (h : 2 ≤ ts.length) : FragT (.seq (ts.map Expr.term)) := by
  refine .seqN (by simpa using h) ?_
  intro e he
  simp only [List.mem_map] at he
  obtain ⟨t, _, rfl⟩ := he
  exact .term t

theorem seq_terms (ts : List Term) (h : ∀ t ∈ ts, t.FragV) :
    TermsOf Term.FragV (.seq (ts.map Expr.term)) := by
  refine .seq ?_
  intro e he
  simp only [List.mem_map] at he
  obtain ⟨t, ht, rfl⟩ := he
  exact .term (h t ht)

theorem and2_fragT {a b : Expr} (ha : FragT a) (hb : FragT b) : FragT (.and [a, b]) :=
  .and (List.cons_ne_nil _ _) (forall_mem_pair ha hb)

theorem and2_terms {P : Term → Prop} {a b : Expr} (ha : TermsOf P a) (hb : TermsOf P b) :
    TermsOf P (.and [a, b]) :=
  .and (forall_mem_pair ha hb)

theorem xy_fragT : FragT (.not (.grp (.seq [.term cx, .term cy]))) :=
  .not (.grp (seq_fragT [cx, cy] (by decide)))

theorem xy_terms : TermsOf Term.FragV (.not (.grp (.seq [.term cx, .term cy]))) :=
  .not (.grp (seq_terms [cx, cy] (forall_mem_pair cx_fragV cy_fragV)))

theorem e2_fragT : FragT e2 := and2_fragT xy_fragT (.grp (seq_fragT [cx, cy, sz] (by decide)))

theorem e2_terms : TermsOf Term.FragV e2 :=
  and2_terms xy_terms (.grp (seq_terms [cx, cy, sz]
    (List.forall_mem_cons.mpr ⟨cx_fragV, forall_mem_pair cy_fragV sz_fragV⟩)))

theorem e3_fragT : FragT e3 := and2_fragT xy_fragT (.grp (seq_fragT [cx, sz] (by decide)))

theorem e3_terms : TermsOf Term.FragV e3 :=
  and2_terms xy_terms (.grp (seq_terms [cx, sz] (forall_mem_pair cx_fragV sz_fragV)))

/-- "x then y then z, but not x then y" is recognised as unsatisfiable … -/
theorem e2_parse : parse 0 e2 = .ok .nothing := by decide +kernel

/-- … and it is: `impossible_only_if_unsat_then` applies to a concrete query -/
theorem e2_unsat (ρ : Env) (hρ : Env.WF ρ) (hid : Env.IdOK ρ) : evalExprT 0 ρ e2 = false :=
  impossible_only_if_unsat_then 0 e2 e2_fragT e2_terms e2_parse ρ hρ hid

/-- normal form of `e3`: the chain `x > y` fails at its last element and the chain `x > z` matches
    (the alternative "x does not match at all" contradicts `x > z` and is dropped) -/
def p3 : Parsed := .set
  [[.data { els := [{ sq := "", regex := "x", vars := [], flags := 0, conv := "" },
                    { sq := "", regex := "y", vars := [], flags := 0, conv := "" }], inv := true },
    .data { els := [{ sq := "", regex := "x", vars := [], flags := 0, conv := "" },
                    { sq := "", regex := "z", vars := [], flags := 1, conv := "" }], inv := false }]]

theorem e3_parse : parse 0 e3 = .ok p3 := by decide +kernel

theorem e3_sound (ρ : Env) (hρ : Env.WF ρ) (hid : Env.IdOK ρ) :
    evalParsed p3 ρ = evalExprT 0 ρ e3 :=
  normalise_sound_then 0 e3 e3_fragT e3_terms p3 e3_parse ρ hρ hid

end ExampleT

end Pk.Query
