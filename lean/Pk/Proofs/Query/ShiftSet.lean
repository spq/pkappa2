/-
  C14 (reference-time shift), part 3: NOT / AND / OR / THEN on condition sets commute with the
  shift (on sets whose time conditions are `Safe`).
-/
import Pk.Proofs.Query.ShiftClean

namespace Pk.Query
namespace Shift

@[simp] theorem shiftG_none (d : Int) : shiftG d none = none := rfl
@[simp] theorem shiftG_some (d : Int) (cs : CSet) : shiftG d (some cs) = some (shiftS d cs) := rfl

theorem items_shift (d : Int) (g : GSet) : (shiftG d g).items = shiftS d g.items := by
  cases g <;> rfl

theorem nilIfEmpty_shift (d : Int) (cs : CSet) : nilIfEmpty (shiftS d cs) = shiftG d (nilIfEmpty cs) := by
  unfold nilIfEmpty
  by_cases h : cs = []
  · subst h; rfl
  · rw [if_neg h, if_neg (fun h' => h ((shiftS_eq_nil d cs).mp h'))]; rfl

theorem Or_shift (d : Int) (a b : GSet) : GSet.Or (shiftG d a) (shiftG d b) = shiftG d (GSet.Or a b) := by
  unfold GSet.Or
  simp only [items_shift, ← shiftS_append]
  exact nilIfEmpty_shift d _

theorem pairs_map {f : Conj → Conj → Conj} (φ : Conj → Conj) : ∀ (a b : CSet),
    (∀ c1 ∈ a, ∀ c2 ∈ b, f (φ c1) (φ c2) = φ (f c1 c2)) → pairs f (a.map φ) (b.map φ) = (pairs f a b).map φ
  | [], _, _ => rfl
  | c1 :: a, b, h => by
    have ih := pairs_map φ a b fun x hx => h x (List.mem_cons_of_mem _ hx)
    simp only [pairs, List.map_cons, List.flatMap_cons, List.map_append, List.map_map] at ih ⊢
    rw [ih]
    exact congrArg (· ++ _) (List.map_congr_left fun c2 h2 => h c1 List.mem_cons_self c2 h2)

theorem lift2_shift {f : Conj → Conj → Conj} (d : Int) {a b : GSet}
    (hf : ∀ c1 ∈ a.items, ∀ c2 ∈ b.items, f (shiftJ d c1) (shiftJ d c2) = shiftJ d (f c1 c2)) :
    GSet.lift2 f (shiftG d a) (shiftG d b) = shiftG d (GSet.lift2 f a b) := by
  have hp : pairs f (shiftS d a.items) (shiftS d b.items) = shiftS d (pairs f a.items b.items) :=
    pairs_map (shiftJ d) _ _ hf
  unfold GSet.lift2
  simp only [items_shift, shiftS_eq_nil, hp, nilIfEmpty_shift]
  split
  · rfl
  · split <;> rfl

theorem And_shift (d : Int) (a b : GSet) (ha : CSet.TP TimeC.Safe a.items) (hb : CSet.TP TimeC.Safe b.items) :
    GSet.And (shiftG d a) (shiftG d b) = shiftG d (GSet.And a b) := by
  rw [And_eq_lift2, And_eq_lift2]
  exact lift2_shift d fun c1 h1 c2 h2 => conj_and_shift d c1 c2 (ha c1 h1) (hb c2 h2)

theorem filter_noData_shift (d : Int) (a : Conj) :
    (shiftJ d a).filter (fun c => (Cond.data? c).isNone) = shiftJ d (a.filter (fun c => (Cond.data? c).isNone)) := by
  have hf : ((fun c => (Cond.data? c).isNone) ∘ shiftC d) = (fun c => (Cond.data? c).isNone) := by
    funext x; cases x <;> rfl
  simp only [shiftJ, List.filter_map, hf]

theorem noTimeJ_map_data (l : List DataC) : NoTimeJ (l.map Cond.data) := fun tc h => by
  obtain ⟨_, _, e⟩ := List.mem_map.mp h
  cases e

/-- THEN works on the payload chains, which the shift does not move, and passes the other conditions on -/
theorem conj_seq_shift (d : Int) (a b : Conj) : Conj.seq (shiftJ d a) (shiftJ d b) = shiftJ d (Conj.seq a b) := by
  unfold Conj.seq
  simp only [fm_shift (f := Cond.data?) d (fun x => by cases x <;> rfl), filter_noData_shift]
  split
  · rw [shiftJ_append, shiftJ_append, shiftJ_append, (noTimeJ_map_data _).shift, (noTimeJ_map_data _).shift]
  · rw [shiftJ_append, shiftJ_append]
    refine congrArg _ (NoTimeJ.shift (fun tc h => ?_) d).symm
    obtain ⟨adc, _, h⟩ := List.mem_flatMap.mp h
    rcases List.mem_append.mp h with h | h
    · split at h
      · cases List.mem_singleton.mp h
      · cases h
    · obtain ⟨_, _, e⟩ := List.mem_map.mp h
      cases e

theorem gseq_shift (d : Int) (a b : GSet) : GSet.seq (shiftG d a) (shiftG d b) = shiftG d (GSet.seq a b) := by
  rw [seq_eq_lift2, seq_eq_lift2]
  exact lift2_shift d fun c1 _ c2 _ => conj_seq_shift d c1 c2

theorem cond_invert_shift (d : Int) (x : Cond) : Cond.invert (shiftC d x) = shiftS d (Cond.invert x) := by
  cases x with
  | time c =>
    simp only [shiftC, Cond.invert, shiftS, shiftJ, List.map_cons, List.map_nil, shiftT, List.cons.injEq,
      Cond.time.injEq, TimeC.mk.injEq, true_and, and_true]
    grind
  | tag c => rfl
  | host c => rfl
  | num c => rfl
  | impossible => rfl
  | flag c =>
    simp only [shiftC, Cond.invert, shiftS, shiftJ, List.map_cons, List.map_nil, List.map_map,
      List.cons.injEq, and_true]
    rfl
  | data c =>
    simp only [shiftC, Cond.invert, shiftS, List.map_map]
    rfl

theorem conj_invert_shift (d : Int) (c : Conj) : Conj.invert (shiftJ d c) = shiftG d (Conj.invert c) := by
  unfold Conj.invert
  simp only [shiftJ_eq_nil]
  split
  · rfl
  · rw [shiftJ, List.foldl_map]
    exact List.foldl_hom (shiftG d) (init := none) fun acc x => by
      rw [cond_invert_shift, ← shiftG_some, Or_shift]

theorem cset_invert_shift (d : Int) (cs : CSet) (h : CSet.TP TimeC.Safe cs) :
    CSet.invert (shiftS d cs) = shiftG d (CSet.invert cs) := by
  unfold CSet.invert
  have : ∀ (l : CSet) (acc : GSet), CSet.TP TimeC.Safe l → CSet.TP TimeC.Safe acc.items →
      (shiftS d l).foldl (fun conds cc => GSet.And conds (Conj.invert cc)) (shiftG d acc) =
        shiftG d (l.foldl (fun conds cc => GSet.And conds (Conj.invert cc)) acc) := by
    intro l
    induction l with
    | nil => intro acc _ _; rfl
    | cons c rest ih =>
      intro acc hl ha
      have hc := (tpInv tinv_safe).conj_invert (hl c List.mem_cons_self)
      simp only [shiftS_cons, List.foldl_cons]
      rw [conj_invert_shift, And_shift d _ _ ha hc, ih _ (cset_tp_tail hl) ((tpInv tinv_safe).and ha hc)]
  exact this cs (some []) h (cset_tp_nil _)

end Shift
end Pk.Query
