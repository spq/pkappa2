/-
  C14 (parser totality):
   * how a run that is not ok ends: `Shift.kind` forgets the value of an outcome; a list of computations run until
     the first failure (`mapOutcome`, the operand lists of `translate`) ends as `firstBad` of their kinds;
   * `trTerm` / `translate` / `parse` never end in `.panic` or `.diverged` on grammar-shaped input
     (every list entry of a number/time term has at most two ranges);
   * every number condition produced by the translation of a term has pairwise distinct summand
     keys and no zero factor (`NumC.OK`), and so has every number condition that occurs anywhere
     during `translate` (`numOKInv`, an instance of `ConjInv`); hence no call of `Conditions.clean`
     during a whole parse (`translate` followed by `finish`; the calls are listed by `andCalls`,
     `cleanCalls`, `finishCalls`) reaches the integer-divide-by-zero site of `cleanNumberConditions`
     (`numNormSite`).
-/
import Pk.Proofs.Query.TermSound
import Pk.Proofs.Query.CleanNum
import Pk.Proofs.Query.SetLevel

namespace Pk.Query

def Outcome.map {α β : Type} (f : α → β) : Outcome α → Outcome β
  | .ok a => .ok (f a)
  | .err m => .err m
  | .panic s => .panic s
  | .diverged s => .diverged s

@[simp] theorem Outcome.map_ok {α β : Type} (f : α → β) (a : α) : (Outcome.ok a).map f = .ok (f a) := rfl
@[simp] theorem Outcome.map_err {α β : Type} (f : α → β) (m : String) : (Outcome.err m : Outcome α).map f = .err m := rfl
@[simp] theorem Outcome.map_panic {α β : Type} (f : α → β) (m : String) : (Outcome.panic m : Outcome α).map f = .panic m := rfl
@[simp] theorem Outcome.map_diverged {α β : Type} (f : α → β) (m : String) :
    (Outcome.diverged m : Outcome α).map f = .diverged m := rfl

namespace Shift

def kind {α : Type} (o : Outcome α) : Outcome Unit := o.map (fun _ => ())

theorem kind_map {α β : Type} (f : α → β) (o : Outcome α) : kind (o.map f) = kind o := by
  cases o <;> rfl

theorem kind_ok_iff {α : Type} (o : Outcome α) : (∃ a, o = .ok a) ↔ kind o = .ok () := by
  cases o <;> simp [kind, Outcome.map]

theorem kind_err_iff {α : Type} (o : Outcome α) (m : String) : o = .err m ↔ kind o = .err m := by
  cases o <;> simp [kind, Outcome.map]

/-- the outcome kind of a sequence of computations run until the first failure -/
def firstBad : List (Outcome Unit) → Outcome Unit
  | [] => .ok ()
  | .ok _ :: rest => firstBad rest
  | o :: _ => o

theorem kind_mapOutcome {α β : Type} (f : α → Outcome β) (l : List α) :
    kind (mapOutcome f l) = firstBad (l.map (fun x => kind (f x))) := by
  induction l with
  | nil => rfl
  | cons x xs ih =>
    rw [mapOutcome, List.map_cons]
    cases f x with
    | ok y =>
      refine Eq.trans ?_ ih
      cases mapOutcome f xs <;> rfl
    | err m => rfl
    | panic s => rfl
    | diverged s => rfl

theorem mapOutcome_kind {α β : Type} (f1 f2 : α → Outcome β) :
    ∀ (l : List α), (∀ x ∈ l, kind (f2 x) = kind (f1 x)) → kind (mapOutcome f2 l) = kind (mapOutcome f1 l) := by
  intro l h
  rw [kind_mapOutcome, kind_mapOutcome, List.map_congr_left h]

/-- neither the operator nor the accumulator matters for the outcome kind of an operand list -/
theorem kind_translateList (ref : Int) (op : GSet → GSet → GSet) (es : List Expr) : ∀ acc,
    kind (translateList ref op es acc) = firstBad (es.map (fun e => kind (translate ref e))) := by
  induction es with
  | nil => exact fun _ => rfl
  | cons e rest ih =>
    intro acc
    rw [translateList, List.map_cons]
    cases translate ref e with
    | ok g => cases g <;> exact ih _
    | err m => rfl
    | panic s => rfl
    | diverged s => rfl

theorem kind_translate_not (ref : Int) (e : Expr) : kind (translate ref (.not e)) = kind (translate ref e) := by
  rw [translate]
  cases translate ref e with
  | ok g => cases g <;> rfl
  | _ => rfl

theorem kind_parse (ref : Int) (e : Expr) : kind (parse ref e) = kind (translate ref e) := by
  unfold parse
  cases translate ref e <;> rfl

end Shift

/-- participle's grammar gives every list entry one or two ranges -/
def Term.Shaped (t : Term) : Prop :=
  match t.value with
  | .nums l => ∀ e ∈ l, e.length ≤ 2
  | .times l => ∀ e ∈ l, e.length ≤ 2
  | _ => True

def Expr.Shaped (e : Expr) : Prop := TermsOf Term.Shaped e

namespace Total

def Tot {α : Type} (o : Outcome α) : Prop := (∃ a, o = .ok a) ∨ (∃ m, o = .err m)

theorem tot_ok {α : Type} (a : α) : Tot (Outcome.ok a) := Or.inl ⟨a, rfl⟩
theorem tot_err {α : Type} (m : String) : Tot (Outcome.err m : Outcome α) := Or.inr ⟨m, rfl⟩

/- A step of the proofs below: `h : Tot x` for the discriminant `x` of a re-wrapping `match` in the
   goal; `rcases h with ⟨y, e⟩ | ⟨m, e⟩ <;> rw [e]` leaves the `.ok` case with the reduced `match` and
   the `.err` case, which is `tot_err`. -/

theorem tot_ite {α : Type} {c : Prop} [Decidable c] {a b : Outcome α} (ha : Tot a) (hb : Tot b) :
    Tot (if c then a else b) := ite_cases Tot c (fun _ => ha) (fun _ => hb)

theorem tot_congr {α β : Type} {o : Outcome α} {o' : Outcome β} (e : Shift.kind o' = Shift.kind o) (h : Tot o) :
    Tot o' := by
  rcases h with ⟨a, rfl⟩ | ⟨m, rfl⟩
  · exact Or.inl ((Shift.kind_ok_iff o').mpr e)
  · exact Or.inr ⟨m, (Shift.kind_err_iff o' m).mpr e⟩

/-- what fails as the first failing one of the computations `f x`, `x ∈ l`, is total when they are -/
theorem tot_of_kind {α β γ : Type} {o : Outcome α} {f : β → Outcome γ} : ∀ l : List β,
    Shift.kind o = Shift.firstBad (l.map fun x => Shift.kind (f x)) → (∀ x ∈ l, Tot (f x)) → Tot o
  | [], e, _ => tot_congr (o := .ok ()) e (tot_ok ())
  | x :: l, e, h => by
    rw [List.map_cons] at e
    rcases h x List.mem_cons_self with ⟨y, hy⟩ | ⟨m, hm⟩
    · rw [hy] at e
      exact tot_of_kind l e fun z hz => h z (List.mem_cons_of_mem _ hz)
    · rw [hm] at e
      exact tot_congr (o := .err m) e (tot_err m)

theorem mapOutcome_tot {α β : Type} (f : α → Outcome β) (l : List α) (h : ∀ x ∈ l, Tot (f x)) :
    Tot (mapOutcome f l) :=
  tot_of_kind l (Shift.kind_mapOutcome f l) h

theorem liftSet_tot {o : Outcome CSet} (h : Tot o) : Tot (liftSet o) := by
  rcases h with ⟨a, rfl⟩ | ⟨m, rfl⟩
  · exact tot_ok _
  · exact tot_err _

theorem trProtos_tot (t : Term) (l : List ProtoEntry) : Tot (trProtos t l) := by
  induction l with
  | nil => exact tot_ok _
  | cons e rest ih =>
    cases e with
    | var v =>
      simp only [trProtos]
      refine tot_ite (tot_err _) ?_
      rcases ih with ⟨tl, e⟩ | ⟨m, e⟩ <;> rw [e]
      rotate_left
      · exact tot_err _
      exact tot_ite (tot_ok _) (tot_ok _)
    | token tok =>
      simp only [trProtos]
      cases protoValue tok with
      | none => exact tot_err _
      | some f =>
        rcases ih with ⟨tl, e⟩ | ⟨m, e⟩ <;> rw [e]
        rotate_left
        · exact tot_err _
        exact tot_ok _

theorem maskFold_tot (ms : List Int) : ∀ (v4 v6 : List Bool), Tot (maskFold ms v4 v6) := by
  induction ms with
  | nil => exact fun _ _ => tot_ok _
  | cons n rest ih =>
    intro v4 v6
    unfold maskFold
    exact tot_ite (tot_err _) (tot_ite (tot_ite (tot_err _) (ih _ _))
      (tot_ite (tot_ite (tot_err _) (ih _ _)) (ih _ _)))

theorem hostMasks_tot (ms : Option (List Int)) : Tot (hostMasks ms) := by
  unfold hostMasks
  cases ms with
  | none => exact tot_ok _
  | some ms =>
    rcases maskFold_tot ms (List.replicate 32 false) (List.replicate 128 false) with ⟨⟨a, b⟩, h⟩ | ⟨m, h⟩
    · simp only [h]; exact tot_ok _
    · simp only [h]; exact tot_err _

theorem checkHostEntries_tot (l : List HostEntry) : Tot (checkHostEntries l) := by
  induction l with
  | nil => exact tot_ok _
  | cons e rest ih =>
    simp only [checkHostEntries]
    rcases (hostMasks_tot e.masks) with ⟨x_, e⟩ | ⟨m, e⟩ <;> rw [e]
    rotate_left
    · exact tot_err _
    exact ih

theorem trHostEntry_tot (t : Term) (server : Bool) (e : HostEntry) : Tot (trHostEntry t server e) := by
  unfold trHostEntry
  rcases hostMasks_tot e.masks with ⟨⟨a, b⟩, h⟩ | ⟨m, h⟩
  · rw [h]
    cases e.var with
    | none => exact tot_ok _
    | some v => exact tot_ite (tot_ok _) (tot_ite (tot_ok _) (tot_err _))
  · rw [h]; exact tot_err _

theorem trHosts_tot (t : Term) (l : List HostEntry) : Tot (trHosts t l) := by
  unfold trHosts
  rcases (checkHostEntries_tot l) with ⟨x_, e⟩ | ⟨m, e⟩ <;> rw [e]
  rotate_left
  · exact tot_err _
  rcases (mapOutcome_tot _ (hostTypes t.key) fun server _ =>
    mapOutcome_tot _ l fun e _ => trHostEntry_tot t server e) with ⟨ll, e⟩ | ⟨m, e⟩ <;> rw [e]
  rotate_left
  · exact tot_err _
  exact tot_ok _

theorem numParts_tot (r : List NumPart) : ∀ (nc : NumC), Tot (numParts r nc) := by
  induction r with
  | nil => exact fun _ => tot_ok _
  | cons p rest ih =>
    intro nc
    cases p with
    | num ops n => exact ih _
    | var ops v =>
      simp only [numParts]
      cases numVarType v.name with
      | none => exact tot_err _
      | some ty => exact ih _

theorem numBounds_tot (e : List (List NumPart)) (h : e.length ≤ 2) : Tot (numBounds e) := by
  match e, h with
  | [], _ => exact tot_ok _
  | [r], _ =>
    simp only [numBounds]
    rcases (numParts_tot r { sum := [], n := 0 }) with ⟨x_, e⟩ | ⟨m, e⟩ <;> rw [e]
    rotate_left
    · exact tot_err _
    exact tot_ok _
  | [r0, r1], _ =>
    simp only [numBounds]
    rcases (numParts_tot r0 { sum := [], n := 0 }) with ⟨x_, e⟩ | ⟨m, e⟩ <;> rw [e]
    rotate_left
    · exact tot_err _
    rcases (numParts_tot r1 { sum := [], n := 0 }) with ⟨x_, e⟩ | ⟨m, e⟩ <;> rw [e]
    rotate_left
    · exact tot_err _
    exact tot_ok _
  | _ :: _ :: _ :: _, h => simp at h

theorem numEntryFor_tot (t : Term) (b : NumC × NumC × Bool × Bool) (ty : NumType) : Tot (numEntryFor t b ty) := by
  obtain ⟨_, _, _, _, e⟩ := TermSound.numEntryFor_eq t b ty
  rw [e]; exact tot_ok _

theorem trNumEntry_tot (t : Term) (e : List (List NumPart)) (h : e.length ≤ 2) : Tot (trNumEntry t e) := by
  unfold trNumEntry
  rcases (numBounds_tot e h) with ⟨b, e⟩ | ⟨m, e⟩ <;> rw [e]
  rotate_left
  · exact tot_err _
  exact mapOutcome_tot _ _ fun ty _ => numEntryFor_tot t b ty

theorem trNums_tot (t : Term) (l : List (List (List NumPart))) (h : ∀ e ∈ l, e.length ≤ 2) : Tot (trNums t l) := by
  unfold trNums
  rcases (mapOutcome_tot _ l fun e he => trNumEntry_tot t e (h e he)) with ⟨ll, e⟩ | ⟨m, e⟩ <;> rw [e]
  rotate_left
  · exact tot_err _
  exact tot_ok _

theorem timeAddVar_tot (l : List TimeSummand) (sub name : String) (f : Int) :
    Tot (timeAddVar l sub name f) := by
  induction l with
  | nil => exact tot_ite (tot_ok _) (tot_ite (tot_ok _) (tot_err _))
  | cons s rest ih =>
    simp only [timeAddVar]
    refine tot_ite ?_ (tot_ite (tot_ok _) (tot_ite (tot_ok _) (tot_err _)))
    rcases ih with ⟨r, h⟩ | ⟨m, h⟩
    · rw [h]; exact tot_ok _
    · rw [h]; exact tot_err _

theorem timeParts_tot (ref : Int) (r : List TimePart) : ∀ (tc : TimeC), Tot (timeParts ref r tc) := by
  induction r with
  | nil => exact fun _ => tot_ok _
  | cons p rest ih =>
    intro tc
    cases p with
    | dur ops ns => exact ih _
    | abs ops c => exact ih _
    | var ops v =>
      simp only [timeParts]
      rcases (timeAddVar_tot tc.sum v.sub v.name (opsFactor ops)) with ⟨x_, e⟩ | ⟨m, e⟩ <;> rw [e]
      rotate_left
      · exact tot_err _
      exact ih _

theorem timeBounds_tot (ref : Int) (e : List (List TimePart)) (h : e.length ≤ 2) : Tot (timeBounds ref e) := by
  match e, h with
  | [], _ => exact tot_ok _
  | [r], _ =>
    simp only [timeBounds]
    rcases (timeParts_tot ref r { sum := [], dur := 0, rtf := 0 }) with ⟨x_, e⟩ | ⟨m, e⟩ <;> rw [e]
    rotate_left
    · exact tot_err _
    exact tot_ok _
  | [r0, r1], _ =>
    simp only [timeBounds]
    rcases (timeParts_tot ref r0 { sum := [], dur := 0, rtf := 0 }) with ⟨x_, e⟩ | ⟨m, e⟩ <;> rw [e]
    rotate_left
    · exact tot_err _
    rcases (timeParts_tot ref r1 { sum := [], dur := 0, rtf := 0 }) with ⟨x_, e⟩ | ⟨m, e⟩ <;> rw [e]
    rotate_left
    · exact tot_err _
    exact tot_ok _
  | _ :: _ :: _ :: _, h => simp at h

theorem trTimeEntry_tot (t : Term) (ref : Int) (e : List (List TimePart)) (h : e.length ≤ 2) :
    Tot (trTimeEntry t ref e) := by
  rcases timeBounds_tot ref e h with ⟨b, hb⟩ | ⟨m, hb⟩
  · obtain ⟨_, _, _, _, e⟩ := TermSound.trTimeEntry_eq t hb
    rw [e]; exact tot_ok _
  · simp only [trTimeEntry, hb]; exact tot_err _

theorem trTimes_tot (t : Term) (ref : Int) (l : List (List (List TimePart))) (h : ∀ e ∈ l, e.length ≤ 2) :
    Tot (trTimes t ref l) := by
  exact mapOutcome_tot _ l fun e he => trTimeEntry_tot t ref e (h e he)

theorem trTerm_tot (ref : Int) (t : Term) (h : t.Shaped) : Tot (trTerm ref t) := by
  unfold trTerm
  unfold Term.Shaped at h
  split
  · exact tot_err _
  · split
    · exact tot_ok _
    · exact liftSet_tot (trProtos_tot t _)
    · exact liftSet_tot (trHosts_tot t _)
    · rename_i l hv
      rw [hv] at h
      exact liftSet_tot (trNums_tot t l h)
    · rename_i l hv
      rw [hv] at h
      exact liftSet_tot (trTimes_tot t ref l h)
    · exact tot_ok _
    · exact tot_ok _

theorem translate_tot (ref : Int) (e : Expr) (h : e.Shaped) : Tot (translate ref e) := by
  unfold Expr.Shaped at h
  have list : ∀ (op : GSet → GSet → GSet) (es : List Expr), (∀ e ∈ es, Tot (translate ref e)) →
      Tot (translateList ref op es none) := fun op es =>
    tot_of_kind es (Shift.kind_translateList ref op es none)
  induction e using exprInd with
  | term t =>
    cases h with
    | term ht => simp only [translate]; exact trTerm_tot ref t ht
  | aux => simp only [translate]; exact tot_ok _
  | not e ih =>
    cases h with
    | not he => exact tot_congr (Shift.kind_translate_not ref e) (ih he)
  | grp e ih =>
    cases h with
    | grp he => simp only [translate]; exact ih he
  | and es ih =>
    cases h with
    | and hes => simp only [translate]; exact list _ es fun e he => ih e he (hes e he)
  | or es ih =>
    cases h with
    | or hes => simp only [translate]; exact list _ es fun e he => ih e he (hes e he)
  | seq es ih =>
    cases h with
    | seq hes => simp only [translate]; exact list _ es fun e he => ih e he (hes e he)

end Total

open Total in
theorem translate_total (ref : Int) (e : Expr) (h : e.Shaped) :
    (∃ g, translate ref e = .ok g) ∨ (∃ m, translate ref e = .err m) := translate_tot ref e h

theorem parse_total (ref : Int) (e : Expr) (h : e.Shaped) :
    (∃ p, parse ref e = .ok p) ∨ (∃ m, parse ref e = .err m) :=
  Total.tot_congr (Shift.kind_parse ref e) (translate_total ref e h)

/-! The own-variable loop returns distinct keys and no zero factor (`TermSound.numOwn_spec`, from the
loop invariant in OwnLoop.lean); the part lists keep the keys distinct (`TermSound.numBounds_spec`). -/

namespace Total

open TermSound

theorem neg_ok (nc : NumC) (h : nc.OK) : nc.neg.OK :=
  sumOK_map h (· * -1) fun s hs => by have := h.2 s hs; omega

def _root_.Pk.Query.Conj.NumOK (c : Conj) : Prop := ∀ nc, Cond.num nc ∈ c → nc.OK

/-- the number conditions of a number term come out of the own-variable loop -/
theorem trNums_ok (t : Term) (l : List (List (List NumPart))) (cs : CSet) (h : trNums t l = .ok cs) :
    ∀ c ∈ cs, Conj.NumOK c := by
  intro c hc nc hnc
  obtain ⟨e, _, b, ty, hb, he⟩ := (trNums_mem h).2 c hc
  obtain ⟨k1, k2, _⟩ := numBounds_spec e b hb
  obtain ⟨lo, hi, hlo, hhi, rfl⟩ := numEntryFor_shape he
  rcases mem_bounds hnc with h' | h'
  · rw [Cond.num.inj h']; exact neg_ok lo (numOwn_spec wfEnv t ty _ lo k1 hlo).1
  · rw [Cond.num.inj h']; exact (numOwn_spec wfEnv t ty _ hi k2 hhi).1

/-- the other term kinds produce no number condition (`trTerm_kind`) -/
theorem trTerm_numOK (ref : Int) (t : Term) (cs : CSet) (h : trTerm ref t = .ok (some cs)) :
    ∀ c ∈ cs, Conj.NumOK c := by
  intro c hc nc hnc
  have hk := trTerm_kind ref t cs h c hc _ hnc
  cases hv : t.value <;> rw [hv] at hk <;> try cases hk
  exact trNums_ok t _ cs (trTerm_nums hv h) c hc nc hnc

end Total

theorem invert_num_ok (nc : NumC) (h : nc.OK) : ∀ c ∈ Cond.invert (.num nc), ∀ nc', Cond.num nc' ∈ c → nc'.OK := by
  intro c hc nc' hnc'
  simp only [Cond.invert, List.mem_singleton] at hc
  subst hc
  simp only [List.mem_singleton, Cond.num.injEq] at hnc'
  subst hnc'
  exact sumOK_map h (- ·) fun s hs => by have := h.2 s hs; omega

theorem conj_clean_numOK (c : Conj) (h : Conj.NumOK c) :
    Conj.NumOK (Conj.clean c) ∧ ∀ nc ∈ c.filterMap Cond.num?, numNormSite nc = false := by
  have hin : ∀ nc ∈ c.filterMap Cond.num?, nc.OK := fun nc hnc => h _ (mem_filterMap_num.mp hnc)
  refine ⟨fun nc hnc => ?_, fun nc hnc => numNormSite_of_ok nc (hin nc hnc)⟩
  obtain ⟨l, hl, hm⟩ := mem_clean_kind hnc
  exact cleanNumber_ok _ hin l hl nc hm


def CSet.NumOK (cs : CSet) : Prop := ∀ c ∈ cs, Conj.NumOK c

namespace Total

theorem numOK_nil : Conj.NumOK [] := fun _ h => absurd h List.not_mem_nil

theorem numOK_append {a b : Conj} (ha : Conj.NumOK a) (hb : Conj.NumOK b) : Conj.NumOK (a ++ b) := by
  intro nc h
  rcases List.mem_append.mp h with h | h
  · exact ha nc h
  · exact hb nc h

theorem numOK_site_free {c : Conj} (h : Conj.NumOK c) :
    ∀ nc ∈ c.filterMap Cond.num?, numNormSite nc = false := (conj_clean_numOK c h).2

theorem numOKInv : ConjInv Conj.NumOK where
  impossible := by intro nc h; simp [impossibleConj] at h
  idRange lo hi := by
    intro nc h
    simp only [idRangeConj, List.mem_cons, Cond.num.injEq, List.not_mem_nil, or_false] at h
    rcases h with rfl | rfl <;> (constructor <;> simp)
  append := numOK_append
  clean h := (conj_clean_numOK _ h).1
  seq ha hb := by
    intro nc h
    rcases mem_conj_seq h with h | h | ⟨_, _, _, _, _, h⟩
    · exact ha nc h
    · exact hb nc h
    · cases h
  invertCond := by
    intro c x h hx d hd nc hnc
    have hk := invert_kind hd hnc
    cases x <;> try cases hk
    exact invert_num_ok _ (h _ hx) d hd nc hnc

theorem cset_numOK_nil : CSet.NumOK [] := fun _ h => absurd h List.not_mem_nil

theorem cset_numOK_append {a b : CSet} (ha : CSet.NumOK a) (hb : CSet.NumOK b) : CSet.NumOK (a ++ b) :=
  List.forall_mem_append.mpr ⟨ha, hb⟩

end Total

open Total in
theorem translate_numOK (ref : Int) (e : Expr) (g : GSet) (h : translate ref e = .ok g) :
    CSet.NumOK g.items :=
  numOKInv.translate_all ref (fun _ => True) (fun t cs _ ht => trTerm_numOK ref t cs ht) e
    (termsOf_true e) g h

/-- the arguments of `Conj.clean` inside `GSet.And` / `CSet.andPairs` -/
def andCalls (a b : CSet) : List Conj := a.flatMap (fun c1 => b.map (fun c2 => c1 ++ c2))

theorem andPairs_eq_calls (a b : CSet) : CSet.andPairs a b = (andCalls a b).map Conj.clean := by
  simp only [CSet.andPairs, andCalls, List.map_flatMap, List.map_map]
  rfl

open Total in
theorem and_calls_site_free (a b : CSet) (ha : CSet.NumOK a) (hb : CSet.NumOK b) :
    ∀ c ∈ andCalls a b, ∀ nc ∈ c.filterMap Cond.num?, numNormSite nc = false := by
  intro c hc
  simp only [andCalls, List.mem_flatMap, List.mem_map] at hc
  obtain ⟨c1, h1, c2, h2, rfl⟩ := hc
  exact numOK_site_free (numOK_append (ha c1 h1) (hb c2 h2))

/-- the arguments of `Conj.clean` during `absorb cc new`: for every kept conjunct `cc2` visited,
    `cc ++ cc2` (inside `Conj.and`) and the re-clean of `Conj.and cc cc2` -/
def absorbCalls (cc : Conj) : List Conj → List Conj
  | [] => []
  | cc2 :: rest =>
    if cc2 = cc then []
    else
      let anded := Conj.clean (Conj.and cc cc2)
      [cc ++ cc2, Conj.and cc cc2] ++
        (if anded = cc then [] else if anded = cc2 then [] else absorbCalls cc rest)

/-- the arguments of `Conj.clean` during `cleanLoop new rest` -/
def cleanLoopCalls : List Conj → List Conj → List Conj
  | _, [] => []
  | new, cc :: rest =>
    cc ::
      (if Conj.isImpossible (Conj.clean cc) then cleanLoopCalls new rest
       else absorbCalls (Conj.clean cc) new ++
         (match absorb (Conj.clean cc) new with
          | some new' => cleanLoopCalls new' rest
          | none => cleanLoopCalls (new ++ [Conj.clean cc]) rest))

/-- the arguments of `Conj.clean` during `simpleIDs` (the fast path stops at the first conjunct
    that is not a single id) -/
def simpleIDCalls : CSet → List Conj
  | [] => []
  | cc :: rest =>
    cc :: (match Conj.extractSimpleID (Conj.clean cc) with
      | some (mn, mx) => if mn ≠ mx then [] else simpleIDCalls rest
      | none => [])

/-- the arguments of `Conj.clean` during `CSet.Clean cs` -/
def cleanCalls (cs : CSet) : List Conj :=
  (if cs = [] then [] else simpleIDCalls cs) ++
    (match CSet.cleanSimpleID cs with
     | some _ => []
     | none => cleanLoopCalls [] cs)

namespace Total

theorem simpleIDCalls_mem : ∀ (cs : CSet), ∀ c ∈ simpleIDCalls cs, c ∈ cs
  | [], c, h => by cases h
  | cc :: rest, c, h => by
    simp only [simpleIDCalls] at h
    rcases List.mem_cons.mp h with rfl | h
    · exact List.mem_cons_self
    · split at h
      · split at h
        · cases h
        · exact List.mem_cons_of_mem _ (simpleIDCalls_mem rest c h)
      · cases h

theorem absorbCalls_numOK (cc : Conj) (hcc : Conj.NumOK cc) : ∀ (new : List Conj), CSet.NumOK new →
    CSet.NumOK (absorbCalls cc new)
  | [], _ => cset_numOK_nil
  | cc2 :: rest, hn => by
    simp only [absorbCalls]
    have h2 : Conj.NumOK cc2 := hn _ List.mem_cons_self
    split
    · exact cset_numOK_nil
    · apply cset_numOK_append
      · exact List.forall_mem_cons.mpr ⟨numOK_append hcc h2, List.forall_mem_cons.mpr
          ⟨numOKInv.clean (numOK_append hcc h2), cset_numOK_nil⟩⟩
      · split
        · exact cset_numOK_nil
        · split
          · exact cset_numOK_nil
          · exact absorbCalls_numOK cc hcc rest (fun c hc => hn c (List.mem_cons_of_mem _ hc))

theorem cleanLoopCalls_numOK : ∀ (rest new : List Conj), CSet.NumOK new → CSet.NumOK rest →
    CSet.NumOK (cleanLoopCalls new rest)
  | [], new, _, _ => cset_numOK_nil
  | cc :: rest, new, hn, hr => by
    have hcc : Conj.NumOK cc := hr _ List.mem_cons_self
    have hrest : CSet.NumOK rest := fun c hc => hr c (List.mem_cons_of_mem _ hc)
    have hcl : Conj.NumOK (Conj.clean cc) := numOKInv.clean hcc
    simp only [cleanLoopCalls]
    refine List.forall_mem_cons.mpr ⟨hcc, ?_⟩
    split
    · exact cleanLoopCalls_numOK rest new hn hrest
    · refine cset_numOK_append (absorbCalls_numOK _ hcl new hn) ?_
      split
      · next new' ha => exact cleanLoopCalls_numOK rest new' (ConjInv.absorb_all hcl hn ha) hrest
      · exact cleanLoopCalls_numOK rest _
          (cset_numOK_append hn (List.forall_mem_cons.mpr ⟨hcl, cset_numOK_nil⟩)) hrest

end Total

open Total in
theorem Clean_calls_site_free (cs : CSet) (h : CSet.NumOK cs) :
    ∀ c ∈ cleanCalls cs, Conj.NumOK c ∧ ∀ nc ∈ c.filterMap Cond.num?, numNormSite nc = false := by
  have key : CSet.NumOK (cleanCalls cs) := by
    unfold cleanCalls
    apply cset_numOK_append
    · split
      · exact cset_numOK_nil
      · exact fun c hc => h c (simpleIDCalls_mem cs c hc)
    · split
      · exact cset_numOK_nil
      · exact cleanLoopCalls_numOK cs [] cset_numOK_nil h
  intro c hc
  exact ⟨key c hc, numOK_site_free (key c hc)⟩

theorem Clean_numOK (cs : CSet) (h : CSet.NumOK cs) : CSet.NumOK (CSet.Clean cs) :=
  Total.numOKInv.Clean_all h

/-- the arguments of `Conj.clean` in the tail of `query.Parse` -/
def finishCalls : GSet → List Conj
  | none => []
  | some cs => cleanCalls cs

end Pk.Query
