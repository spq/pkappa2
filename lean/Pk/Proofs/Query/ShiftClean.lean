/-
  C14 (reference-time shift), part 2: `Conj.clean` and `CSet.Clean` commute with the shift on
  conjuncts whose time conditions are `Safe`, and keep every `TInv` invariant (`tpInv`, an instance of
  `ConjInv`).
-/
import Pk.Proofs.Query.ShiftDefs
import Pk.Proofs.Query.SetLevel

namespace Pk.Query
namespace Shift

theorem timeNorm_shift (d : Int) (c : TimeC) : timeNorm (shiftT d c) = shiftT d (timeNorm c) := by
  unfold timeNorm
  show (match isort timeSumLt c.sum with
        | [] => { shiftT d c with sum := [] }
        | a :: rest => { shiftT d c with sum := dropLastZero (timeMerge a rest) }) = _
  generalize isort timeSumLt c.sum = srt
  cases srt <;> rfl

/-- the first loop decides by the summands and, where their coefficients cancel, by the sign of the
    constant — which a `Safe` condition does not move -/
theorem timeVerdict_shift (d : Int) (c : TimeC) (hs : c.Safe) : timeVerdict (shiftT d c) = timeVerdict c := by
  obtain ⟨sum, dur, rtf⟩ := c
  rcases hs with h0 | hne
  · have h0 : rtf = 0 := h0
    subst h0
    simp only [shiftT, Int.zero_mul, Int.add_zero]
  · unfold timeVerdict
    match sum, hne with
    | [], hne => exact absurd rfl hne
    | [s], hne =>
      have : s.f + s.l ≠ 0 := by simpa using hne
      simp only [shiftT_sum, if_pos this]
    | _ :: _ :: _, _ => rfl

theorem timeFirst_shift (d : Int) : ∀ (l : List TimeC), (∀ c ∈ l, c.Safe) →
    timeFirst (l.map (shiftT d)) = (timeFirst l).map (List.map (shiftT d))
  | [], _ => rfl
  | c :: rest, h => by
    rw [List.map_cons, timeFirst_sieve.cons, timeFirst_sieve.cons, timeNorm_shift,
      timeVerdict_shift d _ (tinv_safe.norm c (h c List.mem_cons_self)),
      timeFirst_shift d rest (fun x hx => h x (List.mem_cons_of_mem _ hx))]
    cases timeVerdict (timeNorm c) <;> cases timeFirst rest <;> rfl

theorem timeLt_shift (d : Int) (a b : TimeC) : timeLt (shiftT d a) (shiftT d b) = timeLt a b := by
  obtain ⟨as, ad, ar⟩ := a
  obtain ⟨bs, bd, br⟩ := b
  show timeLt ⟨as, ad + ar * d, ar⟩ ⟨bs, bd + br * d, br⟩ = timeLt ⟨as, ad, ar⟩ ⟨bs, bd, br⟩
  simp only [timeLt]
  by_cases h1 : as.length ≠ bs.length
  · rw [if_pos h1, if_pos h1]
  · rw [if_neg h1, if_neg h1]
    cases lexCmp cmpTimeSummand as bs with
    | lt => rfl
    | gt => rfl
    | eq =>
      simp only
      by_cases hr : ar ≠ br
      · rw [if_pos hr, if_pos hr]
      · rw [if_neg hr, if_neg hr]
        have hr' : ar = br := by simpa using hr
        subst hr'
        apply Bool.eq_iff_iff.mpr
        simp only [decide_eq_true_eq]
        omega

theorem timeDedup_shift (d : Int) : ∀ (l : List TimeC) (a : TimeC),
    timeDedup (shiftT d a) (l.map (shiftT d)) = (timeDedup a l).map (shiftT d)
  | [], a => rfl
  | b :: rest, a => by
    have ih1 := timeDedup_shift d rest a
    have ih2 := timeDedup_shift d rest b
    obtain ⟨as, ad, ar⟩ := a
    obtain ⟨bs, bd, br⟩ := b
    show timeDedup ⟨as, ad + ar * d, ar⟩ (⟨bs, bd + br * d, br⟩ :: rest.map (shiftT d)) =
      (timeDedup ⟨as, ad, ar⟩ (⟨bs, bd, br⟩ :: rest)).map (shiftT d)
    simp only [timeDedup]
    by_cases h : as = bs ∧ ar = br
    · rw [if_pos h, if_pos h]
      exact ih1
    · rw [if_neg h, if_neg h]
      exact congrArg (List.cons (shiftT d ⟨as, ad, ar⟩)) ih2

theorem cleanTime_shift (d : Int) (l : List TimeC) (h : ∀ c ∈ l, c.Safe) :
    cleanTime (l.map (shiftT d)) = (cleanTime l).map (List.map (shiftT d)) := by
  unfold cleanTime
  rw [timeFirst_shift d l h]
  cases timeFirst l with
  | none => rfl
  | some r =>
    simp only [Option.map_some]
    rw [isort_map timeLt (shiftT d) (timeLt_shift d)]
    cases isort timeLt r with
    | nil => rfl
    | cons a rest =>
      simp only [List.map_cons, Option.map_some]
      rw [timeDedup_shift]

theorem any_impossible_shift (d : Int) (c : Conj) :
    (shiftJ d c).any (· = Cond.impossible) = c.any (· = Cond.impossible) := by
  rw [shiftJ, List.any_map]
  exact List.any_congr rfl (fun x => by cases x <;> rfl)

theorem fm_shift {β : Type} {f : Cond → Option β} (d : Int) (h : ∀ x, f (shiftC d x) = f x) (c : Conj) :
    (shiftJ d c).filterMap f = c.filterMap f := by
  rw [shiftJ, List.filterMap_map]
  exact congrArg (List.filterMap · c) (funext h)

theorem fm_time (d : Int) (c : Conj) :
    (shiftJ d c).filterMap Cond.time? = (c.filterMap Cond.time?).map (shiftT d) := by
  rw [shiftJ, List.filterMap_map, List.map_filterMap]
  exact congrArg (List.filterMap · c) (funext fun x => by cases x <;> rfl)

theorem assemble_shift (d : Int) (o1 : Option (List TagC)) (o2 : Option (List FlagC))
    (o3 : Option (List HostC)) (o4 : Option (List NumC)) (o5 : Option (List TimeC))
    (o6 : Option (List DataC)) :
    Conj.assemble o1 o2 o3 o4 (o5.map (List.map (shiftT d))) o6 =
      shiftJ d (Conj.assemble o1 o2 o3 o4 o5 o6) := by
  cases o1 with
  | none => rfl
  | some l1 =>
  cases o2 with
  | none => rfl
  | some l2 =>
  cases o3 with
  | none => rfl
  | some l3 =>
  cases o4 with
  | none => rfl
  | some l4 =>
  cases o5 with
  | none => rfl
  | some l5 =>
  cases o6 with
  | none => rfl
  | some l6 =>
    simp only [Conj.assemble, Option.map_some, shiftJ, List.map_append, List.map_map]
    rfl

theorem conj_clean_shift (d : Int) (c : Conj) (h : Conj.TP TimeC.Safe c) :
    Conj.clean (shiftJ d c) = shiftJ d (Conj.clean c) := by
  rw [conj_clean_eq, conj_clean_eq, any_impossible_shift,
    fm_shift (f := Cond.tag?) d (fun x => by cases x <;> rfl),
    fm_shift (f := Cond.flag?) d (fun x => by cases x <;> rfl),
    fm_shift (f := Cond.host?) d (fun x => by cases x <;> rfl),
    fm_shift (f := Cond.num?) d (fun x => by cases x <;> rfl),
    fm_shift (f := Cond.data?) d (fun x => by cases x <;> rfl), fm_time,
    cleanTime_shift d _ (fun tc htc => h tc (mem_filterMap_time.mp htc)), assemble_shift]
  split <;> rfl

theorem conj_clean_time_mem (c : Conj) (tc : TimeC) (h : Cond.time tc ∈ Conj.clean c) :
    ∃ c0, Cond.time c0 ∈ c ∧ tc = timeNorm c0 := by
  obtain ⟨l, hl, hm⟩ := mem_clean_kind h
  obtain ⟨c0, hc0, rfl⟩ := List.mem_map.mp ((cleanTime_sub _ _ hl).subset tc hm)
  exact ⟨c0, mem_filterMap_time.mp hc0, rfl⟩

theorem conj_clean_tp {P : TimeC → Prop} (hP : TInv P) (c : Conj) (h : Conj.TP P c) :
    Conj.TP P (Conj.clean c) := by
  intro tc htc
  obtain ⟨c0, hc0, rfl⟩ := conj_clean_time_mem c tc htc
  exact hP.norm c0 (h c0 hc0)

theorem idRangeConj_noTime (lo hi : Nat) : NoTimeJ (idRangeConj lo hi) := by
  intro tc h
  simp [idRangeConj] at h

theorem tpInv {P : TimeC → Prop} (hP : TInv P) : ConjInv (Conj.TP P) where
  impossible := tp_impossible P
  idRange lo hi := (idRangeConj_noTime lo hi).tp P
  append := tp_append
  clean h := conj_clean_tp hP _ h
  seq ha hb := by
    intro tc h
    rcases mem_conj_seq h with h | h | ⟨_, _, _, _, _, h⟩
    · exact ha tc h
    · exact hb tc h
    · cases h
  invertCond := by
    intro c x h hx d hd tc htc
    have hk := invert_kind hd htc
    cases x <;> try cases hk
    rw [List.mem_singleton.mp hd, List.mem_singleton, Cond.time.injEq] at htc
    subst htc
    exact hP.inv _ (h _ hx)

theorem conj_and_shift (d : Int) (a b : Conj) (ha : Conj.TP TimeC.Safe a) (hb : Conj.TP TimeC.Safe b) :
    Conj.and (shiftJ d a) (shiftJ d b) = shiftJ d (Conj.and a b) := by
  unfold Conj.and
  rw [← shiftJ_append, conj_clean_shift d _ (tp_append ha hb)]

theorem isImpossible_shift (d : Int) (c : Conj) : Conj.isImpossible (shiftJ d c) = Conj.isImpossible c := by
  unfold Conj.isImpossible
  have : (shiftJ d c = impossibleConj) ↔ c = impossibleConj :=
    ⟨fun h => shiftJ_inj d (h.trans (shiftJ_impossible d).symm), fun h => by subst h; rfl⟩
  simp only [this]

theorem extractLoop_shift (d : Int) : ∀ (l : List Cond) (mn mx : Nat),
    extractLoop (shiftJ d l) mn mx = extractLoop l mn mx
  | [], _, _ => rfl
  | x :: rest, mn, mx => by
    cases x with
    | num nc => simp only [shiftJ_cons, shiftC, extractLoop, extractLoop_shift d rest]
    | _ => rfl

theorem extractSimpleID_shift (d : Int) (c : Conj) :
    Conj.extractSimpleID (shiftJ d c) = Conj.extractSimpleID c := by
  unfold Conj.extractSimpleID
  rw [extractLoop_shift]
  by_cases hc : c = []
  · subst hc; rfl
  · have : shiftJ d c ≠ [] := fun h => hc ((shiftJ_eq_nil d c).mp h)
    simp [hc, this]

theorem simpleIDs_shift (d : Int) : ∀ (cs : CSet), CSet.TP TimeC.Safe cs →
    simpleIDs (shiftS d cs) = simpleIDs cs
  | [], _ => rfl
  | cc :: rest, h => by
    simp only [shiftS_cons, simpleIDs]
    rw [conj_clean_shift d cc (h cc List.mem_cons_self), extractSimpleID_shift,
      simpleIDs_shift d rest (cset_tp_tail h)]

theorem cleanSimpleID_shift (d : Int) (cs : CSet) (h : CSet.TP TimeC.Safe cs) :
    CSet.cleanSimpleID (shiftS d cs) = CSet.cleanSimpleID cs := by
  unfold CSet.cleanSimpleID
  rw [simpleIDs_shift d cs h]
  by_cases hc : cs = []
  · subst hc; rfl
  · have : shiftS d cs ≠ [] := fun h => hc ((shiftS_eq_nil d cs).mp h)
    simp [hc, this]

theorem absorb_shift (d : Int) (cc : Conj) (hcc : Conj.TP TimeC.Safe cc) : ∀ (new : List Conj),
    CSet.TP TimeC.Safe new → absorb (shiftJ d cc) (shiftS d new) = (absorb cc new).map (shiftS d)
  | [], _ => rfl
  | cc2 :: rest, hn => by
    have h2 : Conj.TP TimeC.Safe cc2 := hn cc2 List.mem_cons_self
    have ih := absorb_shift d cc hcc rest (cset_tp_tail hn)
    simp only [shiftS_cons, absorb]
    rw [conj_and_shift d cc cc2 hcc h2, conj_clean_shift d (Conj.and cc cc2) ((tpInv tinv_safe).clean ((tpInv tinv_safe).append hcc h2)), ih]
    simp only [shiftJ_eq_iff]
    by_cases h1 : cc2 = cc
    · rw [if_pos h1, if_pos h1]; rfl
    · rw [if_neg h1, if_neg h1]
      by_cases h3 : Conj.clean (Conj.and cc cc2) = cc
      · rw [if_pos h3, if_pos h3]; rfl
      · rw [if_neg h3, if_neg h3]
        by_cases h4 : Conj.clean (Conj.and cc cc2) = cc2
        · rw [if_pos h4, if_pos h4]; rfl
        · rw [if_neg h4, if_neg h4]
          cases absorb cc rest <;> rfl

theorem cleanLoop_shift (d : Int) : ∀ (rest new : List Conj), CSet.TP TimeC.Safe new →
    CSet.TP TimeC.Safe rest → cleanLoop (shiftS d new) (shiftS d rest) = shiftS d (cleanLoop new rest)
  | [], new, _, _ => by simp [cleanLoop]
  | cc :: rest, new, hn, hr => by
    have hcc : Conj.TP TimeC.Safe cc := hr cc List.mem_cons_self
    have hcl : Conj.TP TimeC.Safe (Conj.clean cc) := (tpInv tinv_safe).clean hcc
    have hrest : CSet.TP TimeC.Safe rest := cset_tp_tail hr
    simp only [shiftS_cons, cleanLoop]
    rw [conj_clean_shift d cc hcc, isImpossible_shift, absorb_shift d _ hcl new hn]
    split
    · exact cleanLoop_shift d rest new hn hrest
    · cases ha : absorb (Conj.clean cc) new with
      | some new' =>
        simp only [Option.map_some]
        exact cleanLoop_shift d rest new' (ConjInv.absorb_all hcl hn ha) hrest
      | none =>
        simp only [Option.map_none]
        have := cleanLoop_shift d rest (new ++ [Conj.clean cc])
          (cset_tp_append hn (cset_tp_cons hcl (cset_tp_nil _))) hrest
        simpa using this

theorem Clean_shift (d : Int) (cs : CSet) (h : CSet.TP TimeC.Safe cs) :
    CSet.Clean (shiftS d cs) = shiftS d (CSet.Clean cs) := by
  unfold CSet.Clean
  rw [cleanSimpleID_shift d cs h]
  cases hs : CSet.cleanSimpleID cs with
  | some r => exact (NoTime.shift (cleanSimpleID_all idRangeConj_noTime hs) d).symm
  | none =>
    simp only
    have hl := cleanLoop_shift d cs [] (cset_tp_nil _) h
    simp only [shiftS_nil] at hl
    rw [hl]
    by_cases h1 : cleanLoop [] cs = [] <;> by_cases h2 : cs = [] <;>
      simp [h1, h2, shiftS_eq_nil]

end Shift
end Pk.Query
