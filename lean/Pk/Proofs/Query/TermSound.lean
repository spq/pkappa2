/-
  Soundness of the translation of a single term, with variables and sub-queries (`Term.FragV`):
  `trTerm ref t` is a non-nil, non-empty, well-shaped condition set with the value
  `evalTerm ref t ρ`.  `Term.Frag` is the variable-free part of the fragment.

  Ingredients:
   * a list-valued filter is read entry by entry: the translation is unfolded once into rows related to the
     entries by `Index.All₂` (`trProtos_rows`, `trHosts_rows`, `trNums_rows`; `trTimes` is `mapOutcome`
     itself), and the value of the whole is the disjunction over the rows (`conjs_sound`, `flatten_sound`);
   * the invariant of the own-variable loop (OwnLoop.lean), for numbers and times: with pairwise
     distinct keys the loop subtracts the filter's own variable exactly once;
   * `numParts_spec` / `timeParts_spec`: the accumulated condition has the value of the part list
     and keeps the keys distinct;
   * a protocol filter is the negation of a flag condition on the two protocol bits (Invert.lean);
   * a host filter is a host condition on two operands (`evalHost_pair`).

  Also here, for the size bound, totality (C14) and the reference-time shift: the own-variable loops of
  number and time terms terminate (`numOwn_terminates`, `timeOwn_terminates`), and where the conjuncts
  of a translated term come from (`tr*_mem`, `*_shape`, `trTerm_kind`).
-/
import Pk.Proofs.Query.OwnLoop
import Pk.Proofs.Query.CleanNum
import Pk.Proofs.Query.CleanTime
import Pk.Proofs.Query.Invert
import Pk.Proofs.Query.SetLevel

namespace Pk.Query

def NumPart.isNum : NumPart → Bool
  | .num _ _ => true
  | _ => false

def TimePart.noVar : TimePart → Bool
  | .var _ _ => false
  | _ => true

def Term.Frag (t : Term) : Prop :=
  (t.conv = "" ∨ t.key = "data" ∨ t.key = "cdata" ∨ t.key = "sdata") ∧
    match t.value with
    | .tags names => names ≠ []
    | .protos l => l ≠ [] ∧ ∀ p ∈ l, ∃ tok, p = .token tok
    | .hosts l => l ≠ [] ∧ (t.key = "chost" ∨ t.key = "shost" ∨ t.key = "host") ∧
        ∀ h ∈ l, h.var = none ∧ ((normHost h.host).length = 4 ∨ (normHost h.host).length = 16)
    | .nums l => l ≠ [] ∧ t.key ∈ ["id","cport","sport","port","cbytes","sbytes","bytes"] ∧
        ∀ e ∈ l, (e.length = 1 ∨ e.length = 2) ∧ ∀ r ∈ e, ∀ p ∈ r, p.isNum
    | .times l => l ≠ [] ∧ t.key ∈ ["ftime","ltime","time"] ∧
        ∀ e ∈ l, (e.length = 1 ∨ e.length = 2) ∧ ∀ r ∈ e, ∀ p ∈ r, p.noVar
    | .data _ _ => t.key ∈ ["data","cdata","sdata"]
    | .other => False

/-- like `Term.Frag`, but values may contain variables (`@sub:name`) and any sub-query; a variable of
    the wrong kind or an unknown protocol token makes `trTerm` return `.err` -/
def Term.FragV (t : Term) : Prop :=
  (t.conv = "" ∨ t.key = "data" ∨ t.key = "cdata" ∨ t.key = "sdata") ∧
    match t.value with
    | .tags names => names ≠ []
    | .protos l => l ≠ []
    | .hosts l => l ≠ [] ∧ (t.key = "chost" ∨ t.key = "shost" ∨ t.key = "host") ∧
        ∀ h ∈ l, (h.var = none ∧ ((normHost h.host).length = 4 ∨ (normHost h.host).length = 16)) ∨
          ∃ v, h.var = some v
    | .nums l => l ≠ [] ∧ ∀ e ∈ l, (e.length = 1 ∨ e.length = 2)
    | .times l => l ≠ [] ∧ ∀ e ∈ l, (e.length = 1 ∨ e.length = 2)
    | .data _ _ => t.key ∈ ["data","cdata","sdata"]
    | .other => False

theorem Term.Frag.toFragV {t : Term} (h : t.Frag) : t.FragV := by
  obtain ⟨h1, h2⟩ := h
  refine ⟨h1, ?_⟩
  cases hv : t.value with
  | tags names => rw [hv] at h2; exact h2
  | protos l => rw [hv] at h2; exact h2.1
  | hosts l => rw [hv] at h2; exact ⟨h2.1, h2.2.1, fun h hh => Or.inl (h2.2.2 h hh)⟩
  | nums l => rw [hv] at h2; exact ⟨h2.1, fun e he => (h2.2.2 e he).1⟩
  | times l => rw [hv] at h2; exact ⟨h2.1, fun e he => (h2.2.2 e he).1⟩
  | data c vs => rw [hv] at h2; exact h2
  | other => rw [hv] at h2; exact h2

theorem numOwn_terminates (t : Term) (ty : NumType) (nc : NumC) : ∃ r, numOwn t ty nc = .ok r := by
  unfold numOwn
  obtain ⟨r, hr⟩ := ownLoop_terminates (fun (s : NumSummand) => decide (s.sq = t.sq ∧ s.ty = ty))
      (fun s => { s with factor := s.factor - 1 }) (fun s => decide (s.factor = 0))
      { sq := t.sq, factor := 0, ty := ty } nc.sum
  rw [hr]
  exact ⟨_, rfl⟩

theorem timeOwn_terminates (t : Term) (tci : Nat) (tc : TimeC) : ∃ r, timeOwn t tci tc = .ok r := by
  unfold timeOwn
  simp only
  obtain ⟨r, hr⟩ := ownLoop_terminates (fun (s : TimeSummand) => decide (s.sq = t.sq))
      (fun s => if t.key = "ftime" then { s with f := s.f - 1 }
        else if t.key = "ltime" then { s with l := s.l - 1 }
        else { s with f := s.f - (tci : Int), l := s.l - (1 - (tci : Int)) })
      (fun s => decide (s.f = 0 ∧ s.l = 0)) { sq := t.sq, f := 0, l := 0 } tc.sum
  rw [hr]
  exact ⟨_, rfl⟩

namespace TermSound

/-- entries read one by one, each as a conjunct with the entry's value: the set is their disjunction -/
theorem conjs_sound {α : Type} {R : α → Conj → Prop} {ev : α → Bool} {ρ : Env} {l : List α} {cs : CSet}
    (h : Index.All₂ R l cs) (hf : ∀ x ∈ l, ∀ c, R x c → Conj.OK c ∧ evalConj c ρ = ev x) :
    (l ≠ [] → cs ≠ []) ∧ CSet.OK cs ∧ evalSet cs ρ = l.any ev := by
  induction h with
  | nil => exact ⟨fun h => absurd rfl h, CSet.OK_nil, rfl⟩
  | cons hxy _ ih =>
    obtain ⟨okc, evc⟩ := hf _ List.mem_cons_self _ hxy
    obtain ⟨_, ok', ev'⟩ := ih (fun x hx => hf x (List.mem_cons_of_mem _ hx))
    exact ⟨fun _ => List.cons_ne_nil _ _, CSet.OK_cons.mpr ⟨okc, ok'⟩,
      by rw [evalSet_cons, evc, ev', List.any_cons]⟩

/-- the same for entries read as sets of alternatives -/
theorem flatten_sound {α : Type} {R : α → CSet → Prop} {ev : α → Bool} {ρ : Env} {l : List α}
    {ll : List CSet} (h : Index.All₂ R l ll)
    (hf : ∀ x ∈ l, ∀ cs, R x cs → cs ≠ [] ∧ CSet.OK cs ∧ evalSet cs ρ = ev x) :
    (l ≠ [] → ll.flatten ≠ []) ∧ CSet.OK ll.flatten ∧ evalSet ll.flatten ρ = l.any ev := by
  induction h with
  | nil => exact ⟨fun h => absurd rfl h, CSet.OK_nil, rfl⟩
  | cons hxy _ ih =>
    obtain ⟨nec, okc, evc⟩ := hf _ List.mem_cons_self _ hxy
    obtain ⟨_, ok', ev'⟩ := ih (fun x hx => hf x (List.mem_cons_of_mem _ hx))
    rw [List.flatten_cons]
    exact ⟨fun _ => List.append_ne_nil_of_left_ne_nil nec _, CSet.OK_append.mpr ⟨okc, ok'⟩,
      by rw [evalSet_append, evc, ev', List.any_cons]⟩

theorem inRange_split (x : Int) (lo hi : Option Int) :
    inRange x lo hi = (inRange x lo none && inRange x none hi) := by
  simp [inRange]

theorem optVal_eq {α : Type} {val : List α → Int} {ps : List α} {x : Int} (h : val ps = x) :
    optVal val ps = if ps.isEmpty then none else some x := by rw [← h]; rfl

theorem bounds_sound {lo hi : Cond} {ρ : Env} {x y L H : Int} (oklo : lo.OK) (okhi : hi.OK)
    (hlo : evalCond lo ρ = decide (L ≤ x)) (hhi : evalCond hi ρ = decide (y ≤ H)) (e0 e1 : Bool) :
    Conj.OK ((if e0 then [] else [lo]) ++ (if e1 then [] else [hi])) ∧
      evalConj ((if e0 then [] else [lo]) ++ (if e1 then [] else [hi])) ρ =
        (inRange x (if e0 then none else some L) none && inRange y none (if e1 then none else some H)) := by
  cases e0 <;> cases e1 <;> simp [Conj.OK, inRange, oklo, okhi, hlo, hhi]

theorem flatten_len_le {α : Type} (ll : List (List α)) (m : Nat) (h : ∀ l ∈ ll, l.length ≤ m) :
    ll.flatten.length ≤ ll.length * m := by
  rw [List.length_flatten, ← wsum_const]; exact wsum_mono h

theorem mem_bounds {lo hi x : Cond} {e0 e1 : Bool}
    (h : x ∈ (if e0 = true then [] else [lo]) ++ (if e1 = true then [] else [hi])) : x = lo ∨ x = hi := by
  rcases List.mem_append.mp h with h | h
  · cases e0
    · exact Or.inl (List.mem_singleton.mp h)
    · cases h
  · cases e1
    · exact Or.inr (List.mem_singleton.mp h)
    · cases h

theorem trHostEntry_shape {t : Term} {server : Bool} {e : HostEntry} {c : Conj}
    (h : trHostEntry t server e = .ok c) : ∃ hc, c = [Cond.host hc] := by
  unfold trHostEntry at h
  split at h
  · split at h
    · cases h; exact ⟨_, rfl⟩
    · split at h
      · cases h; exact ⟨_, rfl⟩
      · split at h
        · cases h; exact ⟨_, rfl⟩
        · cases h
  all_goals cases h

/-- the own-variable loop cannot fail, so below its bounds a number entry is an equation -/
theorem numEntryFor_eq (t : Term) (b : NumC × NumC × Bool × Bool) (ty : NumType) :
    ∃ lo hi, numOwn t ty b.1 = .ok lo ∧ numOwn t ty b.2.1 = .ok hi ∧ numEntryFor t b ty =
      .ok ((if b.2.2.1 then [] else [Cond.num lo.neg]) ++ (if b.2.2.2 then [] else [Cond.num hi])) := by
  obtain ⟨lo, hlo⟩ := numOwn_terminates t ty b.1
  obtain ⟨hi, hhi⟩ := numOwn_terminates t ty b.2.1
  exact ⟨lo, hi, hlo, hhi, by simp only [numEntryFor, hlo, hhi]⟩

theorem numEntryFor_shape {t : Term} {b : NumC × NumC × Bool × Bool} {ty : NumType} {c : Conj}
    (h : numEntryFor t b ty = .ok c) : ∃ lo hi, numOwn t ty b.1 = .ok lo ∧ numOwn t ty b.2.1 = .ok hi ∧
      c = (if b.2.2.1 then [] else [Cond.num lo.neg]) ++ (if b.2.2.2 then [] else [Cond.num hi]) := by
  obtain ⟨lo, hi, hlo, hhi, e⟩ := numEntryFor_eq t b ty
  rw [e] at h
  cases h
  exact ⟨lo, hi, hlo, hhi, rfl⟩

theorem trTimeEntry_eq (t : Term) {ref : Int} {e : List (List TimePart)} {b : TimeC × TimeC × Bool × Bool}
    (hb : timeBounds ref e = .ok b) :
    ∃ lo hi, timeOwn t 0 b.1 = .ok lo ∧ timeOwn t 1 b.2.1 = .ok hi ∧ trTimeEntry t ref e =
      .ok ((if b.2.2.1 then [] else [Cond.time lo.neg]) ++ (if b.2.2.2 then [] else [Cond.time hi])) := by
  obtain ⟨lo, hlo⟩ := timeOwn_terminates t 0 b.1
  obtain ⟨hi, hhi⟩ := timeOwn_terminates t 1 b.2.1
  exact ⟨lo, hi, hlo, hhi, by simp only [trTimeEntry, hb, hlo, hhi]⟩

theorem trTimeEntry_shape {t : Term} {ref : Int} {e : List (List TimePart)} {c : Conj}
    (h : trTimeEntry t ref e = .ok c) : ∃ b lo hi, timeBounds ref e = .ok b ∧
      timeOwn t 0 b.1 = .ok lo ∧ timeOwn t 1 b.2.1 = .ok hi ∧
      c = (if b.2.2.1 then [] else [Cond.time lo.neg]) ++ (if b.2.2.2 then [] else [Cond.time hi]) := by
  cases hb : timeBounds ref e with
  | ok b =>
    obtain ⟨lo, hi, hlo, hhi, e⟩ := trTimeEntry_eq t hb
    rw [e] at h
    cases h
    exact ⟨b, lo, hi, rfl, hlo, hhi, rfl⟩
  | _ => simp only [trTimeEntry, hb] at h; cases h

theorem trHosts_rows {t : Term} {l : List HostEntry} {cs : CSet} (h : trHosts t l = .ok cs) :
    ∃ ll, cs = ll.flatten ∧
      Index.All₂ (fun server row => Index.All₂ (fun e c => trHostEntry t server e = .ok c) l row) (hostTypes t.key) ll := by
  unfold trHosts at h
  split at h
  · split at h
    · next ll hll =>
      cases h
      exact ⟨ll, rfl, (mapOutcome_ok _ _ ll hll).imp fun _ row hs => mapOutcome_ok _ _ row hs⟩
    all_goals cases h
  all_goals cases h

theorem trHosts_mem {t : Term} {l : List HostEntry} {cs : CSet} (h : trHosts t l = .ok cs) :
    cs.length ≤ 2 * l.length ∧ ∀ c ∈ cs, ∃ server, ∃ e ∈ l, trHostEntry t server e = .ok c := by
  obtain ⟨ll, rfl, hll⟩ := trHosts_rows h
  constructor
  · have := flatten_len_le ll l.length (fun row hr => by
      obtain ⟨_, _, h2⟩ := hll.mem_right hr; exact Nat.le_of_eq h2.length_eq)
    have : ll.length * l.length ≤ 2 * l.length :=
      Nat.mul_le_mul_right _ (by have := hll.length_eq; have := (hostTypes_len t.key).2; omega)
    omega
  · intro c hc
    obtain ⟨row, hr, hcr⟩ := List.mem_flatten.mp hc
    obtain ⟨server, _, h2⟩ := hll.mem_right hr
    exact ⟨server, h2.mem_right hcr⟩

theorem trNums_rows {t : Term} {l : List (List (List NumPart))} {cs : CSet} (h : trNums t l = .ok cs) :
    ∃ ll, cs = ll.flatten ∧ Index.All₂ (fun e row => ∃ b, numBounds e = .ok b ∧
      Index.All₂ (fun ty c => numEntryFor t b ty = .ok c) (numKeyTypes t.key) row) l ll := by
  unfold trNums at h
  split at h
  · next ll hll =>
    cases h
    refine ⟨ll, rfl, (mapOutcome_ok _ _ ll hll).imp fun e row hs => ?_⟩
    unfold trNumEntry at hs
    split at hs
    · next b hb => exact ⟨b, hb, mapOutcome_ok _ _ row hs⟩
    all_goals cases hs
  all_goals cases h

theorem trNums_mem {t : Term} {l : List (List (List NumPart))} {cs : CSet} (h : trNums t l = .ok cs) :
    cs.length ≤ 2 * l.length ∧
      ∀ c ∈ cs, ∃ e ∈ l, ∃ b ty, numBounds e = .ok b ∧ numEntryFor t b ty = .ok c := by
  obtain ⟨ll, rfl, hll⟩ := trNums_rows h
  constructor
  · have := flatten_len_le ll 2 (fun row hr => by
      obtain ⟨_, _, _, _, h2⟩ := hll.mem_right hr
      have := h2.length_eq; have := (numKeyTypes_len t.key).2; omega)
    have := hll.length_eq
    omega
  · intro c hc
    obtain ⟨row, hr, hcr⟩ := List.mem_flatten.mp hc
    obtain ⟨e, he, b, hb, h2⟩ := hll.mem_right hr
    obtain ⟨ty, _, hty⟩ := h2.mem_right hcr
    exact ⟨e, he, b, ty, hb, hty⟩

theorem trTimes_mem {t : Term} {ref : Int} {l : List (List (List TimePart))} {cs : CSet}
    (h : trTimes t ref l = .ok cs) :
    cs.length ≤ l.length ∧ ∀ c ∈ cs, ∃ e ∈ l, trTimeEntry t ref e = .ok c :=
  have h1 := mapOutcome_ok _ _ cs h
  ⟨Nat.le_of_eq h1.length_eq, fun _ h => h1.mem_right h⟩

theorem protoValue_lt {tok : String} {f : Nat} (h : protoValue tok = some f) : f < 4 := by
  unfold protoValue at h
  split at h <;> simp at h <;> omega

theorem proto_flag (sqs : List String) (f : Nat) (hf : f < 4) (ρ : Env) :
    CSet.OK (Cond.invert (.flag { sqs := sqs, value := f, mask := 3 })) ∧
      evalSet (Cond.invert (.flag { sqs := sqs, value := f, mask := 3 })) ρ =
        decide (xorFlags ρ sqs &&& 3 = f) := by
  have hf3 : f &&& 3 = f := Nat.and_two_pow_sub_one_of_lt_two_pow (n := 2) hf
  have ok : (Cond.flag { sqs := sqs, value := f, mask := 3 }).OK := ⟨(by decide : (3 : Nat) < 4), hf3⟩
  refine ⟨invert_cond_ok _ ok, ?_⟩
  rw [invert_cond_sound_ok _ ρ ok]
  simp only [evalCond, evalFlag]
  apply Bool.eq_iff_iff.mpr
  simp only [Bool.not_eq_true', bne_eq_false_iff_eq, decide_eq_true_eq, Invert.xor_and_eq_zero, hf3]

/-- what an entry of a protocol filter contributes: `[[]]` (always true) for `@sq:protocol@` of the filter's
    own sub-query, else the negation of a flag condition on the two protocol bits -/
def ProtoRow (t : Term) (ρ : Env) (p : ProtoEntry) (row : CSet) : Prop :=
  (row = [[]] ∨ ∃ sqs f, f < 4 ∧ row = Cond.invert (.flag { sqs := sqs, value := f, mask := 3 })) ∧
    evalSet row ρ = evalProto t ρ p

/-- `trProtos` is a map over the entries, written out -/
theorem trProtos_rows (t : Term) (ρ : Env) : ∀ (l : List ProtoEntry) (cs : CSet), trProtos t l = .ok cs →
    ∃ ll, cs = ll.flatten ∧ Index.All₂ (ProtoRow t ρ) l ll
  | [], cs, h => by cases h; exact ⟨[], rfl, .nil⟩
  | .var v :: rest, cs, h => by
    simp only [trProtos] at h
    split at h
    · cases h
    · split at h
      · next tl htl =>
        obtain ⟨ll, rfl, hll⟩ := trProtos_rows t ρ rest tl htl
        split at h
        · cases h
          refine ⟨_ :: ll, rfl, .cons ⟨Or.inr ⟨_, 0, by decide, rfl⟩, ?_⟩ hll⟩
          rw [(proto_flag [t.sq, v.sub] 0 (by decide) ρ).2]
          simp only [evalProto, xorFlags, List.foldl_cons, List.foldl_nil, Nat.zero_xor, Invert.xor_and_eq_zero]
        · next heq =>
          have heq' : v.sub = t.sq := Decidable.byContradiction heq
          cases h
          exact ⟨[[]] :: ll, rfl, .cons ⟨Or.inl rfl, by simp [evalProto, heq']⟩ hll⟩
      · next o hne => exact (hne cs h).elim
  | .token tok :: rest, cs, h => by
    simp only [trProtos] at h
    split at h
    · cases h
    · next f hpv =>
      split at h
      · next tl htl =>
        cases h
        obtain ⟨ll, rfl, hll⟩ := trProtos_rows t ρ rest tl htl
        refine ⟨_ :: ll, rfl, .cons ⟨Or.inr ⟨_, f, protoValue_lt hpv, rfl⟩, ?_⟩ hll⟩
        rw [(proto_flag [t.sq] f (protoValue_lt hpv) ρ).2]
        simp only [evalProto, hpv, xorFlags, List.foldl_cons, List.foldl_nil, Nat.zero_xor]
      · next o hne => exact (hne cs h).elim

theorem trProtos_sound (t : Term) (l : List ProtoEntry) (ρ : Env) (hne : l ≠ []) (cs : CSet)
    (h : trProtos t l = .ok cs) : cs ≠ [] ∧ CSet.OK cs ∧ evalSet cs ρ = l.any (evalProto t ρ) := by
  obtain ⟨ll, rfl, hll⟩ := trProtos_rows t ρ l cs h
  have := flatten_sound hll fun p _ row hrow => by
    rcases hrow.1 with rfl | ⟨sqs, f, hf, rfl⟩
    · exact ⟨List.cons_ne_nil _ _, CSet.OK_cons.mpr ⟨Conj.OK_nil, CSet.OK_nil⟩, hrow.2⟩
    · exact ⟨by simp [Cond.invert], (proto_flag sqs f hf ρ).1, hrow.2⟩
  exact ⟨this.1 hne, this.2⟩

theorem trTerm_nums {ref : Int} {t : Term} {l : List (List (List NumPart))} {cs : CSet}
    (hv : t.value = .nums l) (h : trTerm ref t = .ok (some cs)) : trNums t l = .ok cs := by
  unfold trTerm at h
  rw [hv] at h
  split at h
  · cases h
  · exact liftSet_some h

theorem trTerm_times {ref : Int} {t : Term} {l : List (List (List TimePart))} {cs : CSet}
    (hv : t.value = .times l) (h : trTerm ref t = .ok (some cs)) : trTimes t ref l = .ok cs := by
  unfold trTerm at h
  rw [hv] at h
  split at h
  · cases h
  · exact liftSet_some h

/-- numbered as `Cond.kind` -/
def _root_.Pk.Query.TermValue.kind : TermValue → Nat
  | .tags _ => 0 | .protos _ => 1 | .hosts _ => 2 | .times _ => 3 | .nums _ => 4 | .data _ _ => 5
  | .other => 6

theorem trTerm_kind (ref : Int) (t : Term) (cs : CSet) (h : trTerm ref t = .ok (some cs)) :
    ∀ c ∈ cs, ∀ x ∈ c, x.kind = t.value.kind := by
  unfold trTerm at h
  split at h
  · cases h
  · intro c hc x hx
    split at h
    · next names hv =>
      simp only [Outcome.ok.injEq] at h
      rw [nilIfEmpty_some h] at hc
      obtain ⟨v, _, rfl⟩ := List.mem_map.mp hc
      rw [List.mem_singleton.mp hx, hv]; rfl
    · next l hv =>
      obtain ⟨ll, rfl, hll⟩ := trProtos_rows t wfEnv _ _ (liftSet_some h)
      obtain ⟨row, hr, hcr⟩ := List.mem_flatten.mp hc
      obtain ⟨_, _, hp⟩ := hll.mem_right hr
      rcases hp.1 with rfl | ⟨sqs, f, _, rfl⟩
      · rw [List.mem_singleton.mp hcr] at hx; cases hx
      · rw [hv]; exact invert_kind hcr hx
    · next l hv =>
      obtain ⟨server, e, _, he⟩ := (trHosts_mem (liftSet_some h)).2 c hc
      obtain ⟨hc', rfl⟩ := trHostEntry_shape he
      rw [List.mem_singleton.mp hx, hv]; rfl
    · next l hv =>
      obtain ⟨e, _, b, ty, _, he⟩ := (trNums_mem (liftSet_some h)).2 c hc
      obtain ⟨lo, hi, _, _, rfl⟩ := numEntryFor_shape he
      rw [hv]
      rcases mem_bounds hx with rfl | rfl <;> rfl
    · next l hv =>
      obtain ⟨e, _, he⟩ := (trTimes_mem (liftSet_some h)).2 c hc
      obtain ⟨b, lo, hi, _, _, _, rfl⟩ := trTimeEntry_shape he
      rw [hv]
      rcases mem_bounds hx with rfl | rfl <;> rfl
    · next content vars hv =>
      simp only [Outcome.ok.injEq] at h
      rw [nilIfEmpty_some h] at hc
      obtain ⟨v, _, rfl⟩ := List.mem_map.mp hc
      rw [List.mem_singleton.mp hx, hv]; rfl
    · cases h

theorem trTags_sound (t : Term) (names : List String) (ρ : Env) (hne : names ≠ []) :
    trTags t names ≠ [] ∧ CSet.OK (trTags t names) ∧
      evalSet (trTags t names) ρ = evalTagTerm t names ρ := by
  refine ⟨?_, ?_, ?_⟩
  · simpa [trTags] using hne
  · intro c hc x hx
    simp only [trTags, List.mem_map] at hc
    obtain ⟨v, _, rfl⟩ := hc
    simp only [List.mem_singleton] at hx
    subst hx; trivial
  · simp only [trTags, evalSet, evalTagTerm, List.any_map]
    congr 1
    funext v
    simp only [Function.comp, evalConj, List.all_cons, List.all_nil, Bool.and_true, evalCond, evalTag,
      tagBit, accMatching, accUncertainMatching, accFailing, accUncertainFailing]
    cases (ρ t.sq).tagMatch (t.key ++ "/" ++ v.trimAscii.copy) <;>
      cases (ρ t.sq).tagUncertain (t.key ++ "/" ++ v.trimAscii.copy) <;> decide

theorem trData_sound (t : Term) (content : String) (vars : List DataVar) (ρ : Env) :
    trData t content vars ≠ [] ∧ CSet.OK (trData t content vars) ∧
      evalSet (trData t content vars) ρ =
        (dataFlags t.key).any (fun f =>
          ((ρ t.sq).step { sq := t.sq, regex := content, vars := vars, flags := f, conv := t.conv } 0).isSome) := by
  refine ⟨?_, ?_, ?_⟩
  · simpa [trData] using List.ne_nil_of_length_pos (dataFlags_len t.key).1
  · intro c hc x hx
    simp only [trData, List.mem_map] at hc
    obtain ⟨v, _, rfl⟩ := hc
    simp only [List.mem_singleton] at hx
    subst hx
    simp [Cond.OK, DataC.OK]
  · simp only [trData, evalSet, List.any_map]
    congr 1
    funext f
    simp [Function.comp, evalConj, evalCond, evalData, chain]

/-- pairwise distinct (sq, ty) keys -/
def KN (l : List NumSummand) : Prop := (l.map (fun s => (s.sq, s.ty))).Nodup

theorem KN_nil : KN [] := List.nodup_nil

theorem _root_.Pk.Query.TermSoundV.numSumVal_append (ρ : Env) (a b : List NumSummand) :
    numSumVal ρ (a ++ b) = numSumVal ρ a + numSumVal ρ b := sumv_append _ a b

theorem numAddVar_spec (ρ : Env) (sub : String) (ty : NumType) (f : Int) : ∀ l : List NumSummand,
    numSumVal ρ (numAddVar l sub ty f) = numSumVal ρ l + f * numVar (ρ sub) ty ∧
      (∀ k ∈ (numAddVar l sub ty f).map (fun s => (s.sq, s.ty)),
        k ∈ l.map (fun s => (s.sq, s.ty)) ∨ k = (sub, ty)) ∧ (KN l → KN (numAddVar l sub ty f))
  | [] => by simp [numAddVar, KN]
  | s :: rest => by
    obtain ⟨v, m, k⟩ := numAddVar_spec ρ sub ty f rest
    simp only [numAddVar]
    split
    · next hne =>
      refine ⟨by simp only [numSumVal_cons, v]; omega, ?_, ?_⟩
      · intro x hx
        simp only [List.map_cons, List.mem_cons] at hx ⊢
        rcases hx with hx | hx
        · exact Or.inl (Or.inl hx)
        · exact (m x hx).imp_left Or.inr
      · intro hk
        obtain ⟨h1, h2⟩ := List.nodup_cons.mp hk
        refine List.nodup_cons.mpr ⟨fun hm => ?_, k h2⟩
        rcases m _ hm with hm | hm
        · exact h1 hm
        · simp only [Prod.mk.injEq] at hm
          exact hne.elim (fun h => h hm.1) (fun h => h hm.2)
    · next hne =>
      have hk : s.sq = sub ∧ s.ty = ty :=
        ⟨Decidable.byContradiction (fun h => hne (Or.inl h)),
         Decidable.byContradiction (fun h => hne (Or.inr h))⟩
      exact ⟨by simp only [numSumVal_cons, hk.1, hk.2, Int.add_mul]; omega, fun x hx => Or.inl hx,
        fun h => h⟩

theorem numParts_spec (ρ : Env) : ∀ (r : List NumPart) (nc nc' : NumC), numParts r nc = .ok nc' →
    nc'.n + numSumVal ρ nc'.sum = nc.n + numSumVal ρ nc.sum + numPartsVal ρ r ∧
      (KN nc.sum → KN nc'.sum)
  | [], nc, nc', h => by
    simp only [numParts, Outcome.ok.injEq] at h
    subst h; simp [numPartsVal]
  | .num ops n :: rest, nc, nc', h => by
    simp only [numParts] at h
    obtain ⟨v, k⟩ := numParts_spec ρ rest _ nc' h
    refine ⟨?_, k⟩
    simp only [numPartsVal, List.map_cons, List.sum_cons, numPartVal] at v ⊢
    omega
  | .var ops vv :: rest, nc, nc', h => by
    simp only [numParts] at h
    split at h
    · cases h
    · next ty hty =>
      obtain ⟨v, k⟩ := numParts_spec ρ rest _ nc' h
      obtain ⟨v1, _, k1⟩ := numAddVar_spec ρ vv.sub ty (opsFactor ops) nc.sum
      refine ⟨?_, fun hk => k (k1 hk)⟩
      simp only [numPartsVal, List.map_cons, List.sum_cons, numPartVal, hty, v1] at v ⊢
      omega

theorem numRange_spec {r : List NumPart} {nc : NumC} (h : numParts r { sum := [], n := 0 } = .ok nc) :
    KN nc.sum ∧ ∀ ρ, numPartsVal ρ r = nc.n + numSumVal ρ nc.sum :=
  ⟨(numParts_spec wfEnv _ _ _ h).2 KN_nil, fun ρ => by
    have := (numParts_spec ρ _ _ _ h).1
    simp only [numSumVal_nil] at this
    omega⟩

theorem numBounds_spec (e : List (List NumPart)) (b : NumC × NumC × Bool × Bool)
    (h : numBounds e = .ok b) :
    KN b.1.sum ∧ KN b.2.1.sum ∧ ((e.length = 1 ∨ e.length = 2) → ∀ (t : Term) (ρ : Env) (ty : NumType),
      evalNumEntry t ρ ty e =
        inRange (numVar (ρ t.sq) ty) (if b.2.2.1 then none else some (b.1.n + numSumVal ρ b.1.sum))
          (if b.2.2.2 then none else some (b.2.1.n + numSumVal ρ b.2.1.sum))) := by
  unfold numBounds at h
  split at h
  · cases h; exact ⟨KN_nil, KN_nil, fun hl => by simp at hl⟩
  · split at h
    · next nc hnc =>
      cases h
      obtain ⟨k, v⟩ := numRange_spec hnc
      exact ⟨k, k, fun _ t ρ ty => by rw [evalNumEntry, optVal_eq (v ρ)]⟩
    all_goals cases h
  · split at h
    · next nc0 hnc0 =>
      split at h
      · next nc1 hnc1 =>
        cases h
        obtain ⟨k0, v0⟩ := numRange_spec hnc0
        obtain ⟨k1, v1⟩ := numRange_spec hnc1
        exact ⟨k0, k1, fun _ t ρ ty => by rw [evalNumEntry, optVal_eq (v0 ρ), optVal_eq (v1 ρ)]⟩
      all_goals cases h
    all_goals cases h
  · cases h

theorem numOwn_spec (ρ : Env) (t : Term) (ty : NumType) (nc r : NumC) (hk : KN nc.sum)
    (h : numOwn t ty nc = .ok r) :
    r.OK ∧ r.n = nc.n ∧ numSumVal ρ r.sum = numSumVal ρ nc.sum - numVar (ρ t.sq) ty := by
  unfold numOwn at h
  split at h
  · next sum hrun =>
    cases h
    have := runOwnLoop_spec (key := fun (s : NumSummand) => (s.sq, s.ty)) (k0 := (t.sq, ty))
      (val := fun s => s.factor * numVar (ρ s.sq) s.ty) (x := numVar (ρ t.sq) ty)
      (by
        refine ⟨by intro s; simp, fun _ => rfl, ?_, ?_, rfl, by simp, by simp⟩
        · intro s hs
          simp only [decide_eq_true_eq] at hs
          simp only [hs.1, hs.2, Int.sub_mul, Int.one_mul]
        · intro s hs; simp only [decide_eq_true_eq] at hs; simp [hs])
      nc.sum sum hk hrun
    exact ⟨⟨this.1, fun s hs => by simpa using this.2.1 s hs⟩, rfl, this.2.2⟩
  all_goals cases h

theorem numEntryFor_soundV (t : Term) (ρ : Env) (ty : NumType) (b : NumC × NumC × Bool × Bool) (conj : Conj)
    (h1 : KN b.1.sum) (h2 : KN b.2.1.sum) (h : numEntryFor t b ty = .ok conj) :
    Conj.OK conj ∧ evalConj conj ρ =
      inRange (numVar (ρ t.sq) ty) (if b.2.2.1 then none else some (b.1.n + numSumVal ρ b.1.sum))
        (if b.2.2.2 then none else some (b.2.1.n + numSumVal ρ b.2.1.sum)) := by
  obtain ⟨lo, hi, hlo, hhi, rfl⟩ := numEntryFor_shape h
  obtain ⟨_, nlo, vlo⟩ := numOwn_spec ρ t ty _ lo h1 hlo
  obtain ⟨_, nhi, vhi⟩ := numOwn_spec ρ t ty _ hi h2 hhi
  have elo : evalNum lo.neg ρ = decide (b.1.n + numSumVal ρ b.1.sum ≤ numVar (ρ t.sq) ty) := by
    simp only [evalNum, NumC.neg, Int.mul_neg_one, Invert.numSumVal_neg, vlo, nlo]
    apply decide_eq_decide.mpr; omega
  have ehi : evalNum hi ρ = decide (numVar (ρ t.sq) ty ≤ b.2.1.n + numSumVal ρ b.2.1.sum) := by
    simp only [evalNum, vhi, nhi]
    apply decide_eq_decide.mpr; omega
  rw [inRange_split]
  exact bounds_sound (lo := .num _) (hi := .num _) trivial trivial elo ehi _ _

theorem trNums_soundV (t : Term) (l : List (List (List NumPart))) (ρ : Env) (hne : l ≠ [])
    (hf : ∀ e ∈ l, (e.length = 1 ∨ e.length = 2))
    (cs : CSet) (h : trNums t l = .ok cs) :
    cs ≠ [] ∧ CSet.OK cs ∧
      evalSet cs ρ = l.any (fun ranges => (numKeyTypes t.key).any (fun ty => evalNumEntry t ρ ty ranges)) := by
  obtain ⟨ll, rfl, hll⟩ := trNums_rows h
  have := flatten_sound hll (fun e he row ⟨b, hb, hrow⟩ => by
    obtain ⟨k1, k2, hev⟩ := numBounds_spec e b hb
    have := conjs_sound (ρ := ρ) (ev := fun ty => evalNumEntry t ρ ty e) hrow
      (fun ty _ c hty => by rw [hev (hf e he)]; exact numEntryFor_soundV t ρ ty b c k1 k2 hty)
    exact ⟨this.1 (List.ne_nil_of_length_pos (numKeyTypes_len _).1), this.2⟩)
  exact ⟨this.1 hne, this.2⟩

/-- pairwise distinct sub-query names -/
def TK (l : List TimeSummand) : Prop := (l.map (fun s => s.sq)).Nodup

theorem TK_nil : TK [] := List.nodup_nil

def timeVarVal (ρ : Env) (sub name : String) : Int :=
  if name = "ftime" then (ρ sub).ftime else if name = "ltime" then (ρ sub).ltime else 0

theorem timeAddVar_spec (ρ : Env) (sub name : String) (f : Int) : ∀ (l r : List TimeSummand),
    timeAddVar l sub name f = .ok r →
    timeSumVal ρ r = timeSumVal ρ l + f * timeVarVal ρ sub name ∧
      (∀ k ∈ r.map (fun s => s.sq), k ∈ l.map (fun s => s.sq) ∨ k = sub) ∧ (TK l → TK r) ∧
      (name = "ftime" ∨ name = "ltime") := by
  -- the summand of `sub` is updated (or created), by the name of the variable
  have upd : ∀ (s s' : TimeSummand) (rest r : List TimeSummand), s.sq = sub → s'.sq = sub →
      ((if name = "ftime" then (.ok ({ s with f := s.f + f } :: rest) : Outcome (List TimeSummand))
        else if name = "ltime" then .ok ({ s with l := s.l + f } :: rest)
        else .err "only [fl]time variables supported") = .ok r) →
      timeSumVal ρ r = timeSumVal ρ (s :: rest) + f * timeVarVal ρ sub name ∧
        r.map (fun s => s.sq) = (s :: rest).map (fun s => s.sq) ∧ (name = "ftime" ∨ name = "ltime") := by
    intro s s' rest r hs _ h
    unfold timeVarVal
    by_cases hn1 : name = "ftime"
    · rw [if_pos hn1] at h; cases h
      exact ⟨by simp only [timeSumVal_cons, if_pos hn1, hs, Int.add_mul]; omega, rfl, Or.inl hn1⟩
    · rw [if_neg hn1] at h
      by_cases hn2 : name = "ltime"
      · rw [if_pos hn2] at h; cases h
        exact ⟨by simp only [timeSumVal_cons, if_neg hn1, if_pos hn2, hs, Int.add_mul]; omega, rfl,
          Or.inr hn2⟩
      · rw [if_neg hn2] at h; cases h
  intro l
  induction l with
  | nil =>
    intro r h
    have := upd { sq := sub, f := 0, l := 0 } { sq := sub, f := 0, l := 0 } [] r rfl rfl
      (by simpa [timeAddVar] using h)
    refine ⟨by simpa using this.1, fun k hk => Or.inr ?_, fun _ => ?_, this.2.2⟩
    · rw [this.2.1] at hk; simpa using hk
    · unfold TK; rw [this.2.1]; simp
  | cons s rest ih =>
    intro r h
    simp only [timeAddVar] at h
    by_cases hne : s.sq ≠ sub
    · rw [if_pos hne] at h
      cases hr : timeAddVar rest sub name f with
      | ok r' =>
        rw [hr] at h; cases h
        obtain ⟨v, m, k, hn⟩ := ih r' hr
        refine ⟨by simp only [timeSumVal_cons, v]; omega, ?_, ?_, hn⟩
        · intro x hx
          simp only [List.map_cons, List.mem_cons] at hx ⊢
          rcases hx with hx | hx
          · exact Or.inl (Or.inl hx)
          · exact (m x hx).imp_left Or.inr
        · intro hk
          obtain ⟨h1, h2⟩ := List.nodup_cons.mp hk
          refine List.nodup_cons.mpr ⟨fun hm => ?_, k h2⟩
          rcases m _ hm with h' | h'
          · exact h1 h'
          · exact hne h'
      | err m => rw [hr] at h; cases h
      | panic m => rw [hr] at h; cases h
      | diverged m => rw [hr] at h; cases h
    · rw [if_neg hne] at h
      have := upd s s rest r (Decidable.byContradiction hne) (Decidable.byContradiction hne) h
      refine ⟨this.1, fun k hk => Or.inl ?_, fun hk => ?_, this.2.2⟩
      · rw [this.2.1] at hk; exact hk
      · unfold TK; rw [this.2.1]; exact hk

theorem timeParts_spec (ref : Int) (ρ : Env) : ∀ (r : List TimePart) (tc tc' : TimeC),
    timeParts ref r tc = .ok tc' →
    tc'.dur + timeSumVal ρ tc'.sum = tc.dur + timeSumVal ρ tc.sum + timePartsVal ref ρ r ∧
      (TK tc.sum → TK tc'.sum)
  | [], tc, tc', h => by
    simp only [timeParts, Outcome.ok.injEq] at h
    subst h; simp [timePartsVal]
  | .dur ops ns :: rest, tc, tc', h => by
    simp only [timeParts] at h
    obtain ⟨v, k⟩ := timeParts_spec ref ρ rest _ tc' h
    refine ⟨?_, k⟩
    simp only [timePartsVal, List.map_cons, List.sum_cons, timePartVal] at v ⊢
    omega
  | .abs ops c :: rest, tc, tc', h => by
    simp only [timeParts] at h
    obtain ⟨v, k⟩ := timeParts_spec ref ρ rest _ tc' h
    refine ⟨?_, k⟩
    simp only [timePartsVal, List.map_cons, List.sum_cons, timePartVal] at v ⊢
    omega
  | .var ops vv :: rest, tc, tc', h => by
    simp only [timeParts] at h
    split at h
    · next sum hsum =>
      obtain ⟨v, k⟩ := timeParts_spec ref ρ rest _ tc' h
      obtain ⟨v1, _, k1, _⟩ := timeAddVar_spec ρ vv.sub vv.name (opsFactor ops) tc.sum sum hsum
      refine ⟨?_, fun hk => k (k1 hk)⟩
      have hval : timePartVal ref ρ (.var ops vv) = opsFactor ops * timeVarVal ρ vv.sub vv.name := by
        simp only [timePartVal, timeVarVal]
        split
        · rfl
        · split
          · rfl
          · simp
      simp only [timePartsVal, List.map_cons, List.sum_cons, hval] at v ⊢
      rw [v1] at v
      omega
    all_goals cases h

/-- what the own-variable loop of a time term subtracts -/
def ownTimeVal (ρ : Env) (t : Term) (tci : Nat) : Int :=
  if t.key = "ftime" then (ρ t.sq).ftime
  else if t.key = "ltime" then (ρ t.sq).ltime
  else (tci : Int) * (ρ t.sq).ftime + (1 - (tci : Int)) * (ρ t.sq).ltime

theorem timeOwn_val (ρ : Env) (t : Term) (tci : Nat) (tc r : TimeC) (hk : TK tc.sum)
    (h : timeOwn t tci tc = .ok r) :
    timeSumVal ρ r.sum = timeSumVal ρ tc.sum - ownTimeVal ρ t tci ∧ r.dur = tc.dur := by
  unfold timeOwn at h
  simp only at h
  split at h
  · next sum hrun =>
    cases h
    refine ⟨?_, rfl⟩
    refine (runOwnLoop_spec (key := fun (s : TimeSummand) => s.sq) (k0 := t.sq)
      (val := fun s => s.f * (ρ s.sq).ftime + s.l * (ρ s.sq).ltime) (x := ownTimeVal ρ t tci)
      ⟨by intro s; simp, ?_, ?_, by intro s hs; simp only [decide_eq_true_eq] at hs; simp [hs.1, hs.2],
       rfl, by simp, ?_⟩ tc.sum sum hk hrun).2.2
    · intro s; split
      · rfl
      · split <;> rfl
    · intro s hs
      simp only [decide_eq_true_eq] at hs
      simp only [ownTimeVal]
      split
      · simp only [hs, Int.sub_mul, Int.one_mul]; omega
      · split
        · simp only [hs, Int.sub_mul, Int.one_mul]; omega
        · simp only [hs, Int.sub_mul]; omega
    · split
      · simp
      · split
        · simp
        · simp only [decide_eq_false_iff_not]; omega
  all_goals cases h

theorem timeSumVal_negOne (ρ : Env) (sum : List TimeSummand) :
    timeSumVal ρ (sum.map (fun s => { s with f := s.f * -1, l := s.l * -1 })) = - timeSumVal ρ sum := by
  simp only [Int.mul_neg_one]
  exact Invert.timeSumVal_neg ρ sum

def timeGo (t : Term) (ρ : Env) (lo hi : Option Int) : Bool :=
  if t.key = "ftime" then inRange (ρ t.sq).ftime lo hi
  else if t.key = "ltime" then inRange (ρ t.sq).ltime lo hi
  else inRange (ρ t.sq).ltime lo none && inRange (ρ t.sq).ftime none hi

/-- the lower bound constrains what the loop subtracts from it, the upper bound likewise -/
theorem timeGo_eq (t : Term) (ρ : Env) (lo hi : Option Int) :
    timeGo t ρ lo hi = (inRange (ownTimeVal ρ t 0) lo none && inRange (ownTimeVal ρ t 1) none hi) := by
  unfold timeGo ownTimeVal
  split
  · exact inRange_split _ _ _
  · split
    · exact inRange_split _ _ _
    · simp

theorem timeBounds_shape {ref : Int} {e : List (List TimePart)} {b : TimeC × TimeC × Bool × Bool}
    (h : timeBounds ref e = .ok b) :
    (e = [] ∧ b = ({ sum := [], dur := 0, rtf := 0 }, { sum := [], dur := 0, rtf := 0 }, false, false)) ∨
    (∃ r tc, e = [r] ∧ timeParts ref r { sum := [], dur := 0, rtf := 0 } = .ok tc ∧
      b = (tc, tc, r.isEmpty, r.isEmpty)) ∨
    (∃ r0 r1 tc0 tc1, e = [r0, r1] ∧ timeParts ref r0 { sum := [], dur := 0, rtf := 0 } = .ok tc0 ∧
      timeParts ref r1 { sum := [], dur := 0, rtf := 0 } = .ok tc1 ∧
      b = (tc0, tc1, r0.isEmpty, r1.isEmpty)) := by
  match e, h with
  | [], h => cases h; exact Or.inl ⟨rfl, rfl⟩
  | [r], h =>
    simp only [timeBounds] at h
    split at h
    · next tc htc => cases h; exact Or.inr (Or.inl ⟨r, tc, rfl, htc, rfl⟩)
    all_goals cases h
  | [r0, r1], h =>
    simp only [timeBounds] at h
    split at h
    · next tc0 htc0 =>
      split at h
      · next tc1 htc1 => cases h; exact Or.inr (Or.inr ⟨r0, r1, tc0, tc1, rfl, htc0, htc1, rfl⟩)
      all_goals cases h
    all_goals cases h
  | _ :: _ :: _ :: _, h => simp [timeBounds] at h

theorem timeRange_spec {ref : Int} {r : List TimePart} {tc : TimeC}
    (h : timeParts ref r { sum := [], dur := 0, rtf := 0 } = .ok tc) :
    TK tc.sum ∧ ∀ ρ, timePartsVal ref ρ r = tc.dur + timeSumVal ρ tc.sum :=
  ⟨(timeParts_spec ref wfEnv _ _ _ h).2 TK_nil, fun ρ => by
    have := (timeParts_spec ref ρ _ _ _ h).1
    simp only [timeSumVal_nil] at this
    omega⟩

theorem timeBounds_soundV (t : Term) (ref : Int) (ρ : Env) (e : List (List TimePart))
    (hlen : e.length = 1 ∨ e.length = 2) (b : TimeC × TimeC × Bool × Bool) (h : timeBounds ref e = .ok b) :
    TK b.1.sum ∧ TK b.2.1.sum ∧ evalTimeEntry t ref ρ e =
      timeGo t ρ (if b.2.2.1 then none else some (b.1.dur + timeSumVal ρ b.1.sum))
        (if b.2.2.2 then none else some (b.2.1.dur + timeSumVal ρ b.2.1.sum)) := by
  rcases timeBounds_shape h with ⟨rfl, _⟩ | ⟨r, tc, rfl, htc, rfl⟩ | ⟨r0, r1, tc0, tc1, rfl, h0, h1, rfl⟩
  · simp at hlen
  · obtain ⟨k, v⟩ := timeRange_spec htc
    exact ⟨k, k, by rw [← optVal_eq (v ρ)]; rfl⟩
  · obtain ⟨k0, v0⟩ := timeRange_spec h0
    obtain ⟨k1, v1⟩ := timeRange_spec h1
    exact ⟨k0, k1, by rw [← optVal_eq (v0 ρ), ← optVal_eq (v1 ρ)]; rfl⟩

theorem trTimeEntry_soundV (t : Term) (ref : Int) (ρ : Env) (e : List (List TimePart))
    (hlen : e.length = 1 ∨ e.length = 2) (conj : Conj) (h : trTimeEntry t ref e = .ok conj) :
    Conj.OK conj ∧ evalConj conj ρ = evalTimeEntry t ref ρ e := by
  obtain ⟨b, lo, hi, hb, hlo, hhi, rfl⟩ := trTimeEntry_shape h
  obtain ⟨k1, k2, hev⟩ := timeBounds_soundV t ref ρ e hlen b hb
  obtain ⟨vlo, nlo⟩ := timeOwn_val ρ t 0 _ lo k1 hlo
  obtain ⟨vhi, nhi⟩ := timeOwn_val ρ t 1 _ hi k2 hhi
  have elo : evalTime lo.neg ρ = decide (b.1.dur + timeSumVal ρ b.1.sum ≤ ownTimeVal ρ t 0) := by
    simp only [evalTime, TimeC.neg, timeSumVal_negOne, vlo, nlo]
    apply decide_eq_decide.mpr; omega
  have ehi : evalTime hi ρ = decide (ownTimeVal ρ t 1 ≤ b.2.1.dur + timeSumVal ρ b.2.1.sum) := by
    simp only [evalTime, vhi, nhi]
    apply decide_eq_decide.mpr; omega
  rw [hev, timeGo_eq]
  exact bounds_sound (lo := .time _) (hi := .time _) trivial trivial elo ehi _ _

theorem trTimes_soundV (t : Term) (ref : Int) (l : List (List (List TimePart))) (ρ : Env) (hne : l ≠ [])
    (hf : ∀ e ∈ l, (e.length = 1 ∨ e.length = 2))
    (cs : CSet) (h : trTimes t ref l = .ok cs) :
    cs ≠ [] ∧ CSet.OK cs ∧ evalSet cs ρ = l.any (evalTimeEntry t ref ρ) := by
  have := conjs_sound (mapOutcome_ok _ _ _ h) (fun e he c hce => trTimeEntry_soundV t ref ρ e (hf e he) c hce)
  exact ⟨this.1 hne, this.2⟩

theorem packBytes_length : ∀ (n : Nat) (bs : List Bool), (packBytes n bs).length = n
  | 0, _ => rfl
  | n + 1, bs => by simp [packBytes, packBytes_length n]

theorem hostMasks_len {ms : Option (List Int)} {m4 m6 : List Nat} (h : hostMasks ms = .ok (m4, m6)) :
    m4.length = 4 ∧ m6.length = 16 := by
  unfold hostMasks at h
  split at h
  · simp only [Outcome.ok.injEq, Prod.mk.injEq] at h
    obtain ⟨rfl, rfl⟩ := h
    simp
  · split at h
    · simp only [Outcome.ok.injEq, Prod.mk.injEq] at h
      obtain ⟨rfl, rfl⟩ := h
      simp [packBytes_length]
    all_goals cases h

theorem host_conj {c : HostC} (ρ : Env) {a b : List Nat} (ok : c.OK) (hinv : c.inv = false)
    (h : hostOperands c ρ = [a, b]) :
    Conj.OK [Cond.host c] ∧ evalConj [Cond.host c] ρ = maskedEq a b (if a.length = 16 then c.m6 else c.m4) :=
  ⟨fun x hx => by rw [List.mem_singleton.mp hx]; exact ok,
    by rw [evalConj, List.all_cons, List.all_nil, Bool.and_true, evalCond, evalHost_pair c ρ h, hinv, Bool.bne_false]⟩

theorem trHostEntry_soundV (t : Term) (server : Bool) (ρ : Env) (e : HostEntry)
    (hf : (e.var = none ∧ ((normHost e.host).length = 4 ∨ (normHost e.host).length = 16)) ∨ ∃ v, e.var = some v)
    (conj : Conj) (h : trHostEntry t server e = .ok conj) :
    Conj.OK conj ∧ evalConj conj ρ = evalHostEntry t server ρ e := by
  unfold trHostEntry at h
  split at h
  · next m4 m6 hm =>
    have hml := hostMasks_len hm
    simp only [evalHostEntry, hm]
    rcases hf with ⟨hv, hlen⟩ | ⟨v, hv⟩
    · -- a constant address: the operands are the constant and the stream's address
      rw [hv] at h ⊢
      cases h
      have hne : normHost e.host ≠ [] := fun h0 => by rw [h0] at hlen; simp at hlen
      rw [maskedEq_comm]
      exact host_conj ρ ⟨Or.inl ⟨rfl, hlen⟩, hml⟩ rfl (by simp [hostOperands, hne])
    · -- the address of another stream
      rw [hv] at h ⊢
      dsimp only at h ⊢
      split at h
      · next hn =>
        cases h
        rw [show decide (v.name = "shost") = false by simp [hn]]
        exact host_conj ρ ⟨Or.inr ⟨rfl, rfl⟩, hml⟩ rfl rfl
      · split at h
        · next hn =>
          cases h
          rw [decide_eq_true hn]
          exact host_conj ρ ⟨Or.inr ⟨rfl, rfl⟩, hml⟩ rfl rfl
        · cases h
  all_goals cases h

theorem trHosts_soundV (t : Term) (l : List HostEntry) (ρ : Env) (hne : l ≠ [])
    (hf : ∀ h ∈ l, (h.var = none ∧ ((normHost h.host).length = 4 ∨ (normHost h.host).length = 16)) ∨
      ∃ v, h.var = some v)
    (cs : CSet) (h : trHosts t l = .ok cs) :
    cs ≠ [] ∧ CSet.OK cs ∧
      evalSet cs ρ = (hostTypes t.key).any (fun server => l.any (evalHostEntry t server ρ)) := by
  obtain ⟨ll, rfl, hll⟩ := trHosts_rows h
  have := flatten_sound hll (fun server _ row hrow => by
    have := conjs_sound hrow (fun e he c hce => trHostEntry_soundV t server ρ e (hf e he) c hce)
    exact ⟨this.1 hne, this.2⟩)
  exact ⟨this.1 (List.ne_nil_of_length_pos (hostTypes_len _).1), this.2⟩

end TermSound

/-- a set that is not empty is not turned into `nil` -/
theorem liftSet_sound {o : Outcome CSet} {g : GSet} {ρ : Env} {v : Bool} (h : liftSet o = .ok g)
    (hs : ∀ cs, o = .ok cs → cs ≠ [] ∧ CSet.OK cs ∧ evalSet cs ρ = v) :
    ∃ cs, g = some cs ∧ cs ≠ [] ∧ CSet.OK cs ∧ evalSet cs ρ = v := by
  obtain ⟨cs, hcs, rfl⟩ := liftSet_ok h
  have := hs cs hcs
  exact ⟨cs, nilIfEmpty_ne this.1, this⟩

open TermSound in
theorem trTerm_soundV (ref : Int) (t : Term) (g : GSet) (ρ : Env) (hf : t.FragV)
    (h : trTerm ref t = .ok g) :
    ∃ cs, g = some cs ∧ cs ≠ [] ∧ CSet.OK cs ∧ evalSet cs ρ = evalTerm ref t ρ := by
  obtain ⟨hconv, hv⟩ := hf
  unfold trTerm at h
  have hc : ¬ (t.conv ≠ "" ∧ t.key ≠ "data" ∧ t.key ≠ "cdata" ∧ t.key ≠ "sdata") := by
    intro ⟨h0, h1, h2, h3⟩
    rcases hconv with h | h | h | h
    · exact h0 h
    · exact h1 h
    · exact h2 h
    · exact h3 h
  rw [if_neg hc] at h
  unfold evalTerm
  split at h
  · next names hval =>
    simp only [hval] at hv ⊢
    exact liftSet_sound (o := .ok _) h fun cs hcs => by cases hcs; exact trTags_sound t names ρ hv
  · next l hval =>
    simp only [hval] at hv ⊢
    exact liftSet_sound h (trProtos_sound t l ρ hv)
  · next l hval =>
    simp only [hval] at hv ⊢
    exact liftSet_sound h (trHosts_soundV t l ρ hv.1 hv.2.2)
  · next l hval =>
    simp only [hval] at hv ⊢
    exact liftSet_sound h (trNums_soundV t l ρ hv.1 hv.2)
  · next l hval =>
    simp only [hval] at hv ⊢
    exact liftSet_sound h (trTimes_soundV t ref l ρ hv.1 hv.2)
  · next content vars hval =>
    simp only [hval] at hv ⊢
    exact liftSet_sound (o := .ok _) h fun cs hcs => by cases hcs; exact trData_sound t content vars ρ
  · next hval => simp only [hval] at hv

theorem trTerm_sound (ref : Int) (t : Term) (g : GSet) (ρ : Env) (hf : t.Frag)
    (h : trTerm ref t = .ok g) :
    ∃ cs, g = some cs ∧ cs ≠ [] ∧ CSet.OK cs ∧ evalSet cs ρ = evalTerm ref t ρ :=
  trTerm_soundV ref t g ρ hf.toFragV h

end Pk.Query
