/-
  Entry point of the proof of the full C07 statement (`MergeViewEq'` of Pk/Props/C07Full.lean): it imports the
  `MergeFull*` modules (DESIGN.md §10.9 says what each is for) and defines the writers the model reaches from the empty
  one by `AddStream`/`AddIndex` calls on well-formed inputs that stay within the capacity limits (`Reach`).  They satisfy
  `WInv` (`reach_winv`), from which Props/C07Full derives `Reader.WF` for the files they produce (`reachable_reader_wf`).
-/
import Pk.Proofs.MergeFullMerge
import Pk.Proofs.MergeFullAddStream
import Pk.Proofs.MergeFullCex
import Pk.Proofs.MergeFullWitness

namespace Pk.Index
open Pk Pk.Bytes

inductive Reach : Writer → Prop
  | empty : Reach {}
  | addStream {w w' : Writer} {s : StreamIn} {b : Bool} : Reach w → s.WF → w.addStream s = .ok (w', b) → w'.Fits → Reach w'
  | addIndex {w w' : Writer} {r : Reader} {b : Bool} : Reach w → r.WF → w.addIndex r = .ok (w', b) → w'.Fits → Reach w'

theorem reach_winv {w : Writer} (h : Reach w) : WInv w := by
  induction h with
  | empty => exact WInv.empty
  | addStream _ hs h hfit ih => exact addStream_winv _ _ _ _ ih hs h hfit
  | addIndex _ hr h hfit ih => exact (addIndex_step _ _ _ _ ih hr h hfit).1

end Pk.Index
