/-
  Writer-side bookkeeping for the C01 statements: what `AddStream` appends (`addStream_new`), where the packet records
  and the blob of every stream sit (`PlaceInv`), the import table (append only, duplicate free), and what the reopened
  file of a writer holds.
-/
import Pk.Model.IndexFormat
import Pk.Proofs.IndexFormatRoundtrip
import Pk.Proofs.IndexFormatHostsRoundtrip
import Pk.Proofs.IndexFormatMeta
import Pk.Proofs.IndexFormatImports
namespace Pk.Index
open Pk Pk.Bytes

/-- the blob of a stream sits where its record's DataStart says -/
def BlobAt (data : Bytes) (s : StreamIn) (rec_ : StreamRec) : Prop :=
  ∃ cds, chunkDirs s.packets s.data = some cds ∧
    rec_.dataStart + (streamBlob cds).length ≤ data.length ∧
    (data.drop rec_.dataStart).take (streamBlob cds).length = streamBlob cds

theorem BlobAt.append {data : Bytes} {s : StreamIn} {r : StreamRec} (h : BlobAt data s r) (more : Bytes) :
    BlobAt (data ++ more) s r := by
  obtain ⟨cds, h1, h2, h3⟩ := h
  refine ⟨cds, h1, by simp; omega, ?_⟩
  rw [take_drop_append_left _ _ _ _ h2]; exact h3

def StreamIn.KeysIn (s : StreamIn) (imports : List ImportKey) : Prop :=
  ∀ p ∈ s.packets, ∀ r ∈ p.refs, r.key ∈ imports

theorem packetRecords_ext (imps more : List ImportKey) (ts0 : Int) (n : Nat) (p : PacketIn)
    (h : ∀ r ∈ p.refs, r.key ∈ imps) : packetRecords (imps ++ more) ts0 n p = packetRecords imps ts0 n p := by
  unfold packetRecords
  simp only
  congr 1
  apply List.map_congr_left
  intro r hr
  have : r.key ∈ imps := h r (by simpa [PacketIn.pmds] using hr)
  simp [List.idxOf_append, this]

theorem allRecords_ext (imps more : List ImportKey) (ts0 : Int) (data : List ChunkIn) (ps : List PacketIn) :
    ∀ (k : Nat), (∀ p ∈ ps, ∀ r ∈ p.refs, r.key ∈ imps) →
    allRecords (imps ++ more) ts0 data k ps = allRecords imps ts0 data k ps := by
  induction ps with
  | nil => intro k _; rfl
  | cons p ps ih =>
    intro k h
    simp only [allRecords]
    rw [packetRecords_ext imps more ts0 _ p (h p (by simp)), ih (k + 1) (fun q hq => h q (by simp [hq]))]

theorem streamRecs_ext (imps more : List ImportKey) (s : StreamIn) (h : s.KeysIn imps) :
    streamRecs (imps ++ more) s = streamRecs imps s := by
  unfold streamRecs streamRaw
  rw [allRecords_ext imps more _ _ _ 0 h]

def PktAt (imports : List ImportKey) (packets : List PacketRec) (s : StreamIn) (rec_ : StreamRec) : Prop :=
  s.KeysIn imports ∧ streamRaw imports s ≠ [] ∧ ∃ rest, packets.drop rec_.pstart = streamRecs imports s ++ rest

theorem PktAt.ext {imps : List ImportKey} {pk : List PacketRec} {s : StreamIn} {r : StreamRec}
    (h : PktAt imps pk s r) (more : List ImportKey) (pk' : List PacketRec) (hp : r.pstart ≤ pk.length) :
    PktAt (imps ++ more) (pk ++ pk') s r := by
  obtain ⟨h1, h2, rest, h3⟩ := h
  refine ⟨fun p hp r hr => by simp [h1 p hp r hr], ?_, rest ++ pk', ?_⟩
  · unfold streamRaw at h2 ⊢
    rw [allRecords_ext imps more _ _ _ 0 h1]; exact h2
  · rw [streamRecs_ext imps more s h1, List.drop_append_of_le_length hp, h3]; simp

theorem addStream_new (w w' : Writer) (s : StreamIn) (h : w.addStream s = .ok (w', true))
    (hd : w.dataLen = w.blobs.flatten.length) :
    ∃ p0 pl gid cid sid cds more, s.packets.head? = some p0 ∧ s.packets.getLast? = some pl ∧
      chunkDirs s.packets s.data = some cds ∧
      placeHosts w.hostGroups s.client s.server = some (w'.hostGroups, gid, cid, sid) ∧
      w'.imports = w.imports ++ more ∧ (w.imports.Nodup → w'.imports.Nodup) ∧
      (∀ k ∈ more, ∃ p ∈ s.packets, ∃ ref ∈ p.refs, k = ref.key) ∧
      w'.packets = w.packets ++ streamRecs w'.imports s ∧ w.packets.length < 2 ^ 32 ∧
      w'.blobs.flatten = w.blobs.flatten ++ streamBlob cds ∧ w'.dataLen = w'.blobs.flatten.length ∧
      w'.ref = (w.rebase (unixSec p0.ts)).1 ∧
      w'.streams = (w.rebase (unixSec p0.ts)).2 ++ [mkStreamRec w s w'.ref p0 pl gid cid sid cds] ∧
      PktAt w'.imports w'.packets s (mkStreamRec w s w'.ref p0 pl gid cid sid cds) ∧
      BlobAt w'.blobs.flatten s (mkStreamRec w s w'.ref p0 pl gid cid sid cds) := by
  obtain ⟨p0, pl, gid, cid, sid, cds, hp0, hpl, hph, hcd, href, hst, hdl, hbl, himp, hpk, hne, hcap⟩ := addStream_spec w w' s h
  obtain ⟨⟨more, hmore, hex⟩, hnd, hkeys⟩ := addImports_facts w.imports (s.packets.map PacketIn.pmds).flatten
  rw [← himp] at hmore hnd hkeys
  have hflat : w'.blobs.flatten = w.blobs.flatten ++ streamBlob cds := by rw [hbl]; simp
  have hps : (mkStreamRec w s w'.ref p0 pl gid cid sid cds).pstart = w.packets.length := Nat.mod_eq_of_lt hcap
  have hds : (mkStreamRec w s w'.ref p0 pl gid cid sid cds).dataStart = w.blobs.flatten.length := hd
  refine ⟨p0, pl, gid, cid, sid, cds, more, hp0, hpl, hcd, hph, hmore, hnd, ?_, hpk, hcap, hflat,
    by rw [hdl, hflat, hd, List.length_append], href, hst, ⟨?_, hne, [], ?_⟩, cds, hcd, ?_, ?_⟩
  · intro k hk
    obtain ⟨r, hr, rfl⟩ := hex k hk
    obtain ⟨p, hp, hrp⟩ := mem_pmds_flatten.mp hr
    exact ⟨p, hp, r, hrp, rfl⟩
  · intro p hp r hr
    exact hkeys r (mem_pmds_flatten.mpr ⟨p, hp, hr⟩)
  · rw [hps, hpk]; simp
  · rw [hds, hflat, List.length_append]; omega
  · rw [hds, hflat, List.drop_left, List.take_length]

/-- where the packet records and the blob of every stream added so far sit -/
def PlaceInv (w : Writer) (ss : List StreamIn) : Prop :=
  w.imports.Nodup ∧ w.dataLen = w.blobs.flatten.length ∧
  Zip (fun s r => PktAt w.imports w.packets s r ∧ r.pstart ≤ w.packets.length ∧ BlobAt w.blobs.flatten s r) ss w.streams

theorem addStream_place (w w' : Writer) (ss : List StreamIn) (s : StreamIn) (hinv : PlaceInv w ss)
    (h : w.addStream s = .ok (w', true)) : PlaceInv w' (ss ++ [s]) := by
  obtain ⟨hnd0, hd, hz⟩ := hinv
  obtain ⟨p0, pl, gid, cid, sid, cds, more, _, _, _, _, himp, hnd, _, hpk, hcap, hflat, hdl, _, hst, hpa, hba⟩ :=
    addStream_new w w' s h hd
  refine ⟨hnd hnd0, hdl, ?_⟩
  rw [hst]
  refine ((hz.imp fun s r hr => ?_).rebase (fun _ _ _ _ hr => hr) w _).append ⟨hpa, ?_, hba⟩
  · rw [himp, hpk, hflat, List.length_append]
    exact ⟨hr.1.ext _ _ hr.2.1, by omega, hr.2.2.append _⟩
  · have : (mkStreamRec w s w'.ref p0 pl gid cid sid cds).pstart = w.packets.length := Nat.mod_eq_of_lt hcap
    rw [this, hpk, List.length_append]; omega

theorem addAll_place (ss : List StreamIn) (w : Writer) (h : ({} : Writer).addAll ss = some w) : PlaceInv w ss :=
  addAll_induct ss (fun w w' done s _ hinv h => addStream_place w w' done s hinv h) {} w []
    ⟨List.nodup_nil, rfl, Zip.nil⟩ h

theorem addAll_import_files (P : Bytes → Prop) (ss : List StreamIn) (w : Writer)
    (hP : ∀ s ∈ ss, ∀ p ∈ s.packets, ∀ ref ∈ p.refs, P ref.file) (h : ({} : Writer).addAll ss = some w) :
    ∀ k ∈ w.imports, P k.1 :=
  addAll_induct (P := fun w _ => ∀ k ∈ w.imports, P k.1) ss
    (fun w w1 _ s hs hw h1 k hk => by
      obtain ⟨⟨extra, he, hex⟩, _⟩ := addImports_facts w.imports (s.packets.map PacketIn.pmds).flatten
      obtain ⟨_, _, _, _, _, _, _, _, _, _, _, _, _, _, himp, _⟩ := addStream_spec w w1 s h1
      rw [himp, he] at hk
      rcases List.mem_append.mp hk with hk | hk
      · exact hw k hk
      · obtain ⟨r, hr, rfl⟩ := hex k hk
        obtain ⟨p, hp, hrp⟩ := mem_pmds_flatten.mp hr
        exact hP s hs p hp r hrp) {} w [] (fun _ hk => nomatch hk) h

theorem reopen (w : Writer) (r : Reader) (hr : newReader w.finalize = .ok r) :
    r.f.streams = w.streams ∧ r.f.packets = w.packets ∧ r.f.data = w.blobs.flatten ∧ r.f.ref = w.ref ∧
    ((∀ k ∈ w.imports, (0 : UInt8) ∉ k.1) → r.imports = w.imports) ∧
    (GroupsInv w.hostGroups → (v4of w.hostGroups).length ≤ 4 * 2 ^ 32 → (v6of w.hostGroups).length ≤ 16 * 2 ^ 32 →
      r.hostGroups = w.hostGroups.map HostGroup.toReader) := by
  obtain ⟨hfile, _, _, hrg, himp⟩ := newReader_ok _ r hr
  refine ⟨by rw [hfile]; rfl, by rw [hfile]; rfl, by rw [hfile]; rfl, by rw [hfile]; rfl,
    fun hn => by rw [himp, readImports_finalize w hn], fun hg h4 h6 => ?_⟩
  rw [hostgroups_decode_fin w hg h4 h6] at hrg
  injection hrg with h
  exact h.symm

end Pk.Index
