/- For Props/C12: `pickState` (the state-file loop of `manager.New`) characterised, and the disk after each
   file operation of `saveState`. -/
import Pk.Model.Recover
import Pk.Proofs.Lib
namespace Pk.Proofs.Recover
open Pk.Recover

/-- one turn of the loop: `f` takes the place of `best` if it is parsable and no older (the later file wins a
    tie) -/
theorem pickState_cons (f : StateFile) (fs : List StateFile) (best : Option StateFile) :
    pickState (f :: fs) best =
      pickState fs (if f.parsable = true ∧ ∀ b ∈ best, b.saved ≤ f.saved then some f else best) := by
  cases hp : f.parsable with
  | false => simp [pickState, hp]
  | true =>
    cases best with
    | none => simp [pickState, hp]
    | some b =>
      simp only [pickState, hp, Bool.not_true, Bool.false_eq_true, if_false, Option.mem_def,
        Option.some.injEq, forall_eq', true_and]
      by_cases hlt : f.saved < b.saved
      · rw [if_pos hlt, if_neg (Nat.not_le_of_lt hlt)]
      · rw [if_neg hlt, if_pos (Nat.le_of_not_lt hlt)]

theorem pickState_append (a b : List StateFile) (best : Option StateFile) :
    pickState (a ++ b) best = pickState b (pickState a best) := by
  induction a generalizing best with
  | nil => rfl
  | cons f fs ih => rw [List.cons_append, pickState_cons, pickState_cons, ih]

theorem pickState_spec (fs : List StateFile) (best : Option StateFile) (r : StateFile)
    (h : pickState fs best = some r) :
    (best = some r ∨ r ∈ fs ∧ r.parsable = true) ∧ (∀ b, best = some b → b.saved ≤ r.saved) ∧
    ∀ f ∈ fs, f.parsable = true → f.saved ≤ r.saved := by
  induction fs generalizing best with
  | nil => cases h; simp
  | cons f fs ih =>
    rw [pickState_cons] at h
    have ⟨h1, h2, h3⟩ := ih _ h
    split at h1
    · rename_i hc
      exact ⟨.inr (h1.elim (fun e => by cases e; exact ⟨List.mem_cons_self, hc.1⟩)
          (And.imp_left (List.mem_cons_of_mem _))),
        fun b e => Nat.le_trans (hc.2 b e) (h2 f (if_pos hc)), List.forall_mem_cons.2 ⟨fun _ => h2 f (if_pos hc), h3⟩⟩
    · rename_i hc
      rw [if_neg hc] at h2
      refine ⟨h1.imp_right (And.imp_left (List.mem_cons_of_mem _)), h2, List.forall_mem_cons.2 ⟨fun hp => ?_, h3⟩⟩
      -- `f` was passed over: `best` is newer
      apply Classical.byContradiction
      intro hlt
      exact hc ⟨hp, fun b hb => Nat.le_trans (h2 b hb) (Nat.le_of_not_le hlt)⟩

theorem pickState_eq_none (fs : List StateFile) (best : Option StateFile)
    (h : pickState fs best = none) : best = none ∧ ∀ f ∈ fs, f.parsable = false := by
  induction fs generalizing best with
  | nil => exact ⟨h, by simp⟩
  | cons f fs ih =>
    rw [pickState_cons] at h
    have ⟨hb, ha⟩ := ih _ h
    split at hb
    · cases hb
    · rename_i hc
      subst hb
      exact ⟨rfl, List.forall_mem_cons.2 ⟨Bool.eq_false_iff.2 fun hp => hc ⟨hp, nofun⟩, ha⟩⟩

theorem pickState_isSome_of_mem (fs : List StateFile) (best : Option StateFile) (f : StateFile)
    (hf : f ∈ fs) (hp : f.parsable = true) : (pickState fs best).isSome = true := by
  cases h : pickState fs best with
  | some _ => rfl
  | none => rw [(pickState_eq_none _ _ h).2 f hf] at hp; cases hp

theorem pickState_unique (ss : List StateFile) (cur : StateFile) (hm : cur ∈ ss)
    (hp : cur.parsable = true)
    (hmax : ∀ f ∈ ss, f.parsable = true → f.saved ≤ cur.saved ∧ (f.saved = cur.saved → f = cur)) :
    pickState ss none = some cur := by
  cases hq : pickState ss none with
  | none => rw [(pickState_eq_none _ _ hq).2 cur hm] at hp; cases hp
  | some r =>
    obtain ⟨h | ⟨h1, h2⟩, _, h3⟩ := pickState_spec _ _ _ hq
    · cases h
    · have ⟨h4, h5⟩ := hmax r h1 h2
      rw [h5 (Nat.le_antisymm h4 (h3 cur hm hp))]

theorem snoc_newer_max (ss : List StateFile) (n : StateFile)
    (hlt : ∀ f ∈ ss, f.parsable = true → f.saved < n.saved) :
    ∀ f ∈ ss ++ [n], f.parsable = true → f.saved ≤ n.saved ∧ (f.saved = n.saved → f = n) := by
  intro f hf hp
  rcases List.mem_append.mp hf with hf | hf
  · exact ⟨Nat.le_of_lt (hlt f hf hp), fun e => absurd e (Nat.ne_of_lt (hlt f hf hp))⟩
  · cases List.mem_singleton.mp hf
    exact ⟨Nat.le_refl _, fun _ => rfl⟩

theorem pickState_snoc_newer (ss : List StateFile) (n : StateFile) (hn : n.parsable = true)
    (hlt : ∀ f ∈ ss, f.parsable = true → f.saved < n.saved) :
    pickState (ss ++ [n]) none = some n :=
  pickState_unique _ _ (by simp) hn (snoc_newer_max ss n hlt)

theorem pickState_snoc_unparsable (ss : List StateFile) (n : StateFile) (hn : n.parsable = false)
    (best : Option StateFile) : pickState (ss ++ [n]) best = pickState ss best := by
  rw [pickState_append, pickState_cons, if_neg fun h => Bool.false_ne_true (hn ▸ h.1)]
  rfl

theorem disk1 (ss : List StateFile) (new : StateFile) :
    applyOp ss (.createPartial new) = ss ++ [{ new with parsable := false }] := rfl

theorem disk2 (ss : List StateFile) (new : StateFile) (h : ∀ f ∈ ss, f.name ≠ new.name) :
    applyOp (applyOp ss (.createPartial new)) (.complete new.name) =
      ss ++ [{ new with parsable := true }] := by
  simp only [applyOp, List.map_append, List.map_cons, List.map_nil, if_true]
  rw [Lib.map_ite_id _ _ ss fun f hf hn => absurd hn (h f hf)]

/-- once the new file is complete the rest of the disk is a part of the old one: all of it, or without `o` -/
theorem disk_written (ss : List StateFile) (new : StateFile) (o : Nat) (h : ∀ f ∈ ss, f.name ≠ new.name)
    (ho : new.name ≠ o) (k : Nat) :
    ∃ rest, rest.Sublist ss ∧ ((saveOps new (some o)).take (k + 2)).foldl applyOp ss =
      rest ++ [{ new with parsable := true }] := by
  cases k with
  | zero => exact ⟨ss, .refl _, disk2 ss new h⟩
  | succ k =>
    refine ⟨ss.filter (·.name ≠ o), List.filter_sublist, ?_⟩
    rw [List.take_of_length_le (Nat.le_add_left 3 k)]
    show applyOp (applyOp (applyOp ss (.createPartial new)) (.complete new.name)) (.remove o) = _
    rw [disk2 ss new h]
    simp [applyOp, List.filter_append, ho]

end Pk.Proofs.Recover
