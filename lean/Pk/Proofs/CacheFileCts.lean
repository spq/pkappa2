/-
  C15: record round trip for chunk lists with content types (`record_roundtrip_cts`), and the
  invariant of `collectCts` (`collectCts_ok`) needed for `skipCts`.
  Masks are viewed through `maskBit`; the reader computes `mapCt (assign m)` ("later entries override").
-/
import Pk.Model.CacheFile
import Pk.Proofs.CacheFile
import Pk.Proofs.CacheFileVarBytes
namespace Pk.Proofs.CacheFile
open Pk.CacheFile

def maskBit (mask : List Nat) (j : Nat) : Bool := (mask.getD (j / 8) 0).testBit (j % 8)

theorem maskBit_nil (j : Nat) : maskBit [] j = false := by simp [maskBit]

theorem byte_setBit (b r s : Nat) (hs : s < 8) :
    ((b ||| 1 <<< r) % 256).testBit s = (decide (s = r) || b.testBit s) := by
  rw [show (256 : Nat) = 2 ^ 8 by decide, Nat.testBit_mod_two_pow, Nat.testBit_or, Nat.one_shiftLeft,
    Nat.testBit_two_pow]
  simp [hs, Bool.or_comm, eq_comm]

theorem setBit_getD (bm : List Nat) (i k : Nat) :
    (setBit bm i).getD k 0 = if k = i / 8 then ((bm.getD k 0) ||| 1 <<< (i % 8)) % 256 else bm.getD k 0 := by
  unfold setBit
  simp only [List.getD_eq_getElem?_getD, List.getElem?_modify, List.getElem?_append,
    List.getElem?_replicate]
  by_cases h : k = i / 8
  · subst h
    by_cases hl : i / 8 < bm.length
    · simp [hl]
    · have : i / 8 - bm.length < i / 8 + 1 - bm.length := by omega
      simp [hl, this]
  · have h' : ¬ (i / 8 = k) := fun e => h e.symm
    by_cases hl : k < bm.length
    · simp [hl, h, h']
    · simp [hl, h, h']
      split <;> simp

theorem maskBit_setBit (bm : List Nat) (i j : Nat) :
    maskBit (setBit bm i) j = (decide (j = i) || maskBit bm j) := by
  unfold maskBit
  rw [setBit_getD]
  by_cases h : j / 8 = i / 8
  · rw [if_pos h, byte_setBit _ _ _ (Nat.mod_lt _ (by decide))]
    congr 1
    rw [decide_eq_decide]; omega
  · rw [if_neg h, decide_eq_false (fun e : j = i => h (e ▸ rfl)), Bool.false_or]

theorem setBit_ne_nil (bm : List Nat) (i : Nat) : setBit bm i ≠ [] := by
  intro h
  have := congrArg List.length h
  simp only [setBit, List.length_modify, List.length_append, List.length_replicate, List.length_nil] at this
  omega

theorem setBit_lt (bm : List Nat) (i : Nat) (h : ∀ b ∈ bm, b < 256) : ∀ b ∈ setBit bm i, b < 256 := by
  intro b hb
  obtain ⟨k, hk, rfl⟩ := List.mem_iff_getElem.mp hb
  simp only [setBit, List.getElem_modify]
  split
  · exact Nat.mod_lt _ (by decide)
  · rw [setBit, List.length_modify] at hk
    rcases List.mem_append.mp (List.getElem_mem hk) with hm | hm
    · exact h _ hm
    · rw [List.eq_of_mem_replicate hm]; decide


def mapCt (f : Nat → List Nat → List Nat) (data : List Chunk) : List Chunk :=
  data.mapIdx fun j c => { c with ctype := f j c.ctype }

theorem mapCt_length (f) (data : List Chunk) : (mapCt f data).length = data.length := by
  simp [mapCt]

theorem mapCt_getElem? (f) (data : List Chunk) (j : Nat) :
    (mapCt f data)[j]? = data[j]?.map fun c => { c with ctype := f j c.ctype } := by
  simp [mapCt, List.getElem?_mapIdx]

theorem mapCt_congr (f g) (data : List Chunk) (h : ∀ j a, f j a = g j a) :
    mapCt f data = mapCt g data := by
  rw [show f = g from funext fun j => funext (h j)]

theorem mapCt_id (data : List Chunk) : mapCt (fun _ a => a) data = data := by
  apply List.ext_getElem?
  intro j
  rw [mapCt_getElem?]
  cases data[j]? <;> rfl

theorem mapCt_mapCt (f g) (data : List Chunk) :
    mapCt g (mapCt f data) = mapCt (fun j a => g j (f j a)) data := by
  apply List.ext_getElem?
  intro j
  simp only [mapCt_getElem?]
  cases data[j]? <;> rfl

theorem modify_eq_mapCt (ct : List Nat) (bit : Nat) (data : List Chunk) :
    data.modify bit (fun c => { c with ctype := ct }) = mapCt (fun j a => if j = bit then ct else a) data := by
  apply List.ext_getElem?
  intro j
  rw [mapCt_getElem?, List.getElem?_modify]
  by_cases h : bit = j
  · subst h; simp
  · simp only [if_neg h, if_neg (Ne.symm h)]; cases data[j]? <;> rfl

/-- chunk `i` is selected when the bits `Q` are laid out from position `bit` on: what a mask loop that has reached
    `bit` (`applyBits`) or byte `bit / 8` (`applyMask`) still has to apply -/
def bitsFrom (bit : Nat) (Q : Nat → Bool) (i : Nat) : Bool := decide (bit ≤ i) && Q (i - bit)

theorem bitsFrom_succ (bit : Nat) (Q : Nat → Bool) (i : Nat) :
    bitsFrom bit Q i = ((decide (i = bit) && Q 0) || bitsFrom (bit + 1) (fun k => Q (k + 1)) i) := by
  unfold bitsFrom
  by_cases h : bit + 1 ≤ i
  · rw [show i - bit = i - (bit + 1) + 1 by omega]
    simp [h, show bit ≤ i by omega, show i ≠ bit by omega]
  · by_cases h' : i = bit
    · subst h'; simp [Nat.not_succ_le_self]
    · simp [h, h', show ¬ bit ≤ i by omega]

theorem applyBits_spec (ct : List Nat) : ∀ (fuel b bit : Nat) (data : List Chunk),
    b < 2 ^ fuel → (∀ k, b.testBit k = true → bit + k < data.length) →
    applyBits fuel b bit ct data
      = some (mapCt (fun i a => if bitsFrom bit b.testBit i = true then ct else a) data) := by
  intro fuel
  induction fuel with
  | zero =>
    intro b bit data hb _
    obtain rfl : b = 0 := by simpa using hb
    simp [applyBits, bitsFrom, mapCt_id]
  | succ fuel ih =>
    intro b bit data hb hbits
    rw [applyBits]
    by_cases h0 : b = 0
    · subst h0; simp [bitsFrom, mapCt_id]
    · have hb2 : b / 2 < 2 ^ fuel := by rw [Nat.pow_succ] at hb; omega
      have hbits' : ∀ k, (b / 2).testBit k = true → bit + 1 + k < data.length := fun k hk => by
        rw [Nat.testBit_div_two] at hk
        have := hbits (k + 1) hk
        omega
      have hstep : ∀ i, bitsFrom bit b.testBit i
          = ((decide (i = bit) && decide (b % 2 = 1)) || bitsFrom (bit + 1) (b / 2).testBit i) := fun i => by
        rw [bitsFrom_succ, Nat.testBit_zero]; congr; funext k; rw [Nat.testBit_div_two]
      rw [if_neg h0]
      by_cases h1 : b % 2 = 1
      · have hlt : ¬ bit ≥ data.length := by
          have := hbits 0 (by rw [Nat.testBit_zero]; simpa using h1)
          omega
        rw [if_pos h1, if_neg hlt, ih _ _ _ hb2 (by rw [List.length_modify]; exact hbits'), modify_eq_mapCt,
          mapCt_mapCt]
        congr 1
        apply mapCt_congr
        intro j a
        rw [hstep]
        by_cases hj : j = bit <;> simp [hj, h1]
      · rw [if_neg h1, ih _ _ _ hb2 hbits']
        congr 1
        apply mapCt_congr
        intro j a
        rw [hstep]
        simp [h1]


theorem maskBit_cons_lt (b : Nat) (bs : List Nat) {k : Nat} (h : k < 8) : maskBit (b :: bs) k = b.testBit k := by
  unfold maskBit
  rw [Nat.div_eq_of_lt h, Nat.mod_eq_of_lt h]
  rfl

theorem maskBit_cons_add (b : Nat) (bs : List Nat) (k : Nat) : maskBit (b :: bs) (k + 8) = maskBit bs k := by
  unfold maskBit
  rw [Nat.add_div_right k (show 0 < 8 by decide), Nat.add_mod_right]
  rfl

theorem byte_testBit_ge (b k : Nat) (hb : b < 256) (hk : 8 ≤ k) : b.testBit k = false :=
  Nat.testBit_lt_two_pow (Nat.lt_of_lt_of_le hb (Nat.pow_le_pow_right (n := 2) (by decide) hk))

theorem bitsFrom_mask (b : Nat) (bs : List Nat) (i j : Nat) (hb : b < 256) :
    bitsFrom (i * 8) (maskBit (b :: bs)) j
      = (bitsFrom (i * 8) b.testBit j || bitsFrom ((i + 1) * 8) (maskBit bs) j) := by
  unfold bitsFrom
  by_cases h : (i + 1) * 8 ≤ j
  · obtain ⟨k, rfl⟩ : ∃ k, j = (i + 1) * 8 + k := ⟨j - (i + 1) * 8, by omega⟩
    rw [show (i + 1) * 8 + k - i * 8 = k + 8 by omega, maskBit_cons_add, byte_testBit_ge b _ hb (by omega),
      Nat.add_sub_cancel_left]
    simp [show i * 8 ≤ (i + 1) * 8 + k by omega]
  · by_cases h' : i * 8 ≤ j
    · rw [maskBit_cons_lt _ _ (by omega)]; simp [h]
    · simp [h, h']

theorem applyMask_spec (ct : List Nat) : ∀ (mask : List Nat) (i : Nat) (data : List Chunk),
    (∀ b ∈ mask, b < 256) → (∀ k, maskBit mask k = true → i * 8 + k < data.length) →
    applyMask mask i ct data
      = some (mapCt (fun j a => if bitsFrom (i * 8) (maskBit mask) j = true then ct else a) data) := by
  intro mask
  induction mask with
  | nil => intro i data _ _; simp [applyMask, bitsFrom, maskBit_nil, mapCt_id]
  | cons b bs ih =>
    intro i data hlt hbits
    obtain ⟨hb, hbs⟩ := List.forall_mem_cons.mp hlt
    rw [applyMask, applyBits_spec ct 8 b (i * 8) data hb fun k hk =>
      hbits k (by
        rw [maskBit_cons_lt _ _ (Nat.lt_of_not_le fun h => by rw [byte_testBit_ge b k hb h] at hk; cases hk)]
        exact hk)]
    dsimp only
    rw [ih (i + 1) _ hbs fun k hk => by
      have := hbits (k + 8) (by rw [maskBit_cons_add]; exact hk)
      rw [mapCt_length]; omega, mapCt_mapCt]
    congr 1
    apply mapCt_congr
    intro j a
    rw [bitsFrom_mask b bs i j hb]
    cases bitsFrom (i * 8) b.testBit j <;> cases bitsFrom ((i + 1) * 8) (maskBit bs) j <;> rfl

theorem applyMask_zero (ct mask : List Nat) (data : List Chunk)
    (hlt : ∀ b ∈ mask, b < 256) (hbits : ∀ k, maskBit mask k = true → k < data.length) :
    applyMask mask 0 ct data = some (mapCt (fun j a => if maskBit mask j = true then ct else a) data) := by
  rw [applyMask_spec ct mask 0 data hlt fun k hk => by have := hbits k hk; omega]
  simp [bitsFrom]


def assign : List (List Nat × List Nat) → Nat → List Nat → List Nat
  | [], _, acc => acc
  | e :: m, j, acc => assign m j (if maskBit e.2 j = true then e.1 else acc)

def CtsOk (m : List (List Nat × List Nat)) : Prop :=
  ∀ e ∈ m, e.2 ≠ [] ∧ (∀ b ∈ e.2, b < 256) ∧ e.1.length < 2 ^ 64

def BitsBelow (m : List (List Nat × List Nat)) (n : Nat) : Prop := ∀ e ∈ m, ∀ j, maskBit e.2 j = true → j < n

theorem encodeCts_cons (e : List Nat × List Nat) (m : List (List Nat × List Nat)) :
    encodeCts (e :: m) = writeVarBytes e.2 ++ (writeString e.1 ++ encodeCts m) := by
  simp [encodeCts]

theorem encodeCts_length (m : List (List Nat × List Nat)) : m.length < (encodeCts m).length := by
  induction m with
  | nil => simp [encodeCts]
  | cons e m ih =>
    rw [encodeCts_cons]
    have := writeVarInt_length_pos e.1.length
    simp only [List.length_append, writeString, List.length_cons]
    omega

theorem readCts_spec (rest : List Nat) : ∀ (m : List (List Nat × List Nat)) (fuel : Nat) (data : List Chunk),
    m.length < fuel → CtsOk m → BitsBelow m data.length →
    readCts fuel (encodeCts m ++ rest) data = some (mapCt (assign m) data, rest) := by
  intro m
  induction m with
  | nil =>
    intro fuel data hf _ _
    obtain ⟨f, rfl⟩ := Nat.exists_eq_add_one_of_ne_zero (Nat.ne_zero_of_lt hf)
    have : mapCt (assign []) data = data := mapCt_id data
    simp [encodeCts, readCts, readVarBytes_zero, this]
  | cons e m ih =>
    intro fuel data hf hok hb
    obtain ⟨f, rfl⟩ := Nat.exists_eq_add_one_of_ne_zero (Nat.ne_zero_of_lt hf)
    obtain ⟨⟨hne, hlt, hlen⟩, hok'⟩ := List.forall_mem_cons.mp hok
    obtain ⟨hbits, hb'⟩ := List.forall_mem_cons.mp hb
    rw [encodeCts_cons, readCts]
    simp only [List.append_assoc, varbytes_rt _ _ hlt, hne, if_false, readString_rt _ _ hlen,
      applyMask_zero e.1 e.2 data hlt hbits]
    rw [ih f _ (by simp at hf; omega) hok' (by rw [mapCt_length]; exact hb'), mapCt_mapCt]
    rfl

theorem assign_nobit : ∀ (m : List (List Nat × List Nat)) (j : Nat) (acc : List Nat),
    (∀ e ∈ m, maskBit e.2 j = false) → assign m j acc = acc := by
  intro m
  induction m with
  | nil => intro j acc _; rfl
  | cons e m ih =>
    intro j acc h
    obtain ⟨he, hm⟩ := List.forall_mem_cons.mp h
    rw [assign, he, if_neg Bool.false_ne_true]
    exact ih j acc hm

theorem assign_addCt (ct : List Nat) (i j : Nat) : ∀ (m : List (List Nat × List Nat)) (acc : List Nat),
    (∀ e ∈ m, maskBit e.2 i = false) →
    assign (addCt m ct i) j acc = if j = i then ct else assign m j acc := by
  intro m
  induction m with
  | nil =>
    intro acc _
    simp [addCt, assign, maskBit_setBit, maskBit_nil]
  | cons e m ih =>
    intro acc h
    obtain ⟨k, bm⟩ := e
    obtain ⟨-, hm⟩ := List.forall_mem_cons.mp h
    unfold addCt
    by_cases hk : k = ct
    · subst hk
      simp only [if_true, assign, maskBit_setBit]
      by_cases hj : j = i
      · subst hj
        simp [assign_nobit m j _ hm]
      · simp [hj]
    · simp only [hk, if_false, assign]
      rw [ih _ hm]

theorem addCt_forall (P : List Nat × List Nat → Prop) (ct : List Nat) (i : Nat) (hnew : P (ct, setBit [] i))
    (hset : ∀ bm, P (ct, bm) → P (ct, setBit bm i)) :
    ∀ m : List (List Nat × List Nat), (∀ e ∈ m, P e) → ∀ e ∈ addCt m ct i, P e := by
  intro m
  induction m with
  | nil => intro _ e he; rw [addCt, List.mem_singleton] at he; exact he ▸ hnew
  | cons x m ih =>
    intro hm
    obtain ⟨k, bm⟩ := x
    obtain ⟨hx, hm'⟩ := List.forall_mem_cons.mp hm
    rw [addCt]
    split
    · rename_i hk; subst hk
      exact List.forall_mem_cons.mpr ⟨hset bm hx, hm'⟩
    · exact List.forall_mem_cons.mpr ⟨hx, ih hm'⟩

theorem addCt_ok (m : List (List Nat × List Nat)) (ct : List Nat) (i : Nat) (hm : CtsOk m)
    (hct : ct.length < 2 ^ 64) : CtsOk (addCt m ct i) :=
  addCt_forall _ ct i ⟨setBit_ne_nil _ _, setBit_lt _ _ (fun _ h => nomatch h), hct⟩
    (fun _ h => ⟨setBit_ne_nil _ _, setBit_lt _ _ h.2.1, hct⟩) m hm

theorem collectCts_ok (cs : List Chunk) (i : Nat) (m : List (List Nat × List Nat)) (hm : CtsOk m)
    (hcs : ∀ c ∈ cs, c.ctype.length < 2 ^ 64) : CtsOk (collectCts cs i m) := by
  induction cs generalizing i m with
  | nil => exact hm
  | cons c cs ih =>
    obtain ⟨hc, hcs'⟩ := List.forall_mem_cons.mp hcs
    unfold collectCts
    apply ih _ _ _ hcs'
    split
    · exact hm
    · exact addCt_ok m _ i hm hc

theorem addCt_below (m : List (List Nat × List Nat)) (ct : List Nat) (i : Nat) (hm : BitsBelow m i) :
    BitsBelow (addCt m ct i) (i + 1) := by
  have hset : ∀ bm, (∀ j, maskBit bm j = true → j < i + 1) → ∀ j, maskBit (setBit bm i) j = true → j < i + 1 := by
    intro bm h j hj
    rw [maskBit_setBit] at hj
    by_cases hji : j = i
    · omega
    · rw [decide_eq_false hji, Bool.false_or] at hj; exact h j hj
  exact addCt_forall (fun e => ∀ j, maskBit e.2 j = true → j < i + 1) ct i
    (hset [] fun j hj => by rw [maskBit_nil] at hj; cases hj) hset m
    fun e he j hj => Nat.lt_succ_of_lt (hm e he j hj)

theorem BitsBelow.mono {m : List (List Nat × List Nat)} {a b : Nat} (h : BitsBelow m a) (hab : a ≤ b) :
    BitsBelow m b := fun e he j hj => Nat.lt_of_lt_of_le (h e he j hj) hab

theorem BitsBelow.nobit {m : List (List Nat × List Nat)} {n j : Nat} (h : BitsBelow m n) (hj : n ≤ j) :
    ∀ e ∈ m, maskBit e.2 j = false := by
  intro e he
  cases hb : maskBit e.2 j with
  | false => rfl
  | true => exact absurd (h e he j hb) (Nat.not_lt.mpr hj)

/-- the step of `collectCts`, named: `collectCts (c :: cs) i m` is `collectCts cs (i + 1) (stepCt m c i)` by unfolding,
    and the inductions below (`collectCts_below`, `assign_collect_*`) pass it to their hypothesis in that form -/
def stepCt (m : List (List Nat × List Nat)) (c : Chunk) (i : Nat) : List (List Nat × List Nat) :=
  if c.ctype = [] then m else addCt m c.ctype i

theorem stepCt_below (m : List (List Nat × List Nat)) (c : Chunk) (i : Nat) (hm : BitsBelow m i) :
    BitsBelow (stepCt m c i) (i + 1) := by
  unfold stepCt
  split
  · exact hm.mono (Nat.le_succ i)
  · exact addCt_below m _ i hm

theorem assign_stepCt (m : List (List Nat × List Nat)) (c : Chunk) (i j : Nat) (acc : List Nat)
    (hm : BitsBelow m i) :
    assign (stepCt m c i) j acc = if j = i ∧ c.ctype ≠ [] then c.ctype else assign m j acc := by
  unfold stepCt
  by_cases hc : c.ctype = []
  · simp [hc]
  · simp only [hc, if_false, assign_addCt _ _ _ _ _ (hm.nobit (Nat.le_refl i))]
    by_cases hj : j = i <;> simp [hj, hc]

theorem collectCts_below : ∀ (cs : List Chunk) (i : Nat) (m : List (List Nat × List Nat)),
    BitsBelow m i → BitsBelow (collectCts cs i m) (i + cs.length) := by
  intro cs
  induction cs with
  | nil => intro i m hm; exact hm
  | cons c cs ih =>
    intro i m hm
    rw [List.length_cons, ← Nat.add_assoc, Nat.add_right_comm]
    exact ih (i + 1) (stepCt m c i) (stepCt_below m c i hm)

theorem assign_collect_lt : ∀ (cs : List Chunk) (i : Nat) (m : List (List Nat × List Nat)) (j : Nat) (acc : List Nat),
    BitsBelow m i → j < i → assign (collectCts cs i m) j acc = assign m j acc := by
  intro cs
  induction cs with
  | nil => intro i m j acc _ _; rfl
  | cons c cs ih =>
    intro i m j acc hm hj
    have h1 := ih (i + 1) (stepCt m c i) j acc (stepCt_below m c i hm) (by omega)
    rwa [assign_stepCt _ _ _ _ _ hm, if_neg (by omega)] at h1

theorem assign_collect_at : ∀ (cs : List Chunk) (i : Nat) (m : List (List Nat × List Nat)) (k : Nat) (c : Chunk),
    BitsBelow m i → cs[k]? = some c → assign (collectCts cs i m) (i + k) [] = c.ctype := by
  intro cs
  induction cs with
  | nil => intro i m k c _ h; simp at h
  | cons x cs ih =>
    intro i m k c hm hk
    have hm' := stepCt_below m x i hm
    cases k with
    | zero =>
      obtain rfl : x = c := by simpa using hk
      have h1 := assign_collect_lt cs (i + 1) (stepCt m x i) i [] hm' (by omega)
      rw [assign_stepCt _ _ _ _ _ hm, assign_nobit m i [] (hm.nobit (Nat.le_refl i))] at h1
      show assign (collectCts cs (i + 1) (stepCt m x i)) i [] = _
      rw [h1]
      by_cases hx : x.ctype = [] <;> simp [hx]
    | succ k =>
      rw [List.getElem?_cons_succ] at hk
      have h1 := ih (i + 1) (stepCt m x i) k c hm' hk
      rwa [Nat.add_right_comm, Nat.add_assoc] at h1


theorem readBack_length : ∀ (cs : List Chunk) (last : Int), (readBack cs last).length = cs.length := by
  intro cs
  induction cs with
  | nil => intro _; rfl
  | cons c cs ih => intro last; simp [readBack, ih]

theorem readBack_noct : ∀ (cs : List Chunk) (last : Int), ∀ c ∈ readBack cs last, c.ctype = [] := by
  intro cs
  induction cs with
  | nil => intro last c h; cases h
  | cons x xs ih =>
    intro last c h
    rcases List.mem_cons.mp h with rfl | h
    · rfl
    · exact ih _ c h

theorem mapCt_eq_zipWith (f : Nat → List Nat → List Nat) (rb cs : List Chunk) (hl : rb.length = cs.length)
    (hrb : ∀ r ∈ rb, r.ctype = []) (hf : ∀ j c, cs[j]? = some c → f j [] = c.ctype) :
    mapCt f rb = List.zipWith (fun (r c : Chunk) => { r with ctype := c.ctype }) rb cs := by
  apply List.ext_getElem?
  intro j
  rw [mapCt_getElem?, List.getElem?_zipWith]
  cases hr : rb[j]? with
  | none => simp
  | some r =>
    have hj : j < cs.length := by
      have := (List.getElem?_eq_some_iff.mp hr).1; omega
    have hc : cs[j]? = some cs[j] := by simp [hj]
    have h0 : r.ctype = [] := hrb r (List.mem_of_getElem? hr)
    simp [hc, h0, hf j _ hc]

theorem record_roundtrip_cts (cs : List Chunk) (t0 : Int)
    (hok : ∀ c ∈ cs, ChunkOk c ∧ c.ctype.length < 2 ^ 64) (ht : TimesOk cs t0) :
    decodeRecord (encodeBody cs t0) t0
      = some { chunks := List.zipWith (fun (r c : Chunk) => { r with ctype := c.ctype }) (readBack cs t0) cs,
               clientBytes := (dataOf cs false).length, serverBytes := (dataOf cs true).length } := by
  have hok1 : ∀ c ∈ cs, ChunkOk c := fun c hc => (hok c hc).1
  have hb0 : BitsBelow ([] : List (List Nat × List Nat)) 0 := fun _ he => nomatch he
  have hbd := collectCts_below cs 0 [] hb0
  have hcok := collectCts_ok cs 0 [] (fun _ he => nomatch he) fun c hc => (hok c hc).2
  unfold decodeRecord encodeBody
  rw [sizes_read _ cs false _ hok1 (by simp only [List.length_append]; omega)]
  simp only [List.dropLast_concat, sumDir_entries]
  have h1 : ¬ ((dataOf cs false ++ (dataOf cs true ++ (encodeTimes cs t0 ++ encodeCts (collectCts cs 0 [])))).length
      < (dataOf cs false).length) := by simp only [List.length_append]; omega
  simp only [h1, if_false, List.take_left', List.drop_left']
  have h2 : ¬ ((dataOf cs true ++ (encodeTimes cs t0 ++ encodeCts (collectCts cs 0 []))).length
      < (dataOf cs true).length) := by simp only [List.length_append]; omega
  simp only [h2, if_false]
  have hs := split_read (encodeCts (collectCts cs 0 [])) cs false [] [] t0 hok1 ht
  simp only [List.append_nil] at hs
  rw [hs]
  have hr := readCts_spec [] (collectCts cs 0 []) ((encodeCts (collectCts cs 0 [])).length + 1)
    (readBack cs t0) (by have := encodeCts_length (collectCts cs 0 []); omega) hcok
    (by rw [readBack_length]; simpa using hbd)
  simp only [List.append_nil] at hr
  simp only [hr]
  rw [mapCt_eq_zipWith _ _ _ (readBack_length cs t0) (readBack_noct cs t0) fun j c hj => by
    simpa using assign_collect_at cs 0 [] j c hb0 hj]

theorem record_roundtrip_noct (cs : List Chunk) (t0 : Int)
    (hok : ∀ c ∈ cs, ChunkOk c) (hct : ∀ c ∈ cs, c.ctype = []) (ht : TimesOk cs t0) :
    decodeRecord (encodeBody cs t0) t0
      = some { chunks := readBack cs t0, clientBytes := (dataOf cs false).length,
               serverBytes := (dataOf cs true).length } := by
  rw [record_roundtrip_cts cs t0 (fun c hc => ⟨hok c hc, by rw [hct c hc]; exact Nat.two_pow_pos 64⟩) ht,
    ← mapCt_eq_zipWith (fun _ a => a) _ _ (readBack_length cs t0) (readBack_noct cs t0)
      (fun j c hj => (hct c (List.mem_of_getElem? hj)).symm), mapCt_id]

end Pk.Proofs.CacheFile
