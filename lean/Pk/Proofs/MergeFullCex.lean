/-
  Counterexamples for the unrestricted C07 statement (`MergeViewEq` of Pk/Props/C07.lean):
  merging index files may change what a user sees when the inputs are ill-formed.

  * `mergeViewEq_counterexample`: the statement without hypotheses is false.
  * `mergeViewEq_needs_<field>`: for the fields `idRange`, `times`, `importsNoNul`, `importsNodup`, `skips`,
    `hosts` of `Reader.WF` a merge whose inputs satisfy every other field of `Reader.WF`, whose outputs
    satisfy `Reader.Fits`, and which nevertheless changes the view of a stream.
  (No witness for `sizes`: see the comment at the end of the file.)

  All computations are done by the kernel (`decide +kernel`, kernel reduction only).
-/
import Pk.Proofs.MergeFullWF

namespace Pk.Index
open Pk Pk.Bytes

def mfc_IdRange (r : Reader) : Prop := ∀ s ∈ r.f.streams, r.idMin ≤ s.id ∧ s.id ≤ r.idMax
def mfc_Times (r : Reader) : Prop := ∀ s ∈ r.f.streams, TimeOk r.f.ref s
def mfc_Sizes (r : Reader) : Prop := ∀ s ∈ r.f.streams, s.cb + s.sb < 2 ^ 64
def mfc_Skips (r : Reader) : Prop :=
  ∀ s ∈ r.f.streams, ∀ c, chainOf (r.f.packets.drop s.pstart) = some c → SkipsOk c

theorem mfc_wf_iff (r : Reader) :
    r.WF ↔ r.HostsInv ∧ mfc_IdRange r ∧ r.imports.Nodup ∧ NoNul r.imports ∧ mfc_Times r ∧
      mfc_Sizes r ∧ mfc_Skips r :=
  ⟨fun h => ⟨h.hosts, h.idRange, h.importsNodup, h.importsNoNul, h.times, h.sizes, h.skips⟩,
   fun ⟨h1, h2, h3, h4, h6, h7, h8⟩ => ⟨h1, h2, h3, h4, h6, h7, h8⟩⟩

def mfc_out (suf : List Reader) : List Reader := match merge suf with | .ok m => m | .error _ => []

theorem mfc_merge_of_out {suf : List Reader} {m : Reader} {ms : List Reader} (h : mfc_out suf = m :: ms) :
    merge suf = .ok (m :: ms) := by
  unfold mfc_out at h
  split at h
  · next heq => rw [heq, h]
  · cases h

/-! Every field of `Reader.WF`, and `Reader.Fits`, is decidable, so on a literal file each is a `decide +kernel`. -/

instance mfc_decGroupInv (g : RHostGroup) : Decidable g.Inv :=
  decidable_of_iff ((g.hostSize = 4 ∨ g.hostSize = 16) ∧ g.hosts.length = g.hostSize * g.hostCount ∧ 0 < g.hostCount ∧
      g.hosts.length ≤ 65536)
    ⟨fun ⟨a, b, c, d⟩ => ⟨a, b, c, d⟩, fun h => ⟨h.size, h.len, h.nonempty, h.bound⟩⟩
instance mfc_decHosts (r : Reader) : Decidable r.HostsInv := by unfold Reader.HostsInv; infer_instance
instance mfc_decFits (r : Reader) : Decidable r.Fits :=
  decidable_of_iff (r.f.packets.length ≤ 2 ^ 32 ∧ r.imports.length ≤ 2 ^ 32 ∧ r.hostGroups.length ≤ 65536)
    ⟨fun ⟨a, b, c⟩ => ⟨a, b, c⟩, fun h => ⟨h.packets, h.imports, h.groups⟩⟩
instance mfc_decTimeOk (ref : Nat) (s : StreamRec) : Decidable (TimeOk ref s) := by unfold TimeOk; infer_instance
instance mfc_decNoNul (ks : List ImportKey) : Decidable (NoNul ks) := by unfold NoNul; infer_instance
instance mfc_decIdRange (r : Reader) : Decidable (mfc_IdRange r) := by unfold mfc_IdRange; infer_instance
instance mfc_decTimes (r : Reader) : Decidable (mfc_Times r) := by unfold mfc_Times; infer_instance
instance mfc_decSizes (r : Reader) : Decidable (mfc_Sizes r) := by unfold mfc_Sizes; infer_instance
instance mfc_decSkipsOk : (c : List PacketRec) → Decidable (SkipsOk c)
  | [] => isTrue trivial
  | _ :: ps => @instDecidableAnd _ _ _ (mfc_decSkipsOk ps)
instance mfc_decSkips (r : Reader) : Decidable (mfc_Skips r) :=
  decidable_of_iff (∀ s ∈ r.f.streams, ∀ c ∈ chainOf (r.f.packets.drop s.pstart), SkipsOk c)
    (by simp only [mfc_Skips, Option.mem_def])
instance mfc_decWF (r : Reader) : Decidable r.WF := decidable_of_iff _ (mfc_wf_iff r).symm

/-- merging the one file `r` succeeds, what comes out fits the format, and stream 0 looks different afterwards -/
def mfc_Changed (r : Reader) : Prop :=
  match merge [r] with
  | .ok merged => (∀ m ∈ merged, m.Fits) ∧ stackView merged 0 ≠ stackView [r] 0
  | .error _ => False

instance (r : Reader) : Decidable (mfc_Changed r) := by unfold mfc_Changed; split <;> infer_instance

theorem mfc_changed {r : Reader} (h : mfc_Changed r) :
    ∃ merged, merge [r] = .ok merged ∧ (∀ m ∈ merged, m.Fits) ∧ stackView merged 0 ≠ stackView [r] 0 := by
  unfold mfc_Changed at h
  split at h
  · next merged heq => exact ⟨merged, heq, h⟩
  · exact h.elim

theorem mfc_single (r : Reader) (Q : Reader → Prop) (h : mfc_Changed r) (hQ : Q r) :
    ∃ (suf merged : List Reader) (id : Nat), merge suf = .ok merged ∧ (∀ m ∈ merged, m.Fits) ∧
      stackView merged id ≠ stackView suf id ∧ ∀ r ∈ suf, Q r := by
  obtain ⟨merged, hm, hf, hne⟩ := mfc_changed h
  exact ⟨[r], merged, 0, hm, hf, hne, fun _ h => List.mem_singleton.mp h ▸ hQ⟩

/- The stream id 0 of `mfc_rx` is outside `[idMin, idMax] = [1, 0]`: `StreamByID` does not see it, but
  `AddIndex` copies it, and the merged file shows it. -/

def mfc_sx : StreamRec :=
  { id := 0, first := 0, last := 0, dataStart := 0, cb := 0, sb := 0, pstart := 0, flags := 1, hg := 0, ch := 0, sh := 0,
    cp := 1, sp := 2 }

def mfc_mkF (ref : Nat) (packets : List PacketRec) (streams : List StreamRec) : FileModel :=
  { ref := ref, data := [], importNames := [], imports := [], packets := packets, v4 := [], v6 := [], hostGroups := [],
    streams := streams, lkId := [], lkSrc := [], lkFt := [], lkLt := [] }

def mfc_rx : Reader :=
  { f := mfc_mkF 0 [⟨0, 0, 0, 0, 0, 0⟩] [mfc_sx], imports := [([], 0)], hostGroups := [⟨[1, 2, 3, 4], 4, 1⟩],
    idMin := 1, idMax := 0 }

theorem mfc_rx_changed : mfc_Changed mfc_rx := by decide +kernel

theorem mfc_rx_ok : ∃ merged, merge [mfc_rx] = .ok merged := by
  obtain ⟨merged, hm, _⟩ := mfc_changed mfc_rx_changed
  exact ⟨merged, hm⟩

theorem mergeViewEq_counterexample : ¬ (∀ (pre suf merged : List Reader), merge suf = .ok merged →
    ∀ id, stackView (pre ++ merged) id = stackView (pre ++ suf) id) := by
  intro h
  obtain ⟨merged, hm, _, hne⟩ := mfc_changed mfc_rx_changed
  exact hne (h [] [mfc_rx] merged hm 0)

def mfc_mkS (id first pstart : Nat) : StreamRec :=
  { id := id, first := first, last := first, dataStart := 0, cb := 0, sb := 0, pstart := pstart, flags := 1, hg := 0,
    ch := 0, sh := 0, cp := 1, sp := 2 }

/-- `idRange`: the witness of `mergeViewEq_counterexample` -/
theorem mergeViewEq_needs_idRange : ∃ (suf merged : List Reader) (id : Nat), merge suf = .ok merged ∧
    (∀ m ∈ merged, m.Fits) ∧ stackView merged id ≠ stackView suf id ∧
    ∀ r ∈ suf, r.HostsInv ∧ r.imports.Nodup ∧ NoNul r.imports ∧ mfc_Times r ∧ mfc_Sizes r ∧ mfc_Skips r :=
  mfc_single mfc_rx _ mfc_rx_changed (by decide +kernel)

/-- `times`: a stream before 1970 (reference second 0, relative time −1 ns). `AddIndex` takes
    `uint64(-1 s) = 2^64 − 1` as the new reference second; the `Int`-valued absolute times change from −1 to
    `(2^64 − 1)·10^9 + 10^9 − 1`. -/
def mfc_rT : Reader :=
  { f := mfc_mkF 0 [⟨0, 0, 0, 0, 0, 0⟩] [mfc_mkS 0 (2 ^ 64 - 1) 0], imports := [([], 0)],
    hostGroups := [⟨[1, 2, 3, 4], 4, 1⟩], idMin := 0, idMax := 0 }

theorem mergeViewEq_needs_times : ∃ (suf merged : List Reader) (id : Nat), merge suf = .ok merged ∧
    (∀ m ∈ merged, m.Fits) ∧ stackView merged id ≠ stackView suf id ∧
    ∀ r ∈ suf, r.HostsInv ∧ mfc_IdRange r ∧ r.imports.Nodup ∧ NoNul r.imports ∧ mfc_Sizes r ∧ mfc_Skips r :=
  mfc_single mfc_rT _ (by decide +kernel) (by decide +kernel)

/-- `importsNoNul`: the file name `a\0b` comes back from the merged file as `a` (`readImports` reads C strings);
    visible in the file names of `Stream.Packets`. -/
def mfc_rN : Reader :=
  { f := mfc_mkF 0 [⟨0, 0, 0, 0, 0, 0⟩] [mfc_mkS 0 0 0], imports := [([97, 0, 98], 0)],
    hostGroups := [⟨[1, 2, 3, 4], 4, 1⟩], idMin := 0, idMax := 0 }

theorem mergeViewEq_needs_importsNoNul : ∃ (suf merged : List Reader) (id : Nat), merge suf = .ok merged ∧
    (∀ m ∈ merged, m.Fits) ∧ stackView merged id ≠ stackView suf id ∧
    ∀ r ∈ suf, r.HostsInv ∧ mfc_IdRange r ∧ r.imports.Nodup ∧ mfc_Times r ∧ mfc_Sizes r ∧ mfc_Skips r :=
  mfc_single mfc_rN _ (by decide +kernel) (by decide +kernel)

/-- `importsNodup`: the import table lists the same capture twice; the records (import 0, index 5) and
    (import 1, index 5) are two packets for `Stream.Packets` before the merge and — both import ids being mapped
    to the one import of the writer — one packet after it. -/
def mfc_rD : Reader :=
  { f := mfc_mkF 0 [⟨0, 0, 5, 0, 0, 1⟩, ⟨0, 1, 5, 0, 0, 0⟩] [mfc_mkS 0 0 0], imports := [([97], 0), ([97], 0)],
    hostGroups := [⟨[1, 2, 3, 4], 4, 1⟩], idMin := 0, idMax := 0 }

theorem mergeViewEq_needs_importsNodup : ∃ (suf merged : List Reader) (id : Nat), merge suf = .ok merged ∧
    (∀ m ∈ merged, m.Fits) ∧ stackView merged id ≠ stackView suf id ∧
    ∀ r ∈ suf, r.HostsInv ∧ mfc_IdRange r ∧ NoNul r.imports ∧ mfc_Times r ∧ mfc_Sizes r ∧ mfc_Skips r :=
  mfc_single mfc_rD _ (by decide +kernel) (by decide +kernel)

/-- `skips`: the stream owns the records 0 and 1 of the packet table; record 0 has a successor and skip counter 1,
    which leads `Stream.Data` past record 1 to record 2 (a record behind the stream's own, e.g. of another stream),
    where the walk ends: no payload. `AddIndex` copies the records 0 and 1 only, in the merged file the skip runs
    off the table and `Stream.Data` fails. -/
def mfc_rS : Reader :=
  { f := mfc_mkF 0 [⟨0, 0, 0, 0, 1, 1⟩, ⟨0, 0, 1, 0, 0, 0⟩, ⟨0, 0, 2, 0, 0, 0⟩] [mfc_mkS 0 0 0],
    imports := [([97], 0)], hostGroups := [⟨[1, 2, 3, 4], 4, 1⟩], idMin := 0, idMax := 0 }

theorem mergeViewEq_needs_skips : ∃ (suf merged : List Reader) (id : Nat), merge suf = .ok merged ∧
    (∀ m ∈ merged, m.Fits) ∧ stackView merged id ≠ stackView suf id ∧
    ∀ r ∈ suf, r.HostsInv ∧ mfc_IdRange r ∧ r.imports.Nodup ∧ NoNul r.imports ∧ mfc_Times r ∧ mfc_Sizes r :=
  mfc_single mfc_rS _ (by decide +kernel) (by decide +kernel)

/-- `hosts`: the first host group of the file has 6 bytes (one and a half IPv4 hosts). `AddIndex` takes that table
    over as a writer group; the host `7.8.9.10` of the second (well-formed) group is appended to it at byte 6 and
    gets the index `(6 + 4) / 4 − 1 = 1`, which is the bytes 4–7: the stream turns from `7.8.9.10` into `5.6.7.8`. -/
def mfc_rH : Reader :=
  { f := mfc_mkF 0 [⟨0, 0, 0, 0, 0, 0⟩] [{ mfc_mkS 0 0 0 with hg := 1 }], imports := [([97], 0)],
    hostGroups := [⟨[1, 2, 3, 4, 5, 6], 4, 1⟩, ⟨[7, 8, 9, 10], 4, 1⟩], idMin := 0, idMax := 0 }

theorem mergeViewEq_needs_hosts : ∃ (suf merged : List Reader) (id : Nat), merge suf = .ok merged ∧
    (∀ m ∈ merged, m.Fits) ∧ stackView merged id ≠ stackView suf id ∧
    ∀ r ∈ suf, mfc_IdRange r ∧ r.imports.Nodup ∧ NoNul r.imports ∧ mfc_Times r ∧ mfc_Sizes r ∧ mfc_Skips r :=
  mfc_single mfc_rH _ (by decide +kernel) (by decide +kernel)

/-- what the two sides of `mergeViewEq_needs_hosts` show as client address -/
theorem mfc_rH_clients :
    ((stackView [mfc_rH] 0).map (·.map (·.client)), (stackView (mfc_out [mfc_rH]) 0).map (·.map (·.client))) =
      (some (some [7, 8, 9, 10]), some (some [5, 6, 7, 8])) := by decide +kernel

/-! ## the field without a witness

  * `sizes`: with `cb + sb ≥ 2^64` `Stream.Data` fails before and after the merge (`len(data) < cb + sb`, the
    model keeps the untruncated counters in the copied record), a witness would need a data section of 2^64 bytes.
-/


end Pk.Index
