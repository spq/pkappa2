/-
  The service loop seen from the lock side.  `SameCore`: what every helper on the tag side (`setTag`, `inherit`, the
  invalidations, `markUpdate`, …) leaves alone — the service list, the open files, the lock counts, the views, `next`,
  the queue, the job slots and flags.  `Starts s s'`: from `s` by such changes and job starts.  A call on the tag
  table is a `Starts` (`step_api_starts`); a job completion is a head (slot emptied, service list changed), a
  `Starts`, and the release of the job's files (`step_…_starts`; the import completion releases in its head).
  The lock invariant (C13), the view frame (C10) and the job-flag invariant (C09) are carried along `Starts` by
  one induction each.
-/
import Pk.Proofs.MgrFrame

namespace Pk.Proofs.MgrLocks
open Pk.Mgr

/-- `s'` agrees with `s` on the service list, the open files, the lock counts, the views, `next`, the queue and
    the job slots and flags.  One record equation, so that a helper that is a record update of the other fields
    is covered by `h.trans rfl`. -/
def SameCore (s s' : St) : Prop :=
  s' = { s with tags := s'.tags, ngen := s'.ngen, all := s'.all, unm := s'.unm, nrec := s'.nrec,
                upd := s'.upd, rst := s'.rst, add := s'.add, toconv := s'.toconv, cached := s'.cached,
                convs := s'.convs, pcaps := s'.pcaps, diverged := s'.diverged, badChoice := s'.badChoice }

theorem SameCore.refl (s : St) : SameCore s s := rfl

theorem SameCore.trans {a b c : St} (h1 : SameCore a b) (h2 : SameCore b c) : SameCore a c := by
  unfold SameCore at *
  rw [h1] at h2
  exact h2


def SameCore.view (s : St) :=
  (s.idx, s.files, s.used, s.next, s.queue, s.merge, s.tag, s.convert, s.jImport, s.jTag, s.jMerge, s.jConv, s.views)

theorem SameCore.keep {s s' x : St} (h : SameCore s s') (e : SameCore.view x = SameCore.view s') : SameCore s x := by
  refine h.trans ?_
  cases s'
  cases x
  simp only [SameCore.view, Prod.mk.injEq] at e
  obtain ⟨rfl, rfl, rfl, rfl, rfl, rfl, rfl, rfl, rfl, rfl, rfl, rfl, rfl⟩ := e
  rfl

/- Shape `SameCore s s' → SameCore s (helper s' …)`: the lemmas chain in the order the model applies the helpers,
   `((h.setTag n t).inherit).invalidatedDuringTaggingJob ids`. -/

protected theorem SameCore.foldl {β} {s s' : St} {f : St → β → St} {l : List β} (h : SameCore s s')
    (hf : ∀ x a, SameCore s x → SameCore s (f x a)) : SameCore s (l.foldl f s') :=
  foldl_inv (SameCore s) f hf l s' h

protected theorem SameCore.withTags {s s' : St} (h : SameCore s s') (ts : List (String × Tag)) :
    SameCore s { s' with tags := ts } := h.trans rfl
protected theorem SameCore.setTag {s s' : St} (h : SameCore s s') (n : String) (t : Tag) :
    SameCore s (setTag s' n t) := h.trans rfl
protected theorem SameCore.inherit {s s' : St} (h : SameCore s s') : SameCore s (inherit s') :=
  h.keep (inherit_frame _ s')
protected theorem SameCore.invalidateTags {s s' : St} (h : SameCore s s') (u r a : IdSet) :
    SameCore s (invalidateTags s' u r a) := h.keep (invalidateTags_frame _ s' u r a)

protected theorem SameCore.invalidatedDuringTaggingJob {s s' : St} (h : SameCore s s') (ids : IdSet) :
    SameCore s (invalidatedDuringTaggingJob s' ids) := h.keep (invalidatedDuringTaggingJob_frame _ s' ids)

protected theorem SameCore.invalidateConverters {s s' : St} (h : SameCore s s') (u : IdSet) :
    SameCore s (invalidateConverters s' u) := h.keep (invalidateConverters_frame _ s' u)

protected theorem SameCore.addRefBy {s s' : St} (h : SameCore s s') (a b : String) :
    SameCore s (addRefBy s' a b) := h.keep (addRefBy_frame _ s' a b)

protected theorem SameCore.delRefBy {s s' : St} (h : SameCore s s') (a b : String) :
    SameCore s (delRefBy s' a b) := h.keep (delRefBy_frame _ s' a b)

protected theorem SameCore.attachConv {s s' : St} (h : SameCore s s') (n c : String) :
    SameCore s (attachConv s' n c).1 := h.keep (attachConv_frame _ s' n c)

protected theorem SameCore.markUpdate {s s' : St} (h : SameCore s s') (name : String) (a d : List Nat) :
    SameCore s (markUpdate s' name a d).1 := h.keep (markUpdate_frame _ s' name a d)

protected theorem SameCore.cdMark {s s' : St} (h : SameCore s s') (p : String × IdSet) :
    SameCore s (cdMark s' p) := h.keep (cdMark_frame _ s' p)

theorem outputDropped_cases {P : St → Prop} (s : St) (ch : Option String) (idle : P s)
    (start : ∀ s0, SameCore s s0 → P (startTagging s0 ch)) : P (outputDropped s ch) := by
  unfold outputDropped
  split
  · exact start _ (((SameCore.refl s).withTags _).inherit.invalidatedDuringTaggingJob _)
  · exact idle


/-- from `s`, by changes on the tag side (`SameCore`) and job starts -/
inductive Starts (s : St) : St → Prop
  | refl : Starts s s
  | same {a b} : Starts s a → SameCore a b → Starts s b
  | tag {a} (c : Option String) : Starts s a → Starts s (startTagging a c)
  | conv {a} : Starts s a → Starts s (startConverter a)
  | merge {a} : Starts s a → Starts s (startMerge a)

theorem Starts.trans {a b c : St} (h1 : Starts a b) (h2 : Starts b c) : Starts a c := by
  induction h2 with
  | refl => exact h1
  | same _ e ih => exact ih.same e
  | tag c _ ih => exact ih.tag c
  | conv _ ih => exact ih.conv
  | merge _ ih => exact ih.merge

theorem Starts.foldl {β} {f : St → β → St} (hf : ∀ x a, Starts x (f x a)) (l : List β) (s : St) :
    Starts s (l.foldl f s) :=
  foldl_inv (Starts s) f (fun x a h => h.trans (hf x a)) l s .refl

theorem Starts.of_same {a b : St} (e : SameCore a b) : Starts a b := Starts.refl.same e

theorem starts_detachConv (s : St) (n c : String) (ch : Option String) : Starts s (detachConv s n c ch) :=
  detachConv_cases (P := Starts s) s n c ch (fun _ => .refl) (fun _ _ _ => .of_same rfl)
    fun _ _ _ => outputDropped_cases (P := Starts s) _ _ (.of_same rfl) fun _ e => by
      refine ((Starts.refl.same ?_).same e).tag _
      exact rfl

def api : Ev → Bool
  | .nop | .addTag .. | .updQuery .. | .updColor .. | .updName .. | .updConv .. | .markAdd .. | .markDel ..
  | .delTag _ => true
  | _ => false

theorem step_api_starts (s : St) (e : Ev) (st : Started) (he : api e = true) : Starts s (step s e st).1 := by
  cases e with
  | importPcaps | importDone | tagDone | mergeDone | convertDone | viewOpen | viewRelease => cases he
  | nop => exact .refl
  | addTag name color defn f =>
    refine step_addTag_cases (P := fun r => Starts s r.1) s name color defn f st .refl fun _ => ?_
    dsimp only
    unfold addTagSt atFinish
    refine Starts.trans ?_ (Starts.foldl (fun x r => .of_same ((SameCore.refl x).addRefBy r name)) _ _)
    split
    · exact .of_same rfl
    · refine Starts.tag _ (.of_same ?_)
      exact rfl
  | updQuery name defn f =>
    refine step_updQuery_cases (P := fun r => Starts s r.1) s name defn f st .refl fun t _ => ?_
    dsimp only
    refine ((Starts.of_same ?_).tag _).conv
    exact ((((SameCore.refl s).foldl fun _ r hx => hx.delRefBy r name).foldl
      fun _ r hx => hx.addRefBy r name).setTag _ _).inherit.invalidatedDuringTaggingJob _
  | updColor name color =>
    exact step_updColor_cases (P := fun r => Starts s r.1) s name color st .refl .refl fun t _ =>
      .of_same (show SameCore s (setTag s name { t with color := color }) from rfl)
  | updName name new =>
    exact step_updName_cases (P := fun r => Starts s r.1) s name new st .refl (fun _ _ _ => .refl) fun t _ =>
      .of_same (((SameCore.refl s).withTags _).foldl fun _ r hx => (hx.delRefBy r name).addRefBy r new)
  | updConv name convs =>
    refine step_updConv_cases (P := fun r => Starts s r.1) s name convs st .refl fun t _ _ => ?_
    dsimp only
    unfold updConvSt ucAttach ucDetach
    refine Starts.conv (Starts.same (Starts.foldl (fun x c => starts_detachConv x name c st.tag)
      (t.convs.filter fun c => !convs.contains c) s) ?_)
    exact (SameCore.refl _).foldl fun _ c hx => hx.attachConv name c
  | markAdd name ids =>
    exact step_markAdd_cases (P := fun r => Starts s r.1) s name ids st .refl (fun _ _ _ => .refl) fun t _ =>
      ((Starts.of_same ((SameCore.refl s).markUpdate name ids [])).tag _).conv
  | markDel name ids =>
    exact step_markDel_cases (P := fun r => Starts s r.1) s name ids st .refl (fun _ _ _ => .refl) fun t _ =>
      ((Starts.of_same ((SameCore.refl s).markUpdate name [] ids)).tag _).conv
  | delTag name =>
    refine step_delTag_cases (P := fun r => Starts s r.1) s name st .refl fun t _ _ => ?_
    dsimp only
    refine (Starts.foldl (fun x c => starts_detachConv x name c st.tag) t.convs s).same ?_
    exact ((SameCore.refl _).withTags _).foldl fun _ r hx => hx.delRefBy r name

theorem Starts.jobTail {s a : St} (h : Starts s a) (st : Started) : Starts s (jobTail a st) := ((h.tag _).conv).merge

theorem step_tagDone_starts {P : St → Prop} (s : St) (name : String) (result : List Nat) (st : Started)
    (idle : P s) (other : P { s with badChoice := true })
    (done : ∀ snap held mid, s.jTag = some (name, snap, held) → Starts { s with jTag := none, tag := false } mid →
      P (release mid held)) : P (step s (.tagDone name result) st).1 :=
  step_tagDone_cases (P := fun r => P r.1) s name result st (fun _ => idle) (fun _ _ _ _ _ => other)
    fun snap held hj => done snap held _ hj (Starts.jobTail (.of_same ((SameCore.refl _).keep
      (tdPublish_frame (fun Y => SameCore.view { Y with tag := false }) { s with jTag := none } name snap
        (ofList result)))) st)

theorem step_convertDone_starts {P : St → Prop} (s : St) (st : Started) (idle : P s)
    (done : ∀ sets held mid, s.jConv = some (sets, held) → Starts { s with convert := false, jConv := none } mid →
      P (release mid held)) : P (step s .convertDone st).1 :=
  step_convertDone_cases (P := fun r => P r.1) s st (fun _ => idle) fun sets held hj =>
    done sets held _ hj (((Starts.of_same (SameCore.inherit ((SameCore.refl _).foldl fun _ p hx => hx.cdMark p))).tag _).conv)

theorem step_mergeDone_starts {P : St → Prop} (s : St) (merged : List (Nat × List Nat)) (st : Started) (idle : P s)
    (done : ∀ off held mid, s.jMerge = some (off, held) →
      Starts { mdApply { s with jMerge := none } off held merged with merge := false } mid → P (release mid held)) :
    P (step s (.mergeDone merged) st).1 :=
  step_mergeDone_cases (P := fun r => P r.1) s merged st (fun _ => idle) fun off held hj =>
    done off held _ hj (Starts.refl.merge)

theorem step_importDone_starts {P : St → Prop} (s : St) (pr un : Nat) (cr : List (Nat × List Nat))
    (u r a : List Nat) (st : Started) (idle : P s)
    (done : ∀ jn held fin, s.jImport = some (jn, held) →
      let X := idApply (release { s with all := jn + un, jImport := none } held) (jn + un) cr (ofList u) (ofList r) (ofList a)
      Starts (idQueue { X with queue := X.queue.drop pr }) fin → P fin) :
    P (step s (.importDone pr un cr u r a) st).1 :=
  step_importDone_cases (P := fun r => P r.1) s pr un cr u r a st (fun _ => idle) fun jn held hj =>
    done jn held _ hj (Starts.refl.jobTail st)

end Pk.Proofs.MgrLocks
