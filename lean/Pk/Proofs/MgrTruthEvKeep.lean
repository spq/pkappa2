/-
  `C06.Inv` and `JobInv` through the events that edit no tag (void events, import and converter completions),
  the tagging completion, and an `updConv` / `delTag` that drops converter output.  Each `good_*` builds a `Covers`:
  the table after the event is a sweep (`*_via`), so the closure `Dep` of what the frame contract lets change is
  pending (`sweep_rel_pending`); the same base is recorded in the masks (`*_masks`).
-/
import Pk.Proofs.MgrTruthGen

namespace Pk.Props.C06Reach
open Pk.Mgr Pk.Props.MgrReach Pk.Proofs.MgrTruth Pk.Proofs.MgrTags

theorem good_sameOn (s : St) (e : Ev) (st : Started) (T T' g : Truth) (hg : Good s T g)
    (hE : ∀ n, ¬ C06.Edits e n) (hnext : (step s e st).1.next = s.next) (hs : SameOn s T T') :
    C06.Inv (step s e st).1 T' ∧
    (∀ jn snap held, s.jTag = some (jn, snap, held) → JobInv (step s e st).1 T' g) :=
  good_edit_simple s e st T T' g hg (fun n _ he => hE n (he ▸ rfl)) hnext (fun n _ => hs n)
    (fun n h => absurd h (hE n)) (fun _ _ _ _ n' _ h => absurd h (hE n'))

theorem ne_nil_of_mem {l : List Nat} {x : Nat} (h : x ∈ l) : l ≠ [] := List.ne_nil_of_mem h

theorem tb_of_reach {s : St} (hr : Reach s) {k : Nat} (hk : s.all ≤ k) {n : String} {t : Tag}
    (ht : sget s.tags n = some t) : Pk.Proofs.MgrReach.TB k t :=
  ⟨fun id hid => Nat.lt_of_lt_of_le (hr.uncBounded n t ht id hid) hk,
   fun id hid => Nat.lt_of_lt_of_le (Nat.lt_of_lt_of_le (hr.matInv.1 (n, t) (sget_mem _ _ _ ht) id hid) hr.nextLeAll) hk⟩

theorem sweep_map_pending {s : St} {T g : Truth} (hg : Good s T g) (s1 : St) (f : Tag → Tag)
    (h1 : s1.tags = s.tags.map (fun q => (q.1, f q.2))) (hf : ∀ t, Attrs (f t) = Attrs t)
    (hb : ∀ n t, sget s.tags n = some t → ∀ x, x ∈ (f t).unc → x < s1.all)
    {B : String → Nat → Prop} {nx : Nat} (hnx : nx ≤ s1.all)
    (hbase : ∀ n id, B n id → id < s1.all → Pend s1.tags n id) :
    ∀ n id, Dep s.tags nx B n id → id < s1.all → Pend (inherit s1).tags n id := by
  refine sweep_rel_pending hg s1 ?_ (h1 ▸ fq_map s.tags f fun t => f2_of_attrs (hf t)) (h1 ▸ bounded_map f hb) hnx hbase
  apply sorted_of_keys_eq s.tags s1.tags _ hg.reach.tagsWF
  rw [h1]; simp [Function.comp_def]

theorem good_importDone (s : St) (p u : Nat) (c : List (Nat × List Nat)) (a b d : List Nat) (st : Started)
    (T T' g : Truth) (hg : Good s T g) (jn : Nat) (held : List Nat) (hj : s.jImport = some (jn, held))
    (hc : c ≠ []) (hpay : PayloadOK s (.importDone p u c a b d)) (hadd : ImportAddsNew s (.importDone p u c a b d))
    (hch : ChangesIn s (jn + u) (ImportBase s a b d) T T') :
    C06.Inv (step s (.importDone p u c a b d) st).1 T' ∧
    (∀ jn' snap held', s.jTag = some (jn', snap, held') → JobInv (step s (.importDone p u c a b d) st).1 T' g) := by
  have hr := hg.reach
  have hjn : jn = s.next := hr.importJob jn held hj
  have hall0 : s.all = s.next := Nat.le_antisymm hr.allLeNext hr.nextLeAll
  obtain ⟨s1, htags, hall, hnext, h1all, h1tags⟩ := importDone_via s p u c a b d st jn held hj hc
  obtain ⟨ia, ib, id'⟩ := hpay.2.2.2.1 jn held hj
  refine Covers.good hg (nx := jn + u) (B := ImportBase s a b d) (A := fun _ => True)
    { next := hnext
      changes := fun n t _ => hch n t
      pending := ?_
      base := fun htag n ot hot _ id _ hB => by
        obtain ⟨mu, mr, ma⟩ := importDone_masks s p u c a b d st jn held hj hc htag
        obtain ⟨t, ht, h⟩ := importBase_covS hB
        rw [hot] at ht; cases ht
        exact covM_iff.2 (h.mono mu mr ma)
      masks := fun htag ⟨n0, id0, hB⟩ _ _ => by
        obtain ⟨mu, mr, ma⟩ := importDone_masks s p u c a b d st jn held hj hc htag
        obtain ⟨t, _, h⟩ := importBase_covS hB
        exact masks_of_covM (covM_iff.2 (h.mono mu mr ma))
      new := fun id h1 h2 =>
        have hin := hadd jn held hj id (hjn ▸ h1) h2
        ⟨fun n t _ ht => ⟨t, ht, Or.inl hin⟩,
          fun htag => (importDone_masks s p u c a b d st jn held hj hc htag).2.2 id hin⟩ }
  · intro n id _ hd hid
    rw [htags]
    refine sweep_map_pending hg s1 _ h1tags (attrs_invF _ _ _ _) ?_ (Nat.le_of_eq h1all.symm) ?_ n id hd (h1all ▸ hid)
    · intro n t hs x hx
      rw [h1all]
      exact (Pk.Proofs.MgrReach.TB_invF (Nat.le_refl _)
        (Pk.Proofs.MgrReach.SB_ofList ia) (Pk.Proofs.MgrReach.SB_ofList ib) (Pk.Proofs.MgrReach.SB_ofList id') t
        (tb_of_reach hr (by omega) hs)).1 x hx
    · intro n id hB hid
      obtain ⟨t, ht, h⟩ := importBase_covS hB
      rw [h1all] at hid
      exact ⟨invF (jn + u) (ofList a) (ofList b) (ofList d) t,
        by rw [h1tags, sget_map (fun _ t => invF (jn + u) (ofList a) (ofList b) (ofList d) t), ht]; rfl,
        covS_invF (h.mono (fun _ h => (mem_ofList _ _).2 h) (fun _ h => (mem_ofList _ _).2 h)
          (fun _ h => (mem_ofList _ _).2 h)) hid⟩

theorem attrs_cdAll (all : Nat) (convs : List String) (sets : List (String × IdSet)) (t : Tag) :
    Attrs (cdAll all convs sets t) = Attrs t := by
  unfold cdAll
  induction sets generalizing t with
  | nil => rfl
  | cons p l ih =>
    simp only [List.foldl_cons]
    rw [ih]
    split
    · exact attrs_cdF _ _ _
    · rfl

theorem fdt_of_data {x : Nat} (h : x &&& fData ≠ 0) : x &&& (fData ||| fTimeAbs ||| fTimeRel) ≠ 0 :=
  Pk.Lib.and_ne_zero_of_sub (by decide) h

theorem good_convertDone (s : St) (st : Started) (T T' g : Truth) (hg : Good s T g)
    (sets : List (String × IdSet)) (held : List Nat) (hj : s.jConv = some (sets, held))
    (hch : ChangesIn s s.next (ConvBase s sets) T T') :
    C06.Inv (step s .convertDone st).1 T' ∧
    (∀ jn' snap held', s.jTag = some (jn', snap, held') → JobInv (step s .convertDone st).1 T' g) := by
  have hr := hg.reach
  obtain ⟨s1, htags, hall, hnext, h1all, h1tags⟩ := convertDone_via s st sets held hj
  have hna : s.next ≤ s.all := hr.nextLeAll
  -- the masks record the base, per dependency class
  have hmask : s.tag = true → ∀ n ot, sget s.tags n = some ot → ∀ id, ConvBase s sets n id →
      CovM (step s .convertDone st).1 ot id := by
    rintro htag n ot hot id ⟨t, ht, p, hp, hpc, hB⟩
    have mu := convertDone_masks s st sets held hj htag
    rw [hot] at ht; cases ht
    rcases hB with ⟨hm, hid'⟩ | ⟨hsf, hne'⟩
    · exact Or.inr (Or.inr (Or.inr ⟨mu p hp hpc id hid', fdt_of_data hm⟩))
    · refine Or.inr (Or.inl ⟨fun h0 => hsf (by rw [h0, Nat.zero_and]), ?_⟩)
      cases hp2 : p.2 with
      | nil => exact absurd hp2 hne'
      | cons x l => exact masksNE_of_mem (Or.inl (mu p hp hpc x (by rw [hp2]; simp)))
  refine Covers.good hg (nx := s.next) (B := ConvBase s sets) (A := fun _ => True)
    { next := hnext
      changes := fun n t _ => hch n t
      pending := ?_
      base := fun htag n ot hot _ id _ hB => hmask htag n ot hot id hB
      masks := fun htag ⟨n0, id0, t, ht, h⟩ _ _ => masks_of_covM (hmask htag n0 t ht id0 ⟨t, ht, h⟩) }
  · intro n id _ hd hid
    rw [htags]
    refine sweep_map_pending hg s1 (cdAll s.all s.convs sets) h1tags (attrs_cdAll _ _ _) ?_ (h1all ▸ hna) ?_ n id hd
      (h1all ▸ Nat.lt_of_lt_of_le hid hna)
    · intro n t hs x hx
      rw [h1all]
      rcases cdAll_bound _ _ _ _ _ hx with h | h | ⟨p, hp, hxp⟩
      · exact hr.uncBounded n t hs x h
      · exact h
      · exact hr.jobUnc.2.2.2.2.2 sets held hj p hp x hxp
    · rintro n id ⟨t, ht, p, hp, hpc, hB⟩ hid
      rw [h1all] at hid
      refine ⟨cdAll s.all s.convs sets t, by rw [h1tags, sget_map (fun _ t => cdAll s.all s.convs sets t), ht]; rfl, ?_⟩
      rcases hB with ⟨hm, hid'⟩ | ⟨hsf, hne⟩
      · exact cdAll_main _ _ _ _ _ hm p hp hpc hid' hid
      · exact cdAll_sub _ _ _ _ _ hsf p hp hpc hne hid

open Pk.Proofs.MgrTermination in
theorem topo_no_self {tags : List (String × Tag)} (hs : Sorted tags) (ht : Topo tags) {n : String} {t : Tag}
    (h : sget tags n = some t) : n ∉ t.refs :=
  ht.ind (P := fun k => ∀ t, sget tags k = some t → k ∉ t.refs)
    (fun k t0 hm ih t1 h1 hself => by
      rw [Pk.Mgr.mem_sget_of_sorted tags hs k t0 hm] at h1
      cases h1
      exact ih k hself t0 (Pk.Mgr.mem_sget_of_sorted tags hs k t0 hm) hself)
    n (sget_mem_keys _ _ _ h) t h

theorem mem_pub (snap : Tag) (g : Nat → Bool) (result : List Nat)
    (hres : ∀ id, id ∈ result ↔ (id ∈ snap.unc ∧ g id = true)) (id : Nat) :
    id ∈ union (diff snap.mat snap.unc) (ofList result) ↔ Ans snap g id = true := by
  simp only [mem_union, mem_diff, mem_ofList, hres, Ans]
  by_cases hu : id ∈ snap.unc <;> simp [hu]

theorem invF_unc_mat (all : Nat) (upd rst add : IdSet) (t : Tag) (m : IdSet) :
    (invF all upd rst add { t with mat := m }).unc = (invF all upd rst add t).unc := by
  unfold invF
  simp only [apply_ite Tag.unc]

theorem publish_pending (s : St) (name : String) (result : List Nat) (st : Started) (T g : Truth)
    (hg : Good s T g) (snap ot : Tag) (held : List Nat)
    (hj : s.jTag = some (name, snap, held)) (hot : sget s.tags name = some ot) (hd : ot.defn = snap.defn)
    (hgn : ot.gen = snap.gen) (id : Nat) (hid : id < s.next) (hc : Cov s snap id) :
    ∀ t', sget (step s (.tagDone name result) st).1.tags name = some t' → id ∈ t'.unc := by
  have hr := hg.reach
  have hw := hr.tagsWF
  have hlt : id < s.all := Nat.lt_of_lt_of_le hid hr.nextLeAll
  have hm : ¬ (s.upd = [] ∧ s.rst = [] ∧ s.add = []) := by
    intro h
    rcases masks_of_cov hc with h1 | h1 | h1
    · exact h1 h.1
    · exact h1 h.2.1
    · exact h1 h.2.2
  obtain ⟨s1, htags, _, _, h1all, h1tags⟩ := tagDone_via s name result st snap ot held hj hot hd hgn hm
  have hrefs := hr.factsOK.1 name snap held ot hj hot hd
  let X := tdTag snap ot (ofList result)
  have hju := hr.jobUnc
  have hTB : ∀ t : Tag, (∀ y, y ∈ t.unc → y < s.all) →
      ∀ y, y ∈ (invF s.all s.upd s.rst s.add t).unc → y < s.all := by
    intro t hb y hy
    exact (Pk.Proofs.MgrReach.TB_invF (k := s.all) (Nat.le_refl _) hju.2.1 hju.2.2.1 hju.2.2.2.1
      { t with mat := [] } ⟨hb, fun _ h => by cases h⟩).1 y (by rw [invF_unc_mat]; exact hy)
  have hfq : Pk.Proofs.MgrTermination.FQ s.tags s1.tags := by
    rw [h1tags]
    exact (fq_sins hot (by show (snap.mainT, snap.subT) = (ot.mainT, ot.subT); rw [hrefs.1, hrefs.2])).trans
      (fq_map _ _ fun t => f2_of_attrs (attrs_invF _ _ _ _ t))
  have hbnd : Bounded s1.all s1.tags := by
    rw [h1tags, h1all]
    exact bounded_map _ fun n t h => hTB t (bounded_sins hr.uncBounded name (fun _ h => by cases h) n t h)
  have hsort : Sorted s1.tags := by
    apply sorted_of_keys_eq (sins name X s.tags) s1.tags _ (sorted_sins _ _ _ hw)
    rw [h1tags]; simp [Function.comp_def]; rfl
  have hget : ∀ n, sget s1.tags n =
      (if name = n then some X else sget s.tags n).map (invF s.all s.upd s.rst s.add) := by
    intro n
    rw [h1tags, sget_map (fun _ t => invF s.all s.upd s.rst s.add t), sget_sins]
  have hself := topo_no_self hw (topo_of_acyclic s hg.acyclic) hot
  -- the base: what the masks cover at the job's tag; what is pending at the others
  let B : String → Nat → Prop := fun n i => (n = name ∧ CovM s snap i) ∨ (n ≠ name ∧ Pend s.tags n i)
  have hdep : Dep s.tags s.all B name id := by
    rcases hc with hc | ⟨_, ⟨r, hrm, hp⟩ | ⟨r, hrs, id', hp⟩⟩
    · exact .base (.inl ⟨rfl, hc⟩)
    · refine .main hot (hrefs.1 ▸ hrm) (.base (.inr ⟨?_, hp⟩))
      rintro rfl; apply hself; simp only [mem_refs, hrefs.1]; exact Or.inl hrm
    · obtain ⟨tr, htr, hu⟩ := hp
      refine .sub hot (hrefs.2 ▸ hrs) (hr.uncBounded r tr htr id' hu) (.base (.inr ⟨?_, tr, htr, hu⟩))
      rintro rfl; apply hself; simp only [mem_refs, hrefs.2]; exact Or.inr hrs
  have hbase : ∀ n i, B n i → i < s1.all → Pend s1.tags n i := by
    rintro n i (⟨rfl, hcm⟩ | ⟨hn, tr, htr, hu⟩) hi <;> rw [h1all] at hi
    · exact ⟨_, by rw [hget]; simp, covS_invF (t := X) (covM_iff.1 hcm) hi⟩
    · exact ⟨invF s.all s.upd s.rst s.add tr, by rw [hget]; simp [Ne.symm hn, htr],
        (trel_invF s.all s.upd s.rst s.add tr).2.2 i hu hi⟩
  intro t' h'
  obtain ⟨t2, h2, hu⟩ := sweep_rel_pending hg s1 hsort hfq hbnd (Nat.le_of_eq h1all.symm) hbase name id hdep (h1all ▸ hlt)
  rw [htags] at h'; rw [h'] at h2; cases h2; exact hu

theorem inv_tagDone (s : St) (name : String) (result : List Nat) (st : Started) (T T' g : Truth)
    (hg : Good s T g) (snap : Tag) (held : List Nat) (hj : s.jTag = some (name, snap, held))
    (hs : SameOn s T T') (hres : ∀ id, id ∈ result ↔ (id ∈ snap.unc ∧ g name id = true)) :
    C06.Inv (step s (.tagDone name result) st).1 T' := by
  have hr := hg.reach
  obtain ⟨hall, hnext⟩ := Pk.Proofs.MgrReach.step_all_next_other s (.tagDone name result) st (fun p u c a b d h => by cases h)
  refine inv_of_frame' s _ st T T' hr hg.inv ?_ ?_
  · intro n hE t' h' id hid hT
    rw [hnext] at hid
    have hk := (step_frame s _ st).2.1 n hE
    cases hsn : sget s.tags n with
    | none => rw [hk.2 hsn] at h'; cases h'
    | some t0 => exact hT.elim (fun h => absurd hid (Nat.not_lt.2 h)) (absurd (hs n t0 hsn id hid))
  · intro n hE t' h' id hid hnu
    rw [hnext] at hid
    have hn : name = n := hE
    subst hn
    by_cases hlive : ∃ ot, sget s.tags name = some ot ∧ ot.defn = snap.defn ∧ ot.gen = snap.gen
    · obtain ⟨ot, hot, hd, hgn⟩ := hlive
      rw [hs name ot hot id hid]
      rw [step_tagDone_mat s st name snap ot held result hj hot hd hgn t' h', mem_pub snap (g name) result hres id]
      -- where the published answer is wrong, `JobInv` gives `Cov`, and then the stream is pending, not decided
      have hT : T name id = Ans snap (g name) id := by
        apply Classical.byContradiction
        intro hne
        have hcov : Cov s snap id := by
          rcases hg.job name snap held name ot hj hot hgn hd with h1 | ⟨_, h1⟩
          · exact Or.inl (h1 id hid)
          · exact h1 id hid hne
        exact hnu (publish_pending s name result st T g hg snap ot held hj hot hd hgn id hid hcov t' h')
      rw [hT]
    · have hdead : ∀ ot, sget s.tags name = some ot → ¬ (ot.defn = snap.defn ∧ ot.gen = snap.gen) :=
        fun ot h1 h2 => hlive ⟨ot, h1, h2.1, h2.2⟩
      obtain ⟨htags, _, _⟩ := tagDone_dead s name result st snap held hj hdead
      rw [htags] at h'
      rw [hs name t' h' id hid]
      exact hg.inv name t' h' id hid hnu

theorem payload_split {a b : Nat} (h : (a ||| b) &&& fData ≠ 0) : a &&& fData ≠ 0 ∨ b &&& fData ≠ 0 := by
  by_cases ha : a &&& fData = 0
  · right
    intro hb
    apply h
    rw [Nat.and_or_distrib_right, ha, hb]
    rfl
  · exact Or.inl ha

theorem fData_254 {x : Nat} (h : x &&& fData ≠ 0) : x &&& (255 - fID) ≠ 0 :=
  Pk.Lib.and_ne_zero_of_sub (by decide) h

/-- the closure of the payload tags, taken in the table of `s`, is pending in `T` -/
def DepPend (s : St) (T : List (String × Tag)) : Prop :=
  ∀ n id, Dep s.tags s.next (PayloadBase s) n id → id < s.all → Pend T n id

theorem DepPend.g {s : St} {T T' : List (String × Tag)} (h : DepPend s T) (hg : G s.all T T') : DepPend s T' :=
  fun n id d hid =>
    let ⟨t, ht, hu⟩ := h n id d hid
    let ⟨t', ht', r⟩ := hg n t ht
    ⟨t', ht', r.2 id hu hid⟩

theorem outputDropped_depPend {s : St} {T g : Truth} (hg : Good s T g) (Z : St) (c : Option String)
    (hall : Z.all = s.all) (hs : Sorted Z.tags) (hb : Bounded s.all Z.tags) (hak : ∀ n, AKeep n s.tags Z.tags)
    (hp : Z.tags.any (fun nt => (nt.2.mfeat ||| nt.2.sfeat) &&& fData != 0) = true) :
    DepPend s (outputDropped Z c).tags := by
  rw [outputDropped_tags Z c hp]
  intro n id d hid
  have hodb : ∀ n t, sget Z.tags n = some t → ∀ x, x ∈ (odF Z.all t).unc → x < Z.all := by
    intro n t ht x hx
    unfold odF at hx
    split at hx
    · simpa using hx
    · rw [hall]; exact hb n t ht x hx
  refine sweep_rel_pending hg { Z with tags := Z.tags.map fun p => (p.1, odF Z.all p.2) } ?_
    ((fq_of_akeep hak).trans (fq_map Z.tags (odF Z.all) fun t => f2_of_attrs (attrs_odF _ t))) (bounded_map _ hodb)
    (show s.next ≤ Z.all from hall ▸ hg.reach.nextLeAll) ?_ n id d (show id < Z.all from hall ▸ hid)
  · apply sorted_of_keys_eq _ _ _ hs
    simp [Function.comp_def]
  · rintro m x ⟨t, ht, hpl⟩ hx
    obtain ⟨tz, hz, ha⟩ := akeep_get (hak m) ht
    refine ⟨odF Z.all tz, by rw [sget_map (fun _ t => odF Z.all t), hz]; rfl, ?_⟩
    have : Payload tz := payload_of_attrs ha hpl
    unfold odF
    rw [if_pos (by simpa [Payload] using this)]
    simpa using hx

theorem detachConv_bounded (X : St) (name c : String) (choice : Option String) (hb : Bounded X.all X.tags) :
    Bounded X.all (detachConv X name c choice).tags := by
  have hset : ∀ t, sget X.tags name = some t → Bounded X.all (sins name (dcTag t c) X.tags) :=
    fun t ht => bounded_sins hb name (hb name t ht)
  cases hx : sget X.tags name with
  | none => unfold detachConv; rw [hx]; exact hb
  | some tX =>
    rw [detachConv_dc X name c choice tX hx]
    split
    · exact outputDropped_bounded { dcBase X name c tX with cached := sins c [] X.cached } choice (hset tX hx)
    · exact hset tX hx

theorem detachConv_g (X : St) (name c : String) (choice : Option String) :
    G X.all X.tags (detachConv X name c choice).tags :=
  fun n t ht =>
    let ⟨t', h', r⟩ := ((detachConv_frE (g := False) X name c choice).keep n trivial).1 t ht
    ⟨t', h', r.grel⟩

theorem detachFold_depPend {s : St} {T g : Truth} (hg : Good s T g) (name : String) (choice : Option String)
    (hname : ∃ t, sget s.tags name = some t) (hp : ∃ n t, sget s.tags n = some t ∧ Payload t)
    (L : List String) (X : St) (hall : X.all = s.all) (hs : Sorted X.tags) (hb : Bounded s.all X.tags)
    (hak : ∀ n, AKeep n s.tags X.tags) (hsrc : Src name s.tags X.tags) :
    (DepPend s X.tags → DepPend s (L.foldl (fun s c => detachConv s name c choice) X).tags) ∧
    ((∃ c, c ∈ L ∧ othersOf s.tags name c = []) →
      DepPend s (L.foldl (fun s c => detachConv s name c choice) X).tags) := by
  induction L generalizing X with
  | nil => exact ⟨id, fun ⟨c, hc, _⟩ => by cases hc⟩
  | cons c L ih =>
    simp only [List.foldl_cons]
    obtain ⟨t0, ht0⟩ := hname
    obtain ⟨tX, hx, _⟩ := akeep_get (hak name) ht0
    have hfr := detachConv_frE (g := False) X name c choice
    obtain ⟨f1, f2⟩ := ih (detachConv X name c choice) (hfr.all.trans hall) (hfr.sorted hs)
      (by have := detachConv_bounded X name c choice (hall ▸ hb); rw [hall] at this; exact this)
      (fun n => (hak n).trans (detachConv_akeep X name c choice n)) (detachConv_src X c choice tX hx hsrc)
    refine ⟨fun h => f1 (h.g (hall ▸ detachConv_g X name c choice)), ?_⟩
    rintro ⟨c', hc', h0⟩
    rcases List.mem_cons.mp hc' with rfl | hc'
    · refine f1 ?_
      rw [detachConv_dc X name c' choice tX hx, dcOthers_nil X c' tX hsrc h0]
      exact outputDropped_depPend hg _ choice hall (sorted_sins _ _ _ hs) (bounded_sins hb name (hb name tX hx))
        (fun n => (hak n).trans (akeep_sins_attrs hx (t' := dcTag tX c') rfl n))
        (dcBase_any X name c' tX hx (payload_akeep hak hp))
    · exact f2 ⟨c', hc', h0⟩

/-- what `good_dropped` asks of the table (`Covers.pending`) -/
theorem dropped_pending (s : St) (e : Ev) (st : Started) (T g : Truth) (hg : Good s T g)
    (he : (∃ name convs, e = .updConv name convs) ∨ (∃ name, e = .delTag name))
    (hok : (step s e st).2 = Res.ok) (hd : DropsOutput s e)
    (hp : ∃ n t, sget s.tags n = some t ∧ Payload t) :
    ∀ n id, ¬ C06.Edits e n → Dep s.tags s.next (PayloadBase s) n id → id < s.all → Pend (step s e st).1.tags n id := by
  have hr := hg.reach
  obtain ⟨c, hc, h0⟩ := hd
  let P : St × Res → Prop := fun r => r.2 = Res.ok →
    ∀ n id, ¬ C06.Edits e n → Dep s.tags s.next (PayloadBase s) n id → id < s.all → Pend r.1.tags n id
  rcases he with ⟨name, convs, rfl⟩ | ⟨name, rfl⟩ <;> simp only [detached, evName] at hc h0
  · refine step_updConv_cases (P := P) s name convs st (fun h => nomatch h) (fun t ht _ _ n id _ d hid => ?_) hok
    rw [ht] at hc
    obtain ⟨_, f2⟩ := detachFold_depPend hg name st.tag ⟨t, ht⟩ hp
      (t.convs.filter (fun c => !convs.contains c)) s rfl hr.tagsWF hr.uncBounded (fun n => AKeep.refl _ _) (Src.refl _ _)
    refine (f2 ⟨c, hc, h0⟩).g (TEq.g ?_) n id d hid
    show TEq (ucDetach s name t convs st.tag).tags
      (startConverter (ucAttach (ucDetach s name t convs st.tag) name convs)).tags
    unfold ucAttach
    exact ((foldl_quiet _ (fun s c => attachConv_quiet s name c) _ _).trans (startConverter_quiet _)).tags
  · refine step_delTag_cases (P := P) s name st (fun h => nomatch h) (fun t ht _ _ n id hE d hid => ?_) hok
    rw [ht] at hc
    obtain ⟨_, f2⟩ := detachFold_depPend hg name st.tag ⟨t, ht⟩ hp
      t.convs s rfl hr.tagsWF hr.uncBounded (fun n => AKeep.refl _ _) (Src.refl _ _)
    obtain ⟨t1, h1, hu⟩ := f2 ⟨c, hc, h0⟩ n id d hid
    have hq := (foldl_quiet _ (fun s r => delRefBy_quiet s r name) t.refs
        { (t.convs.foldl (fun s c => detachConv s name c st.tag) s) with
          tags := sdel (t.convs.foldl (fun s c => detachConv s name c st.tag) s).tags name }).tags
    obtain ⟨t2, h2, cr⟩ := (hq n).1 t1 (by
      have hne : name ≠ n := fun h => hE h
      simp [sget_sdel, hne, h1])
    exact ⟨t2, h2, cr.2.1 ▸ hu⟩

theorem good_dropped (s : St) (e : Ev) (st : Started) (T T' g : Truth) (hg : Good s T g)
    (he : (∃ name convs, e = .updConv name convs) ∨ (∃ name, e = .delTag name))
    (hok : (step s e st).2 = Res.ok) (hd : DropsOutput s e)
    (hch : ∀ n t, ¬ C06.Edits e n → sget s.tags n = some t → ∀ id, id < s.next → T' n id ≠ T n id →
        Dep s.tags s.next (PayloadBase s) n id) :
    C06.Inv (step s e st).1 T' ∧
    (∀ jn' snap held', s.jTag = some (jn', snap, held') → JobInv (step s e st).1 T' g) := by
  have hr := hg.reach
  have hna : s.next ≤ s.all := hr.nextLeAll
  have hni : ∀ p u c a b d, e ≠ .importDone p u c a b d := by
    rcases he with ⟨a, b, rfl⟩ | ⟨a, rfl⟩ <;> (intro p u c a' b' d h; cases h)
  obtain ⟨hall, hnext⟩ := Pk.Proofs.MgrReach.step_all_next_other s e st hni
  have hgone : ∀ n, C06.Edits e n → sget (step s e st).1.tags n = none := by
    intro n hE
    rcases he with ⟨a, b, rfl⟩ | ⟨a, rfl⟩
    · exact absurd hE (fun h => h)
    · have hn : a = n := hE
      subst hn
      exact (delTag_ok s a st hok).choose_spec.2.2
  have hnoref : ∀ m tm, sget s.tags m = some tm → ∀ r, r ∈ tm.refs → ¬ C06.Edits e r := by
    intro m tm hm r hr' hE
    rcases he with ⟨a, b, rfl⟩ | ⟨a, rfl⟩
    · exact hE
    · have hn : a = r := hE
      subst hn
      obtain ⟨t, ht, hrb, _⟩ := delTag_ok s a st hok
      have := hr.refByWF (m, tm) (sget_mem _ _ _ hm) a hr' t ht
      rw [hrb] at this; cases this
  -- a non-empty base is a payload tag: without one nothing is asked
  have mr : (∃ n0 id0, PayloadBase s n0 id0) → s.tag = true → ∀ id, id < s.next → id ∈ (step s e st).1.rst :=
    fun ⟨n0, _, t0, h0, hp0⟩ htag id hid =>
      dropped_masks s e st he hok hd ⟨n0, t0, h0, hp0⟩ htag id (Nat.lt_of_lt_of_le hid hna)
  refine Covers.good hg (nx := s.next) (B := PayloadBase s) (A := fun n => ¬ C06.Edits e n)
    { next := hnext
      changes := hch
      pending := fun n id hn hdep hid =>
        let ⟨n0, _, t0, h0, hp0⟩ := hdep.nonempty
        dropped_pending s e st T g hg he hok hd ⟨n0, t0, h0, hp0⟩ n id hn hdep (Nat.lt_of_lt_of_le hid hna)
      base := ?_
      masks := fun htag hB id hid => masksNE_of_mem (Or.inr (Or.inl (mr hB htag id hid)))
      notDone := by rcases he with ⟨a, b, rfl⟩ | ⟨a, rfl⟩ <;> (intro n r h; cases h)
      alive := fun _ h => h
      edited := fun n hE t' h' => by rw [hgone n hE] at h'; cases h'
      dead := fun _ n ot hot _ r hAr id _ =>
        ⟨fun hm => absurd (hnoref n ot hot r (by simp [hm])) hAr, fun hs => absurd (hnoref n ot hot r (by simp [hs])) hAr⟩
      self := fun _ _ _ _ n' ot' hE hot' => by rw [hgone n' hE] at hot'; cases hot' }
  rintro htag n ot hot _ id hid ⟨t, ht, hpl⟩
  have hin := mr ⟨n, id, t, ht, hpl⟩ htag id hid
  rw [hot] at ht; cases ht
  rcases payload_split hpl with hm | hs
  · exact Or.inr (Or.inr (Or.inl ⟨hin, fData_254 hm⟩))
  · exact Or.inr (Or.inl ⟨fun h0 => hs (by rw [h0, Nat.zero_and]), masksNE_of_mem (Or.inr (Or.inl hin))⟩)


end Pk.Props.C06Reach
