/-
  Facts about `List` (a few about `Nat`, `Int`, `String`) that the proof modules of several models use and core does
  not state; no model is imported here.  The recurring ones: an invariant or a reflexive-transitive relation carried
  along `List.foldl`, two folds over the same list in lock step, the case split on an `if` for a stated motive, lookup
  by `find?` in a list of pairs against `cons` and against removal of a key by `filter` (the shape of every key table
  of the models), the weighted length `wsum` of a list with its algebra, and two lists related position by position
  (`Pk.Index.All₂`, in the namespace of the merge proofs, which use it unqualified).
-/
namespace Pk.Lib

theorem foldl_inv_mem {σ β} (Q : σ → Prop) (f : σ → β → σ) (l : List β) (h : ∀ a, ∀ b ∈ l, Q a → Q (f a b))
    (a : σ) (ha : Q a) : Q (l.foldl f a) := by
  induction l generalizing a with
  | nil => exact ha
  | cons b l ih => exact ih (fun a c hc => h a c (List.mem_cons_of_mem _ hc)) _ (h _ _ List.mem_cons_self ha)

theorem foldl_inv {σ β} (Q : σ → Prop) (f : σ → β → σ) (h : ∀ a b, Q a → Q (f a b)) (l : List β) (a : σ)
    (ha : Q a) : Q (l.foldl f a) :=
  foldl_inv_mem Q f l (fun a b _ => h a b) a ha

theorem foldl_rel {σ β} (R : σ → σ → Prop) (hrefl : ∀ s, R s s) (htrans : ∀ a b c, R a b → R b c → R a c)
    (f : σ → β → σ) (l : List β) (hf : ∀ s x, x ∈ l → R s (f s x)) (s : σ) : R s (l.foldl f s) :=
  foldl_inv_mem (R s) f l (fun a b hb ha => htrans _ _ _ ha (hf a b hb)) s (hrefl s)

theorem foldl_sim {σ τ β} (I : σ → τ → Prop) (f : σ → β → σ) (g : τ → β → τ) (l : List β)
    (h : ∀ s t, ∀ b ∈ l, I s t → I (f s b) (g t b)) (s : σ) (t : τ) (hi : I s t) : I (l.foldl f s) (l.foldl g t) := by
  induction l generalizing s t with
  | nil => exact hi
  | cons b l ih =>
    exact ih (fun s t c hc => h s t c (List.mem_cons_of_mem _ hc)) _ _ (h s t b List.mem_cons_self hi)

theorem foldl_keep {σ β} {γ : Sort _} (g : σ → γ) (f : σ → β → σ) (h : ∀ s b, g (f s b) = g s) (l : List β) (s : σ) :
    g (l.foldl f s) = g s :=
  foldl_inv (fun s' => g s' = g s) f (fun a b ha => (h a b).trans ha) l s rfl

/-- case split on an `if` for a stated motive: `split` traverses (and abstracts) the whole goal, which is what is
    slow to check when the branches are large terms; this only looks at the head -/
theorem ite_cases {α : Sort _} (P : α → Prop) (c : Prop) [Decidable c] {a b : α} (ha : c → P a)
    (hb : ¬c → P b) : P (if c then a else b) := by
  split
  · exact ha ‹_›
  · exact hb ‹_›

section Key
variable {κ : Type} {α : Type _} [BEq κ] [LawfulBEq κ] [DecidableEq κ]

theorem assoc_find_cons (a : κ × α) (l : List (κ × α)) (k : κ) :
    ((a :: l).find? (·.1 == k)).map (·.2) = if a.1 = k then some a.2 else (l.find? (·.1 == k)).map (·.2) := by
  by_cases h : a.1 = k <;> simp [h]

theorem assoc_find_filter (l : List (κ × α)) (k k' : κ) :
    ((l.filter (·.1 != k)).find? (·.1 == k')).map (·.2) =
      if k = k' then none else (l.find? (·.1 == k')).map (·.2) := by
  induction l with
  | nil => simp
  | cons a r ih =>
    by_cases h : a.1 = k
    · rw [List.filter_cons_of_neg (by simp [h]), ih, assoc_find_cons]
      by_cases h2 : k = k'
      · simp [h2]
      · simp [h2, h ▸ h2]
    · rw [List.filter_cons_of_pos (by simp [h]), assoc_find_cons, assoc_find_cons, ih]
      by_cases h2 : a.1 = k'
      · simp [h2, show k ≠ k' from fun e => h (h2.trans e.symm)]
      · simp [h2]

end Key

/-- the weighted length of a list; `List.length` is the weight `1` -/
def wsum {α : Type} (w : α → Nat) (l : List α) : Nat := (l.map w).sum

section Wsum
variable {α β γ : Type}

@[simp] theorem wsum_cons (w : α → Nat) (a : α) (l : List α) : wsum w (a :: l) = w a + wsum w l := rfl

theorem wsum_append (w : α → Nat) (l m : List α) : wsum w (l ++ m) = wsum w l + wsum w m := by
  unfold wsum; rw [List.map_append, List.sum_append]

theorem wsum_map (f : α → β) (w : β → Nat) (l : List α) : wsum w (l.map f) = wsum (fun a => w (f a)) l := by
  unfold wsum; rw [List.map_map]; rfl

theorem wsum_mono {u v : α → Nat} {l : List α} (h : ∀ a ∈ l, u a ≤ v a) : wsum u l ≤ wsum v l := by
  induction l with
  | nil => exact Nat.le_refl _
  | cons a l ih =>
    exact Nat.add_le_add (h a List.mem_cons_self) (ih fun b hb => h b (List.mem_cons_of_mem _ hb))

theorem wsum_lt {u v : α → Nat} {l : List α} (h : ∀ a ∈ l, u a ≤ v a) {a0 : α} (h0 : a0 ∈ l) (hlt : u a0 < v a0) :
    wsum u l < wsum v l := by
  induction l with
  | nil => cases h0
  | cons a l ih =>
    simp only [wsum_cons]
    have h1 := h a List.mem_cons_self
    have h2 : wsum u l ≤ wsum v l := wsum_mono fun c hc => h c (List.mem_cons_of_mem _ hc)
    rcases List.mem_cons.mp h0 with rfl | hc
    · omega
    · have := ih (fun c hc => h c (List.mem_cons_of_mem _ hc)) hc
      omega

theorem wsum_mem (w : α → Nat) {a : α} {l : List α} (h : a ∈ l) : w a ≤ wsum w l := by
  induction l with
  | nil => cases h
  | cons b l ih =>
    rcases List.mem_cons.mp h with rfl | h
    · exact Nat.le_add_right _ _
    · exact Nat.le_trans (ih h) (Nat.le_add_left _ _)

theorem wsum_add (u v : α → Nat) (l : List α) : wsum (fun a => u a + v a) l = wsum u l + wsum v l := by
  induction l with
  | nil => rfl
  | cons a l ih => simp only [wsum_cons, ih]; omega

theorem wsum_const (k : Nat) (l : List α) : wsum (fun _ => k) l = l.length * k := by
  induction l with
  | nil => exact (Nat.zero_mul k).symm
  | cons a l ih => simp only [wsum_cons, ih, List.length_cons, Nat.succ_mul]; omega

theorem length_eq_wsum (l : List α) : l.length = wsum (fun _ => 1) l := by rw [wsum_const, Nat.mul_one]

theorem countP_eq_wsum (p : α → Bool) (l : List α) : l.countP p = wsum (fun x => if p x then 1 else 0) l := by
  induction l with
  | nil => rfl
  | cons a l ih => simp only [List.countP_cons, wsum_cons, ih, Nat.add_comm]

theorem countP_lt_of (p q : α → Bool) (l : List α) (h : ∀ x ∈ l, p x = true → q x = true)
    (x0 : α) (hx : x0 ∈ l) (h1 : q x0 = true) (h2 : p x0 = false) : l.countP p < l.countP q := by
  rw [countP_eq_wsum, countP_eq_wsum]
  refine wsum_lt (fun x hx => ?_) hx (by simp [h1, h2])
  cases hp : p x
  · simp
  · simp [h x hx hp]

theorem wsum_split (g : α → Option β) (w : α → Nat) (v : β → Nat) (h : ∀ x y, g x = some y → w x = v y)
    (l : List α) : wsum w l = wsum w (l.filter fun x => (g x).isNone) + wsum v (l.filterMap g) := by
  induction l with
  | nil => rfl
  | cons x l ih =>
    cases hx : g x with
    | none => rw [List.filter_cons_of_pos (by simp [hx]), List.filterMap_cons_none hx, wsum_cons, wsum_cons, ih,
        Nat.add_assoc]
    | some y => rw [List.filter_cons_of_neg (by simp [hx]), List.filterMap_cons_some hx, wsum_cons, wsum_cons, ih,
        h x y hx]; omega

theorem wsum_filterMap (g : α → Option β) (v : β → Nat) (l : List α) :
    wsum v (l.filterMap g) = wsum (fun a => (g a).elim 0 v) l := by
  induction l with
  | nil => rfl
  | cons x l ih =>
    cases hx : g x with
    | none => rw [List.filterMap_cons_none hx, wsum_cons, ih, hx]; exact (Nat.zero_add _).symm
    | some y => rw [List.filterMap_cons_some hx, wsum_cons, wsum_cons, ih, hx]; rfl

/-- a table with one row per `a ∈ l` (a head `pre a`, then one cell `f a b` per `b ∈ m`), each cell within the
    weights of its row and its column -/
theorem wsum_rows_le (w : γ → Nat) (u : α → Nat) (v : β → Nat) (pre : α → List γ) (f : α → β → γ)
    (hpre : ∀ a, wsum w (pre a) ≤ u a) (hf : ∀ a b, w (f a b) ≤ u a + v b) (l : List α) (m : List β) :
    wsum w (l.flatMap fun a => pre a ++ m.map (f a))
      ≤ wsum u l + m.length * wsum u l + l.length * wsum v m := by
  have row : ∀ a, wsum w (m.map (f a)) ≤ m.length * u a + wsum v m := fun a => by
    rw [wsum_map, ← wsum_const (u a) m, ← wsum_add]; exact wsum_mono fun b _ => hf a b
  induction l with
  | nil => exact Nat.zero_le _
  | cons a l ih =>
    have h1 := row a
    have h2 := hpre a
    rw [List.flatMap_cons, wsum_append, wsum_append]
    simp only [wsum_cons, List.length_cons, Nat.succ_mul, Nat.mul_add]
    omega

end Wsum

theorem le_foldl_max (l : List Nat) (a x : Nat) (h : x ∈ l ∨ x ≤ a) : x ≤ l.foldl max a := by
  induction l generalizing a with
  | nil => simpa using h
  | cons b r ih =>
    simp only [List.foldl_cons]
    apply ih
    rcases h with h | h
    · rcases List.mem_cons.1 h with e | e
      · subst e; exact Or.inr (Nat.le_max_right _ _)
      · exact Or.inl e
    · exact Or.inr (Nat.le_trans h (Nat.le_max_left _ _))

theorem str_trichotomy {a b : String} (h1 : ¬ a < b) (h2 : ¬ b < a) : a = b :=
  String.le_antisymm (String.not_lt.mp h2) (String.not_lt.mp h1)

theorem nodup_map_inj {α β : Type} (f : α → β) : ∀ (l : List α), (l.map f).Nodup → ∀ x ∈ l, ∀ y ∈ l, f x = f y → x = y := by
  intro l
  induction l with
  | nil => intro _ x hx; cases hx
  | cons a l ih =>
    intro hnd x hx y hy hxy
    rw [List.map_cons, List.nodup_cons] at hnd
    rcases List.mem_cons.mp hx with hxa | hx' <;> rcases List.mem_cons.mp hy with hya | hy'
    · rw [hxa, hya]
    · exact absurd (List.mem_map.mpr ⟨y, hy', by rw [← hxy, hxa]⟩) hnd.1
    · exact absurd (List.mem_map.mpr ⟨x, hx', by rw [hxy, hya]⟩) hnd.1
    · exact ih hnd.2 x hx' y hy' hxy

theorem list_set_mid {α} (l1 l2 : List α) (s s' : α) : (l1 ++ s :: l2).set l1.length s' = (l1 ++ s' :: l2) := by
  simp

theorem list_get_mid {α} (l1 l2 : List α) (s : α) : (l1 ++ s :: l2)[l1.length]? = some s := by
  simp

theorem list_modify_last {α} (done : List α) (s : α) (f : α → α) :
    (done ++ [s]).modify done.length f = done ++ [f s] := by
  induction done with
  | nil => rfl
  | cons a l ih => simp [ih]

theorem filterMap_eq_map {α β} (f : α → Option β) (g : α → β) : ∀ (l : List α), (∀ a ∈ l, f a = some (g a)) →
    l.filterMap f = l.map g := by
  intro l
  induction l with
  | nil => intro _; rfl
  | cons a l ih =>
    intro h
    rw [List.filterMap_cons, h a (List.mem_cons_self ..), List.map_cons, ih (fun x hx => h x (List.mem_cons_of_mem _ hx))]

theorem map_ite_id {α} (p : α → Prop) [DecidablePred p] (g : α → α) (l : List α) (h : ∀ x ∈ l, p x → g x = x) :
    l.map (fun x => if p x then g x else x) = l :=
  (List.map_congr_left fun x hx => ite_cases (· = x) _ (h x hx) fun _ => rfl).trans (List.map_id _)

theorem getD_map {α β : Type} (f : α → β) (l : List α) (i : Nat) (d : α) : (l.map f).getD i (f d) = f (l.getD i d) := by
  rw [List.getD_eq_getElem?_getD, List.getElem?_map, Option.getD_map, List.getD_eq_getElem?_getD]

theorem mem_zip_range {κ : Type} (keys : List κ) (x : Nat × κ) (hx : x ∈ (List.range keys.length).zip keys) :
    keys[x.1]? = some x.2 := by
  obtain ⟨i, hi, rfl⟩ := List.mem_iff_getElem.mp hx
  simp at hi
  simp [List.getElem_zip]

theorem find?_unique {α β : Type} [BEq β] [LawfulBEq β] (f : α → β) (l : List α) (i : Nat) (a : α) (b : β)
    (hpw : (l.map f).Pairwise (· ≠ ·)) (hi : l[i]? = some a) (hfa : f a = b) : l.find? (fun x => f x == b) = some a := by
  obtain ⟨h, rfl⟩ := List.getElem?_eq_some_iff.mp hi
  refine List.find?_eq_some_iff_getElem.mpr ⟨beq_iff_eq.mpr hfa, i, h, rfl, fun j hj => ?_⟩
  have := List.pairwise_iff_getElem.mp hpw j i (by simp; omega) (by simpa using h) hj
  simpa [hfa] using this

theorem filter_disjoint_len {α : Type} (p q : α → Bool) (l : List α)
    (h : ∀ x, ¬ (p x = true ∧ q x = true)) :
    (l.filter p).length + (l.filter q).length ≤ l.length := by
  induction l with
  | nil => simp
  | cons a rest ih =>
    have := h a
    cases hp : p a <;> cases hq : q a <;>
      simp only [List.filter_cons, hp, hq, Bool.false_eq_true, if_false, if_true, List.length_cons] <;>
      first | omega | exact absurd ⟨hp, hq⟩ this

theorem length_flatMap_map {α β γ : Type} (f : α → β → γ) (x : List α) (y : List β) :
    (x.flatMap fun a => y.map (f a)).length = x.length * y.length := by
  induction x with
  | nil => simp
  | cons a rest ih =>
    simp only [List.flatMap_cons, List.length_append, List.length_map, ih, List.length_cons,
      Nat.succ_mul]
    omega

theorem nodup_subset_length {α} [DecidableEq α] {l m : List α} (hn : l.Nodup) (hs : ∀ x ∈ l, x ∈ m)
    (hl : m.length ≤ l.length) : ∀ x ∈ m, x ∈ l := by
  induction l generalizing m with
  | nil => intro x hx; cases m <;> simp_all
  | cons a l ih =>
    have ha : a ∈ m := hs a (by simp)
    simp only [List.nodup_cons] at hn
    have h1 : ∀ x ∈ l, x ∈ m.erase a := by
      intro x hx
      have : x ≠ a := by rintro rfl; exact hn.1 hx
      rw [List.mem_erase_of_ne this]; exact hs x (by simp [hx])
    have h2 : (m.erase a).length ≤ l.length := by
      rw [List.length_erase_of_mem ha]; simp at hl; omega
    intro x hx
    by_cases hxa : x = a
    · simp [hxa]
    · have := ih hn.2 h1 h2 x (by rw [List.mem_erase_of_ne hxa]; exact hx)
      simp [this]

theorem split3 {α} (l : List α) (a n : Nat) :
    l = l.take a ++ ((l.drop a).take n ++ l.drop (a + n)) := by
  rw [← List.drop_drop, List.take_append_drop, List.take_append_drop]

theorem count_splice (l : List Nat) (off n f : Nat) :
    l.count f = (l.take off).count f + ((l.drop off).take n).count f + (l.drop (off + n)).count f := by
  conv => lhs; rw [split3 l off n]
  simp only [List.count_append]; omega

theorem int_sub_nonpos {a b : Int} : a - b ≤ 0 ↔ a ≤ b := by omega

theorem int_sub_neg {a b : Int} : a - b < 0 ↔ a < b := by omega

theorem and_ne_zero_of_sub {x a b : Nat} (hab : a = b &&& a) (h : x &&& a ≠ 0) : x &&& b ≠ 0 := by
  intro h0
  apply h
  rw [hab, ← Nat.and_assoc, h0, Nat.zero_and]

end Pk.Lib

namespace Pk.Index

/-- core has no `Forall₂` -/
inductive All₂ {α β : Type} (R : α → β → Prop) : List α → List β → Prop
  | nil : All₂ R [] []
  | cons {a b as bs} : R a b → All₂ R as bs → All₂ R (a :: as) (b :: bs)

theorem All₂.mem_right {α β : Type} {R : α → β → Prop} {as : List α} {bs : List β} (h : All₂ R as bs) {b : β} (hb : b ∈ bs) :
    ∃ a ∈ as, R a b := by
  induction h with
  | nil => simp at hb
  | cons hr _ ih =>
    simp at hb
    rcases hb with rfl | hb
    · exact ⟨_, by simp, hr⟩
    · obtain ⟨a, ha, hra⟩ := ih hb
      exact ⟨a, by simp [ha], hra⟩

theorem All₂.length_eq {α β : Type} {R : α → β → Prop} {as : List α} {bs : List β} (h : All₂ R as bs) :
    bs.length = as.length := by
  induction h with
  | nil => rfl
  | cons _ _ ih => simp [ih]

theorem All₂.mem_left {α β : Type} {R : α → β → Prop} {as : List α} {bs : List β} (h : All₂ R as bs) {a : α} (ha : a ∈ as) :
    ∃ b ∈ bs, R a b := by
  induction h with
  | nil => simp at ha
  | cons hr _ ih =>
    simp at ha
    rcases ha with rfl | ha
    · exact ⟨_, by simp, hr⟩
    · obtain ⟨b, hb, hrb⟩ := ih ha
      exact ⟨b, by simp [hb], hrb⟩

theorem All₂.nil_right {α β : Type} {R : α → β → Prop} {as : List α} (h : All₂ R as []) : as = [] := by
  cases h; rfl

theorem All₂.map_right {α β γ : Type} {R : α → β → Prop} {R' : α → γ → Prop} (f : β → γ) {as : List α} {bs : List β}
    (h : All₂ R as bs) (hi : ∀ a b, a ∈ as → R a b → R' a (f b)) : All₂ R' as (bs.map f) := by
  induction h with
  | nil => exact All₂.nil
  | cons hr _ ih =>
    exact All₂.cons (hi _ _ (by simp) hr) (ih (fun a b ha => hi a b (by simp [ha])))

theorem All₂.imp {α β : Type} {R R' : α → β → Prop} (hi : ∀ a b, R a b → R' a b) {as : List α} {bs : List β}
    (h : All₂ R as bs) : All₂ R' as bs := by
  induction h with
  | nil => exact All₂.nil
  | cons hr _ ih => exact All₂.cons (hi _ _ hr) ih

theorem All₂.append {α β : Type} {R : α → β → Prop} {as as' : List α} {bs bs' : List β}
    (h : All₂ R as bs) (h' : All₂ R as' bs') : All₂ R (as ++ as') (bs ++ bs') := by
  induction h with
  | nil => exact h'
  | cons hr _ ih => exact All₂.cons hr ih

theorem All₂.of_index {α β : Type} {R : α → β → Prop} : ∀ (as : List α) (bs : List β), bs.length = as.length →
    (∀ (j : Nat) (a : α), as[j]? = some a → ∃ b, bs[j]? = some b ∧ R a b) → All₂ R as bs := by
  intro as
  induction as with
  | nil =>
    intro bs hl _
    have : bs = [] := List.length_eq_zero_iff.mp (by simpa using hl)
    subst this; exact All₂.nil
  | cons a t ih =>
    intro bs hl h
    cases bs with
    | nil => simp at hl
    | cons b bt =>
      obtain ⟨b', hb', hr⟩ := h 0 a (by simp)
      simp at hb'; subst hb'
      refine All₂.cons hr (ih bt (by simpa using hl) ?_)
      intro j x hx
      have := h (j + 1) x (by simpa using hx)
      simpa using this

end Pk.Index
