/-
  Whole histories.  `runHist bs` is the fold of
  `C08.NoDoubleIdChrono` / `C08.BatchingIrrelevantChrono`: every batch is imported with the feed
  `sortPkts (everything so far)` on top of the stack so far.  Under `ChronoHist bs` the stack stays
  in step with the reassembler (`runHist_inv`), and inside one window the visible versions are the
  current streams (`runHist_cur`).
-/
import Pk.Proofs.ImportChronoInv
import Pk.Proofs.ImportChronoRun
namespace Pk.Proofs.ImportChrono
open Pk.Import Pk.Props.C08 Pk.Proofs.Import Pk.Proofs.ImportReasm

def runStep (acc : List Index × List Pkt) (b : Batch) : List Index × List Pkt :=
  (importStep b.1 (sortPkts (acc.2 ++ b.2)) acc.1, acc.2 ++ b.2)

def runHist (bs : List Batch) : List Index × List Pkt := bs.foldl runStep ([], [])

/-- hypotheses on the batches still to come, relative to the packets `acc` imported so far -/
structure RestHyp (acc : List Pkt) (bs : List Batch) : Prop where
  before : ∀ b ∈ bs, Before acc b.2
  strict : bs.Pairwise (fun bi bj => Before bi.2 bj.2)
  keys : ((acc ++ allPkts bs).map Pkt.key).Nodup
  names : ∀ b ∈ bs, ∀ p ∈ b.2, p.file ∈ b.1
  accfresh : ∀ b ∈ bs, ∀ p ∈ acc, p.file ∉ b.1
  fresh : bs.Pairwise (fun bi bj => ∀ p ∈ bi.2, p.file ∉ bj.1)

theorem RestHyp.of_chrono {bs : List Batch} (h : ChronoHist bs) : RestHyp [] bs :=
  ⟨fun b _ => Before.nil_left _, h.strict, by simpa using h.keys, h.names, (by intro b _ p hp; cases hp), h.fresh⟩

theorem RestHyp.tail {acc : List Pkt} {b : Batch} {bs : List Batch} (h : RestHyp acc (b :: bs)) :
    RestHyp (acc ++ b.2) bs := by
  obtain ⟨h1, h2, h3, h4, h5, h6⟩ := h
  rw [List.pairwise_cons] at h2 h6
  refine ⟨?_, h2.2, ?_, fun b' hb' => h4 b' (List.mem_cons_of_mem _ hb'), ?_, h6.2⟩
  · intro b' hb'
    exact Before.append_left (h1 b' (List.mem_cons_of_mem _ hb')) (h2.1 b' hb')
  · rw [allPkts_cons, ← List.append_assoc] at h3
    exact h3
  · intro b' hb' p hp
    rcases List.mem_append.mp hp with hp | hp
    · exact h5 b' (List.mem_cons_of_mem _ hb') p hp
    · exact h6.1 b' hb' p hp

theorem RestHyp.drop {acc : List Pkt} (bs1 : List Batch) {bs2 : List Batch}
    (h : RestHyp acc (bs1 ++ bs2)) : RestHyp (acc ++ allPkts bs1) bs2 := by
  induction bs1 generalizing acc with
  | nil => simpa [allPkts] using h
  | cons b bs1 ih =>
    rw [allPkts_cons, ← List.append_assoc]
    exact ih (RestHyp.tail h)

theorem RestHyp.keys_head {acc : List Pkt} {b : Batch} {bs : List Batch} (h : RestHyp acc (b :: bs)) :
    ((acc ++ b.2).map Pkt.key).Nodup := by
  have := h.keys
  rw [allPkts_cons, ← List.append_assoc, List.map_append] at this
  exact (List.nodup_append.mp this).1

theorem sortPkts_keys {l : List Pkt} (h : (l.map Pkt.key).Nodup) : ((sortPkts l).map Pkt.key).Nodup :=
  ((sortPkts_perm l).map Pkt.key).nodup_iff.mpr h

theorem RestHyp.step {acc : List Pkt} {b : Batch} {bs : List Batch} {stack : List Index}
    (h : RestHyp acc (b :: bs)) (hI : StackInv stack (reasm (sortPkts acc))) :
    sortPkts (acc ++ b.2) = sortPkts acc ++ sortPkts b.2 ∧
    StepHyp b.1 (sortPkts b.2) stack (reasm (sortPkts acc)) (reasm (sortPkts acc ++ sortPkts b.2)) := by
  have hk := h.keys_head
  have hs := sortPkts_append acc b.2 hk (h.before b (List.mem_cons_self ..))
  have hkacc : (acc.map Pkt.key).Nodup := by
    rw [List.map_append] at hk; exact (List.nodup_append.mp hk).1
  refine ⟨hs, hI, RGood.of_keyDisj (reasm_pkts _).1 (reasm_keyDisj _ (sortPkts_keys hkacc)), reasm_append_ext _ _, ?_, ?_⟩
  · intro q hq
    exact h.names b (List.mem_cons_self ..) q (mem_sortPkts.mp hq)
  · intro k x hx
    obtain ⟨q, hq, hqr⟩ := (reasm_pkts (sortPkts acc)).2 k x hx
    have := h.accfresh b (List.mem_cons_self ..) q (mem_sortPkts.mp hq)
    rw [← hqr]; exact this

theorem runStep_eq (stack : List Index) (acc : List Pkt) (b : Batch) :
    runStep (stack, acc) b = (importArr b.1 (reasm (sortPkts (acc ++ b.2))) stack, acc ++ b.2) := rfl

theorem run_inv : ∀ (bs : List Batch) (stack : List Index) (acc : List Pkt), RestHyp acc bs →
    StackInv stack (reasm (sortPkts acc)) →
    (bs.foldl runStep (stack, acc)).2 = acc ++ allPkts bs ∧
    StackInv (bs.foldl runStep (stack, acc)).1 (reasm (sortPkts (acc ++ allPkts bs))) := by
  intro bs
  induction bs with
  | nil => intro stack acc _ hI; simpa [allPkts] using hI
  | cons b bs ih =>
    intro stack acc h hI
    obtain ⟨hs, hstep⟩ := h.step hI
    rw [List.foldl_cons, runStep_eq, allPkts_cons, ← List.append_assoc]
    apply ih _ _ h.tail
    rw [hs]
    exact hstep.inv'

theorem run_cur (t0 : Nat) : ∀ (bs : List Batch) (stack : List Index) (acc : List Pkt), RestHyp acc bs →
    InWindow t0 (acc ++ allPkts bs) →
    StackInv stack (reasm (sortPkts acc)) → StackCur stack (reasm (sortPkts acc)) →
    StackCur (bs.foldl runStep (stack, acc)).1 (reasm (sortPkts (acc ++ allPkts bs))) := by
  intro bs
  induction bs with
  | nil => intro stack acc _ _ _ hC; simpa [allPkts] using hC
  | cons b bs ih =>
    intro stack acc h hw hI hC
    obtain ⟨hs, hstep⟩ := h.step hI
    rw [List.foldl_cons, runStep_eq, allPkts_cons, ← List.append_assoc]
    rw [allPkts_cons, ← List.append_assoc] at hw
    have hw' : InWindow t0 (sortPkts acc ++ sortPkts b.2) :=
      hs ▸ fun p hp => hw p (List.mem_append_left _ (mem_sortPkts.mp hp))
    apply ih _ _ h.tail hw
    · rw [hs]; exact hstep.inv'
    · rw [hs]
      exact hstep.cur hC (fun k hk hp => reasm_window_frame t0 _ _ hw' k hk hp)

theorem reasm_nil : reasm [] = #[] := rfl

theorem sortPkts_nil : sortPkts [] = [] := by simp [sortPkts]

theorem start_inv : StackInv [] (reasm (sortPkts [])) ∧ StackCur [] (reasm (sortPkts [])) := by
  rw [sortPkts_nil, reasm_nil]
  exact ⟨StackInv.empty, fun k hk => absurd hk (Nat.not_lt_zero k)⟩

theorem runHist_inv {bs : List Batch} (h : ChronoHist bs) :
    (runHist bs).2 = allPkts bs ∧ StackInv (runHist bs).1 (reasm (sortPkts (allPkts bs))) := by
  have := run_inv bs [] [] (RestHyp.of_chrono h) start_inv.1
  simpa [runHist] using this

theorem runHist_cur {bs : List Batch} (h : ChronoHist bs) (t0 : Nat) (hw : HistWindow t0 bs) :
    StackCur (runHist bs).1 (reasm (sortPkts (allPkts bs))) := by
  have := run_cur t0 bs [] [] (RestHyp.of_chrono h) (by rw [List.nil_append]; exact hw) start_inv.1 start_inv.2
  simpa [runHist] using this

end Pk.Proofs.ImportChrono
