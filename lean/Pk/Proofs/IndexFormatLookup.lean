/-
  Lookup by stream id: `StreamByID` returns the last record with the id and its position (`streamByID_spec`, over
  `lastWith`); on a reopened file with distinct ids that is the record stored under the id (C01 `lookup_by_id_exact`).
-/
import Pk.Model.IndexFormat
import Pk.Proofs.IndexFormatHosts
namespace Pk.Index
open Pk Pk.Bytes

theorem minList_le (l : List Nat) (m : Nat) : minList l m ≤ m ∧ ∀ x ∈ l, minList l m ≤ x := by
  induction l generalizing m with
  | nil => simp [minList]
  | cons y ys ih =>
    simp only [minList, List.forall_mem_cons]
    split
    · have := ih y; exact ⟨by omega, this⟩
    · have := ih m; exact ⟨this.1, by omega, this.2⟩

theorem le_maxList (l : List Nat) (m : Nat) : m ≤ maxList l m ∧ ∀ x ∈ l, x ≤ maxList l m := by
  induction l generalizing m with
  | nil => simp [maxList]
  | cons y ys ih =>
    simp only [maxList, List.forall_mem_cons]
    split
    · have := ih y; exact ⟨by omega, this⟩
    · have := ih m; exact ⟨this.1, by omega, this.2⟩

def lastWith : List StreamRec → Nat → Option StreamRec
  | [], _ => none
  | s :: ss, id => match lastWith ss id with
    | some x => some x
    | none => if s.id = id then some s else none

theorem lastWith_eq (l : List StreamRec) (id : Nat) : lastWith l id = l.reverse.find? (·.id == id) := by
  induction l with
  | nil => rfl
  | cons a t ih =>
    rw [lastWith, ih, List.reverse_cons, List.find?_append]
    cases t.reverse.find? (·.id == id) with
    | some x => rfl
    | none => by_cases ha : a.id = id <;> simp [ha]

theorem lastWith_none {l : List StreamRec} {id : Nat} : lastWith l id = none ↔ ∀ s ∈ l, s.id ≠ id := by
  simp [lastWith_eq]

theorem lastWith_some {l : List StreamRec} {id : Nat} {s : StreamRec} (h : lastWith l id = some s) : s ∈ l ∧ s.id = id := by
  rw [lastWith_eq] at h
  exact ⟨List.mem_reverse.mp (List.mem_of_find?_eq_some h), by simpa using List.find?_some h⟩

theorem idIndex_go_spec (id : Nat) (l : List StreamRec) : ∀ (i : Nat) (acc : Option Nat),
    (lastWith l id = none → idIndex.go id l i acc = acc) ∧
    (∀ s, lastWith l id = some s → ∃ j, idIndex.go id l i acc = some (i + j) ∧ l[j]? = some s) := by
  induction l with
  | nil => intro i acc; simp [lastWith, idIndex.go]
  | cons a t ih =>
    intro i acc
    obtain ⟨ih1, ih2⟩ := ih (i + 1) (if a.id = id then some i else acc)
    simp only [lastWith, idIndex.go]
    cases h : lastWith t id with
    | some x =>
      obtain ⟨j, hj1, hj2⟩ := ih2 x h
      simp only [reduceCtorEq, false_implies, true_and]
      intro s hs
      simp at hs; subst hs
      exact ⟨j + 1, by rw [hj1]; congr 1; omega, by simpa using hj2⟩
    | none =>
      rw [ih1 h]
      by_cases ha : a.id = id
      · simp only [ha, if_true, reduceCtorEq, false_implies, true_and]
        intro s hs
        simp at hs; subst hs
        exact ⟨0, by simp, by simp⟩
      · simp [ha]

theorem newReader_ok (f : FileModel) (r : Reader) (h : newReader f = .ok r) :
    r.f = f ∧ r.idMin = minList (f.streams.map (·.id)) (2 ^ 64 - 1) ∧ r.idMax = maxList (f.streams.map (·.id)) 0 ∧
    readHostGroups f.v4 f.v6 f.hostGroups = .ok r.hostGroups ∧ r.imports = readImports f.importNames f.imports := by
  unfold newReader at h
  split at h
  · simp at h
  · rename_i hgs heq
    split at h
    · simp at h
    · simp at h
      subst h
      simp [heq]

theorem reopen_idRange (f : FileModel) (m : Reader) (hm : newReader f = .ok m) :
    ∀ s ∈ m.f.streams, m.idMin ≤ s.id ∧ s.id ≤ m.idMax := by
  obtain ⟨hf, hmin, hmax, _, _⟩ := newReader_ok _ m hm
  intro s hs
  rw [hf] at hs
  have hmem : s.id ∈ f.streams.map (·.id) := List.mem_map.mpr ⟨s, hs, rfl⟩
  rw [hmin, hmax]
  exact ⟨(minList_le _ _).2 _ hmem, (le_maxList _ _).2 _ hmem⟩

/-- `hr`: the range test of `StreamByID` comes first, so a stored id outside `idMin`/`idMax` would not be found -/
theorem streamByID_spec (r : Reader) (hr : ∀ s ∈ r.f.streams, r.idMin ≤ s.id ∧ s.id ≤ r.idMax) (id : Nat) :
    (lastWith r.f.streams id = none → r.streamByID id = none) ∧
    ∀ s, lastWith r.f.streams id = some s → ∃ j, r.streamByID id = some (j, s) ∧ r.f.streams[j]? = some s := by
  unfold Reader.streamByID idIndex
  obtain ⟨h1, h2⟩ := idIndex_go_spec id r.f.streams 0 none
  constructor
  · intro hn
    split
    · rfl
    · rw [h1 hn]
  · intro s hs
    obtain ⟨hmem, hid⟩ := lastWith_some hs
    have := hr s hmem
    obtain ⟨j, hj1, hj2⟩ := h2 s hs
    rw [if_neg (by omega), hj1]
    exact ⟨j, by simp [hj2], hj2⟩

theorem streamByID_found (f : FileModel) (r : Reader) (h : newReader f = .ok r)
    (hnd : (f.streams.map (·.id)).Nodup) (i : Nat) (s : StreamRec) (hs : f.streams[i]? = some s) :
    r.streamByID s.id = some (i, s) := by
  have hr := reopen_idRange f r h
  rw [← (newReader_ok f r h).1] at hs hnd
  cases hl : lastWith r.f.streams s.id with
  | none => exact absurd rfl (lastWith_none.mp hl s (List.mem_of_getElem? hs))
  | some t =>
    -- the last record with the id of `s` is `s` itself: ids are distinct
    obtain ⟨j, hj, hjt⟩ := (streamByID_spec r hr s.id).2 t hl
    have hi : i < (r.f.streams.map (·.id)).length := by
      rw [List.length_map]; exact (List.getElem?_eq_some_iff.mp hs).1
    have hij : i = j := (List.getElem?_inj hi hnd).mp
      (by rw [List.getElem?_map, List.getElem?_map, hs, hjt, Option.map_some, Option.map_some, (lastWith_some hl).2])
    subst hij
    rw [hs] at hjt
    cases hjt
    exact hj

theorem streamByID_absent (f : FileModel) (r : Reader) (h : newReader f = .ok r) (id : Nat)
    (hid : ∀ s ∈ f.streams, s.id ≠ id) : r.streamByID id = none := by
  rw [← (newReader_ok f r h).1] at hid
  exact (streamByID_spec r (reopen_idRange f r h) id).1 (lastWith_none.mpr hid)

end Pk.Index
