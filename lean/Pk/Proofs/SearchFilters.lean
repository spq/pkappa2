/- C02: the range of the id-range lookup, and the monotonicity behind the time pre-check. -/
import Pk.Model.Search

namespace Pk.Proofs.Extra
open Pk.Search

/-- the id-range lookup of `buildSearchObjects` (438–451, 743–761): number conditions with the single summand
    `±id` narrow [minID, maxID]; a stream that passes all of them has its id in the range, so restricting
    the scan to the ids in the range loses no match.  The list holds (factor, number) of every such condition, the
    pair is the range so far. -/
def idBounds : List (Int × Int) → Int × Int → Int × Int
  | [], b => b
  | (f, n) :: rest, (lo, hi) =>
    if f = 1 then idBounds rest (if lo < -n then -n else lo, hi)
    else if f = -1 then idBounds rest (lo, if n < hi then n else hi)
    else idBounds rest (lo, hi)

theorem timeFilter_monotone (duration f l refTime fileRef lo hi t other : Int)
    (hlo : lo ≤ t) (hhi : t ≤ hi)
    (hsame : timeFilter duration f l refTime fileRef lo other = timeFilter duration f l refTime fileRef hi other) :
    timeFilter duration f l refTime fileRef t other = timeFilter duration f l refTime fileRef lo other := by
  simp only [timeFilter] at hsame ⊢
  generalize duration + (f + l) * (fileRef - refTime) = A at hsame ⊢
  generalize l * other = B at hsame ⊢
  rw [decide_eq_decide] at hsame ⊢
  -- `f * t` lies between `f * lo` and `f * hi`, whatever the sign of `f`
  have key : (f * lo ≤ f * t ∧ f * t ≤ f * hi) ∨ (f * hi ≤ f * t ∧ f * t ≤ f * lo) := by
    rcases Int.le_total 0 f with hf | hf
    · exact .inl ⟨Int.mul_le_mul_of_nonneg_left hlo hf, Int.mul_le_mul_of_nonneg_left hhi hf⟩
    · exact .inr ⟨Int.mul_le_mul_of_nonpos_left hf hhi, Int.mul_le_mul_of_nonpos_left hf hlo⟩
  generalize f * lo = x at *
  generalize f * t = y at *
  generalize f * hi = z at *
  omega

end Pk.Proofs.Extra
