/- The uncertainty sweep `inherit` never runs out of fuel on a tag table that has a topological order (`Topo`:
   acyclic references, every reference exists).  A pass changes neither names nor references (`kr`), so its
   list of resolved names moves like that of the cycle check (`cstep`), which resolves one more name per pass. -/
import Pk.Proofs.MgrTerminationCycle
namespace Pk.Proofs.MgrTruth
open Pk.Mgr Pk.Proofs.MgrTags Pk.Proofs.MgrTermination

/-- all that decides which names a pass resolves -/
def kr (p : String × Tag) : String × List String := (p.1, p.2.refs)

theorem sins_kr (n : String) (t t' : Tag) (T : List (String × Tag)) (hs : Sorted T)
    (hg : sget T n = some t) (hr : t'.refs = t.refs) : (sins n t' T).map kr = T.map kr := by
  obtain ⟨l1, l2, e1, e2⟩ := sins_of_sget hs t' hg
  rw [e2, e1]
  simp [kr, hr]

theorem sget_of_kr {tags A : List (String × Tag)} (hs : Sorted A) (hk : A.map kr = tags.map kr)
    (nt : String × Tag) (hm : nt ∈ tags) : ∃ t, sget A nt.1 = some t ∧ t.refs = nt.2.refs := by
  have h1 : kr nt ∈ A.map kr := by rw [hk]; exact List.mem_map.mpr ⟨nt, hm, rfl⟩
  obtain ⟨p, hp, he⟩ := List.mem_map.mp h1
  obtain ⟨k, v⟩ := p
  simp only [kr, Prod.mk.injEq] at he
  refine ⟨v, ?_, he.2⟩
  rw [← he.1]
  exact mem_sget_of_sorted _ hs _ _ hp

theorem passStep_cstep (all : Nat) (acc : List (String × Tag) × List String) (nt : String × Tag) (t : Tag)
    (hs : Sorted acc.1) (hg : sget acc.1 nt.1 = some t) (hr : t.refs = nt.2.refs) :
    Sorted (passStep all acc nt).1 ∧ (passStep all acc nt).1.map kr = acc.1.map kr ∧
      (passStep all acc nt).2 = cstep acc.2 nt := by
  refine ⟨passStep_sorted all acc nt hs, ?_⟩
  refine passStep_cases all (P := fun r => r.1.map kr = acc.1.map kr ∧ r.2 = cstep acc.2 nt) acc nt
    (fun h => ⟨rfl, ?_⟩) fun t' hn ht ha => ?_
  · unfold cstep
    rcases h with hc | hn | ⟨t', ht, ha⟩
    · rw [if_pos hc]
    · rw [hg] at hn; cases hn
    · rw [hg] at ht; cases ht
      split
      · rfl
      · rw [← hr, if_neg ha]
  · rw [hg] at ht; cases ht
    refine ⟨sins_kr _ t _ _ hs hg ?_, ?_⟩
    · exact inheritOne_refs ..
    · unfold cstep
      rw [if_neg hn, ← hr, if_pos ha]

theorem fold_passStep (all : Nat) (tags : List (String × Tag)) (l : List (String × Tag))
    (hl : ∀ x ∈ l, x ∈ tags) (A : List (String × Tag)) (R : List String)
    (hs : Sorted A) (hk : A.map kr = tags.map kr) :
    Sorted (l.foldl (passStep all) (A, R)).1 ∧ (l.foldl (passStep all) (A, R)).1.map kr = tags.map kr ∧
      (l.foldl (passStep all) (A, R)).2 = l.foldl cstep R := by
  induction l generalizing A R with
  | nil => exact ⟨hs, hk, rfl⟩
  | cons a l ih =>
    simp only [List.foldl_cons]
    obtain ⟨t, hg, hr⟩ := sget_of_kr hs hk a (hl a List.mem_cons_self)
    obtain ⟨h1, h2, h3⟩ := passStep_cstep all (A, R) a t hs hg hr
    have e : passStep all (A, R) a = ((passStep all (A, R) a).1, cstep R a) := Prod.ext rfl h3
    rw [e]
    exact ih (fun x hx => hl x (List.mem_cons_of_mem _ hx)) (passStep all (A, R) a).1
      (cstep R a) h1 (h2.trans hk)

theorem cstep_kr (R : List String) (a b : String × Tag) (h : kr a = kr b) : cstep R a = cstep R b := by
  simp only [kr, Prod.mk.injEq] at h
  unfold cstep
  rw [h.1, h.2]

theorem fold_cstep_kr (l l' : List (String × Tag)) (h : l.map kr = l'.map kr) (R : List String) :
    l.foldl cstep R = l'.foldl cstep R := by
  induction l generalizing l' R with
  | nil =>
    cases l' with
    | nil => rfl
    | cons b l' => simp at h
  | cons a l ih =>
    cases l' with
    | nil => simp at h
    | cons b l' =>
      simp only [List.map_cons, List.cons.injEq] at h
      simp only [List.foldl_cons]
      rw [cstep_kr R a b h.1]
      exact ih l' h.2 _

theorem inheritPass_kr (all : Nat) (tags T : List (String × Tag)) (R : List String)
    (hs : Sorted T) (hk : T.map kr = tags.map kr) :
    Sorted (inheritPass all T R).1 ∧ (inheritPass all T R).1.map kr = tags.map kr ∧
      (inheritPass all T R).2 = tags.foldl cstep R := by
  rw [inheritPass_eq]
  obtain ⟨h1, h2, h3⟩ := fold_passStep all T T (fun _ h => h) T R hs rfl
  exact ⟨h1, h2.trans hk, h3.trans (fold_cstep_kr T tags hk R)⟩

theorem pass_progress (tags : List (String × Tag)) (hs : Sorted tags) (ht : Topo tags) (R : List String)
    (hg : GoodOrder tags R) (hne : R.length ≠ tags.length) : R.length < (tags.foldl cstep R).length :=
  Classical.byContradiction fun hc => hne (fix_full tags hs ht R hg (by have := fold_len tags R; omega))

theorem inheritLoop_ok_aux (all : Nat) (tags : List (String × Tag)) (hs : Sorted tags) (ht : Topo tags) :
    ∀ (fuel : Nat) (T : List (String × Tag)) (R : List String), Sorted T → T.map kr = tags.map kr →
      GoodOrder tags R → tags.length ≤ R.length + fuel → (inheritLoop all fuel T R).2 = true := by
  intro fuel
  induction fuel with
  | zero =>
    intro T R _ hk hg hf
    have hlen : T.length = tags.length := by simpa using congrArg List.length hk
    have := hg.length_le
    simp only [inheritLoop, beq_iff_eq]
    omega
  | succ fuel ih =>
    intro T R hT hk hg hf
    have hlen : T.length = tags.length := by simpa using congrArg List.length hk
    simp only [inheritLoop]
    split
    · rfl
    · rename_i hne
      obtain ⟨h1, h2, h3⟩ := inheritPass_kr all tags T R hT hk
      have hne' : R.length ≠ tags.length := by
        intro e; apply hne; simp [e, hlen]
      have hp := pass_progress tags hs ht R hg hne'
      apply ih _ _ h1 h2
      · rw [h3]; exact fold_good tags (fun _ hx => hx) R hg
      · rw [h3]; omega

theorem inheritLoop_ok (all : Nat) (tags : List (String × Tag)) (hs : Sorted tags) (ht : Topo tags) :
    (inheritLoop all (tags.length + 1) tags []).2 = true :=
  inheritLoop_ok_aux all tags hs ht (tags.length + 1) tags [] hs rfl GoodOrder.nil (by simp)

end Pk.Proofs.MgrTruth
