/- Zeroing the header of the file under construction leads back to an earlier crash point of the same job
   (`merge_cut`); the file names of a prefix disk stay distinct (`uniqueNames_merge_prefix`). -/
import Pk.Model.RecoverIdx
import Pk.Proofs.RecoverIdx
import Pk.Proofs.RecoverIdxOps
namespace Pk.Proofs.RecoverIdx
open Pk.Recover

theorem cutFile_id (d : List IndexFile) (n : Nat)
    (h : ∀ f ∈ d, f.name = n → f.complete = false) : cutFile n d = d :=
  setComplete_id false d n h

theorem cutFile_snoc (D : List IndexFile) (o : Nat × List Nat) (b : Bool) (h : ∀ f ∈ D, f.name ≠ o.1) :
    cutFile o.1 (D ++ [{ name := o.1, complete := b, ids := o.2 }]) = D ++ [mkPart o] := by
  rw [cutFile, List.map_append, setComplete_id false D o.1 fun f hf hn => absurd hn (h f hf)]
  simp [mkPart]

theorem underConstruction_append (l m : List IdxOp) (h : m ≠ []) :
    underConstruction (l ++ m) = underConstruction m := by
  simp [underConstruction, List.getLast?_append, List.getLast?_eq_some_getLast h]

section
variable {d : List IndexFile} {os : List (Nat × List Nat)} (hnd : (os.map (·.1)).Nodup)
  (hfresh : ∀ o ∈ os, ∀ f ∈ d, f.name ≠ o.1)
include hnd hfresh

theorem name_before {a rest : List (Nat × List Nat)} {o : Nat × List Nat} (e : os = a ++ o :: rest) :
    ∀ f ∈ d ++ a.map mkOut, f.name ≠ o.1 := by
  subst e
  intro f hf
  rcases List.mem_append.mp hf with hf | hf
  · exact hfresh o (by simp) f hf
  · obtain ⟨p, hp, rfl⟩ := List.mem_map.mp hf
    rw [List.map_append, List.nodup_append] at hnd
    exact hnd.2.2 _ (List.mem_map.mpr ⟨p, hp, rfl⟩) _ (by simp)

theorem merge_cut_prefix (ins : List Nat) {p : List IdxOp} (h : p <+: mergeOps ins os) :
    ∃ p', p' <+: p ∧ cutOpt (underConstruction p) (applyOps d p) = applyOps d p' := by
  have hf : ∀ a rest, os = a ++ rest → ∀ o ∈ a, ∀ f ∈ d, f.name ≠ o.1 := fun a rest e o ho =>
    hfresh o (e ▸ List.mem_append_left _ ho)
  rcases merge_prefix_cases d ins os hfresh h with ⟨a, rest, e, rfl, hd⟩ | ⟨a, o, rest, e, rfl, hd⟩ |
    ⟨b, rest, _, hb, rfl, _⟩
  · rcases List.eq_nil_or_concat a with rfl | ⟨a, o, rfl⟩
    · exact ⟨[], List.prefix_refl _, rfl⟩
    · -- output `o` was just finished: cut, it is as after its `create`
      rw [List.concat_eq_append] at e hd ⊢
      rw [List.append_assoc] at e
      refine ⟨writeOps a ++ [.create o.1 o.2], ?_, ?_⟩
      · rw [writeOps_append]; exact (List.prefix_append_right_inj _).2 ⟨[.finish o.1], rfl⟩
      · rw [hd, applyOps_writeOps_create d a o (hf a _ e), writeOps_append,
          underConstruction_append _ _ (by simp [writeOps]), List.map_append, ← List.append_assoc]
        exact cutFile_snoc _ o true (name_before hnd hfresh e)
  · -- inside output `o`: its header is zero already
    refine ⟨_, List.prefix_refl _, ?_⟩
    rw [hd, underConstruction_append _ _ (by simp)]
    exact cutFile_snoc _ o false (name_before hnd hfresh e)
  · -- the removals have begun: nothing is under construction
    refine ⟨_, List.prefix_refl _, ?_⟩
    rw [underConstruction_append _ _ (by simpa [deleteOps] using hb), underConstruction, deleteOps,
      List.getLast?_map, List.getLast?_eq_some_getLast hb]
    rfl

end

theorem merge_cut (d : List IndexFile) (ins : List Nat) (os : List (Nat × List Nat))
    (hnd : (os.map (·.1)).Nodup) (hfresh : ∀ o ∈ os, ∀ f ∈ d, f.name ≠ o.1) (k : Nat) :
    ∃ k', k' ≤ k ∧
      cutOpt (underConstruction ((mergeOps ins os).take k)) (applyOps d ((mergeOps ins os).take k)) =
        applyOps d ((mergeOps ins os).take k') := by
  obtain ⟨p', hp', h⟩ := merge_cut_prefix hnd hfresh ins (List.take_prefix k _)
  refine ⟨p'.length, Nat.le_trans hp'.length_le (List.length_take_le ..), ?_⟩
  rw [← List.prefix_iff_eq_take.1 (hp'.trans (List.take_prefix k _))]
  exact h

theorem uniqueNames_merge_prefix (d : List IndexFile) (ins : List Nat) (os : List (Nat × List Nat))
    (hu : (d.map (·.name)).Nodup) (hnd : (os.map (·.1)).Nodup)
    (hfresh : ∀ o ∈ os, ∀ f ∈ d, f.name ≠ o.1) {p : List IdxOp} (h : p <+: mergeOps ins os) :
    ((applyOps d p).map (·.name)).Nodup := by
  have hbase : ∀ a : List (Nat × List Nat), a.Sublist os → ((d ++ a.map mkOut).map (·.name)).Nodup := by
    intro a ha
    rw [List.map_append, List.nodup_append]
    refine ⟨hu, ?_, ?_⟩
    · rw [List.map_map]
      exact (ha.map _).nodup hnd
    · intro x hx y hy
      obtain ⟨f, hf, rfl⟩ := List.mem_map.mp hx
      rw [List.map_map] at hy
      obtain ⟨o, ho, rfl⟩ := List.mem_map.mp hy
      exact hfresh o (ha.subset ho) f hf
  rcases merge_prefix_cases d ins os hfresh h with ⟨a, rest, rfl, _, h⟩ | ⟨a, o, rest, rfl, _, h⟩ | ⟨b, _, _, _, _, h⟩
  · rw [h]; exact hbase a (List.sublist_append_left ..)
  · rw [h]
    have := hbase (a ++ [o]) ((List.prefix_append_right_inj a).2 ⟨rest, rfl⟩).sublist
    simpa [mkOut, mkPart] using this
  · rw [h]
    exact (List.filter_sublist.map _).nodup (hbase os (List.Sublist.refl _))

end Pk.Proofs.RecoverIdx
