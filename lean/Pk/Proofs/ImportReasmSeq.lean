/-
  The decision of `assembleHalf` — ignore, queue, deliver at once — stated once (`assembleHalf_eq`).
  On a direction whose sequence numbers do not wrap (`SeqLinear`), `seqAdd` and `seqDiff` are plain
  arithmetic on offsets into the byte string `B` of the direction; a segment is a slice of `B`, and
  `assembleHalf` queues a packet that starts ahead of the expected offset (`asm_ahead`) and delivers the
  tail of any other (`asm_behind`), whatever its flags: FIN and RST segments go through the same two lemmas.
-/
import Pk.Proofs.ImportReasm

namespace Pk.Proofs.ImportReasm
open Pk.Import

theorem seqDiff_lin {isn n : Nat} (hl : SeqLinear isn n) {x y : Nat} (hx : x ≤ n) (hy : y ≤ n) :
    seqDiff (isn + x) (isn + y) = (y : Int) - x := by
  obtain ⟨h1, h2⟩ := hl
  unfold seqDiff
  have hM : uint32Max = 4294967295 := rfl
  rw [if_neg (by omega), if_neg (by omega)]
  omega

theorem seqAdd_lin {isn n : Nat} (hl : SeqLinear isn n) {x k : Nat} (hx : x + k ≤ n) :
    seqAdd (isn + x) k = isn + x + k := by
  obtain ⟨h1, _⟩ := hl
  unfold seqAdd; omega

theorem seqAdd_slice {isn n : Nat} (hl : SeqLinear isn n) {a b : Nat} (hab : a ≤ b) (hb : b ≤ n) :
    seqAdd (isn + a) (b - a) = isn + b := by
  rw [seqAdd_lin hl (by omega)]; omega

theorem slice_length {B : Bytes} {a b : Nat} (hb : b ≤ B.length) : (slice B a b).length = b - a := by
  unfold slice
  rw [List.length_take, List.length_drop, Nat.min_eq_left (Nat.sub_le_sub_right hb a)]

theorem slice_self (B : Bytes) (a : Nat) : slice B a a = [] := by simp [slice]

theorem slice_zero (B : Bytes) (c : Nat) : slice B 0 c = B.take c := by simp [slice]

theorem slice_append {B : Bytes} {a b c : Nat} (hab : a ≤ b) (hbc : b ≤ c) :
    slice B a b ++ slice B b c = slice B a c := by
  unfold slice
  have e1 : c - a = (b - a) + (c - b) := by rw [Nat.add_comm]; exact (Nat.sub_add_sub_cancel hbc hab).symm
  have e2 : List.drop b B = List.drop (b - a) (List.drop a B) := by
    rw [List.drop_drop, Nat.add_sub_cancel' hab]
  rw [e1, e2, List.take_add]

theorem slice_drop {B : Bytes} {a b k : Nat} : (slice B a b).drop k = slice B (a + k) b := by
  unfold slice
  rw [List.drop_take, List.drop_drop]
  congr 1; omega

theorem slice_take {B : Bytes} {a b k : Nat} (h : a + k ≤ b) : (slice B a b).take k = slice B a (a + k) := by
  unfold slice
  rw [List.take_take]
  congr 1; omega

theorem slice_ne_nil {B : Bytes} {a b : Nat} (hab : a < b) (hb : b ≤ B.length) : slice B a b ≠ [] := by
  intro h
  have := slice_length (B := B) (a := a) hb
  rw [h] at this
  simp at this; omega

theorem DataPkt.seg {isn B p} (h : DataPkt isn B p) : SegPkt isn B p :=
  ⟨⟨h.1.1, h.1.2.1, h.1.2.2.1⟩, h.2⟩

theorem pOff_le_pEnd (isn : Nat) (p : Pkt) : pOff isn p ≤ pEnd isn p := Nat.le_add_right ..

theorem seq_eq_pOff {isn : Nat} {p : Pkt} (h : isn ≤ p.seq) : p.seq = isn + pOff isn p :=
  (Nat.add_sub_cancel' h).symm

theorem payload_length (isn : Nat) (p : Pkt) : p.payload.length = pEnd isn p - pOff isn p :=
  (Nat.add_sub_cancel_left ..).symm

theorem SegPkt.seq_eq {isn B p} (h : SegPkt isn B p) : p.seq = isn + pOff isn p := seq_eq_pOff h.2.1

theorem DataPkt.lt {isn B p} (h : DataPkt isn B p) : pOff isn p < pEnd isn p :=
  Nat.lt_add_of_pos_right (List.length_pos_iff.mpr h.1.2.2.2)

theorem DataPkt.seq_eq {isn B p} (h : DataPkt isn B p) : p.seq = isn + pOff isn p := seq_eq_pOff h.2.1

theorem overlapExisting_behind {isn : Nat} {B : Bytes} (hl : SeqLinear isn B.length) (h : Half) (p : Pkt) (c : Nat)
    (hnext : h.nextSeq = some (isn + c)) (hc : c ≤ B.length)
    (hge : isn ≤ p.seq) (hpl : p.payload = slice B (pOff isn p) (pEnd isn p)) (ha : pOff isn p ≤ c) :
    overlapExisting h p.seq p.payload = (slice B c (max c (pEnd isn p)), isn + c) := by
  have hd : seqDiff p.seq (isn + c) = (c : Int) - pOff isn p := by
    rw [seq_eq_pOff hge, seqDiff_lin hl (Nat.le_trans ha hc) hc]
  have hle := pOff_le_pEnd isn p
  unfold overlapExisting
  simp only [hnext, hd, Int.toNat_sub, payload_length isn p]
  split
  · have : pOff isn p = c := by omega
    rw [hpl, seq_eq_pOff hge, this, Nat.max_eq_right (this ▸ hle)]
  · split
    · rw [hpl, slice_drop, Nat.add_sub_cancel' hle, slice_self, Nat.max_eq_left (by omega), slice_self]
    · rw [hpl, slice_drop, Nat.add_sub_cancel' ha, Nat.max_eq_right (by omega)]

/-- `assembleHalf` once it has decided to deliver at once; `g`, `seq`: the half-connection and the sequence number
    of the first payload byte after the SYN rule -/
def deliverNow (st : Import.Stream) (g : Half) (seq : Nat) (p : Pkt) : Import.Stream × Half :=
  let isEnd := p.rst || p.fin
  let (bytes, seq') := overlapExisting g seq p.payload
  let (h', bytes') := checkOverlap g false seq' bytes p.ref isEnd
  if bytes'.length ≠ 0 ∨ isEnd ∨ p.syn then
    let (st', h'', nextSeq) := sendToConnection st h' seq' bytes' p.ref isEnd
    (st', { h'' with nextSeq := some (if p.fin then seqAdd nextSeq 1 else nextSeq) })
  else (st, h')

theorem assembleHalf_eq (st : Import.Stream) (h : Half) (p : Pkt) :
    assembleHalf st h p =
      if h.closed then (st, h) else
      match h.nextSeq with
      | none =>
        if p.syn then deliverNow st { h with nextSeq := some (seqAdd p.seq 1) } (seqAdd p.seq 1) p
        else (st, (checkOverlap h true p.seq p.payload p.ref (p.rst || p.fin)).1)
      | some nx =>
        if seqDiff nx p.seq > 0 then (st, (checkOverlap h true p.seq p.payload p.ref (p.rst || p.fin)).1)
        else deliverNow st h p.seq p := by
  -- on a literal half-connection both sides compute; splitting the unfolded definition costs ten times as much
  obtain ⟨ns, cl, ls, q⟩ := h
  cases cl with
  | true => rfl
  | false =>
    cases ns with
    | none =>
      cases hs : p.syn with
      | true => unfold assembleHalf deliverNow; rw [hs]; rfl
      | false => unfold assembleHalf; rw [hs]; rfl
    | some nx =>
      by_cases hd : seqDiff nx p.seq > 0
      · unfold assembleHalf; simp only [if_pos hd]; rfl
      · unfold assembleHalf deliverNow; simp only [if_neg hd]; rfl

theorem assembleHalf_closed (st : Import.Stream) (h : Half) (p : Pkt) (hc : h.closed = true) :
    assembleHalf st h p = (st, h) := by
  rw [assembleHalf_eq, if_pos hc]

theorem asm_ahead {isn : Nat} {B : Bytes} (hl : SeqLinear isn B.length) (st : Import.Stream) (h : Half) (p : Pkt) (c : Nat)
    (hopen : h.closed = false) (hnext : h.nextSeq = some (isn + c)) (hc : c ≤ B.length)
    (hge : isn ≤ p.seq) (hoff : pOff isn p ≤ B.length) (ha : c < pOff isn p) :
    assembleHalf st h p = (st, (checkOverlap h true p.seq p.payload p.ref (p.rst || p.fin)).1) := by
  have hd : seqDiff (isn + c) p.seq > 0 := by
    rw [seq_eq_pOff hge, seqDiff_lin hl hc hoff]; omega
  rw [assembleHalf_eq, if_neg (hopen ▸ Bool.false_ne_true), hnext]
  exact if_pos hd

/-- bytes that are delivered at once are never queued: the FIN flag handed to `checkOverlap` is not used -/
theorem checkOverlap_nofin (h : Half) (s : Nat) (b : Bytes) (r : PRef) (f : Bool) :
    checkOverlap h false s b r f = checkOverlap h false s b r false := by
  unfold checkOverlap
  simp

theorem asm_behind {isn : Nat} {B : Bytes} (hl : SeqLinear isn B.length) (st : Import.Stream) (h : Half) (p : Pkt) (c : Nat)
    (hopen : h.closed = false) (hnext : h.nextSeq = some (isn + c)) (hc : c ≤ B.length)
    (hsyn : p.syn = false) (hge : isn ≤ p.seq) (hpl : p.payload = slice B (pOff isn p) (pEnd isn p)) (ha : pOff isn p ≤ c) :
    assembleHalf st h p =
      (let r := checkOverlap h false (isn + c) (slice B c (max c (pEnd isn p))) p.ref false
       if r.2.length ≠ 0 ∨ (p.rst || p.fin) = true then
         let s := sendToConnection st r.1 (isn + c) r.2 p.ref (p.rst || p.fin)
         (s.1, { s.2.1 with nextSeq := some (if p.fin = true then seqAdd s.2.2 1 else s.2.2) })
       else (st, r.1)) := by
  have hd : ¬ seqDiff (isn + c) p.seq > 0 := by
    rw [seq_eq_pOff hge, seqDiff_lin hl hc (Nat.le_trans ha hc)]; omega
  rw [assembleHalf_eq, if_neg (hopen ▸ Bool.false_ne_true), hnext]
  simp only [if_neg hd, deliverNow, hsyn]
  simp [overlapExisting_behind hl h p c hnext hc hge hpl ha, checkOverlap_nofin]

end Pk.Proofs.ImportReasm
