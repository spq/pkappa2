/-
  Membership in the finite-set operations on stream ids, and `markAddApply` / `markDelApply` field by field
  in terms of `addedOf` / `removedOf`, the ids a call really adds / removes (`addedOf` by its recursion
  equations `addedOf_nil`, `addedOf_cons`).
-/
import Pk.Model.TagGraph

namespace Pk.Proofs.TagGraphMore
open Pk.TagGraph

theorem mem_insertNat (x y : Nat) (l : List Nat) : y ∈ insertNat x l ↔ y = x ∨ y ∈ l := by
  fun_induction insertNat x l with
  | case1 => simp
  | case2 a l h => simp
  | case3 a l => simp
  | case4 a l _ _ ih =>
    rw [List.mem_cons, ih, List.mem_cons]
    exact or_left_comm
theorem mem_unionNat (a b : List Nat) (y : Nat) : y ∈ unionNat a b ↔ y ∈ a ∨ y ∈ b := by
  unfold unionNat
  induction b generalizing a with
  | nil => simp
  | cons x b ih =>
    simp only [List.foldl_cons, ih, mem_insertNat, List.mem_cons]
    constructor
    · rintro ((h | h) | h)
      · exact Or.inr (Or.inl h)
      · exact Or.inl h
      · exact Or.inr (Or.inr h)
    · rintro (h | h | h)
      · exact Or.inl (Or.inr h)
      · exact Or.inl (Or.inl h)
      · exact Or.inr h

theorem mem_diffNat (a b : List Nat) (y : Nat) : y ∈ diffNat a b ↔ y ∈ a ∧ y ∉ b := by
  simp [diffNat]

theorem mem_interNat (a b : List Nat) (y : Nat) : y ∈ interNat a b ↔ y ∈ a ∧ y ∈ b := by
  simp [interNat]

theorem mem_normNat (a : List Nat) (y : Nat) : y ∈ normNat a ↔ y ∈ a := by
  simp [normNat, mem_unionNat]

theorem unionNat_nil (a : List Nat) : unionNat a [] = a := rfl

/-- the ids of a mark add that are not yet set, in the order given, without repetition
    (the `added` of `markAddApply`) -/
def addedOf (matched ids : List Nat) : List Nat :=
  (ids.foldl (fun (acc : List Nat × List Nat) s =>
      if acc.1.contains s then acc else (insertNat s acc.1, acc.2 ++ [s])) (matched, [])).2

theorem added_fold_snd (ids : List Nat) (a b : List Nat) :
    (ids.foldl (fun (acc : List Nat × List Nat) s =>
      if acc.1.contains s then acc else (insertNat s acc.1, acc.2 ++ [s])) (a, b)).2 = b ++ addedOf a ids := by
  unfold addedOf
  induction ids generalizing a b with
  | nil => simp
  | cons s ids ih =>
    simp only [List.foldl_cons]
    split
    · exact ih a b
    · rw [ih, ih (insertNat s a) ([] ++ [s]), List.append_assoc, List.nil_append]

theorem addedOf_nil (matched : List Nat) : addedOf matched [] = [] := rfl

theorem addedOf_cons (matched : List Nat) (s : Nat) (ids : List Nat) :
    addedOf matched (s :: ids) =
      if s ∈ matched then addedOf matched ids else s :: addedOf (insertNat s matched) ids := by
  rw [addedOf, List.foldl_cons]
  by_cases h : s ∈ matched
  · rw [if_pos (by simpa using h), if_pos h]; rfl
  · rw [if_neg (by simpa using h), if_neg h, added_fold_snd]; rfl

theorem mem_addedOf (matched ids : List Nat) (x : Nat) :
    x ∈ addedOf matched ids ↔ x ∈ ids ∧ x ∉ matched := by
  induction ids generalizing matched with
  | nil => simp [addedOf_nil]
  | cons s ids ih =>
    rw [addedOf_cons]
    split
    · rename_i hs
      rw [ih, List.mem_cons]
      exact ⟨fun h => ⟨Or.inr h.1, h.2⟩, fun h => ⟨h.1.resolve_left fun e => h.2 (e ▸ hs), h.2⟩⟩
    · rename_i hs
      rw [List.mem_cons, ih, mem_insertNat, List.mem_cons]
      constructor
      · rintro (rfl | ⟨h, hn⟩)
        · exact ⟨Or.inl rfl, hs⟩
        · exact ⟨Or.inr h, fun hm => hn (Or.inr hm)⟩
      · rintro ⟨h, hn⟩
        by_cases hx : x = s
        · exact Or.inl hx
        · exact Or.inr ⟨h.resolve_left hx, fun hm => hm.elim hx hn⟩

theorem addedOf_nodup (matched ids : List Nat) : (addedOf matched ids).Nodup := by
  induction ids generalizing matched with
  | nil => exact List.nodup_nil
  | cons s ids ih =>
    rw [addedOf_cons]
    split
    · exact ih matched
    · exact List.nodup_cons.mpr ⟨fun h => ((mem_addedOf _ _ _).mp h).2 ((mem_insertNat s s matched).mpr (Or.inl rfl)), ih _⟩
/-- `markAddApply` as one record: the test "nothing added" matters for the text only
    (`unionNat c [] = c`, so the condition is the same either way) -/
theorem markAddApply_eq (t : Tag) (ids : List Nat) :
    markAddApply t ids =
      { t with matched := unionNat t.matched (addedOf t.matched ids),
               uncertain := unionNat t.uncertain (addedOf t.matched ids),
               cond := t.cond.map (fun c => unionNat c (addedOf t.matched ids)),
               definition :=
                 if addedOf t.matched ids = [] then t.definition
                 else if t.definition == "id:-1" then "id:" ++ joinIds (addedOf t.matched ids)
                 else if plainIdList t.definition then t.definition ++ "," ++ joinIds (addedOf t.matched ids)
                 else "(" ++ t.definition ++ ") or id:" ++ joinIds (addedOf t.matched ids) } := by
  unfold markAddApply addedOf
  generalize (List.foldl _ (t.matched, ([] : List Nat)) ids).2 = A
  cases A with
  | nil => cases t with | mk _ _ _ _ _ c => cases c <;> rfl
  | cons a l => rfl

theorem markAddApply_matched (t : Tag) (ids : List Nat) :
    (markAddApply t ids).matched = unionNat t.matched (addedOf t.matched ids) := by
  rw [markAddApply_eq]

theorem markAddApply_cond (t : Tag) (ids : List Nat) :
    (markAddApply t ids).cond = t.cond.map (fun c => unionNat c (addedOf t.matched ids)) := by
  rw [markAddApply_eq]

theorem markAddApply_definition (t : Tag) (ids : List Nat) :
    (markAddApply t ids).definition =
      if addedOf t.matched ids = [] then t.definition
      else if t.definition == "id:-1" then "id:" ++ joinIds (addedOf t.matched ids)
      else if plainIdList t.definition then t.definition ++ "," ++ joinIds (addedOf t.matched ids)
      else "(" ++ t.definition ++ ") or id:" ++ joinIds (addedOf t.matched ids) := by
  rw [markAddApply_eq]

/-- main and sub tags and features, `known`, colour, converters and referrers agree -/
def sameOther (a b : Tag) : Prop :=
  a.mainTags = b.mainTags ∧ a.subTags = b.subTags ∧ a.mainFeat = b.mainFeat ∧ a.subFeat = b.subFeat ∧
  a.known = b.known ∧ a.color = b.color ∧ a.converters = b.converters ∧ a.referencedBy = b.referencedBy

theorem markAddApply_other (t : Tag) (ids : List Nat) : sameOther (markAddApply t ids) t := by
  rw [markAddApply_eq]; exact ⟨rfl, rfl, rfl, rfl, rfl, rfl, rfl, rfl⟩

theorem markDelApply_other (t : Tag) (ids : List Nat) : sameOther (markDelApply t ids) t :=
  ⟨rfl, rfl, rfl, rfl, rfl, rfl, rfl, rfl⟩

theorem mem_markAddApply_matched (t : Tag) (ids : List Nat) (x : Nat) :
    x ∈ (markAddApply t ids).matched ↔ x ∈ t.matched ∨ x ∈ ids := by
  rw [markAddApply_matched, mem_unionNat, mem_addedOf]
  by_cases h : x ∈ t.matched <;> simp [h]

theorem mem_markAddApply_uncertain (t : Tag) (ids : List Nat) (x : Nat) :
    x ∈ (markAddApply t ids).uncertain ↔ x ∈ t.uncertain ∨ (x ∈ ids ∧ x ∉ t.matched) := by
  rw [markAddApply_eq]
  show x ∈ unionNat t.uncertain (addedOf t.matched ids) ↔ _
  rw [mem_unionNat, mem_addedOf]

def removedOf (matched ids : List Nat) : List Nat := normNat (ids.filter (fun s => matched.contains s))

theorem mem_removedOf (matched ids : List Nat) (x : Nat) :
    x ∈ removedOf matched ids ↔ x ∈ ids ∧ x ∈ matched := by
  simp [removedOf, mem_normNat]

theorem mem_markDelApply_matched (t : Tag) (ids : List Nat) (x : Nat) :
    x ∈ (markDelApply t ids).matched ↔ x ∈ t.matched ∧ x ∉ ids := by
  show x ∈ diffNat t.matched (removedOf t.matched ids) ↔ _
  rw [mem_diffNat, mem_removedOf]
  by_cases h : x ∈ t.matched <;> simp [h]

theorem mem_markDelApply_uncertain (t : Tag) (ids : List Nat) (x : Nat) :
    x ∈ (markDelApply t ids).uncertain ↔ x ∈ t.uncertain ∨ (x ∈ ids ∧ x ∈ t.matched) := by
  show x ∈ unionNat t.uncertain (removedOf t.matched ids) ↔ _
  rw [mem_unionNat, mem_removedOf]

theorem markDelApply_cond (t : Tag) (ids : List Nat) :
    (markDelApply t ids).cond = some (markDelApply t ids).matched := rfl

theorem markDelApply_definition (t : Tag) (ids : List Nat) :
    (markDelApply t ids).definition =
      if (markDelApply t ids).matched.isEmpty then "id:-1" else "id:" ++ joinIds (markDelApply t ids).matched := rfl

end Pk.Proofs.TagGraphMore
