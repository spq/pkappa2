/-
  Single fields the service-loop helpers leave unchanged, as `simp` lemmas: instances of the frame lemmas of
  `MgrFrame`.
-/
import Pk.Proofs.MgrFrame
namespace Pk.Proofs.MgrSettle
open Pk.Mgr

@[simp] theorem invalidateTags_toconv (s : St) (a b c : IdSet) : (invalidateTags s a b c).toconv = s.toconv := rfl
@[simp] theorem startTagging_tags (s : St) (c : Option String) : (startTagging s c).tags = s.tags := startTagging_frame (·.tags) s c
@[simp] theorem startConverter_convs (s : St)  : (startConverter s).convs = s.convs := startConverter_frame (·.convs) s
@[simp] theorem startImport_tags (s : St)  : (startImport s).tags = s.tags := startImport_frame (·.tags) s
@[simp] theorem startImport_toconv (s : St)  : (startImport s).toconv = s.toconv := startImport_frame (·.toconv) s
@[simp] theorem detachConv_merge (s : St) (n c : String) (ch : Option String := none) : (detachConv s n c ch).merge = s.merge := detachConv_frame (·.merge) s n c ch
@[simp] theorem detachConv_jMerge (s : St) (n c : String) (ch : Option String := none) : (detachConv s n c ch).jMerge = s.jMerge := detachConv_frame (·.jMerge) s n c ch
@[simp] theorem detachConv_queue (s : St) (n c : String) (ch : Option String := none) : (detachConv s n c ch).queue = s.queue := detachConv_frame (·.queue) s n c ch
@[simp] theorem detachConv_jImport (s : St) (n c : String) (ch : Option String := none) : (detachConv s n c ch).jImport = s.jImport := detachConv_frame (·.jImport) s n c ch

end Pk.Proofs.MgrSettle
