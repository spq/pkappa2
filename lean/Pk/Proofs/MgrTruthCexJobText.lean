/-
  MgrTruthCexJobText — the side condition `JobTextOK` (its `updQuery` clause, Pk/Props/C06ReachSpec.lean) cannot be
  dropped.

  The abstract truth is indexed by tag NAMES, not by definition texts: the frame contract `TruthStep` lets an
  accepted `updQuery` change the truth of the edited tag arbitrarily — also when the new text is the text the
  tag already has.  The completion of the tagging job in flight publishes iff the tag still carries the
  identity (`gen`) and the text of the snapshot, and the during-job mask `rst` (= all streams after an
  `updQuery`) is applied only to definitions that look at more than stream ids.

  Witness: tag/x = "id:0" (a NON-mark tag whose definition is an id list: `mfeat = 1`, `sfeat = 0`), both
  streams pending, its job in flight; truth = ghost = "stream 0".  Event 1: `updQuery tag/x "id:0"` (accepted;
  same identity, same text, `rst := [0,1]`), the truth becomes "nothing" (allowed by `TruthStep`).  Event 2:
  `tagDone tag/x [0]` (the result is the truth at job start).  Every other contract holds for both events
  (`Good`, `PayloadOK`, `EvFeatOK`, `ImportAddsNew`, `TruthStep`, `ResultOK`), but the completion publishes
  `mat = [0]`, `unc = []` (`rst` is not applied: `mfeat &&& 254 = 0`), although stream 0 does not match.
-/
import Pk.Proofs.MgrTruthRun
import Pk.Proofs.MgrConcrete

namespace Pk.Props.C06Reach
open Pk.Mgr Pk.Props.MgrReach Pk.Proofs.MgrTruth Pk.Proofs.MgrTags

/-- `StepOK` without `JobTextOK` -/
structure StepOK4 (s : St) (T g : Truth) (e : Ev) (st : Started) (T' : Truth) : Prop where
  payload : PayloadOK s e
  featOK : EvFeatOK e
  addsNew : ImportAddsNew s e
  truth : TruthStep s e T T'
  result : ResultOK s e g

/-- tag/x while its job is in flight (also the job's snapshot, and the entry after event 1) -/
def cex4X : Tag :=
  { defn := "id:0", mainT := [], subT := [], mfeat := 1, sfeat := 0, mat := [], unc := [0, 1], gen := 0 }
/-- tag/x after the completion -/
def cex4X2 : Tag :=
  { defn := "id:0", mainT := [], subT := [], mfeat := 1, sfeat := 0, mat := [0], unc := [], gen := 0 }

/-- the start state -/
def cex4S : St :=
  { tags := [("tag/x", cex4X)], idx := [0], files := [(0, [0, 1])], used := [(0, 2)], next := 2, all := 2,
    nrec := 2, pcaps := ["a.pcap"], ngen := 1, tag := true, jTag := some ("tag/x", cex4X, [0]) }
/-- after `updQuery tag/x "id:0"` -/
def cex4S1 : St :=
  { tags := [("tag/x", cex4X)], idx := [0], files := [(0, [0, 1])], used := [(0, 2)], next := 2, all := 2,
    nrec := 2, pcaps := ["a.pcap"], ngen := 1, tag := true, rst := [0, 1],
    jTag := some ("tag/x", cex4X, [0]) }
/-- after `tagDone tag/x [0]` -/
def cex4S2 : St :=
  { tags := [("tag/x", cex4X2)], idx := [0], files := [(0, [0, 1])], used := [(0, 1)], next := 2, all := 2,
    nrec := 2, pcaps := ["a.pcap"], ngen := 1, tag := false, rst := [0, 1], jTag := none }

def cex4F : Facts := { err := false, main := [], sub := [], mfeat := 1, sfeat := 0, idsok := true, ids := [0] }

def cex4E1 : Ev := .updQuery "tag/x" "id:0" cex4F
def cex4E2 : Ev := .tagDone "tag/x" [0]

/-- the truth before event 1 (and the ghost: the truth when the job for tag/x started): stream 0 -/
def cex4T : Truth := fun _ id => decide (id = 0)
/-- the truth after event 1: nothing matches -/
def cex4T1 : Truth := fun _ _ => false

theorem cex4_step1 : step cex4S cex4E1 {} = (cex4S1, .ok) := by decide +kernel

theorem cex4_step2 : step cex4S1 cex4E2 {} = (cex4S2, .none) := by decide +kernel

theorem cex4_sget1 {n : String} {t : Tag} (h : sget cex4S1.tags n = some t) : n = "tag/x" ∧ t = cex4X := sget_one h

theorem cex4_sgetX : sget cex4S.tags "tag/x" = some cex4X := by decide +kernel

theorem cex4_good : Good cex4S cex4T cex4T := good_of_check (by decide +kernel)

theorem cex4_truth1 : TruthStep cex4S cex4E1 cex4T cex4T1 := by
  refine ⟨fun h => ?_, fun _ => ?_⟩
  · rw [cex4_step1] at h; cases h
  · show ChangesIn cex4S cex4S.next (fun n _ => n = "tag/x") cex4T cex4T1
    intro n t ht id _ _
    obtain ⟨rfl, _⟩ := sget_one (v := cex4X) ht
    exact Dep.base rfl

theorem cex4_stepOK1 : StepOK4 cex4S cex4T cex4T cex4E1 {} cex4T1 :=
  ⟨payloadOK_of_check (by decide +kernel), ⟨fun h => absurd rfl h, fun h => absurd rfl h⟩, trivial, cex4_truth1, trivial⟩

/-- the witness does violate the condition that is being dropped -/
theorem cex4_not_jobTextOK : ¬ JobTextOK cex4S cex4E1 {} cex4T cex4T1 := by
  intro h
  have h1 : (step cex4S cex4E1 {}).2 = Res.ok := by rw [cex4_step1]
  have := h "tag/x" cex4X [0] rfl cex4X cex4_sgetX rfl rfl h1
  rcases this with h2 | h2
  · exact h2 (by decide)
  · exact h2 rfl

theorem cex4_ghost : ghostNext cex4S cex4E1 cex4T1 cex4T = cex4T := rfl

theorem cex4_stepOK2 : StepOK4 cex4S1 cex4T1 cex4T cex4E2 {} cex4T1 :=
  ⟨payloadOK_of_check (by decide +kernel), trivial, trivial, ⟨fun _ _ _ _ _ _ => rfl, fun _ _ _ _ _ _ => rfl⟩,
    resultOK_of_check (by decide +kernel)⟩

theorem cex4_not_inv : ¬ C06.Inv cex4S2 cex4T1 := by
  intro h
  have h1 : sget cex4S2.tags "tag/x" = some cex4X2 := rfl
  have h2 : (0 : Nat) < cex4S2.next := by decide
  have := (h "tag/x" cex4X2 h1 0 h2 (by intro h; cases h)).1 (List.mem_singleton.2 rfl)
  cases this

/-- two steps of `decided_correct_step` without `JobTextOK`: false -/
theorem jobTextOK_counterexample :
    ¬ (∀ (s : St) (T g : Truth) (e1 : Ev) (st1 : Started) (T1 : Truth) (e2 : Ev) (st2 : Started) (T2 : Truth),
        Good s T g → StepOK4 s T g e1 st1 T1 →
        StepOK4 (step s e1 st1).1 T1 (ghostNext s e1 T1 g) e2 st2 T2 →
        C06.Inv (step (step s e1 st1).1 e2 st2).1 T2) := by
  intro h
  have e1 : (step cex4S cex4E1 {}).1 = cex4S1 := by rw [cex4_step1]
  have e2 : (step cex4S1 cex4E2 {}).1 = cex4S2 := by rw [cex4_step2]
  have h2 : StepOK4 (step cex4S cex4E1 {}).1 cex4T1 (ghostNext cex4S cex4E1 cex4T1 cex4T) cex4E2 {} cex4T1 := by
    rw [e1, cex4_ghost]; exact cex4_stepOK2
  have := h cex4S cex4T cex4T cex4E1 {} cex4T1 cex4E2 {} cex4T1 cex4_good cex4_stepOK1 h2
  rw [e1, e2] at this
  exact cex4_not_inv this

end Pk.Props.C06Reach
