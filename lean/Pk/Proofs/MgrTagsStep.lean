/- The frame `FrE` for `step`, event by event (`step_frE`), and the frame of the tag table through any event,
   `step_tags`; `step_frame` is the form Pk/Props/C06.lean uses.  An import completion is apart: it moves `all`
   before it touches the tags (`step_importDone_some`).  Then what Pk/Props/C06.lean reads off the frame for one
   tag: its matches after a tagging completion and a mark update, what `invF` makes pending, `inv_at_step`. -/
import Pk.Proofs.MgrTagsFrame
import Pk.Proofs.MgrStep
import Pk.Props.MgrSpec
namespace Pk.Proofs.MgrTags
open Pk.Mgr Pk.Proofs.MgrTruth

def markTail (p : St × Res) (st : Started) : St × Res := (startConverter (startTagging p.1 st.tag), p.2)

theorem jobTail_same (s : St) (st : Started) : Same s (jobTail s st) :=
  ((startTagging_same _ _).trans (startConverter_same _)).trans (startMerge_same _)

theorem tdInval_frE {g : Prop} (s : St) : FrE g NT s (tdInval s) := by
  unfold tdInval; split
  · exact FrE.refl _ _
  · exact invalidateTags_frE _ _ _ _

theorem tdPublish_frE {g : Prop} (s : St) (name : String) (snap : Tag) (result : IdSet) :
    FrE g (· ≠ name) s (tdPublish s name snap result) :=
  tdPublish_cases (P := FrE g (· ≠ name) s) s name snap result (FrE.refl _ _)
    (fun _ _ _ _ => (FrE.of_same (qConv_same _ _ _)).trans (setTag_frE_ne _ _ _))
    fun _ hX => hX.trans (invalidateTags_frE _ _ _ _).nt

theorem tagDoneSt_same (s : St) (name : String) (snap : Tag) (held result : List Nat) (st : Started) :
    Same (tdPublish { s with jTag := none } name snap (ofList result)) (tagDoneSt s name snap held result st) :=
  Same.trans (b := { tdPublish { s with jTag := none } name snap (ofList result) with tag := false })
    ⟨rfl, rfl, rfl⟩ ((jobTail_same _ _).trans (release_same _ _))

theorem cdF_spec (all : Nat) (ids : IdSet) (t : Tag) :
    ∃ u, cdF all ids t = { t with unc := u } ∧ (∀ id, id ∈ t.unc → id < all → id ∈ u) ∧
      ∀ id, id ∈ u → id ∈ t.unc ∨ id ∈ ids ∨ id < all := by
  unfold cdF
  by_cases c1 : (t.sfeat &&& fData != 0) = true
  · rw [if_pos c1]
    by_cases c2 : ids.isEmpty = true
    · rw [if_pos c2]; exact ⟨t.unc, rfl, fun _ h _ => h, fun _ h => .inl h⟩
    · rw [if_neg c2]
      exact ⟨_, rfl, fun id _ hb => (mem_rangeSet _ _).2 hb, fun id h => .inr (.inr ((mem_rangeSet _ _).1 h))⟩
  · rw [if_neg c1]
    by_cases c3 : (t.mfeat &&& fData == 0) = true
    · rw [if_pos c3]; exact ⟨t.unc, rfl, fun _ h _ => h, fun _ h => .inl h⟩
    · rw [if_neg c3]
      exact ⟨_, rfl, fun id h _ => (mem_union _ _ _).2 (.inl h),
        fun id h => ((mem_union _ _ _).1 h).elim .inl fun h => .inr (.inl h)⟩

theorem ted_cdF {g : Prop} (all : Nat) (ids : IdSet) (t : Tag) : TEd g all t (cdF all ids t) := by
  obtain ⟨u, e, h, _⟩ := cdF_spec all ids t
  rw [e]; exact .ofUnc h

theorem cdMark_frE {g : Prop} (s : St) (p : String × IdSet) : FrE g NT s (cdMark s p) := by
  unfold cdMark; split
  · exact FrE.refl _ _
  · exact map_frE s _ (fun _ t => cdF s.all p.2 t) rfl rfl rfl (fun _ t => ted_cdF _ _ t)

/-- a converter-job completion up to the job starts -/
theorem cdSweep_frE {g : Prop} (s : St) (sets : List (String × IdSet)) : FrE g NT s (inherit (sets.foldl cdMark s)) :=
  (foldl_frE cdMark cdMark_frE _ _).trans (inherit_frE _)

theorem atFinish_frE (s : St) (name : String) (nt : Tag) (m : Bool) (st : Started) :
    FrE True (· ≠ name) s (atFinish s name nt m st) := by
  unfold atFinish
  refine FrE.trans ?_ (foldl_frE _ (fun s r => (addRefBy_frE s r name).nt) _ _)
  split
  · exact setTag_frE_ne _ _ _
  · exact (setTag_frE_ne _ _ _).trans (FrE.of_same (startTagging_same _ _))

theorem uqRefs_frE (s : St) (name : String) (before after : List String) :
    FrE True NT s (uqRefs s name before after) :=
  (foldl_frE _ (fun s r => delRefBy_frE s r name) _ _).trans (foldl_frE _ (fun s r => addRefBy_frE s r name) _ _)

/-- `uqApply` up to the job starts -/
theorem uqPre_frE (s : St) (name : String) (before after : List String) (nt : Tag) :
    FrE True (· ≠ name) s (uqInv (inherit (setTag (uqRefs s name before after) name nt))) := by
  refine FrE.trans ?_ (FrE.of_same (invalidatedDuring_same _ _))
  refine FrE.trans ?_ (inherit_frE _).nt
  exact (uqRefs_frE s name _ _).nt.trans (setTag_frE_ne _ _ _)

theorem uqApply_frE (s : St) (name : String) (t nt : Tag) (st : Started) :
    FrE True (· ≠ name) s (uqApply s name t nt st) :=
  (uqPre_frE s name _ _ nt).trans (FrE.of_same ((startTagging_same _ _).trans (startConverter_same _)))

theorem unApply_frE (s : St) (name new : String) (t : Tag) :
    FrE True (fun n => n ≠ name ∧ n ≠ new) s (unApply s name new t) := by
  unfold unApply
  refine FrE.trans (b := { s with tags := sins new t (sdel s.tags name) }) ?_ ?_
  · exact ⟨rfl, rfl, fun h => sorted_sins _ _ _ (sorted_sdel _ _ h),
      fun n hn => (keepR_sdel_ne (TEd.refl _) _ (Ne.symm hn.1)).trans TEd.trans
        (keepR_sins_ne (TEd.refl _) _ _ (Ne.symm hn.2)), fun nt hm hn =>
        (mem_sins _ _ _ _ hm).elim (fun e => absurd (congrArg (·.1) e) hn.2)
          fun h => ⟨nt.2, ((mem_sdel _ _ _).1 h).1, TEd.refl _ _⟩⟩
  · exact foldl_frE _ (fun s r => ((delRefBy_frE s r name).trans (addRefBy_frE _ r new)).nt) _ _

theorem step_updConv_frE {g : Prop} (s : St) (name : String) (convs : List String) (st : Started) :
    FrE g NT s (step s (.updConv name convs) st).1 := by
  refine step_updConv_cases (P := fun (s', _) => FrE g NT s s') s name convs st (FrE.refl _ _) fun t _ _ => ?_
  unfold updConvSt ucAttach ucDetach
  refine FrE.trans ?_ (FrE.of_same (startConverter_same _))
  refine FrE.trans ?_ (foldl_frE _ (fun s c => attachConv_frE s name c) _ _)
  exact foldl_frE _ (fun s c => detachConv_frE s name c st.tag) _ _

theorem markSt_frE {g : Prop} (s : St) (name : String) (a d : List Nat) (st : Started) :
    FrE g (· ≠ name) s (markSt s name a d st) :=
  (markUpdate_frE s name a d).trans (FrE.of_same ((startTagging_same _ _).trans (startConverter_same _)))

theorem step_markAdd_frE {g : Prop} (s : St) (name : String) (ids : List Nat) (st : Started) :
    FrE g (· ≠ name) s (step s (.markAdd name ids) st).1 :=
  step_markAdd_cases (P := fun (s', _) => FrE g (· ≠ name) s s') s name ids st (FrE.refl _ _)
    (fun _ _ _ => FrE.refl _ _) fun _ _ => markSt_frE _ _ _ _ _

theorem step_markDel_frE {g : Prop} (s : St) (name : String) (ids : List Nat) (st : Started) :
    FrE g (· ≠ name) s (step s (.markDel name ids) st).1 :=
  step_markDel_cases (P := fun (s', _) => FrE g (· ≠ name) s s') s name ids st (FrE.refl _ _)
    (fun _ _ _ => FrE.refl _ _) fun _ _ => markSt_frE _ _ _ _ _

theorem dtApply_frE (s : St) (name : String) (t : Tag) (choice : Option String) :
    FrE True (· ≠ name) s (dtApply s name t choice) := by
  unfold dtApply
  refine FrE.trans (foldl_frE _ (fun s c => detachConv_frE s name c choice) t.convs s).nt ?_
  refine FrE.trans (b := { (t.convs.foldl (fun s c => detachConv s name c choice) s) with
      tags := sdel (t.convs.foldl (fun s c => detachConv s name c choice) s).tags name }) ?_ ?_
  · exact ⟨rfl, rfl, sorted_sdel _ _, fun n hn => keepR_sdel_ne (TEd.refl _) _ (Ne.symm hn),
      fun nt hm _ => ⟨nt.2, ((mem_sdel _ _ _).1 hm).1, TEd.refl _ _⟩⟩
  · exact foldl_frE _ (fun s r => (delRefBy_frE s r name).nt) _ _

theorem step_delTag_frE (s : St) (name : String) (st : Started) :
    FrE True (· ≠ name) s (step s (.delTag name) st).1 :=
  step_delTag_cases (P := fun (s', _) => FrE True (· ≠ name) s s') s name st (FrE.refl _ _)
    fun _ _ _ => dtApply_frE _ _ _ _

theorem mergeDoneSt_same (s : St) (off : Nat) (held : List Nat) (merged : List (Nat × List Nat)) :
    Same s (mergeDoneSt s off held merged) :=
  Same.trans (b := { mdApply { s with jMerge := none } off held merged with merge := false })
    (.of_keep (mdApply_frame Same.view { s with jMerge := none } off held merged))
    ((startMerge_same _).trans (release_same _ _))

theorem idQueue_same (s : St) : Same s (idQueue s) := by
  unfold idQueue; split
  · exact Same.refl _
  · exact ⟨rfl, rfl, rfl⟩

theorem idApply_nil (s : St) (n : Nat) (u r a : IdSet) : idApply s n [] u r a = s := by
  simp [idApply]

/-- `s1`: the state in which `idApply` runs `invalidateTags` -/
theorem idApply_frE {g : Prop} (s : St) (n : Nat) (created : List (Nat × List Nat)) (u r a : IdSet) :
    ∃ s1 : St, s1.tags = s.tags ∧ s1.all = s.all ∧ s1.next = (if created = [] then s.next else n) ∧
      (created = [] → (idApply s n created u r a).tags = s.tags) ∧ FrE g NT s1 (idApply s n created u r a) := by
  by_cases hc : created = []
  · subst hc
    exact ⟨s, rfl, rfl, rfl, fun _ => rfl, FrE.refl _ _⟩
  · refine ⟨idCreated s n created u r a, rfl, rfl, (if_neg hc).symm, fun h => absurd h hc, ?_⟩
    unfold idApply
    rw [if_neg (by simpa using hc)]
    exact (invalidateTags_frE _ _ _ _).trans
      (FrE.of_same ((invalidateConverters_same _ _).trans (invalidateConverters_same _ _)))

/-- the state in which an import completion runs `invalidateTags` -/
def idBase (s : St) (jnext usednew : Nat) (held : List Nat) : St :=
  release { s with all := jnext + usednew, jImport := none } held

theorem idBase_tags (s : St) (jnext usednew : Nat) (held : List Nat) :
    (idBase s jnext usednew held).tags = s.tags ∧ (idBase s jnext usednew held).all = jnext + usednew ∧
    (idBase s jnext usednew held).next = s.next := by
  have h := release_same { s with all := jnext + usednew, jImport := none } held
  exact ⟨h.1, h.2.1, h.2.2⟩

theorem step_importDone_none (s : St) (processed usednew : Nat) (created : List (Nat × List Nat))
    (upd rst add : List Nat) (st : Started) (hj : s.jImport = none) :
    step s (.importDone processed usednew created upd rst add) st = (s, .none) := by
  rw [step_importDone_eq, hj]

/-- an import completion after its invalidations (cf. `MgrTruth.idTail_dec`) -/
theorem idTail_same (A : St) (p : Nat) (st : Started) :
    Same A (jobTail (idQueue { A with queue := A.queue.drop p }) st) :=
  Same.trans (b := { A with queue := A.queue.drop p }) ⟨rfl, rfl, rfl⟩ ((idQueue_same _).trans (jobTail_same _ _))

/-- an import completion: `s1` has the tags of `s` under the new `all` (and `next`, where files were created), and
    `FrE` holds from `s1` on, i.e. with the new `all` as the bound of `TEd` -/
theorem step_importDone_some {g : Prop} (s : St) (processed usednew : Nat) (created : List (Nat × List Nat))
    (upd rst add : List Nat) (st : Started) (jnext : Nat) (held : List Nat) (hj : s.jImport = some (jnext, held)) :
    ∃ s1 : St, s1.tags = s.tags ∧ s1.all = jnext + usednew ∧
      s1.next = (if created = [] then s.next else jnext + usednew) ∧
      (created = [] → (step s (.importDone processed usednew created upd rst add) st).1.tags = s.tags) ∧
      FrE g NT s1 (step s (.importDone processed usednew created upd rst add) st).1 := by
  simp only [step_importDone_eq, hj]
  obtain ⟨hb1, hb2, hb3⟩ := idBase_tags s jnext usednew held
  obtain ⟨s1, e1, e2, e3, e4, hf⟩ := idApply_frE (g := g) (idBase s jnext usednew held) (jnext + usednew) created
    (ofList upd) (ofList rst) (ofList add)
  have h := idTail_same (idApply (idBase s jnext usednew held) (jnext + usednew) created (ofList upd) (ofList rst)
    (ofList add)) processed st
  exact ⟨s1, e1.trans hb1, e2.trans hb2, e3.trans (by rw [hb3]), fun hc => h.1.trans ((e4 hc).trans hb1),
    hf.trans (.of_same h)⟩

theorem same_sget {s s' : St} (h : Same s s') (n : String) : sget s'.tags n = sget s.tags n := by rw [h.1]

theorem step_tagDone_mat (s : St) (st : Started) (name : String) (snap ot : Tag) (held result : List Nat)
    (hj : s.jTag = some (name, snap, held)) (ht : sget s.tags name = some ot) (hd : ot.defn = snap.defn)
    (hg : ot.gen = snap.gen)
    (t' : Tag) (h' : sget (step s (.tagDone name result) st).1.tags name = some t') :
    t'.mat = union (diff snap.mat snap.unc) (ofList result) := by
  revert t'
  refine step_tagDone_cases (P := fun (s', _) => ∀ t', sget s'.tags name = some t' → t'.mat = _) s name result st
    (fun h => by rw [hj] at h; cases h) (fun _ _ _ h hn => by rw [hj] at h; cases h; exact absurd rfl hn)
    fun snap' held' h t' h' => ?_
  rw [hj] at h; cases h
  rw [same_sget (tagDoneSt_same _ _ _ _ _ _)] at h'
  unfold tdPublish at h'
  rw [show sget ({ s with jTag := none } : St).tags name = some ot from ht] at h'
  simp only [hd, hg, beq_self_eq_true, Bool.and_self, if_true] at h'
  have hk := (tdInval_frE (g := False) (setTag (qConv { s with jTag := none } (tdTag snap ot (ofList result)).convs
      (tdTag snap ot (ofList result)).mat) name (tdTag snap ot (ofList result)))).keep name trivial
  obtain ⟨t2, h2, hr⟩ := hk.1 (tdTag snap ot (ofList result)) (by simp [setTag, sget_sins])
  rw [h2] at h'; cases h'
  exact hr.grel.1.1

theorem markUpdate_mat (s : St) (name : String) (t : Tag) (a d : List Nat) (ht : sget s.tags name = some t) :
    ∃ t', sget (markUpdate s name a d).1.tags name = some t' ∧
      ∀ id, id ∈ t'.mat ↔ ((id ∈ t.mat ∨ id ∈ a) ∧ id ∉ d) := by
  rw [markUpdate_eq, ht]
  simp only []
  have hk := (inherit_frE (g := False) (setTag (muAdd t s a).2 name (muDel (muAdd t s a).1 d))).keep name trivial
  obtain ⟨t3, h3, hr⟩ := hk.1 (muDel (muAdd t s a).1 d) (by simp [setTag, sget_sins])
  have h4 : sget (invalidatedDuringTaggingJob (inherit (setTag (muAdd t s a).2 name (muDel (muAdd t s a).1 d)))
      (muDel (muAdd t s a).1 d).unc).tags name = some t3 := by
    rw [same_sget (invalidatedDuring_same _ _)]; exact h3
  refine ⟨{ t3 with unc := t.unc }, ?_, ?_⟩
  · unfold muFin; rw [h4]; simp [setTag, sget_sins]
  · intro id
    show id ∈ t3.mat ↔ _
    rw [hr.grel.1.1, muDel_mat, muAdd_mat]

theorem invF_add {all : Nat} {upd rst add : IdSet} (t : Tag) (id : Nat) (h : id ∈ add) (hb : id < all) :
    id ∈ (invF all upd rst add t).unc := by
  obtain ⟨u, e, hu⟩ := invF_spec all upd rst add t
  rw [e]
  refine (hu id).2 ?_
  split
  · exact hb
  · exact .inr (.inl h)

theorem invF_sub {all : Nat} {upd rst add : IdSet} (t : Tag) (hs : t.sfeat ≠ 0) (id : Nat) (hb : id < all) :
    id ∈ (invF all upd rst add t).unc := by
  obtain ⟨u, e, hu⟩ := invF_spec all upd rst add t
  rw [e]
  exact (hu id).2 (by rw [if_pos hs]; exact hb)

theorem invF_rst {all : Nat} {upd rst add : IdSet} (t : Tag) (hm : t.mfeat &&& (255 - fID) ≠ 0)
    (id : Nat) (h : id ∈ rst) (hb : id < all) : id ∈ (invF all upd rst add t).unc := by
  obtain ⟨u, e, hu⟩ := invF_spec all upd rst add t
  rw [e]
  refine (hu id).2 ?_
  split
  · exact hb
  · exact .inr (.inr ⟨hm, .inl h⟩)

theorem invF_upd {all : Nat} {upd rst add : IdSet} (t : Tag)
    (hm : t.mfeat &&& (fData ||| fTimeAbs ||| fTimeRel) ≠ 0)
    (id : Nat) (h : id ∈ upd) (hb : id < all) : id ∈ (invF all upd rst add t).unc := by
  -- a tag that looks at data or time does not only look at ids
  have h254 : t.mfeat &&& (255 - fID) ≠ 0 := by
    intro h0
    apply hm
    have e : (fData ||| fTimeAbs ||| fTimeRel) = (255 - fID) &&& (fData ||| fTimeAbs ||| fTimeRel) := by decide
    rw [e, ← Nat.and_assoc, h0, Nat.zero_and]
  obtain ⟨u, e, hu⟩ := invF_spec all upd rst add t
  rw [e]
  refine (hu id).2 ?_
  split
  · exact hb
  · exact .inr (.inr ⟨h254, .inr ⟨hm, h⟩⟩)

/-- the events that edit the reference graph -/
def GEdit : Ev → Prop
  | .addTag .. | .updQuery .. | .updName .. | .delTag _ => True
  | _ => False

theorem step_frE (s : St) (e : Ev) (st : Started) (he : ∀ p u c a b d, e ≠ .importDone p u c a b d) :
    FrE (GEdit e) (fun n => ¬ Props.C06.Edits e n) s (step s e st).1 := by
  have ne : ∀ {g} {m : String} {s' : St}, FrE g (· ≠ m) s s' → FrE g (fun n => ¬ m = n) s s' :=
    fun h => h.mono fun _ hn e => hn e.symm
  have same : ∀ {g N} {s' : St}, Same s s' → FrE g N s s' := FrE.of_same
  cases e with
  | nop => exact FrE.refl _ _
  | importPcaps names =>
    exact step_importPcaps_cases (P := fun (s', _) => FrE _ _ s s') s names st (FrE.refl _ _)
      (fun _ _ => same ⟨rfl, rfl, rfl⟩) fun _ _ => same ⟨rfl, rfl, rfl⟩
  | importDone p u c a b d => exact absurd rfl (he p u c a b d)
  | tagDone name result =>
    refine step_tagDone_cases (P := fun (s', _) => FrE _ _ s s') s name result st (fun _ => FrE.refl _ _)
      (fun _ _ _ _ _ => same ⟨rfl, rfl, rfl⟩) fun snap held _ => ne ?_
    exact FrE.trans (b := { s with jTag := none }) (same ⟨rfl, rfl, rfl⟩)
      ((tdPublish_frE _ name _ _).trans (FrE.of_same (tagDoneSt_same _ _ _ _ _ _)))
  | mergeDone merged =>
    exact step_mergeDone_cases (P := fun (s', _) => FrE _ _ s s') s merged st (fun _ => FrE.refl _ _)
      fun _ _ _ => same (mergeDoneSt_same _ _ _ _)
  | convertDone =>
    refine step_convertDone_cases (P := fun (s', _) => FrE _ _ s s') s st (fun _ => FrE.refl _ _)
      fun sets held _ => FrE.nt ?_
    unfold convertDoneSt
    refine FrE.trans ?_ (FrE.of_same (((startTagging_same _ _).trans (startConverter_same _)).trans (release_same _ _)))
    exact FrE.trans (b := { s with convert := false, jConv := none }) (same ⟨rfl, rfl, rfl⟩) (cdSweep_frE _ _)
  | addTag name color defn f =>
    exact step_addTag_cases (P := fun (s', _) => FrE True _ s s') s name color defn f st (FrE.refl _ _) fun _ =>
      ne (FrE.trans (b := { s with ngen := s.ngen + 1 }) (same ⟨rfl, rfl, rfl⟩) (atFinish_frE _ _ _ _ _))
  | updQuery name defn f =>
    exact step_updQuery_cases (P := fun (s', _) => FrE True _ s s') s name defn f st (FrE.refl _ _) fun _ _ =>
      ne (uqApply_frE _ _ _ _ _)
  | updColor name color =>
    exact step_updColor_cases (P := fun (s', _) => FrE _ _ s s') s name color st (FrE.refl _ _) (FrE.refl _ _)
      fun t ht => (setTag_frE_rel (g := False) (t' := { t with color := color }) ht ⟨GRel.refl _ _, fun _ => rfl⟩).nt
  | updName name new =>
    exact step_updName_cases (P := fun (s', _) => FrE True _ s s') s name new st (FrE.refl _ _)
      (fun _ _ _ => FrE.refl _ _) fun t _ =>
        (unApply_frE s name new t).mono fun _ hn => ⟨fun e => hn (.inl e.symm), fun e => hn (.inr e.symm)⟩
  | updConv name convs => exact (step_updConv_frE s name convs st).nt
  | markAdd name ids => exact ne (step_markAdd_frE s name ids st)
  | markDel name ids => exact ne (step_markDel_frE s name ids st)
  | delTag name => exact ne (step_delTag_frE s name st)
  | viewOpen k =>
    exact step_viewOpen_cases (P := fun (s', _) => FrE _ _ s s') s k st (FrE.refl _ _) fun _ _ => same ⟨rfl, rfl, rfl⟩
  | viewRelease k =>
    exact step_viewRelease_cases (P := fun (s', _) => FrE _ _ s s') s k st (FrE.refl _ _) fun _ _ =>
      same (release_same { s with views := ndel s.views k } _)

/-- The bound of `TEd` is the `all` after the step: an import completion may replace a pending set by everything
    below the `all` it has just set. -/
theorem step_tags (s : St) (e : Ev) (st : Started) :
    (Sorted s.tags → Sorted (step s e st).1.tags) ∧
    (∀ n, ¬ Props.C06.Edits e n → KeepR (TEd (GEdit e) (step s e st).1.all) n s.tags (step s e st).1.tags) ∧
    ((∀ p u c a b d, e ≠ .importDone p u c a b d) → (step s e st).1.all = s.all ∧ (step s e st).1.next = s.next) := by
  by_cases himp : ∃ p u c a b d, e = .importDone p u c a b d
  · obtain ⟨processed, usednew, created, upd, rst, add, rfl⟩ := himp
    suffices h : (Sorted s.tags → Sorted (step s (.importDone processed usednew created upd rst add) st).1.tags) ∧
        ∀ n, KeepR (TEd False (step s (.importDone processed usednew created upd rst add) st).1.all) n s.tags
          (step s (.importDone processed usednew created upd rst add) st).1.tags from
      ⟨h.1, fun n _ => h.2 n, fun h => absurd rfl (h _ _ _ _ _ _)⟩
    cases hj : s.jImport with
    | none => rw [step_importDone_none _ _ _ _ _ _ _ _ hj]; exact ⟨id, fun _ => .refl (TEd.refl _) _ _⟩
    | some p =>
      obtain ⟨jnext, held⟩ := p
      obtain ⟨s1, e1, _, _, _, hf⟩ := step_importDone_some s processed usednew created upd rst add st jnext held hj
      rw [← e1]; exact ⟨hf.sorted, fun n => hf.all ▸ hf.keep n trivial⟩
  · have h := step_frE s e st fun p u c a b d h => himp ⟨p, u, c, a, b, d, h⟩
    exact ⟨h.sorted, fun n hn => h.all ▸ h.keep n hn, fun _ => ⟨h.all, h.next⟩⟩

theorem step_frame (s : St) (e : Ev) (st : Started) :
    (Sorted s.tags → Sorted (step s e st).1.tags) ∧
    (∀ n, ¬ Props.C06.Edits e n → Keep (step s e st).1.all n s.tags (step s e st).1.tags) ∧
    ((∀ p u c a b d, e ≠ .importDone p u c a b d) → (step s e st).1.all = s.all ∧ (step s e st).1.next = s.next) :=
  ⟨(step_tags s e st).1, fun n hn => ((step_tags s e st).2.1 n hn).keep, (step_tags s e st).2.2⟩

/-- "decided ⇒ correct" for ONE tag, through an event that does not edit it (the other tags may be edited): every
    stream that is new or whose truth changed must be pending in its entry afterwards.  `hna`: stream ids in use are
    existing streams, without which the sweep may replace a pending set by a smaller one. -/
theorem inv_at_step (s : St) (e : Ev) (st : Started) (T T' : String → Nat → Bool) (n : String)
    (hinv : ∀ t, sget s.tags n = some t → ∀ id, id < s.next → id ∉ t.unc → (id ∈ t.mat ↔ T n id = true))
    (hne : ¬ Props.C06.Edits e n) (hna : s.next ≤ s.all)
    (hframe : ∀ t', sget (step s e st).1.tags n = some t' → ∀ id, id < (step s e st).1.next →
      (s.next ≤ id ∨ T' n id ≠ T n id) → id ∈ t'.unc) :
    ∀ t', sget (step s e st).1.tags n = some t' → ∀ id, id < (step s e st).1.next → id ∉ t'.unc →
      (id ∈ t'.mat ↔ T' n id = true) := by
  intro t' h' id hid hnu
  have hk := (step_frame s e st).2.1 n hne
  have hold : id < s.next := by
    rcases Nat.lt_or_ge id s.next with h | h
    · exact h
    · exact absurd (hframe t' h' id hid (Or.inl h)) hnu
  have hT : T' n id = T n id := by
    rcases Decidable.em (T' n id = T n id) with h | h
    · exact h
    · exact absurd (hframe t' h' id hid (Or.inr h)) hnu
  -- the bound under which pending ids are kept covers `id`
  have hbound : id < (step s e st).1.all ∨ (step s e st).1.tags = s.tags := by
    by_cases himp : ∃ p u c a b d, e = .importDone p u c a b d
    · obtain ⟨p, u, c, a, b, d, rfl⟩ := himp
      cases hj : s.jImport with
      | none => right; rw [step_importDone_none _ _ _ _ _ _ _ _ hj]
      | some q =>
        obtain ⟨jnext, held⟩ := q
        obtain ⟨s1, _, e2, e3, h0, hf⟩ := step_importDone_some (g := False) s p u c a b d st jnext held hj
        by_cases hc : c = []
        · exact .inr (h0 hc)
        · left
          rw [hf.next, e3, if_neg hc] at hid
          rw [hf.all, e2]; exact hid
    · left
      rw [((step_frame s e st).2.2 (fun p u c a b d h => himp ⟨p, u, c, a, b, d, h⟩)).1]; omega
  cases hsn : sget s.tags n with
  | none => rw [hk.2 hsn] at h'; cases h'
  | some t =>
    have hmat : t'.mat = t.mat ∧ (id ∈ t.unc → id ∈ t'.unc) := by
      rcases hbound with hb | hb
      · obtain ⟨t2, h2, hr⟩ := hk.1 t hsn
        rw [h2] at h'; cases h'
        exact ⟨hr.1, fun h => hr.2.2 id h hb⟩
      · rw [hb, hsn] at h'; cases h'; exact ⟨rfl, fun h => h⟩
    rw [hmat.1, hT]
    exact hinv t hsn id hold (fun h => hnu (hmat.2 h))

end Pk.Proofs.MgrTags
