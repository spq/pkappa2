/-
  MgrTruthExample — a NON-VACUITY example for the contracts of Pk/Props/C06ReachSpec.lean: a concrete
  history (add a tag, queue a capture, the import adds stream 0, the tagging job delivers its result) that
  satisfies `RunOK` from the initial state, and in whose final state the tag decides stream 0 with the
  answer "matches".
-/
import Pk.Proofs.MgrTruthRun
namespace Pk.Props.C06Reach
open Pk.Mgr Pk.Props.MgrReach Pk.Proofs.MgrTruth Pk.Proofs.MgrTags

/-- the ground truth of the example: stream 0 matches tag/x (constant over the whole history: no stream changes after it was added) -/
def exT : Truth := fun n id => n == "tag/x" && id == 0
def exHist : Hist :=
  [ (.addTag "tag/x" "" "sport:80" exFacts, {}, exT),
    (.importPcaps ["a.pcap"], {}, exT),
    (.importDone 1 1 [(0, [0])] [] [] [0], { tag := some "tag/x" }, exT),
    (.tagDone "tag/x" [0], {}, exT) ]

def exTag (mat unc : IdSet) : Tag :=
  { defn := "sport:80", mainT := [], subT := [], mfeat := 4, sfeat := 0, mat := mat, unc := unc, gen := 0 }

/-- after `addTag`: the tag exists (identity `gen = 0`, the counter `ngen` is 1 from now on), nothing is pending
    (there are no streams) -/
def exS1 : St := { tags := [("tag/x", exTag [] [])], ngen := 1 }
/-- after `importPcaps`: the import job is in flight -/
def exS2 : St :=
  { tags := [("tag/x", exTag [] [])], queue := ["a.pcap"], pcaps := ["a.pcap"], jImport := some (0, []), ngen := 1 }
/-- after `importDone`: stream 0 exists and is pending for tag/x, whose tagging job is in flight -/
def exS3 : St :=
  { tags := [("tag/x", exTag [] [0])], idx := [0], files := [(0, [0])], used := [(0, 2)], next := 1, all := 1,
    nrec := 1, pcaps := ["a.pcap"], tag := true, jTag := some ("tag/x", exTag [] [0], [0]), ngen := 1 }
/-- after `tagDone`: tag/x decides stream 0: it matches -/
def exS4 : St :=
  { tags := [("tag/x", exTag [0] [])], idx := [0], files := [(0, [0])], used := [(0, 1)], next := 1, all := 1,
    nrec := 1, pcaps := ["a.pcap"], ngen := 1 }

theorem ex_step1 : step (initSt []) (.addTag "tag/x" "" "sport:80" exFacts) {} = (exS1, .ok) :=
  (step_addTag_with _ _ _ _ _ _ _ parse_tag_x).trans (by decide +kernel)

theorem ex_step2 : step exS1 (.importPcaps ["a.pcap"]) {} = (exS2, .none) := rfl

theorem ex_step3 :
    step exS2 (.importDone 1 1 [(0, [0])] [] [] [0]) { tag := some "tag/x" } = (exS3, .none) := by decide +kernel

theorem ex_step4 : step exS3 (.tagDone "tag/x" [0]) {} = (exS4, .none) := by decide +kernel

theorem ex_ok1 :
    StepOK (initSt []) exT exT (.addTag "tag/x" "" "sport:80" exFacts) {} exT where
  payload := payloadOK_of_check (by decide +kernel)
  featOK := ⟨fun h => absurd rfl h, fun h => absurd rfl h⟩
  addsNew := trivial
  truth := by
    refine ⟨fun _ => sameOn_refl _ _, fun _ => ?_⟩
    refine ⟨fun n _ => sameOn_refl _ _ n, fun h => ?_⟩
    rw [parse_tag_x] at h; cases h
  result := trivial
  jobText := by intro jn snap held h; cases h

theorem ex_ok2 : StepOK exS1 exT exT (.importPcaps ["a.pcap"]) {} exT where
  payload := payloadOK_of_check (by decide +kernel)
  featOK := trivial
  addsNew := trivial
  truth := ⟨fun _ => sameOn_refl _ _, fun _ => sameOn_refl _ _⟩
  result := trivial
  jobText := by intro jn snap held h; cases h

theorem ex_ok3 :
    StepOK exS2 exT exT (.importDone 1 1 [(0, [0])] [] [] [0]) { tag := some "tag/x" } exT where
  payload := payloadOK_of_check (by decide +kernel)
  featOK := trivial
  addsNew := by
    intro jn held h id h1 h2
    cases h
    simp; omega
  truth := by
    refine ⟨fun _ => sameOn_refl _ _, fun _ => ?_⟩
    intro n t _ id _ hne
    exact absurd rfl hne
  result := trivial
  jobText := by intro jn snap held h; cases h

theorem ex_ok4 : StepOK exS3 exT exT (.tagDone "tag/x" [0]) {} exT where
  payload := payloadOK_of_check (by decide +kernel)
  featOK := trivial
  addsNew := trivial
  truth := ⟨fun _ => sameOn_refl _ _, fun _ => sameOn_refl _ _⟩
  result := resultOK_of_check (by decide +kernel)
  jobText := by intro jn snap held _; trivial

theorem example_runOK : RunOK (initSt []) exT exT exHist :=
  runOK_step ex_step1 (ghostNext_self _ _ _) ex_ok1 <| runOK_step ex_step2 (ghostNext_self _ _ _) ex_ok2 <|
  runOK_step ex_step3 (ghostNext_self _ _ _) ex_ok3 <| runOK_step ex_step4 (ghostNext_self _ _ _) ex_ok4 trivial

theorem ex_runSt : runSt (initSt []) exHist = exS4 :=
  (runSt_step ex_step1).trans ((runSt_step ex_step2).trans ((runSt_step ex_step3).trans (runSt_step ex_step4)))

theorem example_final :
    ∃ t, sget (runSt (initSt []) exHist).tags "tag/x" = some t ∧ t.mat = [0] ∧ t.unc = [] ∧
      (runSt (initSt []) exHist).next = 1 := by
  rw [ex_runSt]
  exact ⟨exTag [0] [], rfl, rfl, rfl, rfl⟩

end Pk.Props.C06Reach
