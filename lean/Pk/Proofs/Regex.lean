/-
  `lenRange` bounds every match (induction on `Matches`) and is attained.  The maximum is an `Option Nat` with
  `none` for "unbounded": `LeHi` is `≤` and `AttHi` is "attained" for such a maximum, each with one lemma per
  operation of `lenRange` (`addHi`, `maxHi`, `repHi`).  The witnesses of "attained" are words matched in EVERY
  context (`Att`): those compose under `cat`, `alt` and `rep`, which words matched in one context do not.
-/
import Pk.Model.Regex

namespace Pk.Regex
open Regex

/-- `n ≤ hi`, where `none` is the unbounded maximum -/
def LeHi (n : Nat) : Option Nat → Prop
  | some h => n ≤ h
  | none => True

/-- the maximum of `n` iterations at most (`none`: any number) of a body with maximum `x`, as `lenRange` has it -/
def repHi (mx x : Option Nat) : Option Nat :=
  match mx with
  | some n => mulHi n x
  | none => starHi x

theorem LeHi.zero : ∀ o, LeHi 0 o
  | some _ => Nat.zero_le _
  | none => trivial

theorem LeHi.add {a b : Nat} {x y : Option Nat} (ha : LeHi a x) (hb : LeHi b y) : LeHi (a + b) (addHi x y) := by
  cases x <;> cases y <;> simp only [LeHi, addHi] at *
  omega

theorem LeHi.maxL {a : Nat} {x : Option Nat} (ha : LeHi a x) (y : Option Nat) : LeHi a (maxHi x y) := by
  cases x <;> cases y <;> simp only [LeHi, maxHi] at *
  exact Nat.le_trans ha (Nat.le_max_left _ _)

theorem LeHi.maxR {b : Nat} {y : Option Nat} (hb : LeHi b y) (x : Option Nat) : LeHi b (maxHi x y) := by
  cases x <;> cases y <;> simp only [LeHi, maxHi] at *
  exact Nat.le_trans hb (Nat.le_max_right _ _)

theorem LeHi.rep {a b : Nat} {mx x : Option Nat} (hm : moreAllowed mx = true) (ha : LeHi a x)
    (hb : LeHi b (repHi (decMax mx) x)) : LeHi (a + b) (repHi mx x) := by
  cases mx with
  | none =>
    cases x with
    | none => trivial
    | some h =>
      cases h with
      | zero =>
        simp only [LeHi, repHi, decMax, starHi] at *
        omega
      | succ h => trivial
  | some n =>
    have hn : n = (n - 1) + 1 := by
      simp [moreAllowed] at hm
      omega
    cases x with
    | none =>
      -- with an unbounded body the maximum is finite only if no iteration is allowed
      rw [hn]
      trivial
    | some h =>
      simp only [LeHi, repHi, decMax, mulHi] at *
      rw [hn, Nat.succ_mul]
      omega

theorem lenRange_sound_aux {r : Regex} {pre w post : List Byte} (m : Matches r pre w post) :
    (lenRange r).1 ≤ w.length ∧ LeHi w.length (lenRange r).2 := by
  induction m with
  | eps pre post => exact ⟨Nat.le_refl _, Nat.le_refl _⟩
  | atom rs neg b pre post hb => exact ⟨Nat.le_refl _, Nat.le_refl _⟩
  | assert a pre post ha => exact ⟨Nat.le_refl _, Nat.le_refl _⟩
  | cat r s pre u v post _ _ ih1 ih2 =>
    rw [List.length_append]
    exact ⟨Nat.add_le_add ih1.1 ih2.1, ih1.2.add ih2.2⟩
  | altL r s pre w post _ ih => exact ⟨Nat.le_trans (Nat.min_le_left _ _) ih.1, ih.2.maxL _⟩
  | altR r s pre w post _ ih => exact ⟨Nat.le_trans (Nat.min_le_right _ _) ih.1, ih.2.maxR _⟩
  | repStop r mx pre post => exact ⟨by simp [lenRange], LeHi.zero _⟩
  | repStep r mn mx pre u v post hmore _ _ ih1 ih2 =>
    rw [List.length_append]
    refine ⟨?_, LeHi.rep hmore ih1.2 ih2.2⟩
    have h2 := ih2.1
    simp only [lenRange] at h2 ⊢
    cases mn with
    | zero => simp
    | succ k =>
      rw [Nat.add_sub_cancel] at h2
      rw [Nat.succ_mul]
      omega

def pow (w : List Byte) : Nat → List Byte
  | 0 => []
  | k + 1 => w ++ pow w k

theorem pow_length (w : List Byte) (k : Nat) : (pow w k).length = k * w.length := by
  induction k with
  | zero => simp [pow]
  | succ k ih => simp [pow, ih, Nat.succ_mul]; omega

def allows : Option Nat → Nat → Prop
  | none, _ => True
  | some n, k => k ≤ n

theorem rep_pow {r : Regex} {w : List Byte} (hw : ∀ pre post, Matches r pre w post) :
    ∀ (k mn : Nat) (mx : Option Nat), mn ≤ k → allows mx k →
      ∀ pre post, Matches (rep r mn mx) pre (pow w k) post := by
  intro k
  induction k with
  | zero =>
    intro mn mx hmn _ pre post
    have : mn = 0 := by omega
    subst this
    exact Matches.repStop r mx pre post
  | succ k ih =>
    intro mn mx hmn hal pre post
    have hmore : moreAllowed mx = true := by
      cases mx with
      | none => rfl
      | some n => simp only [allows] at hal; simp [moreAllowed]; omega
    have hal' : allows (decMax mx) k := by
      cases mx with
      | none => trivial
      | some n => simp only [allows, decMax] at hal ⊢; omega
    exact Matches.repStep r mn mx pre w (pow w k) post hmore (hw _ _)
      (ih (mn - 1) (decMax mx) (by omega) hal' _ _)

theorem atomWitness_spec {rs : List (Byte × Byte)} {neg : Bool} (h : (atomWitness rs neg).isSome = true) :
    ∃ b, b < 256 ∧ atomMatch rs neg b = true := by
  unfold atomWitness at h
  cases hf : (List.range 256).find? (atomMatch rs neg) with
  | none => simp [hf] at h
  | some b =>
    refine ⟨b, ?_, List.find?_some hf⟩
    have := List.mem_of_find?_eq_some hf
    simpa using this

def Att (r : Regex) (n : Nat) : Prop := ∃ w, w.length = n ∧ ∀ pre post, Matches r pre w post

theorem Att.cat {r s : Regex} {a b : Nat} (hr : Att r a) (hs : Att s b) : Att (cat r s) (a + b) := by
  obtain ⟨u, rfl, mu⟩ := hr
  obtain ⟨v, rfl, mv⟩ := hs
  exact ⟨u ++ v, List.length_append, fun pre post => Matches.cat r s pre u v post (mu _ _) (mv _ _)⟩

theorem Att.altL {r : Regex} {a : Nat} (hr : Att r a) (s : Regex) : Att (alt r s) a := by
  obtain ⟨u, hu, mu⟩ := hr
  exact ⟨u, hu, fun pre post => Matches.altL r s pre u post (mu _ _)⟩

theorem Att.altR {s : Regex} {a : Nat} (hs : Att s a) (r : Regex) : Att (alt r s) a := by
  obtain ⟨v, hv, mv⟩ := hs
  exact ⟨v, hv, fun pre post => Matches.altR r s pre v post (mv _ _)⟩

theorem Att.rep {r : Regex} {a : Nat} (hr : Att r a) (k : Nat) {mn : Nat} {mx : Option Nat}
    (hmn : mn ≤ k) (hal : allows mx k) : Att (rep r mn mx) (k * a) := by
  obtain ⟨u, rfl, mu⟩ := hr
  exact ⟨pow u k, pow_length u k, rep_pow mu k mn mx hmn hal⟩

/-- the maximum is attained; the unbounded maximum `none` by arbitrarily long words -/
def AttHi (r : Regex) : Option Nat → Prop
  | some h => Att r h
  | none => ∀ N : Nat, ∃ n, N ≤ n ∧ Att r n

theorem AttHi.cat {r s : Regex} {a b : Nat} {x y : Option Nat} (lr : Att r a) (ls : Att s b)
    (hx : AttHi r x) (hy : AttHi s y) : AttHi (cat r s) (addHi x y) := by
  cases x with
  | none =>
    intro N
    obtain ⟨n, hn, an⟩ := hx N
    exact ⟨n + b, by omega, an.cat ls⟩
  | some h =>
    cases y with
    | none =>
      intro N
      obtain ⟨n, hn, an⟩ := hy N
      exact ⟨a + n, by omega, lr.cat an⟩
    | some k => exact Att.cat hx hy

theorem AttHi.alt {r s : Regex} {x y : Option Nat} (hx : AttHi r x) (hy : AttHi s y) :
    AttHi (alt r s) (maxHi x y) := by
  cases x with
  | none =>
    intro N
    obtain ⟨n, hn, an⟩ := hx N
    exact ⟨n, hn, an.altL s⟩
  | some h =>
    cases y with
    | none =>
      intro N
      obtain ⟨n, hn, an⟩ := hy N
      exact ⟨n, hn, an.altR r⟩
    | some k =>
      simp only [AttHi, maxHi, Nat.max_def]
      split
      · exact Att.altR hy r
      · exact Att.altL hx s

/-- An unbounded maximum comes from a body that attains a positive length, iterated often enough. -/
theorem AttHi.rep {r : Regex} {a mn : Nat} {mx x : Option Nat} (lr : Att r a) (hx : AttHi r x)
    (hmn : allows mx mn) : AttHi (rep r mn mx) (repHi mx x) := by
  cases mx with
  | some n =>
    cases x with
    | some h => exact Att.rep hx n hmn (Nat.le_refl n)
    | none =>
      simp only [repHi, mulHi]
      split
      · rename_i h0
        subst h0
        simpa [AttHi] using lr.rep (mx := some 0) 0 hmn (Nat.le_refl 0)
      · intro N
        obtain ⟨k, hk, ak⟩ := hx N
        refine ⟨_, ?_, ak.rep (Nat.max mn 1) (Nat.le_max_left _ _) (Nat.max_le.2 ⟨hmn, by omega⟩)⟩
        exact Nat.le_trans hk (Nat.le_mul_of_pos_left k (Nat.le_max_right mn 1))
  | none =>
    have long {k : Nat} (hk : 1 ≤ k) (ak : Att r k) (N : Nat) : ∃ n, N ≤ n ∧ Att (.rep r mn none) n :=
      ⟨_, Nat.le_trans (Nat.le_max_right mn N) (Nat.le_mul_of_pos_right _ hk),
        ak.rep (Nat.max mn N) (Nat.le_max_left _ _) trivial⟩
    cases x with
    | none =>
      obtain ⟨k, hk, ak⟩ := hx 1
      exact long hk ak
    | some h =>
      cases h with
      | zero => exact Att.rep hx mn (Nat.le_refl _) trivial
      | succ h => exact long (Nat.succ_pos h) hx

theorem attained (r : Regex) (ha : assertFree r = true) (hw : wellFormed r = true) :
    Att r (lenRange r).1 ∧ AttHi r (lenRange r).2 := by
  induction r with
  | eps => exact ⟨⟨[], rfl, Matches.eps⟩, ⟨[], rfl, Matches.eps⟩⟩
  | atom rs neg =>
    obtain ⟨b, _, hb⟩ := atomWitness_spec (by simpa [wellFormed] using hw)
    have : Att (atom rs neg) 1 := ⟨[b], rfl, fun pre post => Matches.atom rs neg b pre post hb⟩
    exact ⟨this, this⟩
  | assert a => simp [assertFree] at ha
  | cat r s ihr ihs =>
    simp only [assertFree, wellFormed, Bool.and_eq_true] at ha hw
    obtain ⟨lr, hr⟩ := ihr ha.1 hw.1
    obtain ⟨ls, hs⟩ := ihs ha.2 hw.2
    exact ⟨lr.cat ls, AttHi.cat lr ls hr hs⟩
  | alt r s ihr ihs =>
    simp only [assertFree, wellFormed, Bool.and_eq_true] at ha hw
    obtain ⟨lr, hr⟩ := ihr ha.1 hw.1
    obtain ⟨ls, hs⟩ := ihs ha.2 hw.2
    refine ⟨?_, AttHi.alt hr hs⟩
    simp only [lenRange, Nat.min_def]
    split
    · exact lr.altL s
    · exact ls.altR r
  | rep r mn mx ih =>
    simp only [assertFree, wellFormed, Bool.and_eq_true] at ha hw
    obtain ⟨lr, hr⟩ := ih ha hw.1
    have hmn : allows mx mn := by
      cases mx with
      | none => trivial
      | some n => simpa [allows] using hw.2
    exact ⟨lr.rep mn (Nat.le_refl _) hmn, AttHi.rep lr hr hmn⟩

end Pk.Regex
