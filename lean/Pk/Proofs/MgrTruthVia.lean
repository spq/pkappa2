/- The table after an event is the sweep `inherit` of an explicit table (`*_via`). -/
import Pk.Proofs.MgrTagsStep
import Pk.Proofs.MgrFrame
import Pk.Proofs.MgrTruthFrame
import Pk.Proofs.MgrTruthInherit
import Pk.Proofs.MgrTruthEdit
import Pk.Proofs.MgrTruthMasks
import Pk.Proofs.MgrSettleFrame
namespace Pk.Proofs.MgrTruth
open Pk.Mgr Pk.Proofs.MgrTags Masks

theorem importDone_via (s : St) (p u : Nat) (c : List (Nat × List Nat)) (a b d : List Nat) (st : Started)
    (jn : Nat) (held : List Nat) (hj : s.jImport = some (jn, held)) (hc : c ≠ []) :
    ∃ s1 : St, (step s (.importDone p u c a b d) st).1.tags = (inherit s1).tags ∧
      (step s (.importDone p u c a b d) st).1.all = jn + u ∧ (step s (.importDone p u c a b d) st).1.next = jn + u ∧
      s1.all = jn + u ∧
      s1.tags = s.tags.map (fun q => (q.1, invF (jn + u) (ofList a) (ofList b) (ofList d) q.2)) := by
  rw [step_importDone_eq, hj]
  have hB := idBase_tags s jn u held
  let C := idCreated (idBase s jn u held) (jn + u) c (ofList a) (ofList b) (ofList d)
  have hCt : C.tags = s.tags := hB.1
  have hCa : C.all = jn + u := hB.2.1
  let s1 : St := { C with tags := C.tags.map fun q => (q.1, invF C.all (ofList a) (ofList b) (ofList d) q.2) }
  have hA : Same (inherit s1) (idApply (release { s with all := jn + u, jImport := none } held) (jn + u) c
      (ofList a) (ofList b) (ofList d)) := by
    unfold idApply
    rw [if_neg (by simpa using hc), invalidateTags_eq]
    exact (invalidateConverters_same _ (ofList a)).trans (invalidateConverters_same _ (ofList b))
  have hS := hA.trans (idTail_same _ p st)
  refine ⟨s1, hS.1, ?_, ?_, hCa, ?_⟩
  · rw [hS.2.1]; exact hCa
  · rw [hS.2.2]; rfl
  · show C.tags.map _ = _
    rw [hCt, hCa]

/-- what the `cdMark` fold of a converter completion does to one tag (`foldl_cdMark`) -/
def cdAll (all : Nat) (convs : List String) (sets : List (String × IdSet)) (t : Tag) : Tag :=
  sets.foldl (fun t p => if convs.contains p.1 then cdF all p.2 t else t) t

theorem cdF_feat (all : Nat) (ids : IdSet) (t : Tag) :
    (cdF all ids t).mfeat = t.mfeat ∧ (cdF all ids t).sfeat = t.sfeat :=
  let f := (ted_cdF (g := False) all ids t).grel.1
  ⟨f.2.2.1, f.2.2.2.1⟩

theorem cdF_grow (all : Nat) (ids : IdSet) (t : Tag) (id : Nat) (h : id ∈ t.unc) (hb : id < all) :
    id ∈ (cdF all ids t).unc := (ted_cdF (g := False) all ids t).grel.2 id h hb

theorem cdF_main (all : Nat) (ids : IdSet) (t : Tag) (id : Nat) (hm : t.mfeat &&& fData ≠ 0) (hid : id ∈ ids)
    (hb : id < all) : id ∈ (cdF all ids t).unc := by
  unfold cdF; split
  · split
    · rename_i h; simp only [List.isEmpty_iff] at h; subst h; cases hid
    · simpa using hb
  · split
    · rename_i h; simp only [beq_iff_eq] at h; exact absurd h hm
    · simp [hid]

theorem cdF_sub (all : Nat) (ids : IdSet) (t : Tag) (id : Nat) (hs : t.sfeat &&& fData ≠ 0) (hne : ids ≠ [])
    (hb : id < all) : id ∈ (cdF all ids t).unc := by
  unfold cdF; split
  · split
    · rename_i h; simp only [List.isEmpty_iff] at h; exact absurd h hne
    · simpa using hb
  · rename_i h; simp only [bne_iff_ne, ne_eq, Decidable.not_not] at h; exact absurd h hs

theorem cdAll_grow (all : Nat) (convs : List String) (sets : List (String × IdSet)) (t : Tag) (id : Nat)
    (h : id ∈ t.unc) (hb : id < all) : id ∈ (cdAll all convs sets t).unc := by
  unfold cdAll
  induction sets generalizing t with
  | nil => exact h
  | cons q sets ih =>
    simp only [List.foldl_cons]
    apply ih
    split
    · exact cdF_grow all q.2 t id h hb
    · exact h

theorem cdAll_main (all : Nat) (convs : List String) (sets : List (String × IdSet)) (t : Tag) (id : Nat)
    (hm : t.mfeat &&& fData ≠ 0) (p : String × IdSet) (hp : p ∈ sets) (hc : p.1 ∈ convs) (hid : id ∈ p.2)
    (hb : id < all) : id ∈ (cdAll all convs sets t).unc := by
  induction sets generalizing t with
  | nil => cases hp
  | cons q sets ih =>
    rcases List.mem_cons.1 hp with rfl | hp
    · have hq : convs.contains p.1 = true := by simpa using hc
      simp only [cdAll, List.foldl_cons, hq, if_true]
      exact cdAll_grow all convs sets _ id (cdF_main all p.2 t id hm hid hb) hb
    · simp only [cdAll, List.foldl_cons]
      refine ih _ ?_ hp
      split
      · rw [(cdF_feat all q.2 t).1]; exact hm
      · exact hm

theorem cdAll_sub (all : Nat) (convs : List String) (sets : List (String × IdSet)) (t : Tag) (id : Nat)
    (hs : t.sfeat &&& fData ≠ 0) (p : String × IdSet) (hp : p ∈ sets) (hc : p.1 ∈ convs) (hne : p.2 ≠ [])
    (hb : id < all) : id ∈ (cdAll all convs sets t).unc := by
  induction sets generalizing t with
  | nil => cases hp
  | cons q sets ih =>
    rcases List.mem_cons.1 hp with rfl | hp
    · have hq : convs.contains p.1 = true := by simpa using hc
      simp only [cdAll, List.foldl_cons, hq, if_true]
      exact cdAll_grow all convs sets _ id (cdF_sub all p.2 t id hs hne hb) hb
    · simp only [cdAll, List.foldl_cons]
      refine ih _ ?_ hp
      split
      · rw [(cdF_feat all q.2 t).2]; exact hs
      · exact hs

theorem cdAll_bound (all : Nat) (convs : List String) (sets : List (String × IdSet)) (t : Tag) (id : Nat)
    (h : id ∈ (cdAll all convs sets t).unc) :
    id ∈ t.unc ∨ id < all ∨ ∃ p, p ∈ sets ∧ id ∈ p.2 := by
  induction sets generalizing t with
  | nil => exact Or.inl h
  | cons q sets ih =>
    simp only [cdAll, List.foldl_cons] at h
    rcases ih _ h with h1 | h1 | ⟨p, hp, h1⟩
    · revert h1
      split
      · intro h1
        obtain ⟨u, e, _, hb⟩ := cdF_spec all q.2 t
        rw [e] at h1
        rcases hb id h1 with h2 | h2 | h2
        · exact Or.inl h2
        · exact Or.inr (Or.inr ⟨q, List.mem_cons_self, h2⟩)
        · exact Or.inr (Or.inl h2)
      · exact Or.inl
    · exact Or.inr (Or.inl h1)
    · exact Or.inr (Or.inr ⟨p, List.mem_cons_of_mem _ hp, h1⟩)

theorem cdMark_tags (s : St) (p : String × IdSet) :
    (cdMark s p).tags = s.tags.map fun q => (q.1, if s.convs.contains p.1 then cdF s.all p.2 q.2 else q.2) := by
  unfold cdMark
  by_cases h : s.convs.contains p.1 = true
  · rw [if_neg (by rw [h]; simp)]; simp only [h, if_true]
  · rw [if_pos (by simpa using h)]; simp only [h]; exact (List.map_id' _).symm

theorem foldl_cdMark (sets : List (String × IdSet)) (s0 : St) :
    (sets.foldl cdMark s0).tags = s0.tags.map (fun q => (q.1, cdAll s0.all s0.convs sets q.2)) ∧
    (sets.foldl cdMark s0).all = s0.all ∧ (sets.foldl cdMark s0).next = s0.next := by
  induction sets generalizing s0 with
  | nil => simp [cdAll]
  | cons p sets ih =>
    obtain ⟨h1, h2, h3⟩ := ih (cdMark s0 p)
    rw [cdMark_frame (·.convs), cdMark_frame (·.all), cdMark_tags, List.map_map] at h1
    exact ⟨h1, h2.trans (cdMark_frame (·.all) _ _), h3.trans (cdMark_frame (·.next) _ _)⟩
theorem convertDone_via (s : St) (st : Started) (sets : List (String × IdSet)) (held : List Nat)
    (hj : s.jConv = some (sets, held)) :
    ∃ s1 : St, (step s .convertDone st).1.tags = (inherit s1).tags ∧
      (step s .convertDone st).1.all = s.all ∧ (step s .convertDone st).1.next = s.next ∧ s1.all = s.all ∧
      s1.tags = s.tags.map (fun q => (q.1, cdAll s.all s.convs sets q.2)) := by
  rw [step_convertDone_eq, hj]
  obtain ⟨h1, h2, h3⟩ := foldl_cdMark sets { s with convert := false, jConv := none }
  have hS := ((startTagging_same (inherit (sets.foldl cdMark { s with convert := false, jConv := none })) st.tag).trans
    (startConverter_same _)).trans (release_same _ held)
  exact ⟨_, hS.1, hS.2.1.trans h2, hS.2.2.trans h3, h2, h1⟩

theorem uqRefs_quiet (s : St) (name : String) (b a : List String) : Quiet s (uqRefs s name b a) :=
  (foldl_quiet _ (fun s r => delRefBy_quiet s r name) _ _).trans (foldl_quiet _ (fun s r => addRefBy_quiet s r name) _ _)

/-- the table after an accepted `updQuery` is the sweep of the table with the new entry put in; before that only
    `refBy` has changed (`Quiet`) -/
theorem updQuery_via (s : St) (name defn : String) (f : Facts) (st : Started)
    (hok : (step s (.updQuery name defn f) st).2 = Res.ok) :
    ∃ (Q : St) (t : Tag), sget s.tags name = some t ∧ Quiet s Q ∧ Q.next = s.next ∧
      Same (inherit (setTag Q name (uqNew defn f t s.all))) (step s (.updQuery name defn f) st).1 :=
  step_updQuery_cases (P := fun (s', r) => r = Res.ok → ∃ (Q : St) (t : Tag), sget s.tags name = some t ∧ Quiet s Q ∧
      Q.next = s.next ∧ Same (inherit (setTag Q name (uqNew defn f t s.all))) s')
    s name defn f st (fun h => nomatch h) (fun t ok _ => ⟨_, t, ok.found, uqRefs_quiet s name _ _, (uqRefs_frE s name _ _).next,
      ((invalidatedDuring_same _ _).trans (startTagging_same _ _)).trans (startConverter_same _)⟩) hok

theorem muFin_sget_ne (s : St) (name : String) (u : IdSet) (n : String) (hn : n ≠ name) :
    sget (muFin s name u).tags n = sget s.tags n := by
  unfold muFin
  split
  · simp only [setTag, sget_sins, Ne.symm hn, if_false]
  · rfl

theorem markUpdate_sget_ne (s : St) (name : String) (a d : List Nat) (t : Tag) (ht : sget s.tags name = some t)
    (n : String) (hn : n ≠ name) :
    sget (markUpdate s name a d).1.tags n =
      sget (inherit (setTag (muAdd t s a).2 name (muDel (muAdd t s a).1 d))).tags n := by
  rw [markUpdate_eq, ht]
  simp only []
  rw [muFin_sget_ne _ _ _ _ hn, same_sget (invalidatedDuring_same _ _)]

theorem markSt_sget_ne (s : St) (name : String) (a d : List Nat) (st : Started) (t : Tag)
    (ht : sget s.tags name = some t) (n : String) (hn : n ≠ name) :
    sget (markSt s name a d st).tags n =
      sget (inherit (setTag (muAdd t s a).2 name (muDel (muAdd t s a).1 d))).tags n := by
  rw [markSt, same_sget ((startTagging_same _ _).trans (startConverter_same _)), markUpdate_sget_ne s name a d t ht n hn]

theorem tagDone_same (s : St) (name : String) (result : List Nat) (st : Started) (snap : Tag) (held : List Nat)
    (hj : s.jTag = some (name, snap, held)) :
    Same (tdPublish { s with jTag := none } name snap (ofList result)) (step s (.tagDone name result) st).1 := by
  refine step_tagDone_cases (P := fun r => Same (tdPublish { s with jTag := none } name snap (ofList result)) r.1)
    s name result st (fun h => nomatch hj.symm.trans h) (fun _ _ _ h hn => absurd (by cases hj.symm.trans h; rfl) hn)
    fun snap' held' h => ?_
  cases hj.symm.trans h
  exact Same.trans (b := { tdPublish { s with jTag := none } name snap (ofList result) with tag := false })
      ⟨rfl, rfl, rfl⟩ ((jobTail_same _ _).trans (release_same _ _))

theorem tdPublish_live (s : St) (name : String) (snap ot : Tag) (result : IdSet)
    (hot : sget s.tags name = some ot) (hd : ot.defn = snap.defn) (hg : ot.gen = snap.gen) :
    tdPublish s name snap result =
      tdInval (setTag (qConv s (tdTag snap ot result).convs (tdTag snap ot result).mat) name (tdTag snap ot result)) := by
  unfold tdPublish
  rw [hot]
  simp only [hd, hg, beq_self_eq_true, Bool.and_self, if_true]

/-- a completion that finds its tag unedited: up to `tdInval` the table is the old one with the job's entry
    replaced by the published one -/
theorem tagDone_live (s : St) (name : String) (result : List Nat) (st : Started) (snap ot : Tag) (held : List Nat)
    (hj : s.jTag = some (name, snap, held)) (hot : sget s.tags name = some ot) (hd : ot.defn = snap.defn)
    (hg : ot.gen = snap.gen) :
    ∃ X : St, X.tags = sins name (tdTag snap ot (ofList result)) s.tags ∧ mp X = mp s ∧ X.next = s.next ∧
      Same (tdInval X) (step s (.tagDone name result) st).1 := by
  have hS := tagDone_same s name result st snap held hj
  rw [tdPublish_live _ name snap ot _ (show sget ({ s with jTag := none } : St).tags name = some ot from hot) hd hg] at hS
  generalize tdTag snap ot (ofList result) = nt at hS ⊢
  have hq := qConv_same { s with jTag := none } nt.convs nt.mat
  exact ⟨setTag (qConv { s with jTag := none } nt.convs nt.mat) name nt, congrArg (sins name nt) hq.1,
    qConv_frame mp _ _ _, hq.2.2, hS⟩

theorem tagDone_via (s : St) (name : String) (result : List Nat) (st : Started) (snap ot : Tag) (held : List Nat)
    (hj : s.jTag = some (name, snap, held)) (hot : sget s.tags name = some ot) (hd : ot.defn = snap.defn)
    (hg : ot.gen = snap.gen)
    (hm : ¬ (s.upd = [] ∧ s.rst = [] ∧ s.add = [])) :
    ∃ s1 : St, (step s (.tagDone name result) st).1.tags = (inherit s1).tags ∧
      (step s (.tagDone name result) st).1.all = s.all ∧ (step s (.tagDone name result) st).1.next = s.next ∧
      s1.all = s.all ∧
      s1.tags = (sins name (tdTag snap ot (ofList result)) s.tags).map
        (fun q => (q.1, invF s.all s.upd s.rst s.add q.2)) := by
  obtain ⟨X, hXt, hXm, hXn, hS⟩ := tagDone_live s name result st snap ot held hj hot hd hg
  have hI : tdInval X = inherit { X with tags := X.tags.map fun p => (p.1, invF X.all X.upd X.rst X.add p.2) } := by
    unfold tdInval
    rw [if_neg, invalidateTags_eq]
    simp only [Bool.and_eq_true, List.isEmpty_iff, mp_upd hXm, mp_rst hXm, mp_add hXm, and_assoc]
    exact hm
  rw [hI] at hS
  refine ⟨_, hS.1, hS.2.1.trans (mp_all hXm), hS.2.2.trans hXn, mp_all hXm, ?_⟩
  show X.tags.map _ = _
  rw [hXt, mp_all hXm, mp_upd hXm, mp_rst hXm, mp_add hXm]

theorem tagDone_dead (s : St) (name : String) (result : List Nat) (st : Started) (snap : Tag) (held : List Nat)
    (hj : s.jTag = some (name, snap, held))
    (h : ∀ ot, sget s.tags name = some ot → ¬ (ot.defn = snap.defn ∧ ot.gen = snap.gen)) :
    (step s (.tagDone name result) st).1.tags = s.tags ∧
    (step s (.tagDone name result) st).1.all = s.all ∧ (step s (.tagDone name result) st).1.next = s.next := by
  have hS := tagDone_same s name result st snap held hj
  have hP : tdPublish { s with jTag := none } name snap (ofList result) = { s with jTag := none } := by
    unfold tdPublish
    split
    · rename_i ot hot
      split
      · rename_i hd
        simp only [Bool.and_eq_true, beq_iff_eq] at hd
        exact absurd hd (h ot hot)
      · rfl
    · rfl
  rw [hP] at hS
  exact hS

/-- every entry of `T'` is an entry of `T` up to the fields the propagation rules do not look at -/
def Sub (T T' : List (String × Tag)) : Prop :=
  ∀ n t', sget T' n = some t' → ∃ t, sget T n = some t ∧ t'.mainT = t.mainT ∧ t'.subT = t.subT ∧
    t'.mfeat = t.mfeat ∧ t'.sfeat = t.sfeat ∧ t'.unc = t.unc

theorem Sub.refl (T : List (String × Tag)) : Sub T T := fun _ t' h => ⟨t', h, rfl, rfl, rfl, rfl, rfl⟩

end Pk.Proofs.MgrTruth
