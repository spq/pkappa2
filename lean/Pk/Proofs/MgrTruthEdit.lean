/- C06Reach: what an accepted tag edit does to the table entry of the edited tag. -/
import Pk.Proofs.MgrTruthJob
namespace Pk.Proofs.MgrTruth
open Pk.Mgr Pk.Proofs.MgrTags

theorem dtApply_none (s : St) (name : String) (t : Tag) (choice : Option String) :
    sget (dtApply s name t choice).tags name = none := by
  unfold dtApply
  exact ((foldl_quiet _ (fun s r => delRefBy_quiet s r name) _ _).tags name).2 (by simp [sget_sdel])

theorem delTag_ok (s : St) (name : String) (st : Started)
    (h : (step s (.delTag name) st).2 = Res.ok) :
    ∃ t, sget s.tags name = some t ∧ t.refBy = [] ∧ sget (step s (.delTag name) st).1.tags name = none :=
  step_delTag_cases (P := fun r => r.2 = Res.ok → ∃ t, sget s.tags name = some t ∧ t.refBy = [] ∧ sget r.1.tags name = none)
    s name st (fun h => nomatch h) (fun t ht hr _ => ⟨t, ht, hr, dtApply_none _ _ _ _⟩) h

theorem unApply_get (s : St) (name new : String) (t : Tag) (hne : name ≠ new) :
    sget (unApply s name new t).tags name = none ∧
    ∃ t', sget (unApply s name new t).tags new = some t' ∧ Core t t' := by
  unfold unApply
  have hk := (foldl_quiet (fun s r => addRefBy (delRefBy s r name) r new)
    (fun s r => (delRefBy_quiet s r name).trans (addRefBy_quiet _ r new)) t.refs
    { s with tags := sins new t (sdel s.tags name) }).tags
  refine ⟨(hk name).2 ?_, (hk new).1 t ?_⟩
  · simp [sget_sins, sget_sdel, Ne.symm hne]
  · simp [sget_sins]

theorem updName_ok (s : St) (name new : String) (st : Started)
    (h : (step s (.updName name new) st).2 = Res.ok) :
    ((step s (.updName name new) st).1 = s ∧ new = "") ∨
    (∃ t, sget s.tags name = some t ∧ t.refBy = [] ∧ sget s.tags new = none ∧ name ≠ new ∧
      sget (step s (.updName name new) st).1.tags name = none ∧
      ∃ t', sget (step s (.updName name new) st).1.tags new = some t' ∧ Core t t') := by
  refine step_updName_cases (P := fun r => r.2 = Res.ok → (r.1 = s ∧ new = "") ∨ ∃ t, sget s.tags name = some t ∧ t.refBy = [] ∧
      sget s.tags new = none ∧ name ≠ new ∧ sget r.1.tags name = none ∧ ∃ t', sget r.1.tags new = some t' ∧ Core t t')
    s name new st (fun h => nomatch h) (fun _ _ h _ => .inl ⟨rfl, h⟩) (fun t ok _ => .inr ?_) h
  have hne : name ≠ new := by rintro rfl; exact nomatch ok.found.symm.trans ok.fresh
  exact ⟨t, ok.found, ok.unref, ok.fresh, hne, unApply_get s name new t hne⟩

theorem uqApply_get (s : St) (name : String) (t nt : Tag) (st : Started) :
    ∃ t', sget (uqApply s name t nt st).tags name = some t' ∧ GRel s.all nt t' := by
  unfold uqApply uqInv
  obtain ⟨t', h1, h2⟩ := inherit_g (setTag (uqRefs s name t.refs nt.refs) name nt) name nt
    (by simp [setTag, sget_sins])
  have hall : (setTag (uqRefs s name t.refs nt.refs) name nt).all = s.all := (uqRefs_frE _ _ _ _).all
  rw [hall] at h2
  refine ⟨t', ?_, h2⟩
  rw [same_sget (((invalidatedDuring_same _ _).trans (startTagging_same _ _)).trans (startConverter_same _))]
  exact h1

theorem updQuery_ok (s : St) (name defn : String) (f : Facts) (st : Started)
    (h : (step s (.updQuery name defn f) st).2 = Res.ok) :
    ∃ t t', sget s.tags name = some t ∧ sget (step s (.updQuery name defn f) st).1.tags name = some t' ∧
      t'.defn = defn ∧ (∀ id, id < s.all → id ∈ t'.unc) ∧ t'.gen = t.gen := by
  refine step_updQuery_cases (P := fun r => r.2 = Res.ok → ∃ t t', sget s.tags name = some t ∧
      sget r.1.tags name = some t' ∧ t'.defn = defn ∧ (∀ id, id < s.all → id ∈ t'.unc) ∧ t'.gen = t.gen)
    s name defn f st (fun h => nomatch h) (fun t ok _ => ?_) h
  obtain ⟨t', h1, ⟨_, a2, _, _, _, _, a8⟩, a7⟩ := uqApply_get s name t (uqNew defn f t s.all) st
  exact ⟨t, t', ok.found, h1, a2, fun id hid => a7 id (by simp [uqNew, hid]) hid, a8⟩

theorem atFinish_get (s : St) (name : String) (nt : Tag) (m : Bool) (st : Started) :
    ∃ t', sget (atFinish s name nt m st).tags name = some t' ∧ Core nt t' := by
  unfold atFinish
  refine ((foldl_quiet _ (fun s r => addRefBy_quiet s r name) _ _).tags name).1 nt ?_
  split
  · simp [setTag, sget_sins]
  · rw [same_sget (startTagging_same _ _)]; simp [setTag, sget_sins]

theorem addTag_ok (s : St) (name color defn : String) (f : Facts) (st : Started)
    (h : (step s (.addTag name color defn f) st).2 = Res.ok) :
    sget s.tags name = none ∧
    ∃ t', sget (step s (.addTag name color defn f) st).1.tags name = some t' ∧ t'.gen = s.ngen ∧
      (((parseTagName name).2.2 = true ∧ t'.unc = [] ∧ ∀ id, id ∈ t'.mat ↔ id ∈ f.ids) ∨
       ((parseTagName name).2.2 = false ∧ ∀ id, id < s.all → id ∈ t'.unc)) := by
  refine step_addTag_cases (P := fun r => r.2 = Res.ok → sget s.tags name = none ∧
      ∃ t', sget r.1.tags name = some t' ∧ t'.gen = s.ngen ∧
        (((parseTagName name).2.2 = true ∧ t'.unc = [] ∧ ∀ id, id ∈ t'.mat ↔ id ∈ f.ids) ∨
         ((parseTagName name).2.2 = false ∧ ∀ id, id < s.all → id ∈ t'.unc)))
    s name color defn f st (fun h => nomatch h) (fun ok _ => ⟨ok.fresh, ?_⟩) h
  obtain ⟨t', h1, a1, a2, _, _, _, _, _, a8⟩ := atFinish_get { s with ngen := s.ngen + 1 } name
    (atNew s color defn f (parseTagName name).2.2) (parseTagName name).2.2 st
  refine ⟨t', h1, a8, ?_⟩
  cases hm : (parseTagName name).2.2 with
  | true =>
    rw [hm] at a1 a2
    exact .inl ⟨rfl, a2, fun id => a1 ▸ mem_ofList f.ids id⟩
  | false =>
    rw [hm] at a2
    exact .inr ⟨rfl, fun id hid => a2 ▸ (mem_rangeSet s.all id).2 hid⟩

end Pk.Proofs.MgrTruth
