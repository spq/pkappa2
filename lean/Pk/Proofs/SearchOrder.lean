/- C02: the sort comparators form a strict weak order (`less_swo`), for every key list: the numeric fields by `<` on
   `Nat`, the hosts because `bytesLt` is the lexicographic `<` of `List Nat` (`bytesLt_eq`).  The comparator of the first
   key alone is coarser than the full one (`primLess_side`), which is what the early exit needs. -/
import Pk.Model.Search
import Pk.Proofs.Order

namespace Pk.Proofs.Search
open Pk.Search

theorem bytesLt_eq (a b : List Nat) : bytesLt a b = decide (a < b) := by
  fun_induction bytesLt a b with
  | case1 => rfl
  | case2 => simp
  | case3 => simp
  | case4 a as b bs h => simp [List.cons_lt_cons_iff, h]
  | case5 a as b bs h1 h2 => simp [List.cons_lt_cons_iff]; omega
  | case6 a as b bs h1 h2 ih =>
    obtain rfl : a = b := by omega
    simp [ih]

theorem bytesLt_swo : SWO bytesLt := by
  rw [show bytesLt = fun a b => decide (a < b) from funext fun a => funext (bytesLt_eq a)]
  refine ⟨fun a => decide_eq_false (List.lt_irrefl a), fun a b c => ?_, fun a b c => ?_⟩
  · simp only [decide_eq_true_eq]; exact List.lt_trans
  · simp only [decide_eq_false_iff_not, List.not_lt]; exact fun h1 h2 => List.le_trans h2 h1

private theorem fieldLt_swo (f : Field) : SWO (fieldLt f) := by
  cases f
  · exact natLt_swo.comap (fun r : Rec => r.id)
  · exact natLt_swo.comap (fun r : Rec => r.cbytes)
  · exact natLt_swo.comap (fun r : Rec => r.sbytes)
  · exact natLt_swo.comap (fun r : Rec => r.ftime)
  · exact natLt_swo.comap (fun r : Rec => r.ltime)
  · exact bytesLt_swo.comap (fun r : Rec => r.chost)
  · exact bytesLt_swo.comap (fun r : Rec => r.shost)
  · exact natLt_swo.comap (fun r : Rec => r.cport)
  · exact natLt_swo.comap (fun r : Rec => r.sport)

private theorem keyLt_swo (k : SortKey) : SWO (keyLt k) := by
  cases hd : k.desc
  · have : keyLt k = fieldLt k.field := by funext a b; simp [keyLt, hd]
    rw [this]; exact fieldLt_swo _
  · have : keyLt k = fun a b => fieldLt k.field b a := by funext a b; simp [keyLt, hd]
    rw [this]; exact (fieldLt_swo _).flip

theorem less_swo (keys : List SortKey) : SWO (less keys) := by
  induction keys with
  | nil => exact ⟨fun _ => rfl, fun _ _ _ h => by simp [less] at h, fun _ _ _ _ _ => rfl⟩
  | cons k ks ih =>
    have : less (k :: ks) = SWO.lex (keyLt k) (less ks) := by funext a b; rfl
    rw [this]; exact SWO.lex_swo (keyLt_swo k) ih

abbrev SortedK (keys : List SortKey) (l : List Rec) : Prop := l.Pairwise (fun x y => less keys y x = false)

theorem SortedK.last_max {keys : List SortKey} {l : List Rec} {last : Rec} (hs : SortedK keys (l ++ [last])) :
    ∀ t ∈ l ++ [last], less keys last t = false := by
  intro t ht
  rcases List.mem_append.1 ht with ht | ht
  · exact (List.pairwise_append.1 hs).2.2 t ht last (by simp)
  · rw [List.mem_singleton.1 ht]; exact (less_swo keys).irrefl _

theorem exists_sorted (keys : List SortKey) (l : List Rec) :
    ∃ l' : List Rec, l'.Perm l ∧ SortedK keys l' :=
  ⟨_, List.mergeSort_perm _ _, (less_swo keys).pairwise_mergeSort l⟩

theorem primLess_side (keys : List SortKey) :
    (∀ x y z, primLess keys x y = true → primLess keys z y = false → primLess keys x z = true) ∧
    (∀ x y, less keys x y = true → primLess keys y x = false) := by
  refine ⟨(less_swo (keys.take 1)).lt_of_lt_of_le, ?_⟩
  intro x y h
  cases keys with
  | nil => rfl
  | cons k ks =>
    show less [k] y x = false
    simp only [less] at h ⊢
    have hk := keyLt_swo k
    cases hxy : keyLt k x y
    · cases hyx : keyLt k y x
      · simp
      · simp [hxy, hyx] at h
    · simp [hk.asymm x y hxy]

end Pk.Proofs.Search
