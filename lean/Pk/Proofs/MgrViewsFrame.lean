/-
  C10: which parts of `step` leave the service list, the open files, `next`, the views and the import job alone
  and only ever add locks (`Frame`): every `Starts` (Pk/Proofs/MgrStarts.lean) does.  A completion event is such
  a part, started from `importBase` / `mergeBase` for import and merge, and followed by the `release` of the
  job's files except for the import, which releases first (`step_vwalk`, Pk/Proofs/MgrViewsStep.lean).
-/
import Pk.Proofs.MgrLocks

namespace Pk.Proofs.MgrViews
open Pk.Mgr Pk.Proofs.MgrLocks

/-- `s'` differs from `s` only in fields the view and coverage properties do not read, except that lock counts may
    have grown, views may have been added, and an import job may have been started on `s.next` -/
structure Frame (s s' : St) : Prop where
  idx : s'.idx = s.idx
  files : s'.files = s.files
  next : s'.next = s.next
  views : ∀ k fs, nget s.views k = some fs → nget s'.views k = some fs
  jImport : s'.jImport = s.jImport ∨ ∃ fs, s'.jImport = some (s.next, fs)
  used : ∀ f, (nget s.used f).getD 0 ≤ (nget s'.used f).getD 0

theorem Frame.refl (s : St) : Frame s s :=
  ⟨rfl, rfl, rfl, fun _ _ h => h, Or.inl rfl, fun _ => Nat.le_refl _⟩

theorem Frame.trans {a b c : St} (h1 : Frame a b) (h2 : Frame b c) : Frame a c := by
  refine ⟨h2.idx.trans h1.idx, h2.files.trans h1.files, h2.next.trans h1.next,
    fun k fs h => h2.views k fs (h1.views k fs h), ?_, fun f => Nat.le_trans (h1.used f) (h2.used f)⟩
  rcases h2.jImport with h | ⟨fs, h⟩
  · rcases h1.jImport with h' | ⟨fs, h'⟩
    · exact Or.inl (h.trans h')
    · exact Or.inr ⟨fs, h.trans h'⟩
  · exact Or.inr ⟨fs, by rw [h, h1.next]⟩

/-- `e` is written so that `rfl` proves it when `y` is a record update of `x` off the framed fields -/
theorem Frame.withLock {s x y : St} {fs : List Nat} (h : Frame s x)
    (e : y = { y with idx := x.idx, files := x.files, next := x.next, views := x.views, jImport := x.jImport,
                      used := lock x.used fs }) : Frame s y := by
  rw [e]; exact h.trans ⟨rfl, rfl, rfl, fun _ _ h => h, Or.inl rfl, fun f => by simp only [lock_getD]; omega⟩

theorem Frame.with {s x y : St} (h : Frame s x)
    (e : y = { y with idx := x.idx, files := x.files, next := x.next, views := x.views, jImport := x.jImport,
                      used := x.used }) : Frame s y :=
  h.withLock (fs := []) e

theorem Frame.same {s x y : St} (h : Frame s x) (e : SameCore x y) : Frame s y := by
  rw [e]; exact h.with rfl

theorem frame_getIndexesCopy (s : St) (i : Nat) : Frame s (getIndexesCopy s i).1 :=
  (Frame.refl s).withLock rfl

theorem frame_startMerge (s : St) : Frame s (startMerge s) :=
  startMerge_cases (P := Frame s) s (Frame.refl s) fun _ _ _ => (Frame.refl s).withLock rfl

theorem frame_startTagging (s : St) (c : Option String) : Frame s (startTagging s c) :=
  startTagging_cases (P := Frame s) s c (fun _ => Frame.refl s) fun _ _ _ _ _ _ => (Frame.refl s).withLock rfl

theorem frame_startConverter (s : St) : Frame s (startConverter s) :=
  startConverter_cases (P := Frame s) s (fun _ => Frame.refl s) fun _ _ _ _ => (Frame.refl s).withLock rfl

theorem frame_startImport (s : St) : Frame s (startImport s) := by
  unfold startImport getIndexesCopy
  exact ⟨rfl, rfl, rfl, fun _ _ h => h, Or.inr ⟨_, rfl⟩, fun f => by simp only [lock_getD]; omega⟩

theorem _root_.Pk.Proofs.MgrLocks.Starts.frame {s s' : St} (h : Starts s s') : Frame s s' := by
  induction h with
  | refl => exact Frame.refl s
  | same _ e ih => exact ih.same e
  | tag c _ ih => exact ih.trans (frame_startTagging _ _)
  | conv _ ih => exact ih.trans (frame_startConverter _)
  | merge _ ih => exact ih.trans (frame_startMerge _)

theorem frame_importPcaps (s : St) (names : List String) (st : Started) : Frame s (step s (.importPcaps names) st).1 :=
  step_importPcaps_cases (P := fun r => Frame s r.1) s names st (.refl s) (fun _ _ => (Frame.refl s).with rfl)
    fun _ _ => ((Frame.refl s).with rfl).trans (frame_startImport _)

theorem frame_viewOpen (s : St) (k : Nat) (st : Started) : Frame s (step s (.viewOpen k) st).1 := by
  refine step_viewOpen_cases (P := fun r => Frame s r.1) s k st (.refl s) fun h _ => ?_
  unfold getIndexesCopy; dsimp only
  refine ⟨rfl, rfl, rfl, fun k' fs h' => ?_, Or.inl rfl, fun f => by simp only [lock_getD]; omega⟩
  rw [nget_nins, if_neg]
  · exact h'
  · rintro rfl; rw [h] at h'; cases h'

/-- the head of an import completion: slot emptied, the job's locks released, the created files appended (`idApply`) -/
def importBase (s : St) (jn : Nat) (held : List Nat) (usednew : Nat) (created : List (Nat × List Nat))
    (upd rst add : IdSet) : St :=
  idApply (release { s with all := jn + usednew, jImport := none } held) (jn + usednew) created upd rst add

theorem views_importBase (s : St) (jn : Nat) (held : List Nat) (un : Nat) (cr : List (Nat × List Nat)) (u r a : IdSet) :
    (importBase s jn held un cr u r a).views = s.views :=
  (idApply_frame (·.views) _ _ cr u r a).trans (release_views _ held)

theorem jImport_importBase (s : St) (jn : Nat) (held : List Nat) (un : Nat) (cr : List (Nat × List Nat)) (u r a : IdSet) :
    (importBase s jn held un cr u r a).jImport = none :=
  (idApply_frame (·.jImport) _ _ cr u r a).trans (release_jImport _ held)

/-- with `cr = []` too: nothing is appended, nothing inserted -/
theorem importBase_stack (s : St) (jn : Nat) (held : List Nat) (un : Nat) (cr : List (Nat × List Nat)) (u r a : IdSet) :
    (importBase s jn held un cr u r a).idx = s.idx ++ cr.map (·.1) ∧
    (importBase s jn held un cr u r a).files =
      cr.foldl (fun fs (x : Nat × List Nat) => nins x.1 x.2 fs) (release { s with all := jn + un, jImport := none } held).files ∧
    ((importBase s jn held un cr u r a).next = s.next ∨ (importBase s jn held un cr u r a).next = jn + un) := by
  unfold importBase idApply
  split
  · next h => rw [List.isEmpty_iff.1 h]; exact ⟨by rw [release_idx]; exact (List.append_nil _).symm, rfl, .inl (release_next _ _)⟩
  · -- the invalidations leave the service list, the open files and `next` alone
    have e := (invalidateConverters_frame (fun y => (y.idx, y.files, y.next)) _ r).trans
      ((invalidateConverters_frame (fun y => (y.idx, y.files, y.next)) _ u).trans
        (invalidateTags_frame (fun y => (y.idx, y.files, y.next))
          (idCreated (release { s with all := jn + un, jImport := none } held) (jn + un) cr u r a) u r a))
    simp only [Prod.mk.injEq] at e
    exact ⟨e.1.trans (by rw [idCreated, release_idx]), e.2.1, .inr e.2.2⟩

theorem frame_importDone (s : St) (st : Started) (processed usednew : Nat) (created : List (Nat × List Nat))
    (upd rst add : List Nat) (jn : Nat) (held : List Nat) :
    Frame (importBase s jn held usednew created (ofList upd) (ofList rst) (ofList add))
      (importDoneSt s jn held processed usednew created upd rst add st) := by
  refine Frame.trans ?_ (Starts.refl.jobTail st).frame
  unfold idQueue
  split
  · exact (Frame.refl _).with rfl
  · exact ((Frame.refl _).with rfl).trans (frame_startImport _)

/-- the state right after a merge's outputs replaced its inputs in the service list -/
def mergeBase (s : St) (off : Nat) (held : List Nat) (merged : List (Nat × List Nat)) : St :=
  mdApply { s with jMerge := none } off held merged

theorem views_mergeBase (s : St) (off : Nat) (held : List Nat) (m : List (Nat × List Nat)) :
    (mergeBase s off held m).views = s.views :=
  mdApply_frame (·.views) _ off held m

theorem next_mergeBase (s : St) (off : Nat) (held : List Nat) (m : List (Nat × List Nat)) :
    (mergeBase s off held m).next = s.next :=
  mdApply_frame (·.next) _ off held m

end Pk.Proofs.MgrViews
