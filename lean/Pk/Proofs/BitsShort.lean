/- C17: ShortBitmask, a non-empty chain of words.  Everything but `Extract` is carried over from LongBitmask through
   `words`: the observers, `and`/`sub` and the walks `modify` and `inject` by an equation on `words` each, `or`/`xor`
   word by word (`word_zipExtend`).  LongBitmask has no `Extract`, so `extract` is proved directly on the chain. -/
import Pk.Proofs.BitsLong
set_option linter.unusedSimpArgs false
namespace Pk.Proofs.Bits
open Pk.Bits
namespace Short
open Pk.Bits.Short

theorem isSet_last (m : W) (x : Nat) : isSet (.last m) x = (decide (x < 64) && m.getLsbD x) := by
  by_cases h : x < 64 <;> simp [isSet, h]

theorem isSet_cons_lt (m : W) (n : Pk.Bits.Short) (x : Nat) (h : x < 64) :
    isSet (.cons m n) x = m.getLsbD x := by rw [isSet, if_pos h]

theorem isSet_cons_ge (m : W) (n : Pk.Bits.Short) (x : Nat) (h : 64 ≤ x) :
    isSet (.cons m n) x = isSet n (x - 64) := by rw [isSet, if_neg (by omega)]

theorem isSet_last_lt (m : W) (x : Nat) (h : x < 64) : isSet (.last m) x = m.getLsbD x := by
  rw [isSet, if_pos h]

theorem isSet_last_ge (m : W) (x : Nat) (h : 64 ≤ x) : isSet (.last m) x = false := by
  rw [isSet, if_neg (by omega)]

theorem isSet_last_zero (x : Nat) : isSet (.last 0#64) x = false := by
  rw [isSet]; split <;> simp

theorem isSet_words (s : Pk.Bits.Short) (x : Nat) : isSet s x = Long.isSet (words s) x := by
  induction s generalizing x with
  | last m => rw [words, Long.isSet_cons, Long.isSet_nil]; rfl
  | cons m n ih => rw [words, Long.isSet_cons, ← ih]; rfl

theorem words_freshModify (f : W → W → W) (k : Nat) : words (freshModify f k) = Long.modify f [] k := by
  fun_induction freshModify f k with
  | case1 k h => rw [words, Long.modify_nil, Long.modify_cons_lt _ _ _ _ h]
  | case2 k h ih => rw [words, ih, Long.modify_nil f k, Long.modify_cons_ge _ _ _ _ (by omega)]

/-- generic in `f`, so it also covers `Unset`, where the chain grows although `Long.unset` leaves the list alone -/
theorem words_modify (f : W → W → W) (s : Pk.Bits.Short) (b : Nat) :
    words (Short.modify f s b) = Long.modify f (words s) b := by
  fun_induction Short.modify f s b with
  | case1 m b h => rw [words, words, Long.modify_cons_lt _ _ _ _ h]
  | case2 m b h => rw [words, words, words_freshModify, Long.modify_cons_ge _ _ _ _ (by omega)]
  | case3 m n b h => rw [words, words, Long.modify_cons_lt _ _ _ _ h]
  | case4 m n b h ih => rw [words, words, ih, Long.modify_cons_ge _ _ _ _ (by omega)]

theorem modify_isSet {f g} (h : BitOp f g) (s : Pk.Bits.Short) (bit x : Nat) :
    isSet (Short.modify f s bit) x = g (isSet s x) (decide (x = bit)) := by
  rw [isSet_words, words_modify, Long.modify_isSet h, isSet_words]

theorem set_isSet (s : Pk.Bits.Short) (b x : Nat) :
    isSet (Short.set s b) x = (x == b || isSet s x) := by
  rw [Short.set, modify_isSet bitOp_or, Bool.or_comm]; rfl

theorem unset_isSet (s : Pk.Bits.Short) (b x : Nat) :
    isSet (Short.unset s b) x = (x != b && isSet s x) := by
  rw [Short.unset, modify_isSet bitOp_andNot, Bool.and_comm]; rfl

theorem flip_isSet (s : Pk.Bits.Short) (b x : Nat) :
    isSet (Short.flip s b) x = (if x = b then !isSet s x else isSet s x) := by
  rw [Short.flip, modify_isSet bitOp_xor]
  split <;> simp [*]

theorem isSet_eq (s : Pk.Bits.Short) (x : Nat) :
    isSet s x = (Long.word (words s) (x / 64)).getLsbD (x % 64) := by
  rw [isSet_words, Long.isSet_eq]

theorem word_zipExtend (f : W → W → W) (h0 : ∀ a, f a 0#64 = a) (s t : Pk.Bits.Short) :
    ∀ i, Long.word (words (zipExtend f s t)) i = f (Long.word (words s) i) (Long.word (words t) i) := by
  fun_induction zipExtend f s t with
  | case1 a b => exact Nat.and_forall_add_one.1 ⟨rfl, fun _ => (h0 _).symm⟩
  | case2 a an b => exact Nat.and_forall_add_one.1 ⟨rfl, fun _ => (h0 _).symm⟩
  | case3 a b bn ih => exact Nat.and_forall_add_one.1 ⟨rfl, fun i => (ih i).trans (by cases i <;> rfl)⟩
  | case4 a an b bn ih => exact Nat.and_forall_add_one.1 ⟨rfl, ih⟩

theorem or_isSet (a b : Pk.Bits.Short) (x : Nat) :
    isSet (Short.or a b) x = (isSet a x || isSet b x) := by
  simp only [isSet_eq, Short.or, word_zipExtend _ fun _ => BitVec.or_zero, BitVec.getLsbD_or]

theorem xor_isSet (a b : Pk.Bits.Short) (x : Nat) :
    isSet (Short.xor a b) x = (isSet a x != isSet b x) := by
  simp [isSet_eq, Short.xor, word_zipExtend _ fun _ => BitVec.xor_zero]

theorem words_and (a b : Pk.Bits.Short) : words (Short.and a b) = Long.and (words a) (words b) := by
  fun_induction Short.and a b <;> simp [words, Long.and, Long.and_nil, *]

theorem words_sub (a b : Pk.Bits.Short) : words (Short.sub a b) = Long.sub (words a) (words b) := by
  fun_induction Short.sub a b <;> simp [words, Long.sub, Long.sub_nil, *]

theorem and_isSet (a b : Pk.Bits.Short) (x : Nat) :
    isSet (Short.and a b) x = (isSet a x && isSet b x) := by
  rw [isSet_words, words_and, Long.and_isSet, isSet_words, isSet_words]

theorem sub_isSet (a b : Pk.Bits.Short) (x : Nat) :
    isSet (Short.sub a b) x = (isSet a x && !isSet b x) := by
  rw [isSet_words, words_sub, Long.sub_isSet, isSet_words, isSet_words]

theorem isSet_fun (s : Pk.Bits.Short) : isSet s = Long.isSet (words s) := funext (isSet_words s)

theorem isZero_words (s : Pk.Bits.Short) : isZero s = Long.isZero (words s) := by
  induction s with
  | last m => simp [isZero, Long.isZero, words]
  | cons m n ih => simp [isZero, Long.isZero, words, ih]

theorem isZero_iff (s : Pk.Bits.Short) : s.isZero = true ↔ ∀ x, s.isSet x = false := by
  rw [isZero_words, Long.isZero_iff, isSet_fun]

theorem equal_words (a b : Pk.Bits.Short) : Short.equal a b = Long.equal (words a) (words b) := by
  fun_induction Short.equal a b with
  | case1 a b => simp [Long.equal, words]
  | case2 a b bn => simp [Long.equal, words, isZero_words, Long.isZero]
  | case3 a an b => cases an <;> simp [Long.equal, words, isZero_words, Long.isZero]
  | case4 a an b bn ih => simp [Long.equal, words, ih]

theorem equal_iff (a b : Pk.Bits.Short) : Short.equal a b = true ↔ a.isSet = b.isSet := by
  rw [equal_words, Long.equal_iff, isSet_fun, isSet_fun]

theorem onesCount_words (s : Pk.Bits.Short) : onesCount s = Long.onesCount (words s) := by
  induction s with
  | last m => simp [onesCount, words, Long.onesCount]
  | cons m n ih => simp [onesCount, words, Long.onesCount_cons, ih]

theorem onesCount_card (s : Pk.Bits.Short) :
    s.onesCount = (List.range (64 * s.words.length)).countP s.isSet := by
  rw [onesCount_words, Long.onesCount_card, isSet_fun]

theorem words_ofWords (m : W) (ms : List W) : words (ofWords m ms) = m :: ms := by
  induction ms generalizing m with
  | nil => rfl
  | cons m2 ms ih => rw [ofWords, words, ih]

theorem shrink_isSet (s : Pk.Bits.Short) (x : Nat) : isSet (shrink s) x = isSet s x := by
  cases s with
  | last m => rfl
  | cons m n =>
    rw [isSet_words, isSet_words]
    show Long.isSet (words (ofWords m (Long.shrink (words n)))) x = _
    rw [words_ofWords, words, Long.isSet_cons, Long.isSet_cons, Long.shrink_isSet]

theorem len_words (s : Pk.Bits.Short) : len s = Long.len (words s) := by
  induction s with
  | last m => rw [words, Long.len_cons]; rfl
  | cons m n ih => rw [words, Long.len_cons, ← ih]; rfl
theorem len_sup (s : Pk.Bits.Short) :
    (∀ x, s.len ≤ x → s.isSet x = false) ∧ (0 < s.len → s.isSet (s.len - 1) = true) := by
  rw [len_words, isSet_fun]; exact Long.len_sup _

theorem words_inject (s : Pk.Bits.Short) (bit : Nat) (v : Bool) :
    words (inject s bit v) = Long.inject (words s) bit v := by
  induction s generalizing bit v with
  | last m =>
    rw [inject, words, Long.inject_cons]
    by_cases hb : 64 ≤ bit
    · cases v <;> simp [hb, words, words_freshModify, Long.inject, Pk.Bits.Long.set, Long.modify]
    · cases hc : m.getLsbD 63 <;> simp [hb, hc, words, Long.inject, Pk.Bits.Long.set, Long.grow, Long.word, Long.bitW]
  | cons m n ih =>
    rw [inject, words, Long.inject_cons]
    by_cases hb : 64 ≤ bit <;> simp [hb, words, ih]

theorem inject_isSet (s : Pk.Bits.Short) (bit : Nat) (v : Bool) (x : Nat) :
    isSet (inject s bit v) x =
      if x < bit then isSet s x else if x = bit then v else isSet s (x - 1) := by
  simp only [isSet_words, words_inject, Long.inject_isSet]

theorem extract_ret (s : Pk.Bits.Short) (bit : Nat) : (extract s bit).2 = isSet s bit := by
  induction s generalizing bit with
  | last m =>
    unfold extract
    by_cases hb : bit ≥ 64
    · simp only [hb, if_true]; rw [isSet_last_ge _ _ hb]
    · simp only [hb, if_false]; rw [isSet_last_lt _ _ (by omega)]
  | cons m n ih =>
    unfold extract
    by_cases hb : bit ≥ 64
    · simp only [hb, if_true]; rw [isSet_cons_ge _ _ _ hb, ih]
    · simp only [hb, if_false]; rw [isSet_cons_lt _ _ _ (by omega)]

theorem getLsbD_top (i : Nat) : (1#64 <<< 63).getLsbD i = decide (i = 63) := by
  have := getLsbD_bitW 63 i (by omega)
  simpa [Long.bitW] using this

theorem extract_isSet (s : Pk.Bits.Short) (bit : Nat) (x : Nat) :
    isSet (extract s bit).1 x = if x < bit then isSet s x else isSet s (x + 1) := by
  induction s generalizing bit x with
  | last m =>
    rw [extract]
    by_cases hb : bit ≥ 64 <;> by_cases hx : x < 64 <;>
      simp (disch := omega) only [hb, if_true, if_false, if_pos, if_neg, isSet_last_lt, isSet_last_ge,
        extractWord_getLsbD, ite_self]
    by_cases h63 : x = 63 <;>
      simp (disch := omega) only [h63, if_neg, isSet_last_lt, isSet_last_ge, BitVec.getLsbD_of_ge]
  | cons m n ih =>
    rw [extract]
    by_cases hb : bit ≥ 64 <;> by_cases hx : x < 64 <;>
      simp (disch := omega) only [hb, if_true, if_false, if_pos, if_neg, isSet_cons_lt, isSet_cons_ge, ih,
        extractWord_getLsbD, getLsbD_cond_or, getLsbD_top, extract_ret, Nat.sub_add_comm, sub64_lt, decide_eq_false,
        Bool.and_false, Bool.or_false]
    by_cases h63 : x = 63 <;>
      simp (disch := omega) only [h63, if_neg, decide_true, decide_false, Bool.and_true, Bool.and_false, Bool.or_false,
        Bool.false_or, isSet_cons_lt, isSet_cons_ge, Nat.reduceSub, Nat.reduceAdd, BitVec.getLsbD_of_ge]

end Short
end Pk.Proofs.Bits
