/- What the events record in the during-job masks `upd`, `rst`, `add` while a tagging job is in flight (`*_masks`):
   the helper that records, then the rest of the event, which keeps the job record and lets the masks grow (`JK`,
   `Dec.jk` of Pk/Proofs/MgrTruthJob.lean).  For `updConv` / `delTag` the recording call of the detach fold is the
   one whose converter no other tag has (`Src`, `dcOthers_nil`). -/
import Pk.Proofs.MgrTagsStep
import Pk.Proofs.MgrFrame
import Pk.Proofs.MgrTruthFrame
import Pk.Proofs.MgrSettleFrame
import Pk.Proofs.MgrTruthJob
namespace Pk.Proofs.MgrTruth
open Pk.Mgr Pk.Proofs.MgrTags

namespace Masks

/-- the fields left alone by every function that records nothing (the `*_frame` lemmas at this projection) -/
def mp (s : St) : Bool × IdSet × IdSet × IdSet × Nat × List String :=
  (s.tag, s.upd, s.rst, s.add, s.all, s.convs)

theorem mp_tag {s s' : St} (h : mp s' = mp s) : s'.tag = s.tag := congrArg (·.1) h
theorem mp_upd {s s' : St} (h : mp s' = mp s) : s'.upd = s.upd := congrArg (·.2.1) h
theorem mp_rst {s s' : St} (h : mp s' = mp s) : s'.rst = s.rst := congrArg (·.2.2.1) h
theorem mp_add {s s' : St} (h : mp s' = mp s) : s'.add = s.add := congrArg (·.2.2.2.1) h
theorem mp_all {s s' : St} (h : mp s' = mp s) : s'.all = s.all := congrArg (·.2.2.2.2.1) h
theorem mp_convs {s s' : St} (h : mp s' = mp s) : s'.convs = s.convs := congrArg (·.2.2.2.2.2) h

theorem startImport_mp (s : St) : mp (startImport s) = mp s := rfl
theorem startConverter_mp (s : St) : mp (startConverter s) = mp s :=
  startConverter_frame mp s
theorem inherit_mp (s : St) : mp (inherit s) = mp s := rfl
theorem setTag_mp (s : St) (n : String) (t : Tag) : mp (setTag s n t) = mp s := rfl

theorem muAdd_unc (t : Tag) (s : St) (a : List Nat) (x : Nat) :
    x ∈ (muAdd t s a).1.unc ↔ x ∈ t.unc ∨ (x ∈ a ∧ x ∉ t.mat) := by
  obtain ⟨d, e⟩ := muAdd_fst t s a
  rw [e]
  show x ∈ union t.unc (muFresh t a) ↔ _
  rw [mem_union, mem_muFresh]

theorem muDel_unc (t : Tag) (d : List Nat) (x : Nat) :
    x ∈ (muDel t d).unc ↔ x ∈ t.unc ∨ (x ∈ d ∧ x ∈ t.mat) := by
  obtain ⟨m, u, df, e, _, hu⟩ := muDel_spec t d
  rw [e]
  exact hu x

theorem markSt_masks (s : St) (name : String) (a d : List Nat) (st : Started) (t : Tag)
    (hg : sget s.tags name = some t) (ht : s.tag = true) (id : Nat) (h : id ∈ (muDel (muAdd t s a).1 d).unc) :
    id ∈ (markSt s name a d st).rst := by
  rw [markSt, mp_rst (startConverter_mp _), markUpdate_eq, hg]
  simp only []
  have h0 : (inherit (setTag (muAdd t s a).2 name (muDel (muAdd t s a).1 d))).tag = true := by
    rw [mp_tag (inherit_mp _), mp_tag (setTag_mp _ _ _), mp_tag (muAdd_frame mp _ _ _)]; exact ht
  rw [startTagging_of_tag, mp_rst (muFin_frame mp _ _ _)]
  · exact invalidatedDuring_rst _ _ h0 id h
  · rw [mp_tag (muFin_frame mp _ _ _)]; exact (invalidatedDuring_jk _ _).tag.trans h0

theorem cdMark_upd_new (s : St) (p : String × IdSet) (hp : p.1 ∈ s.convs) (id : Nat) (h : id ∈ p.2) :
    id ∈ (cdMark s p).upd := by
  unfold cdMark
  simp [hp, h]

theorem foldl_cdMark_upd (l : List (String × IdSet)) (s : St) (p : String × IdSet) (hp : p ∈ l)
    (hc : p.1 ∈ s.convs) (id : Nat) (h : id ∈ p.2) : id ∈ (l.foldl cdMark s).upd := by
  induction l generalizing s with
  | nil => cases hp
  | cons q r ih =>
    simp only [List.foldl_cons]
    rcases List.mem_cons.1 hp with e | e
    · subst e
      exact (foldl_cdMark_jk r _).upd id (cdMark_upd_new s p hc id h)
    · exact ih _ e (by rw [cdMark_frame (·.convs)]; exact hc)

end Masks
open Masks

theorem importDone_masks (s : St) (p u : Nat) (c : List (Nat × List Nat)) (a b d : List Nat) (st : Started)
    (jn : Nat) (held : List Nat) (hj : s.jImport = some (jn, held)) (hc : c ≠ []) (ht : s.tag = true) :
    (∀ id, id ∈ a → id ∈ (step s (.importDone p u c a b d) st).1.upd) ∧
    (∀ id, id ∈ b → id ∈ (step s (.importDone p u c a b d) st).1.rst) ∧
    (∀ id, id ∈ d → id ∈ (step s (.importDone p u c a b d) st).1.add) := by
  rw [step_importDone_eq, hj]
  simp only []
  have hX : (release { s with all := jn + u, jImport := none } held).tag = true :=
    (JK.of_jp (release_jp _ _)).tag.trans ht
  generalize release { s with all := jn + u, jImport := none } held = X at hX ⊢
  -- `idCreated` records the sets; the sweeps after it and the tail of the completion keep them
  have hA := idSweep_jk X (jn + u) c (ofList a) (ofList b) (ofList d) hc
  have key := hA.trans ((idTail_dec _ p st).jk (hA.tag.trans hX))
  exact ⟨fun id h => key.upd id (by simp [idCreated, h]), fun id h => key.rst id (by simp [idCreated, h]),
    fun id h => key.add id (by simp [idCreated, h])⟩

theorem convertDone_masks (s : St) (st : Started) (sets : List (String × IdSet)) (held : List Nat)
    (hj : s.jConv = some (sets, held)) (ht : s.tag = true) :
    ∀ p, p ∈ sets → p.1 ∈ s.convs → ∀ id, id ∈ p.2 → id ∈ (step s .convertDone st).1.upd := by
  intro p hp hc id hid
  rw [step_convertDone_eq, hj]
  refine ((cdTail_dec _ held st).jk ?_).upd id
    (foldl_cdMark_upd sets { s with convert := false, jConv := none } p hp hc id hid)
  exact (foldl_cdMark_jk sets _).tag.trans ht

theorem updQuery_masks (s : St) (name defn : String) (f : Facts) (st : Started)
    (hok : (step s (.updQuery name defn f) st).2 = Res.ok) (ht : s.tag = true) :
    ∀ id, id < s.all → id ∈ (step s (.updQuery name defn f) st).1.rst := by
  refine step_updQuery_cases (P := fun r => r.2 = Res.ok → ∀ id, id < s.all → id ∈ r.1.rst) s name defn f st
    (fun h => nomatch h) (fun t _ _ id hid => ?_) hok
  show id ∈ (uqApply s name t (uqNew defn f t s.all) st).rst
  generalize uqNew defn f t s.all = nt
  unfold uqApply uqInv
  have h0 : mp (inherit (setTag (uqRefs s name t.refs nt.refs) name nt)) = mp s := by
    rw [inherit_mp, setTag_mp, uqRefs_frame mp]
  rw [mp_rst (startConverter_mp _)]
  refine dropTail_rst _ _ _ ((mp_tag h0).trans ht) id ?_
  rw [mem_rangeSet, mp_all h0]; exact hid

theorem mem_othersOf (T : List (String × Tag)) (n c : String) (id : Nat) :
    id ∈ othersOf T n c ↔ ∃ p ∈ T, p.1 ≠ n ∧ c ∈ p.2.convs ∧ id ∈ p.2.mat := by
  unfold othersOf
  rw [← List.foldl_filter, mem_foldl_union]
  simp only [List.mem_filter, Bool.and_eq_true, bne_iff_ne, List.contains_iff_mem, List.not_mem_nil,
    false_or, and_assoc]

theorem othersOf_nil_iff (T : List (String × Tag)) (n c : String) :
    othersOf T n c = [] ↔ ∀ p ∈ T, p.1 ≠ n → c ∈ p.2.convs → p.2.mat = [] := by
  simp only [List.eq_nil_iff_forall_not_mem, mem_othersOf, not_exists, not_and]
  exact ⟨fun h p hp hn hc id => h id p hp hn hc, fun h id p hp hn hc => h p hp hn hc id⟩

/-- kept along the fold of `detachConv` calls of an `updConv` / `delTag` on tag `name`, so that `othersOf` being
    empty in the pre-state `T0` decides the test of every call of the fold (`dcOthers_nil`) -/
def Src (name : String) (T0 T : List (String × Tag)) : Prop :=
  ∀ p ∈ T, p.1 ≠ name → ∃ q ∈ T0, q.1 ≠ name ∧ q.2.convs = p.2.convs ∧ q.2.mat = p.2.mat

theorem Src.refl (name : String) (T : List (String × Tag)) : Src name T T :=
  fun p hp hn => ⟨p, hp, hn, rfl, rfl⟩

theorem src_sins_name {name : String} {T0 T : List (String × Tag)} (h : Src name T0 T) (t' : Tag) :
    Src name T0 (sins name t' T) := by
  intro p hp hn
  rcases mem_sins _ _ _ _ hp with rfl | hp
  · exact absurd rfl hn
  · exact h p hp hn

theorem src_sins_rel {name m : String} {T0 T : List (String × Tag)} {t t' : Tag} (h : Src name T0 T)
    (hm : sget T m = some t) (hc : t'.convs = t.convs) (hmat : t'.mat = t.mat) : Src name T0 (sins m t' T) := by
  intro p hp hn
  rcases mem_sins _ _ _ _ hp with rfl | hp
  · obtain ⟨q, hq, h1, h2, h3⟩ := h (m, t) (sget_mem _ _ _ hm) hn
    exact ⟨q, hq, h1, h2.trans hc.symm, h3.trans hmat.symm⟩
  · exact h p hp hn

theorem src_map {name : String} {T0 T : List (String × Tag)} (h : Src name T0 T) (f : String → Tag → Tag)
    (hf : ∀ k t, (f k t).convs = t.convs ∧ (f k t).mat = t.mat) :
    Src name T0 (T.map fun p => (p.1, f p.1 p.2)) := by
  intro p hp hn
  obtain ⟨p0, hp0, rfl⟩ := List.mem_map.mp hp
  obtain ⟨q, hq, h1, h2, h3⟩ := h p0 hp0 hn
  exact ⟨q, hq, h1, h2.trans (hf _ _).1.symm, h3.trans (hf _ _).2.symm⟩

theorem inherit_src {name : String} {T0 : List (String × Tag)} (s : St) (h : Src name T0 s.tags) :
    Src name T0 (inherit s).tags :=
  inherit_inv s (Src name T0)
    (fun _ _ _ h ht => src_sins_rel h ht (inheritOne_convs_mat _ _ _).1 (inheritOne_convs_mat _ _ _).2) h

theorem odF_convs_mat (all : Nat) (t : Tag) : (odF all t).convs = t.convs ∧ (odF all t).mat = t.mat := by
  unfold odF; split <;> exact ⟨rfl, rfl⟩

theorem outputDropped_tags (Z : St) (choice : Option String)
    (hp : Z.tags.any (fun nt => (nt.2.mfeat ||| nt.2.sfeat) &&& fData != 0) = true) :
    (outputDropped Z choice).tags =
      (inherit { Z with tags := Z.tags.map fun p => (p.1, odF Z.all p.2) }).tags := by
  rw [outputDropped_eq, if_pos hp]
  exact ((invalidatedDuring_same _ _).trans (startTagging_same _ _)).1

theorem outputDropped_idle (Z : St) (choice : Option String)
    (hp : ¬ Z.tags.any (fun nt => (nt.2.mfeat ||| nt.2.sfeat) &&& fData != 0) = true) :
    outputDropped Z choice = Z := by
  rw [outputDropped_eq, if_neg hp]

theorem outputDropped_src {name : String} {T0 : List (String × Tag)} (Z : St) (choice : Option String)
    (h : Src name T0 Z.tags) : Src name T0 (outputDropped Z choice).tags := by
  by_cases hp : Z.tags.any (fun nt => (nt.2.mfeat ||| nt.2.sfeat) &&& fData != 0) = true
  · rw [outputDropped_tags Z choice hp]
    apply inherit_src
    exact src_map h (fun _ t => odF Z.all t) (fun _ t => odF_convs_mat _ t)
  · rw [outputDropped_idle Z choice hp]; exact h

def dcTag (tX : Tag) (c : String) : Tag := { tX with convs := tX.convs.filter (· != c) }
def dcOthers (X : St) (name c : String) (tX : Tag) : IdSet := othersOf (sins name (dcTag tX c) X.tags) name c
def dcBase (X : St) (name c : String) (tX : Tag) : St :=
  { X with tags := sins name (dcTag tX c) X.tags,
           toconv := sins c (inter ((sget X.toconv c).getD []) (dcOthers X name c tX)) X.toconv }

theorem detachConv_dc (X : St) (name c : String) (choice : Option String) (tX : Tag)
    (hx : sget X.tags name = some tX) :
    detachConv X name c choice =
      if (dcOthers X name c tX).isEmpty then
        outputDropped { dcBase X name c tX with cached := sins c [] X.cached } choice
      else dcBase X name c tX := by
  unfold detachConv
  rw [hx]
  rfl

theorem detachConv_src {name : String} {T0 : List (String × Tag)} (X : St) (c : String) (choice : Option String)
    (tX : Tag) (hx : sget X.tags name = some tX) (h : Src name T0 X.tags) :
    Src name T0 (detachConv X name c choice).tags := by
  rw [detachConv_dc X name c choice tX hx]
  split
  · exact outputDropped_src _ _ (src_sins_name h _)
  · exact src_sins_name h _

theorem dcOthers_nil {name : String} {T0 : List (String × Tag)} (X : St) (c : String) (tX : Tag)
    (h : Src name T0 X.tags) (h0 : othersOf T0 name c = []) : dcOthers X name c tX = [] := by
  unfold dcOthers
  rw [othersOf_nil_iff] at h0 ⊢
  intro p hp hn hc
  obtain ⟨q, hq, h1, h2, h3⟩ := src_sins_name h (dcTag tX c) p hp hn
  rw [← h3]
  exact h0 q hq h1 (h2 ▸ hc)

theorem payload_any {T : List (String × Tag)} {n : String} {t : Tag} (hg : sget T n = some t) (hp : Payload t) :
    T.any (fun nt => (nt.2.mfeat ||| nt.2.sfeat) &&& fData != 0) = true := by
  rw [List.any_eq_true]
  exact ⟨(n, t), sget_mem _ _ _ hg, by simpa [Payload] using hp⟩

theorem payload_of_attrs {t t' : Tag} (h : Attrs t' = Attrs t) (hp : Payload t) : Payload t' := by
  simp only [Attrs, Prod.mk.injEq] at h
  unfold Payload at hp ⊢
  rw [h.2.2.1, h.2.2.2.1]; exact hp

theorem payload_akeep {T0 T : List (String × Tag)} (hak : ∀ n, AKeep n T0 T)
    (hp : ∃ n t, sget T0 n = some t ∧ Payload t) : ∃ n t, sget T n = some t ∧ Payload t := by
  obtain ⟨n, t, hg, hpt⟩ := hp
  obtain ⟨t', h1, h2⟩ := akeep_get (hak n) hg
  exact ⟨n, t', h1, payload_of_attrs h2 hpt⟩

theorem dcBase_any (X : St) (name c : String) (tX : Tag) (hx : sget X.tags name = some tX)
    (hp : ∃ n t, sget X.tags n = some t ∧ Payload t) :
    (dcBase X name c tX).tags.any (fun nt => (nt.2.mfeat ||| nt.2.sfeat) &&& fData != 0) = true := by
  obtain ⟨n, t, hg, hpt⟩ := hp
  by_cases hn : name = n
  · subst hn
    rw [hx] at hg; cases hg
    exact payload_any (n := name) (t := dcTag tX c) (by simp [dcBase, sget_sins]) hpt
  · exact payload_any (n := n) (t := t) (by simp [dcBase, sget_sins, hn, hg]) hpt

theorem outputDropped_full (Z : St) (choice : Option String) (ht : Z.tag = true)
    (hp : Z.tags.any (fun nt => (nt.2.mfeat ||| nt.2.sfeat) &&& fData != 0) = true) (id : Nat) (h : id < Z.all) :
    id ∈ (outputDropped Z choice).rst := by
  rw [outputDropped_eq', if_pos hp]
  exact dropTail_rst (inherit (odMap Z)) _ choice ht id ((mem_rangeSet _ _).2 h)

/-- under a job in flight the detach fold keeps the job record and lets the masks grow (`foldl_detach_jk`); the call
    that drops the converter's output fills `rst` -/
theorem detachFold_full (name : String) (choice : Option String) (T0 : List (String × Tag)) (all : Nat)
    (hname : ∃ t, sget T0 name = some t) (hp : ∃ n t, sget T0 n = some t ∧ Payload t)
    (L : List String) (X : St) (hall : X.all = all) (htag : X.tag = true)
    (hak : ∀ n, AKeep n T0 X.tags) (hsrc : Src name T0 X.tags) (hc : ∃ c, c ∈ L ∧ othersOf T0 name c = [])
    (id : Nat) (hid : id < all) : id ∈ (L.foldl (fun s c => detachConv s name c choice) X).rst := by
  induction L generalizing X with
  | nil => obtain ⟨_, hc, _⟩ := hc; cases hc
  | cons c L ih =>
    obtain ⟨t0, ht0⟩ := hname
    obtain ⟨tX, hx, _⟩ := akeep_get (hak name) ht0
    have hk := detachConv_jk X name c choice htag
    obtain ⟨c', hc', h0⟩ := hc
    rcases List.mem_cons.mp hc' with rfl | hc'
    · refine (foldl_detach_jk _ name choice L (hk.tag.trans htag)).rst id ?_
      rw [detachConv_dc X name c' choice tX hx, dcOthers_nil X c' tX hsrc h0, if_pos (by rfl)]
      exact outputDropped_full { dcBase X name c' tX with cached := sins c' [] X.cached } choice htag
        (dcBase_any X name c' tX hx (payload_akeep hak hp)) id (hall ▸ hid)
    · exact ih (detachConv X name c choice) ((detachConv_frE (g := False) X name c choice).all.trans hall)
        (hk.tag.trans htag) (fun n => (hak n).trans (detachConv_akeep X name c choice n))
        (detachConv_src X c choice tX hx hsrc) ⟨c', hc', h0⟩

theorem dropped_masks (s : St) (e : Ev) (st : Started)
    (he : (∃ name convs, e = .updConv name convs) ∨ (∃ name, e = .delTag name))
    (hok : (step s e st).2 = Res.ok) (hd : DropsOutput s e)
    (hp : ∃ n t, sget s.tags n = some t ∧ Payload t) (ht : s.tag = true) :
    ∀ id, id < s.all → id ∈ (step s e st).1.rst := by
  obtain ⟨c, hc, h0⟩ := hd
  let P : St × Res → Prop := fun r => r.2 = Res.ok → ∀ id, id < s.all → id ∈ r.1.rst
  rcases he with ⟨name, convs, rfl⟩ | ⟨name, rfl⟩ <;> simp only [detached, evName] at hc h0
  · refine step_updConv_cases (P := P) s name convs st (fun h => nomatch h) (fun t hg _ _ id hid => ?_) hok
    rw [hg] at hc
    have f4 := detachFold_full name st.tag s.tags s.all ⟨t, hg⟩ hp
      (t.convs.filter (fun c => !convs.contains c)) s rfl ht (fun n => AKeep.refl _ _) (Src.refl _ _)
    show id ∈ (updConvSt s name t convs st).rst
    unfold updConvSt ucAttach
    rw [mp_rst (startConverter_mp _), mp_rst (foldl_keep mp _ (fun s c => attachConv_frame mp s name c) _ _)]
    exact f4 ⟨c, hc, h0⟩ id hid
  · refine step_delTag_cases (P := P) s name st (fun h => nomatch h) (fun t hg _ _ id hid => ?_) hok
    rw [hg] at hc
    have f4 := detachFold_full name st.tag s.tags s.all ⟨t, hg⟩ hp
      t.convs s rfl ht (fun n => AKeep.refl _ _) (Src.refl _ _)
    show id ∈ (dtApply s name t st.tag).rst
    unfold dtApply
    rw [mp_rst (foldl_keep mp _ (fun s r => delRefBy_frame mp s r name) _ _)]
    exact f4 ⟨c, hc, h0⟩ id hid

end Pk.Proofs.MgrTruth
