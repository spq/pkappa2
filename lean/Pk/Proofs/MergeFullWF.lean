/-
  Vocabulary of the full C07 statement (`MergeViewEq'`), second part: the well-formedness conditions on readers and
  writers.  Definitions only.
-/
import Pk.Proofs.MergeFullDefs
import Pk.Proofs.MergeHosts

namespace Pk.Index
open Pk Pk.Bytes

def NoNul (ks : List ImportKey) : Prop := ∀ k ∈ ks, (0 : UInt8) ∉ k.1

/-- well-formedness of an index file as `AddIndex` and the accessors rely on it -/
structure Reader.WF (r : Reader) : Prop where
  /-- host groups: 4- or 16-byte hosts, `hostCount` of them, at least one, at most 65 536 bytes -/
  hosts : r.HostsInv
  /-- `minStreamID`/`maxStreamID` of the lookup bracket the ids of the file -/
  idRange : ∀ s ∈ r.f.streams, r.idMin ≤ s.id ∧ s.id ≤ r.idMax
  /-- the import table lists every (file name, offset) once, names are C strings -/
  importsNodup : r.imports.Nodup
  importsNoNul : NoNul r.imports
  /-- stream times are of this era (uint64 relative times; absolute times int64 nanoseconds, not before 1970) -/
  times : ∀ s ∈ r.f.streams, TimeOk r.f.ref s
  /-- payload sizes are uint64 -/
  sizes : ∀ s ∈ r.f.streams, s.cb + s.sb < 2 ^ 64
  /-- skip counters stay inside the packet records of their stream -/
  skips : ∀ s ∈ r.f.streams, ∀ c, chainOf (r.f.packets.drop s.pstart) = some c → SkipsOk c

/-- the file is within the capacity limits of the format (u32 packet and import ids, u16 host group ids) -/
structure Reader.Fits (r : Reader) : Prop where
  packets : r.f.packets.length ≤ 2 ^ 32
  imports : r.imports.length ≤ 2 ^ 32
  groups : r.hostGroups.length ≤ 65536

structure Writer.Fits (w : Writer) : Prop where
  packets : w.packets.length ≤ 2 ^ 32
  imports : w.imports.length ≤ 2 ^ 32
  groups : w.hostGroups.length ≤ 65536

/-- invariant of a writer -/
structure WInv (w : Writer) : Prop where
  groups : GroupsInv w.hostGroups
  dataLen : w.dataLen = w.blobs.flatten.length
  importsNodup : w.imports.Nodup
  importsNoNul : NoNul w.imports
  ref : w.ref * 1000000000 < 2 ^ 63
  streams : ∀ s ∈ w.streams, TimeOk w.ref s ∧
    ∃ k, Located w.imports.length w.packets w.blobs.flatten (w.hostGroups.map HostGroup.toReader) s k ∧ k.Ok s

end Pk.Index
