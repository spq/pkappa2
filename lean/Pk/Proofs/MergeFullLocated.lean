/-
  What `Located` gives and what keeps it.  The reader shows a located record as `compView` of its pieces
  (`view_of_located`), so a writer's record shows the view `WView` names once the file is written (`reopen_view`).  The pieces stay where
  they are while the tables grow at the end (`Located.mono`) and the host groups are extended (`Located.groups`); moving
  the reference second keeps the absolute times (`TimeOk.shift`).  Both `AddStream` and `AddIndex` do just that to the
  records the writer holds.
-/
import Pk.Proofs.MergeFullWalk
import Pk.Proofs.MergeStreams
import Pk.Proofs.IndexFormatMeta
namespace Pk.Index
open Pk Pk.Bytes

theorem chainOf_drop_append {P : List PacketRec} {n : Nat} {c : List PacketRec} (h : chainOf (P.drop n) = some c)
    (X : List PacketRec) : chainOf ((P ++ X).drop n) = some c := by
  rcases Nat.lt_or_ge P.length n with hn | hn
  · rw [List.drop_of_length_le (Nat.le_of_lt hn)] at h
    cases h
  · rw [List.drop_append_of_le_length hn]
    exact chainOf_append h _

theorem data_drop_append {D : Bytes} {n : Nat} {a b : Bytes} (h : ∃ rest, D.drop n = a ++ b ++ rest) (Y : Bytes) :
    ∃ rest, (D ++ Y).drop n = a ++ b ++ rest := by
  obtain ⟨rest, h⟩ := h
  rcases Nat.lt_or_ge D.length n with hn | hn
  · rw [List.drop_of_length_le (Nat.le_of_lt hn)] at h
    obtain ⟨hab, _⟩ := List.append_eq_nil_iff.mp h.symm
    exact ⟨_, by rw [hab]; rfl⟩
  · exact ⟨rest ++ Y, by rw [List.drop_append_of_le_length hn, h, List.append_assoc]⟩

theorem Located.mono {n n' : Nat} {P : List PacketRec} {D : Bytes} {G : List RHostGroup} {s : StreamRec} {k : Comp}
    (h : Located n P D G s k) (hn : n ≤ n') (X : List PacketRec) (Y : Bytes) : Located n' (P ++ X) (D ++ Y) G s k := by
  obtain ⟨hh, hc, hi, hd, hl⟩ := h
  exact ⟨hh, chainOf_drop_append hc X, fun p hp => Nat.lt_of_lt_of_le (hi p hp) hn, data_drop_append hd Y, hl⟩

theorem Located.groups {n : Nat} {P : List PacketRec} {D : Bytes} {gs gs' : List HostGroup} {s : StreamRec} {k : Comp}
    (h : Located n P D (gs.map HostGroup.toReader) s k) (hext : GroupsExt gs gs') :
    Located n P D (gs'.map HostGroup.toReader) s k := by
  obtain ⟨⟨g, hg, v1, v2, e1, e2⟩, rest⟩ := h
  refine ⟨?_, rest⟩
  rw [List.getElem?_map] at hg
  obtain ⟨g0, hg0, rfl⟩ := Option.map_eq_some_iff.mp hg
  obtain ⟨g', hg', hs, hx⟩ := hext _ g0 hg0
  obtain ⟨v1', e1'⟩ := hx s.ch v1
  obtain ⟨v2', e2'⟩ := hx s.sh v2
  exact ⟨g'.toReader, by rw [List.getElem?_map, hg']; rfl, v1', v2', e1'.trans e1, e2'.trans e2⟩

/-- moving the reference second from `ref` to `newRef` and the relative time up by any `d` congruent to
    `(ref - newRef)·10⁹` modulo 2^64 keeps the absolute time as an Int, for times of this era -/
theorem rebase_abs_gen (ref newRef t d : Nat) (hd : ((d : Int) - ((ref : Int) - newRef) * 1000000000) % 2 ^ 64 = 0)
    (hr : newRef * 1000000000 < 2 ^ 63)
    (h0 : 0 ≤ (ref : Int) * 1000000000 + i64 t) (h1 : (ref : Int) * 1000000000 + i64 t < 2 ^ 63) :
    (newRef : Int) * 1000000000 + i64 (add64 t d) = (ref : Int) * 1000000000 + i64 t := by
  have hx := i64_modEq t
  generalize i64 t = v at *
  rw [i64_of_modEq _ ((ref : Int) * 1000000000 + v - newRef * 1000000000) (by omega) (by omega)]
  · omega
  · unfold add64; omega

theorem TimeOk.shift_gen {ref newRef d : Nat} {s : StreamRec} (h : TimeOk ref s)
    (hd : ((d : Int) - ((ref : Int) - newRef) * 1000000000) % 2 ^ 64 = 0) (hr : newRef * 1000000000 < 2 ^ 63) :
    TimeOk newRef (shiftRec d s) ∧
    (newRef : Int) * 1000000000 + i64 (shiftRec d s).first = (ref : Int) * 1000000000 + i64 s.first ∧
    (newRef : Int) * 1000000000 + i64 (shiftRec d s).last = (ref : Int) * 1000000000 + i64 s.last := by
  obtain ⟨_, _, h3, h4, h5, h6⟩ := h
  have e1 := rebase_abs_gen ref newRef s.first d hd hr h3 h4
  have e2 := rebase_abs_gen ref newRef s.last d hd hr h5 h6
  have b1 : add64 s.first d < 2 ^ 64 := Nat.mod_lt _ (by decide)
  have b2 : add64 s.last d < 2 ^ 64 := Nat.mod_lt _ (by decide)
  refine ⟨⟨b1, b2, ?_, ?_, ?_, ?_⟩, e1, e2⟩ <;> simp only [shiftRec] <;> omega

theorem TimeOk.shift {ref newRef : Nat} {s : StreamRec} (h : TimeOk ref s) (hr : newRef * 1000000000 < 2 ^ 63) :
    TimeOk newRef (shiftRec (mul64 (sub64 ref newRef) 1000000000) s) ∧
    (newRef : Int) * 1000000000 + i64 (shiftRec (mul64 (sub64 ref newRef) 1000000000) s).first = (ref : Int) * 1000000000 + i64 s.first ∧
    (newRef : Int) * 1000000000 + i64 (shiftRec (mul64 (sub64 ref newRef) 1000000000) s).last = (ref : Int) * 1000000000 + i64 s.last :=
  h.shift_gen (shift64_modEq ref newRef) hr

theorem view_of_located (r : Reader) (s : StreamRec) (k : Comp)
    (hl : Located r.imports.length r.f.packets r.f.data r.hostGroups s k) (hk : k.Ok s) :
    r.view s = some (compView r.imports (r.firstPacket s) (r.lastPacket s) (expWraps s) s k) := by
  have hdata := reader_data_of_pieces r s k hl.2.1 hl.2.2.2.1 hl.2.2.2.2 hk
  obtain ⟨⟨g, hg, hv1, hv2, hc, hs⟩, hch, _, _, _⟩ := hl
  unfold Reader.view Reader.hosts
  simp only [hg]
  have : ¬ (g.hostSize * s.ch + g.hostSize > g.hosts.length ∨ g.hostSize * s.sh + g.hostSize > g.hosts.length) := by omega
  simp only [this, if_false, hc, hs, hdata]
  unfold compView Reader.packets
  rw [packetsWalk_chain _ _ _ _ hch]

/-- `Located` does not look at the times of the record -/
theorem Located.shift {n : Nat} {P : List PacketRec} {D : Bytes} {G : List RHostGroup} {s : StreamRec} {k : Comp}
    (h : Located n P D G s k) (d : Nat) : Located n P D G (shiftRec d s) k := h

theorem Comp.Ok.shift {k : Comp} {s : StreamRec} (h : k.Ok s) (d : Nat) : k.Ok (shiftRec d s) := h

def Writer.fp (w : Writer) (s : StreamRec) : Int := (w.ref : Int) * 1000000000 + i64 s.first
def Writer.lp (w : Writer) (s : StreamRec) : Int := (w.ref : Int) * 1000000000 + i64 s.last

/-- `v` is what a reader of the finished file will show for record `s` -/
def WView (w : Writer) (s : StreamRec) (v : StreamView) : Prop :=
  ∃ k, Located w.imports.length w.packets w.blobs.flatten (w.hostGroups.map HostGroup.toReader) s k ∧ k.Ok s ∧
    v = compView w.imports (w.fp s) (w.lp s) (expWraps s) s k

end Pk.Index
