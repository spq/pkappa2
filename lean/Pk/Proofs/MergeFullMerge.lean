/-
  `index.Merge` as a fold of `AddIndex` into one writer (`merge_cases`), and the agreement of the writer with the stack
  of the inputs merged so far (`Agree`, `step_agree`): the inputs are taken newest first, so each goes underneath the
  stack of those before it, which is how `stackLookup` recurses.
-/
import Pk.Proofs.MergeFullStep
import Pk.Proofs.MergeFullStack
import Pk.Proofs.MergeFullReopen

namespace Pk.Index
open Pk Pk.Bytes

theorem addIndex_true (w w' : Writer) (r : Reader) (b : Bool) (h : w.addIndex r = .ok (w', b)) : b = true :=
  (addIndex_unfold w w' r b h).1

theorem copyStreams_packets_prefix (r : Reader) (existing importRemap : List Nat) (hgRemap : List HgRemap) (ss : List StreamRec) :
    ∀ (acc acc' : CopyAcc), copyStreams r existing importRemap hgRemap ss acc = .ok acc' → ∃ X, acc'.packets = acc.packets ++ X := by
  induction ss with
  | nil => intro acc acc' h; cases h; exact ⟨[], (List.append_nil _).symm⟩
  | cons s ss ih =>
    intro acc acc' h
    obtain ⟨_, h⟩ | ⟨_, _, _, _, ps, _, _, _, _, _, _, h⟩ := copyStreams_step h
    · exact ih acc acc' h
    · obtain ⟨X, hX⟩ := ih _ acc' h
      exact ⟨ps ++ X, by rw [hX, List.append_assoc]⟩

theorem addIndex_grows (w w' : Writer) (r : Reader) (b : Bool) (hw : GroupsInv w.hostGroups) (hr : r.HostsInv)
    (h : w.addIndex r = .ok (w', b)) :
    w.packets.length ≤ w'.packets.length ∧ w.imports.length ≤ w'.imports.length ∧
    w.hostGroups.length ≤ w'.hostGroups.length := by
  obtain ⟨_, acc, hc, hcase⟩ := addIndex_unfold w w' r b h
  obtain ⟨_, hpg2, _⟩ := placeGroups_spec r.hostGroups hr w.hostGroups hw
  have hlen := hpg2.length_le
  rcases hcase with ⟨_, rfl⟩ | ⟨_, rfl⟩
  · refine ⟨Nat.le_refl _, Nat.le_refl _, ?_⟩
    simp only [List.length_take]
    omega
  · obtain ⟨X, hX⟩ := copyStreams_packets_prefix _ _ _ _ _ _ _ hc
    obtain ⟨⟨extra, hmi, _⟩, _⟩ := mergeImports_spec w.imports r.imports
    refine ⟨?_, ?_, hlen⟩
    · simp only [hX, List.length_append]; omega
    · simp only [hmi, List.length_append]; omega

/-- `AddIndex` of every input (newest first) into one writer -/
def foldIdx : List Reader → Writer → Except Fail Writer
  | [], w => .ok w
  | r :: rs, w => match w.addIndex r with
    | .error e => .error e
    | .ok (w', _) => foldIdx rs w'

theorem mergeWriters_fold (rs : List Reader) : ∀ (w : Writer),
    mergeWriters rs [w] = match foldIdx rs w with | .ok wf => .ok [wf] | .error e => .error e := by
  induction rs with
  | nil => intro w; rfl
  | cons r rs ih =>
    intro w
    simp only [mergeWriters, tryWriters, foldIdx]
    cases h : w.addIndex r with
    | error e => rfl
    | ok p =>
      obtain ⟨w1, b⟩ := p
      have := addIndex_true w w1 r b h
      subst this
      simp only
      exact ih w1

theorem merge_cases (suf merged : List Reader) (h : merge suf = .ok merged) :
    (suf = [] ∧ merged = []) ∨
    ∃ wf m, foldIdx suf.reverse {} = .ok wf ∧ newReader wf.finalize = .ok m ∧ merged = [m] := by
  unfold merge at h
  cases hrev : suf.reverse with
  | nil =>
    left
    rw [hrev] at h
    simp [mergeWriters, finalizeAll] at h
    exact ⟨by simpa using hrev, h⟩
  | cons r rs =>
    right
    rw [hrev] at h
    simp only [mergeWriters, tryWriters, foldIdx] at h ⊢
    cases h1 : ({} : Writer).addIndex r with
    | error e => rw [h1] at h; simp at h
    | ok p =>
      obtain ⟨w1, b⟩ := p
      rw [h1] at h
      simp only at h ⊢
      rw [mergeWriters_fold] at h
      cases h2 : foldIdx rs w1 with
      | error e => rw [h2] at h; simp at h
      | ok wf =>
        rw [h2] at h
        simp only [finalizeAll] at h
        cases h3 : newReader wf.finalize with
        | error e => rw [h3] at h; simp at h
        | ok m =>
          rw [h3] at h
          simp at h
          exact ⟨wf, m, rfl, h3, h.symm⟩

theorem fold_grows (rs : List Reader) : ∀ (w wf : Writer), foldIdx rs w = .ok wf → GroupsInv w.hostGroups →
    (∀ r ∈ rs, r.HostsInv) →
    w.packets.length ≤ wf.packets.length ∧ w.imports.length ≤ wf.imports.length ∧
    w.hostGroups.length ≤ wf.hostGroups.length := by
  induction rs with
  | nil => intro w wf h _ _; simp [foldIdx] at h; subst h; exact ⟨Nat.le_refl _, Nat.le_refl _, Nat.le_refl _⟩
  | cons r rs ih =>
    intro w wf h hw hrs
    simp only [foldIdx] at h
    cases h1 : w.addIndex r with
    | error e => rw [h1] at h; simp at h
    | ok p =>
      obtain ⟨w1, b⟩ := p
      rw [h1] at h
      simp only at h
      have hr := hrs r (by simp)
      obtain ⟨a1, a2, a3⟩ := addIndex_grows w w1 r b hw hr h1
      obtain ⟨b1, b2, b3⟩ := ih w1 wf h (addIndex_inv w w1 r b hr hw h1) (fun x hx => hrs x (by simp [hx]))
      exact ⟨by omega, by omega, by omega⟩

/-- the invariant of the merge fold: for every id, the writer holds a record with it exactly when one of the files
    merged so far does (`done`, as a stack: every further input is older and goes underneath), and the file it will
    write shows for it what that stack shows -/
def Agree (w : Writer) (done : List Reader) : Prop :=
  ∀ id, Option.Rel (fun s ov => ∃ v, WView w s v ∧ ov = some v) (lastWith w.streams id) (stackView done id)

theorem step_agree (w w' : Writer) (r : Reader) (b : Bool) (hw : WInv w) (hr : r.WF)
    (h : w.addIndex r = .ok (w', b)) (hfit : w'.Fits) (done : List Reader) (ha : Agree w done) :
    WInv w' ∧ Agree w' (r :: done) := by
  obtain ⟨hw', olds, new, hst, hold, hnew⟩ := addIndex_step w w' r b hw hr h hfit
  refine ⟨hw', fun id => ?_⟩
  have hN := hnew.lastWith (fun _ _ hab => hab.1) id
  have hO := hold.lastWith (fun _ _ hab => hab.1) id
  have hA := ha id
  rw [lastWith_new] at hN
  rw [hst, lastWith_append, stackView_cons_lastWith r hr.idRange]
  generalize lastWith w.streams id = a at hN hO hA
  generalize lastWith olds id = o at hO ⊢
  generalize stackView done id = c at hA ⊢
  generalize lastWith new id = n at hN ⊢
  cases hO with
  | none =>
    -- an id the writer did not hold: afterwards it holds it exactly when `r` has it, with the view `r` shows
    cases hA
    rw [if_pos rfl] at hN
    rw [Option.or_none, Option.none_or]
    generalize lastWith r.f.streams id = x at hN ⊢
    cases hN with
    | none => exact .none
    | some h => obtain ⟨_, _, v, hv1, hv2⟩ := h; exact .some ⟨v, hv2, hv1⟩
  | some ho =>
    -- an id the writer held: `r` is older, its record is not copied
    cases hA with
    | some hs =>
      obtain ⟨v, hv, rfl⟩ := hs
      rw [if_neg nofun] at hN
      cases hN
      exact .some ⟨v, ho.2.2 v hv, rfl⟩

theorem fold_agree (rs : List Reader) : ∀ (w wf : Writer) (done : List Reader), foldIdx rs w = .ok wf → WInv w →
    (∀ r ∈ rs, r.WF) → wf.Fits → Agree w done → WInv wf ∧ Agree wf (rs.reverse ++ done) := by
  induction rs with
  | nil => intro w wf done h hw _ _ ha; simp [foldIdx] at h; subst h; exact ⟨hw, ha⟩
  | cons r rs ih =>
    intro w wf done h hw hrs hfit ha
    simp only [foldIdx] at h
    cases h1 : w.addIndex r with
    | error e => rw [h1] at h; simp at h
    | ok p =>
      obtain ⟨w1, b⟩ := p
      rw [h1] at h
      simp only at h
      have hr := hrs r (by simp)
      have hrest : ∀ x ∈ rs, x.WF := fun x hx => hrs x (by simp [hx])
      have hg1 := addIndex_inv w w1 r b hr.hosts hw.groups h1
      obtain ⟨b1, b2, b3⟩ := fold_grows rs w1 wf h hg1 (fun x hx => (hrest x hx).hosts)
      have hfit1 : w1.Fits := ⟨Nat.le_trans b1 hfit.packets, Nat.le_trans b2 hfit.imports, Nat.le_trans b3 hfit.groups⟩
      obtain ⟨hw1, ha1⟩ := step_agree w w1 r b hw hr h1 hfit1 done ha
      have := ih w1 wf (r :: done) h hw1 hrest hfit ha1
      simpa using this

theorem WInv.empty : WInv ({} : Writer) :=
  ⟨fun g hg => by simp at hg, rfl, List.nodup_nil, fun k hk => by simp at hk, by decide, fun s hs => by simp at hs⟩

theorem Agree.empty : Agree ({} : Writer) [] := fun _ => .none

theorem merge_stackView (suf merged : List Reader) (hwf : ∀ r ∈ suf, r.WF) (hm : merge suf = .ok merged)
    (hfit : ∀ m ∈ merged, m.Fits) (id : Nat) : stackView merged id = stackView suf id := by
  rcases merge_cases suf merged hm with ⟨rfl, rfl⟩ | ⟨wf, m, hfold, hnr, rfl⟩
  · rfl
  · have hfitw : wf.Fits := reopen_fits wf m hnr (hfit m (by simp))
    obtain ⟨hw, ha⟩ := fold_agree suf.reverse {} wf [] hfold WInv.empty (fun r hr => hwf r (by simpa using hr)) hfitw Agree.empty
    rw [List.reverse_reverse, List.append_nil] at ha
    obtain ⟨_, _, _, e4, _, _⟩ := reopen_fields wf hw hfitw m hnr
    have hA := ha id
    rw [stackView_cons_lastWith m (reopen_idRange _ m hnr), e4]
    generalize lastWith wf.streams id = a at hA ⊢
    generalize stackView suf id = c at hA ⊢
    cases hA with
    | none => rfl
    | some h =>
      obtain ⟨v, hv, rfl⟩ := h
      exact congrArg some (reopen_view wf hw hfitw m hnr _ v hv)

/-- … and so for a merged segment anywhere in the stack: older files below it, files added while the merge ran above it -/
theorem merge_stackView_within (pre suf merged post : List Reader) (hwf : ∀ r ∈ suf, r.WF) (hm : merge suf = .ok merged)
    (hfit : ∀ m ∈ merged, m.Fits) (id : Nat) :
    stackView (pre ++ merged ++ post) id = stackView (pre ++ suf ++ post) id := by
  rw [stackView_append, stackView_append (pre ++ suf), stackView_append, stackView_append pre suf,
    merge_stackView suf merged hwf hm hfit id]

end Pk.Index
