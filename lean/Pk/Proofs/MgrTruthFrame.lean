/-
  C06Reach, what `step` leaves alone: the dependency attributes of the tags an event does not edit (`step_attrs`,
  read off `step_tags`); everything, when the call is rejected; the result code, whatever job the service
  picks (`Started`); pending set and attributes of the mark tag in a mark update; the counter `ngen` except in
  `addTag`.  At the head, the definitions of when an `updConv` / `delTag` event drops converter output
  (`converterOutputDropped`: a converter is detached from its last tag, its cache is reset).
-/
import Pk.Model.Manager
import Pk.Proofs.MgrTagsStep
import Pk.Proofs.MgrFrame
import Pk.Proofs.MgrNames
import Pk.Proofs.MgrSettleFrame

namespace Pk.Proofs.MgrTruth
open Pk.Mgr

/-- the streams the OTHER tags with converter `c` attached match (`others` of `detachConverterFromTag`) -/
def othersOf (tags : List (String × Tag)) (n c : String) : IdSet :=
  tags.foldl (fun acc (p : String × Tag) => if p.1 != n && p.2.convs.contains c then union acc p.2.mat else acc) []

/-- the tag an `updConv` / `delTag` event works on -/
def evName : Ev → String
  | .updConv n _ => n
  | .delTag n => n
  | _ => ""

/-- the converters the event detaches from that tag -/
def detached (s : St) : Ev → List String
  | .updConv name convs =>
    match sget s.tags name with
    | some t => t.convs.filter (fun c => !convs.contains c)
    | none => []
  | .delTag name =>
    match sget s.tags name with
    | some t => t.convs
    | none => []
  | _ => []

/-- the event detaches some converter from the last tag whose matches it served (the model's `others.isEmpty`
    situation): the converter's cache is reset, its output is gone -/
def DropsOutput (s : St) (e : Ev) : Prop := ∃ c, c ∈ detached s e ∧ othersOf s.tags (evName e) c = []

/-- the definition looks at stream data, in its main query or in a sub-query ("payload tag") -/
def Payload (t : Tag) : Prop := (t.mfeat ||| t.sfeat) &&& fData ≠ 0

open Pk.Proofs.MgrTags

/-- the attributes of a tag the dependency classes look at, and its identity `gen` -/
def Attrs (t : Tag) : List String × List String × Nat × Nat × Nat := (t.mainT, t.subT, t.mfeat, t.sfeat, t.gen)

/-- the attributes of `n` are the same in both tables, or `n` is in neither -/
def AKeep (n : String) (T T' : List (String × Tag)) : Prop :=
  (sget T' n).map Attrs = (sget T n).map Attrs

theorem AKeep.refl (n : String) (T : List (String × Tag)) : AKeep n T T := rfl
theorem AKeep.trans {n : String} {A B C : List (String × Tag)} (h1 : AKeep n A B) (h2 : AKeep n B C) :
    AKeep n A C := Eq.trans h2 h1

theorem akeep_get {n : String} {L L' : List (String × Tag)} {t : Tag} (h : AKeep n L L')
    (hg : sget L n = some t) : ∃ t', sget L' n = some t' ∧ Attrs t' = Attrs t := by
  unfold AKeep at h
  rw [hg] at h
  exact Option.map_eq_some_iff.mp h

theorem GRel.attrs {A : Nat} {t t' : Tag} (h : GRel A t t') : Attrs t' = Attrs t := by
  obtain ⟨⟨_, _, c3, c4, c5, c6, c7⟩, _⟩ := h
  simp only [Attrs, c3, c4, c5, c6, c7]

theorem _root_.Pk.Proofs.MgrTags.KeepR.akeep {g : Prop} {all : Nat} {n : String} {T T' : List (String × Tag)}
    (h : KeepR (TEd g all) n T T') : AKeep n T T' := h.map_eq fun r => r.grel.attrs

theorem akeep_sins_attrs {m : String} {t t' : Tag} {T : List (String × Tag)}
    (hm : sget T m = some t) (hr : Attrs t' = Attrs t) (n : String) : AKeep n T (sins m t' T) :=
  (keepR_sins_rel (R := fun t t' => Attrs t' = Attrs t) (fun _ => rfl) hm hr n).map_eq id

theorem inherit_akeep (s : St) (n : String) : AKeep n s.tags (inherit s).tags :=
  (inherit_keepR (g := False) s n).akeep

theorem inherit_bounded (s : St) (hb : Bounded s.all s.tags) : Bounded s.all (inherit s).tags := by
  obtain ⟨res, hp, _⟩ := inheritLoop_inv s.all (PInv s.all) (passStep_pinv s.all)
    (s.tags.length + 1) s.tags [] ⟨by simp, by simp, hb⟩
  exact hp.bnd

theorem attrs_invF (all : Nat) (upd rst add : IdSet) (t : Tag) : Attrs (invF all upd rst add t) = Attrs t :=
  (ted_invF (g := False) all upd rst add t).grel.attrs

theorem attrs_odF (all : Nat) (t : Tag) : Attrs (odF all t) = Attrs t := (ted_odF (g := False) all t).grel.attrs

theorem attrs_cdF (all : Nat) (ids : IdSet) (t : Tag) : Attrs (cdF all ids t) = Attrs t :=
  (ted_cdF (g := False) all ids t).grel.attrs

theorem detachConv_akeep (s : St) (n c : String) (choice : Option String) (m : String) :
    AKeep m s.tags (detachConv s n c choice).tags := ((detachConv_frE (g := False) s n c choice).keep m trivial).akeep

/-- an equation between `Option`s: an event neither creates nor removes a tag it does not edit -/
theorem step_attrs (s : St) (e : Ev) (st : Started) (n : String) (hn : ¬ Props.C06.Edits e n) :
    (sget (step s e st).1.tags n).map Attrs = (sget s.tags n).map Attrs :=
  ((step_tags s e st).2.1 n hn).akeep

theorem markTail_res (p : St × Res) (st : Started) : (markTail p st).2 = p.2 := rfl

theorem step_rejected (s : St) (e : Ev) (st : Started) (h : (step s e st).2 = Res.err) : (step s e st).1 = s := by
  let P : St × Res → Prop := fun r => r.2 = Res.err → r.1 = s
  have ok : ∀ s', P (s', .ok) := fun _ h => nomatch h
  have none : ∀ s', P (s', .none) := fun _ h => nomatch h
  have rej : P (s, .err) := fun _ => rfl
  suffices P (step s e st) from this h
  cases e with
  | nop => exact none _
  | importPcaps names => rw [step_importPcaps_eq]; split <;> exact none _
  | importDone processed usednew created upd rst add =>
    exact step_importDone_cases (P := P) s _ _ _ _ _ _ st (fun _ => none _) (fun _ _ _ => none _)
  | tagDone name result =>
    exact step_tagDone_cases (P := P) s name result st (fun _ => none _) (fun _ _ _ _ _ => none _) (fun _ _ _ => none _)
  | mergeDone merged => exact step_mergeDone_cases (P := P) s merged st (fun _ => none _) (fun _ _ _ => none _)
  | convertDone => exact step_convertDone_cases (P := P) s st (fun _ => none _) (fun _ _ _ => none _)
  | addTag name color defn f => exact step_addTag_cases (P := P) s name color defn f st rej (fun _ => ok _)
  | updQuery name defn f => exact step_updQuery_cases (P := P) s name defn f st rej (fun _ _ => ok _)
  | updColor name color => rw [step_updColor_eq]; split; exact rej; exact ok _
  | updName name new => exact step_updName_cases (P := P) s name new st rej (fun _ _ _ => ok _) (fun _ _ => ok _)
  | updConv name convs => exact step_updConv_cases (P := P) s name convs st rej (fun _ _ _ => ok _)
  | markAdd name ids =>
    exact step_markAdd_cases (P := P) s name ids st rej (fun _ _ _ => ok _) (fun _ _ => ok _)
  | markDel name ids =>
    exact step_markDel_cases (P := P) s name ids st rej (fun _ _ _ => ok _) (fun _ _ => ok _)
  | delTag name => exact step_delTag_cases (P := P) s name st rej (fun _ _ _ => ok _)
  | viewOpen k => rw [step_viewOpen_eq]; split <;> exact none _
  | viewRelease k => rw [step_viewRelease_eq]; split <;> exact none _

theorem res_ok_addTag (s : St) (name color defn : String) (f : Facts) (st : Started)
    (h : (step s (.addTag name color defn f) st).2 ≠ Res.err) : (step s (.addTag name color defn f) st).2 = Res.ok :=
  step_addTag_cases (P := fun r => r.2 ≠ Res.err → r.2 = Res.ok) s name color defn f st (absurd rfl) (fun _ _ => rfl) h

theorem res_ok_updQuery (s : St) (name defn : String) (f : Facts) (st : Started)
    (h : (step s (.updQuery name defn f) st).2 ≠ Res.err) : (step s (.updQuery name defn f) st).2 = Res.ok :=
  step_updQuery_cases (P := fun r => r.2 ≠ Res.err → r.2 = Res.ok) s name defn f st (absurd rfl) (fun _ _ _ => rfl) h

theorem res_ok_updName (s : St) (name new : String) (st : Started)
    (h : (step s (.updName name new) st).2 ≠ Res.err) : (step s (.updName name new) st).2 = Res.ok :=
  step_updName_cases (P := fun r => r.2 ≠ Res.err → r.2 = Res.ok) s name new st (absurd rfl) (fun _ _ _ => fun _ => rfl)
    (fun _ _ _ => rfl) h

theorem res_ok_updConv (s : St) (name : String) (convs : List String) (st : Started)
    (h : (step s (.updConv name convs) st).2 ≠ Res.err) : (step s (.updConv name convs) st).2 = Res.ok :=
  step_updConv_cases (P := fun r => r.2 ≠ Res.err → r.2 = Res.ok) s name convs st (absurd rfl) (fun _ _ _ _ => rfl) h

theorem res_ok_delTag (s : St) (name : String) (st : Started)
    (h : (step s (.delTag name) st).2 ≠ Res.err) : (step s (.delTag name) st).2 = Res.ok :=
  step_delTag_cases (P := fun r => r.2 ≠ Res.err → r.2 = Res.ok) s name st (absurd rfl) (fun _ _ _ _ => rfl) h

theorem res_ok_markAdd (s : St) (name : String) (ids : List Nat) (st : Started)
    (h : (step s (.markAdd name ids) st).2 ≠ Res.err) :
    (step s (.markAdd name ids) st).2 = Res.ok ∧ ∃ t, sget s.tags name = some t :=
  step_markAdd_cases (P := fun r => r.2 ≠ Res.err → r.2 = Res.ok ∧ ∃ t, sget s.tags name = some t) s name ids st
    (absurd rfl) (fun t ht _ _ => ⟨rfl, t, ht⟩) (fun t ok _ => ⟨rfl, t, ok.found⟩) h

theorem res_ok_markDel (s : St) (name : String) (ids : List Nat) (st : Started)
    (h : (step s (.markDel name ids) st).2 ≠ Res.err) :
    (step s (.markDel name ids) st).2 = Res.ok ∧ ∃ t, sget s.tags name = some t :=
  step_markDel_cases (P := fun r => r.2 ≠ Res.err → r.2 = Res.ok ∧ ∃ t, sget s.tags name = some t) s name ids st
    (absurd rfl) (fun t ht _ _ => ⟨rfl, t, ht⟩) (fun t ok _ => ⟨rfl, t, ok.found⟩) h

theorem snd_ite {α β} {c : Prop} [Decidable c] {a b a' b' : α × β} (ha : a.2 = a'.2) (hb : b.2 = b'.2) :
    (if c then a else b).2 = (if c then a' else b').2 := by split <;> assumption

/-- The case principles of `step` say what an accepted call passed, not that passing is enough, so the proof
    reads the equations `step_X_eq`: the same tests on both sides, the choice of `Started` only in the state
    component. -/
theorem step_res_indep (s : St) (e : Ev) (st st' : Started) : (step s e st).2 = (step s e st').2 := by
  have none : ∀ {r r' : St × Res}, r.2 = Res.none → r'.2 = Res.none → r.2 = r'.2 := fun h h' => h.trans h'.symm
  cases e with
  | nop | importPcaps _ | mergeDone _ | updColor _ _ | updName _ _ | viewOpen _ | viewRelease _ => rfl
  | importDone processed usednew created upd rst add =>
    exact none (step_importDone_cases (P := fun r => r.2 = .none) s _ _ _ _ _ _ st (fun _ => rfl) (fun _ _ _ => rfl))
      (step_importDone_cases (P := fun r => r.2 = .none) s _ _ _ _ _ _ st' (fun _ => rfl) (fun _ _ _ => rfl))
  | tagDone name result =>
    exact none
      (step_tagDone_cases (P := fun r => r.2 = .none) s name result st (fun _ => rfl) (fun _ _ _ _ _ => rfl) (fun _ _ _ => rfl))
      (step_tagDone_cases (P := fun r => r.2 = .none) s name result st' (fun _ => rfl) (fun _ _ _ _ _ => rfl) (fun _ _ _ => rfl))
  | convertDone =>
    exact none (step_convertDone_cases (P := fun r => r.2 = .none) s st (fun _ => rfl) (fun _ _ _ => rfl))
      (step_convertDone_cases (P := fun r => r.2 = .none) s st' (fun _ => rfl) (fun _ _ _ => rfl))
  | addTag name color defn f =>
    rw [step_addTag_eq, step_addTag_eq]
    generalize parseTagName name = p
    obtain ⟨typ, sub, isMark⟩ := p
    exact snd_ite rfl (snd_ite rfl (snd_ite rfl (snd_ite rfl (snd_ite rfl (snd_ite rfl rfl)))))
  | updQuery name defn f =>
    rw [step_updQuery_eq, step_updQuery_eq]
    refine snd_ite rfl (snd_ite rfl (snd_ite rfl ?_))
    cases sget s.tags name with
    | none => rfl
    | some t => exact snd_ite rfl (snd_ite rfl (snd_ite rfl rfl))
  | updConv name convs =>
    rw [step_updConv_eq, step_updConv_eq]
    cases sget s.tags name with
    | none => rfl
    | some t => exact snd_ite rfl rfl
  | markAdd name ids =>
    rw [step_markAdd_eq, step_markAdd_eq]
    refine snd_ite rfl ?_
    cases sget s.tags name with
    | none => rfl
    | some t => exact snd_ite rfl (snd_ite rfl rfl)
  | markDel name ids =>
    rw [step_markDel_eq, step_markDel_eq]
    refine snd_ite rfl ?_
    cases sget s.tags name with
    | none => rfl
    | some t => exact snd_ite rfl (snd_ite rfl rfl)
  | delTag name =>
    rw [step_delTag_eq, step_delTag_eq]
    cases sget s.tags name with
    | none => rfl
    | some t => exact snd_ite rfl rfl

theorem attrs_muAdd (t : Tag) (s : St) (a : List Nat) : Attrs (muAdd t s a).1 = Attrs t := by
  obtain ⟨d, e⟩ := muAdd_fst t s a
  rw [e]; rfl

theorem attrs_muDel (t : Tag) (d : List Nat) : Attrs (muDel t d) = Attrs t := by
  obtain ⟨m, u, df, e, _⟩ := muDel_spec t d
  rw [e]; rfl

theorem markUpdate_self (s : St) (name : String) (a d : List Nat) (t : Tag) (ht : sget s.tags name = some t) :
    ∃ t', sget (markUpdate s name a d).1.tags name = some t' ∧ t'.unc = t.unc ∧ Attrs t' = Attrs t := by
  rw [markUpdate_eq, ht]
  simp only []
  have h0 : sget (setTag (muAdd t s a).2 name (muDel (muAdd t s a).1 d)).tags name =
      some (muDel (muAdd t s a).1 d) := by simp [setTag, sget_sins]
  obtain ⟨t3, h3, ha⟩ := akeep_get (inherit_akeep (setTag (muAdd t s a).2 name (muDel (muAdd t s a).1 d)) name) h0
  have h4 : sget (invalidatedDuringTaggingJob (inherit (setTag (muAdd t s a).2 name (muDel (muAdd t s a).1 d)))
      (muDel (muAdd t s a).1 d).unc).tags name = some t3 := by
    rw [same_sget (invalidatedDuring_same _ _)]; exact h3
  refine ⟨{ t3 with unc := t.unc }, ?_, rfl, ?_⟩
  · unfold muFin; rw [h4]; simp [setTag, sget_sins]
  · show Attrs t3 = Attrs t
    rw [ha, attrs_muDel, attrs_muAdd]

theorem markSt_self (s : St) (name : String) (a d : List Nat) (st : Started) (t : Tag)
    (ht : sget s.tags name = some t) :
    ∃ t', sget (markSt s name a d st).tags name = some t' ∧ t'.unc = t.unc ∧ Attrs t' = Attrs t := by
  obtain ⟨t', h1, h2, h3⟩ := markUpdate_self s name a d t ht
  refine ⟨t', ?_, h2, h3⟩
  rw [markSt, same_sget ((startTagging_same _ _).trans (startConverter_same _))]; exact h1

/-- `UpdateTag` restores `Uncertain` of the mark tag after its sweep (`prevUncertain`; `muFin` in the model) -/
theorem step_markAdd_self (s : St) (name : String) (ids : List Nat) (st : Started) (t : Tag)
    (ht : sget s.tags name = some t) :
    ∃ t', sget (step s (.markAdd name ids) st).1.tags name = some t' ∧ t'.unc = t.unc ∧ Attrs t' = Attrs t :=
  step_markAdd_cases (P := fun r => ∃ t', sget r.1.tags name = some t' ∧ t'.unc = t.unc ∧ Attrs t' = Attrs t)
    s name ids st ⟨t, ht, rfl, rfl⟩ (fun _ _ _ => ⟨t, ht, rfl, rfl⟩) fun _ _ => markSt_self _ _ _ _ _ _ ht

theorem step_markDel_self (s : St) (name : String) (ids : List Nat) (st : Started) (t : Tag)
    (ht : sget s.tags name = some t) :
    ∃ t', sget (step s (.markDel name ids) st).1.tags name = some t' ∧ t'.unc = t.unc ∧ Attrs t' = Attrs t :=
  step_markDel_cases (P := fun r => ∃ t', sget r.1.tags name = some t' ∧ t'.unc = t.unc ∧ Attrs t' = Attrs t)
    s name ids st ⟨t, ht, rfl, rfl⟩ (fun _ _ _ => ⟨t, ht, rfl, rfl⟩) fun _ _ => markSt_self _ _ _ _ _ _ ht

section ngen

@[simp] theorem inherit_ngen (s : St) : (inherit s).ngen = s.ngen := rfl
@[simp] theorem invalidateTags_ngen (s : St) (a b c : IdSet) : (invalidateTags s a b c).ngen = s.ngen := rfl
@[simp] theorem getIndexesCopy_ngen (s : St) (n : Nat) : ((getIndexesCopy s n).1).ngen = s.ngen := rfl
@[simp] theorem startImport_ngen (s : St) : (startImport s).ngen = s.ngen := rfl
@[simp] theorem setTag_ngen (s : St) (n : String) (t : Tag) : (setTag s n t).ngen = s.ngen := rfl

theorem addTagSt_ngen (s : St) (name color defn : String) (f : Facts) (st : Started) :
    (addTagSt s name color defn f st).ngen = s.ngen + 1 := by
  unfold addTagSt atFinish
  refine (foldl_keep (·.ngen) _ (fun s r => addRefBy_frame (·.ngen) s r name) _ _).trans ?_
  split
  · rfl
  · exact startTagging_frame (·.ngen) _ _

theorem uqRefs_frame {γ} (g : St → γ) (s : St) (name : String) (b a : List String)
    (h : ∀ s v, g { s with tags := v } = g s := by intros; rfl) : g (uqRefs s name b a) = g s :=
  (foldl_keep g _ (fun s r => addRefBy_frame g s r name h) _ _).trans
    (foldl_keep g _ (fun s r => delRefBy_frame g s r name h) _ _)

theorem step_ngen_cases (s : St) (e : Ev) (st : Started) :
    (step s e st).1.ngen = s.ngen ∨ ((∃ n c d f, e = .addTag n c d f) ∧ (step s e st).1.ngen = s.ngen + 1) := by
  let g : St → Nat := (·.ngen)
  let P : St × Res → Prop := fun r => g r.1 = g s
  have tail : ∀ X c, g (startConverter (startTagging X c)) = g X := fun X c =>
    (startConverter_frame g _).trans (startTagging_frame g _ _)
  cases e with
  | nop => exact .inl rfl
  | importPcaps names => exact .inl (step_importPcaps_cases (P := P) s names st rfl (fun _ _ => rfl) fun _ _ => rfl)
  | importDone processed usednew created upd rst add =>
    exact .inl (step_importDone_cases (P := P) s _ _ _ _ _ _ st (fun _ => rfl) fun _ _ _ =>
      (jobTail_frame g _ _).trans ((idQueue_frame g _).trans
        ((idApply_frame g _ _ _ _ _ _).trans (release_frame g _ _))))
  | tagDone name result =>
    exact .inl (step_tagDone_cases (P := P) s name result st (fun _ => rfl) (fun _ _ _ _ _ => rfl) fun _ _ _ =>
      (release_frame g _ _).trans ((jobTail_frame g _ _).trans (tdPublish_frame g { s with jTag := none } _ _ _)))
  | mergeDone merged =>
    exact .inl (step_mergeDone_cases (P := P) s merged st (fun _ => rfl) fun _ _ _ =>
      (release_frame g _ _).trans ((startMerge_frame g _).trans (mdApply_frame g { s with jMerge := none } _ _ _)))
  | convertDone =>
    exact .inl (step_convertDone_cases (P := P) s st (fun _ => rfl) fun _ _ _ =>
      (release_frame g _ _).trans ((tail _ _).trans
        (foldl_keep g _ (fun s p => cdMark_frame g s p) _ { s with convert := false, jConv := none })))
  | addTag name color defn f =>
    exact step_addTag_cases (P := fun r => r.1.ngen = s.ngen ∨ _ ∧ r.1.ngen = s.ngen + 1) s name color defn f st
      (.inl rfl) fun _ => .inr ⟨⟨_, _, _, _, rfl⟩, addTagSt_ngen _ _ _ _ _ _⟩
  | updQuery name defn f =>
    exact .inl (step_updQuery_cases (P := P) s name defn f st rfl fun _ _ =>
      (tail _ _).trans ((invalidatedDuringTaggingJob_frame g _ _).trans (uqRefs_frame g s name _ _)))
  | updColor name color => exact .inl (step_updColor_cases (P := P) s name color st rfl rfl fun _ _ => rfl)
  | updName name new =>
    exact .inl (step_updName_cases (P := P) s name new st rfl (fun _ _ _ => rfl) fun _ _ =>
      foldl_keep g _ (fun s r => (addRefBy_frame g _ r new).trans (delRefBy_frame g s r name)) _ _)
  | updConv name convs =>
    exact .inl (step_updConv_cases (P := P) s name convs st rfl fun _ _ _ =>
      (startConverter_frame g _).trans ((foldl_keep g _ (fun s c => attachConv_frame g s name c) _ _).trans
        (foldl_keep g _ (fun s c => detachConv_frame g s name c st.tag) _ _)))
  | markAdd name ids =>
    exact .inl (step_markAdd_cases (P := P) s name ids st rfl (fun _ _ _ => rfl) fun _ _ =>
      (tail _ _).trans (markUpdate_frame g s name ids []))
  | markDel name ids =>
    exact .inl (step_markDel_cases (P := P) s name ids st rfl (fun _ _ _ => rfl) fun _ _ =>
      (tail _ _).trans (markUpdate_frame g s name [] ids))
  | delTag name =>
    exact .inl (step_delTag_cases (P := P) s name st rfl fun t _ _ =>
      (foldl_keep g _ (fun s r => delRefBy_frame g s r name) _ _).trans
        (foldl_keep g _ (fun s c => detachConv_frame g s name c st.tag) t.convs s))
  | viewOpen k => exact .inl (step_viewOpen_cases (P := P) s k st rfl fun _ _ => rfl)
  | viewRelease k => exact .inl (step_viewRelease_cases (P := P) s k st rfl fun _ _ => release_frame g _ _)

end ngen

end Pk.Proofs.MgrTruth
