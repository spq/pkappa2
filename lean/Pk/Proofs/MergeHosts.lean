/-
  Host tables across `Writer.AddIndex` (`addHosts`, `placeGroup`, `placeGroups`): the invariant of the writer's
  groups is kept, writer groups only grow, and every host of every reader group ends up, under the returned
  remap, in a writer group at an index that holds the same address bytes (helper lemmas for C07).
-/
import Pk.Model.Merge
import Pk.Proofs.IndexFormatHosts

namespace Pk.Index
open Pk Pk.Bytes

structure RHostGroup.Inv (g : RHostGroup) : Prop where
  size : g.hostSize = 4 ∨ g.hostSize = 16
  len : g.hosts.length = g.hostSize * g.hostCount
  nonempty : 0 < g.hostCount
  bound : g.hosts.length ≤ 65536

theorem toReader_inv (g : HostGroup) (h : g.Inv) : g.toReader.Inv := by
  have hal := h.aligned
  have hne := h.nonempty
  refine ⟨h.size, ?_, ?_, h.bound⟩
  · simp only [HostGroup.toReader]
    rcases h.size with hs | hs <;> rw [hs] at hal ⊢ <;> omega
  · simp only [HostGroup.toReader]
    rcases h.size with hs | hs <;> rw [hs] at hal ⊢ <;> omega

theorem RHostGroup.Inv.valid {rg : RHostGroup} (hr : rg.Inv) {i : Nat} (hi : i < rg.hostCount) :
    rg.hostSize * i + rg.hostSize ≤ rg.hosts.length := by
  rw [hr.len, ← Nat.mul_succ]; exact Nat.mul_le_mul_left _ hi

theorem RHostGroup.get_length (rg : RHostGroup) (hr : rg.Inv) (i : Nat) (hi : i < rg.hostCount) :
    (rg.get i).length = rg.hostSize := by
  unfold RHostGroup.get
  simp only [List.length_take, List.length_drop]
  have := hr.valid hi
  omega

theorem RHostGroup.hostCount_le (rg : RHostGroup) (hr : rg.Inv) : rg.hostCount ≤ 16384 := by
  have h1 := hr.len
  have h2 := hr.bound
  rw [h1] at h2
  rcases hr.size with h | h <;> rw [h] at h2 <;> omega

/-- `addHosts` appends `k` whole hosts (`popN_restore` takes them back when `placeGroup` sees the call fail); when it
    succeeds, entry `i` of the remap is an index that holds host `hs[i]` of the reader group -/
theorem addHosts_spec (rhg : RHostGroup) (hs : List Nat) : ∀ (g : HostGroup) (remap : List Nat) (n : Nat),
    g.Inv → ∀ {g' remap' n' failed}, addHosts rhg hs g remap n = (g', remap', n', failed) →
      g'.Inv ∧ (∃ k ext, n' = n + k ∧ g' = { g with hosts := g.hosts ++ ext } ∧ ext.length = k * g.hostSize) ∧
      (failed = false → ∃ r : List Nat, remap' = remap ++ r ∧ r.length = hs.length ∧
          ∀ (i j : Nat), r[i]? = some j → ∃ h, hs[i]? = some h ∧ g'.Valid j ∧ g'.hostAt j = rhg.get h) := by
  induction hs with
  | nil =>
    intro g remap n hg g' remap' n' failed h
    cases h
    exact ⟨hg, ⟨0, [], rfl, by simp, by simp⟩, fun _ => ⟨[], (List.append_nil _).symm, rfl, fun i j h => by simp at h⟩⟩
  | cons h hs ih =>
    intro g remap n hg g' remap' n' failed heq
    simp only [addHosts] at heq
    split at heq
    · cases heq
      exact ⟨hg, ⟨0, [], rfl, by simp, by simp⟩, fun h => nomatch h⟩
    · rename_i g1 idx added hadd
      obtain ⟨hg1, _, hv, hat⟩ := add_spec hg hadd
      obtain ⟨hi, ⟨k, ext, hn, rfl, hxl⟩, hok⟩ := ih g1 _ _ hg1 heq
      refine ⟨hi, ?_, fun hf => ?_⟩
      · obtain ⟨hl, ⟨rfl, rfl, _⟩ | ⟨rfl, rfl, _⟩⟩ := add_cases hg.ne hadd
        · exact ⟨k, ext, hn, rfl, hxl⟩
        · have hxl' : ext.length = k * g.hostSize := hxl
          exact ⟨k + 1, rhg.get h ++ ext, by simp at hn; omega, by simp, by rw [List.length_append, hxl', Nat.succ_mul, hl]; omega⟩
      · obtain ⟨r, hr, hrl, hrs⟩ := hok hf
        refine ⟨idx :: r, by rw [hr, List.append_assoc]; rfl, by rw [List.length_cons, hrl, List.length_cons], ?_⟩
        intro i j hij
        cases i with
        | zero => cases hij; exact ⟨h, rfl, (GroupExt.append g1 ext).keeps hv hat⟩
        | succ i => exact hrs i j hij

/-- `p`: position of the chosen group in the returned list; its id counts on from `idx` (the groups tried before) and is cut to 16 bits -/
theorem placeGroup_spec (rhg : RHostGroup) (hr : rhg.Inv) (gs : List HostGroup) (hgs : GroupsInv gs) (idx : Nat) :
    GroupsInv (placeGroup rhg gs idx).1 ∧
    GroupsExt gs (placeGroup rhg gs idx).1 ∧ (placeGroup rhg gs idx).2.hostRemap.length = rhg.hostCount ∧
    ∃ (p : Nat) (g' : HostGroup), (placeGroup rhg gs idx).2.group = (idx + p) % 65536 ∧
      (placeGroup rhg gs idx).1[p]? = some g' ∧
      ∀ (i j : Nat), (placeGroup rhg gs idx).2.hostRemap[i]? = some j → g'.Valid j ∧ g'.hostAt j = rhg.get i := by
  induction gs generalizing idx with
  | nil =>
    simp only [placeGroup]
    have hinv : ({ hostSize := rhg.hostSize, hosts := rhg.hosts } : HostGroup).Inv := by
      refine ⟨hr.size, ?_, ?_, hr.bound⟩
      · simp [hr.len]
      · simp only [hr.len]
        have := hr.nonempty
        rcases hr.size with h | h <;> rw [h] <;> omega
    refine ⟨GroupsInv.cons hinv (fun _ h => nomatch h), fun k g hk => by simp at hk, by simp, 0,
      { hostSize := rhg.hostSize, hosts := rhg.hosts }, rfl, by simp, ?_⟩
    intro i j hij
    simp only [List.getElem?_map, Option.map_eq_some_iff] at hij
    obtain ⟨a, ha, rfl⟩ := hij
    have hi : i < rhg.hostCount := by simpa using getElem?_lt ha
    have ha' : a = i := by
      rw [List.getElem?_range hi] at ha; simpa using ha.symm
    subst ha'
    have hc := RHostGroup.hostCount_le rhg hr
    rw [Nat.mod_eq_of_lt (by omega)]
    exact ⟨hr.valid hi, rfl⟩
  | cons g gs ih =>
    have hg : g.Inv := hgs g (by simp)
    have hrest : GroupsInv gs := fun x hx => hgs x (by simp [hx])
    simp only [placeGroup]
    cases hadd : addHosts rhg (List.range rhg.hostCount) g [] 0 with
    | mk g' r =>
      obtain ⟨remap, nAdded, failed⟩ := r
      obtain ⟨hi, ⟨k, ext, hn, rfl, hxl⟩, hok⟩ := addHosts_spec rhg _ g [] 0 hg hadd
      simp only
      cases failed with
      | true =>
        simp only [if_true]
        rw [popN_restore g { g with hosts := g.hosts ++ ext } nAdded ext rfl rfl (by rw [hn, Nat.zero_add, hxl])]
        obtain ⟨hinv, hext, hlen, p, g2, hgrp, hg2, hrm⟩ := ih hrest (idx + 1)
        refine ⟨GroupsInv.cons hg hinv, GroupsExt.cons (GroupExt.refl g) hext, hlen, p + 1, g2, ?_, hg2, hrm⟩
        rw [hgrp]; congr 1; omega
      | false =>
        simp only [Bool.false_eq_true, if_false]
        obtain ⟨r, hr', hrl, hrs⟩ := hok rfl
        rw [List.nil_append] at hr'
        subst hr'
        refine ⟨GroupsInv.cons hi hrest, GroupsExt.cons (GroupExt.append g ext) (GroupsExt.refl gs), by simpa using hrl, 0, _, rfl, rfl, ?_⟩
        intro i j hij
        obtain ⟨h, hh, hv⟩ := hrs i j hij
        have hi : i < rhg.hostCount := by simpa using getElem?_lt hh
        rw [List.getElem?_range hi] at hh
        cases hh
        exact hv

theorem placeGroups_spec (rgs : List RHostGroup) (hr : ∀ g ∈ rgs, g.Inv) (gs : List HostGroup) (hgs : GroupsInv gs) :
    GroupsInv (placeGroups rgs gs).1 ∧ GroupsExt gs (placeGroups rgs gs).1 ∧ (placeGroups rgs gs).2.length = rgs.length ∧
    ((placeGroups rgs gs).1.length ≤ 65536 → ∀ (k : Nat) (rg : RHostGroup) (m : HgRemap), rgs[k]? = some rg →
      (placeGroups rgs gs).2[k]? = some m →
      m.hostRemap.length = rg.hostCount ∧ ∃ g' : HostGroup, (placeGroups rgs gs).1[m.group]? = some g' ∧
        ∀ (i j : Nat), m.hostRemap[i]? = some j → g'.Valid j ∧ g'.hostAt j = rg.get i) := by
  induction rgs generalizing gs with
  | nil => exact ⟨hgs, GroupsExt.refl gs, rfl, fun _ _ _ _ h => by simp at h⟩
  | cons r rs ih =>
    have hr0 : r.Inv := hr r (by simp)
    have hrs : ∀ g ∈ rs, g.Inv := fun x hx => hr x (by simp [hx])
    obtain ⟨hinv1, hext1, hlen1, p, g1, hgrp, hg1, hrm1⟩ := placeGroup_spec r hr0 gs hgs 0
    obtain ⟨hinv2, hext2, hlen2, hmap2⟩ := ih hrs (placeGroup r gs 0).1 hinv1
    simp only [placeGroups]
    refine ⟨hinv2, hext1.trans hext2, by simp [hlen2], fun hcap k rg m hk hm => ?_⟩
    cases k with
    | zero =>
      cases hk; cases hm
      obtain ⟨g2, hg2, hx⟩ := hext2 p g1 hg1
      have hp := getElem?_lt hg2
      have hmod : (placeGroup r gs 0).2.group = p := by
        rw [hgrp, Nat.zero_add]; exact Nat.mod_eq_of_lt (by omega)
      exact ⟨hlen1, g2, by rw [hmod]; exact hg2, fun i j hij => hx.keeps (hrm1 i j hij).1 (hrm1 i j hij).2⟩
    | succ k => exact hmap2 hcap k rg m hk hm

theorem GroupsExt_take (gs gs' : List HostGroup) (h : GroupsExt gs gs') : GroupsExt gs (gs'.take gs.length) := by
  intro k g hk
  obtain ⟨g', hg', hx⟩ := h k g hk
  exact ⟨g', by rw [List.getElem?_take_of_lt (getElem?_lt hk)]; exact hg', hx⟩

def Reader.HostsInv (r : Reader) : Prop := ∀ g ∈ r.hostGroups, g.Inv

theorem take_inv (gs : List HostGroup) (h : GroupsInv gs) (n : Nat) : GroupsInv (gs.take n) :=
  fun g hg => h g (List.mem_of_mem_take hg)

end Pk.Index
