/-
  One import on top of a stack that is in step with the reassembler.
  `StackInv stack R`: the streams `R = reasm (fed so far)` are visible through `stack` under their
  positions as IDs (same packets; the data of the visible version is a prefix of the current data),
  every stored version of ID `k` starts with the first packet of `R[k]`, and the next ID is `R.size`.
  So the visible IDs are `0 .. R.size - 1` (`StackInv.ids`), whatever is visible under `k` is an earlier
  version of `R[k]` in the sense of `SExt` (`StackInv.sext`), and no packet is visible under two IDs
  (`StackInv.noDouble`).
  If `R'` extends `R` by packets of the new captures only (`ReasmExt`), the import of `R'` rewrites
  exactly the streams that got a packet, under their old IDs, gives the new streams the next IDs in
  order, and re-establishes the invariant for `R'` (`StepHyp.visible`, `StepHyp.inv'`); what was visible stays
  visible under its ID, extended (`StepHyp.stable`).
-/
import Pk.Proofs.ImportChronoIds
import Pk.Proofs.ImportChronoRun
namespace Pk.Proofs.ImportChrono
open Pk.Import Pk.Props.C08 Pk.Proofs.ImportReasm

/-- `importStep` with the streams of the reassembler given -/
def importArr (nf : List String) (R' : Array Stream) (stack : List Index) : List Index :=
  let a := assignIDs nf stack R'.toList (nextStreamID stack)
  if a.index.isEmpty then stack else stack ++ [{ streams := a.index }]

theorem importStep_eq (nf : List String) (fed : List Pkt) (stack : List Index) :
    importStep nf fed stack = importArr nf (reasm fed) stack := rfl

structure StackInv (stack : List Index) (R : Array Stream) : Prop where
  entries : ∀ ix ∈ stack, ∀ e ∈ ix.streams, e.1 < R.size ∧ firstKey e.2 = firstKey R[e.1]!
  vis : ∀ k : Nat, k < R.size → ∃ V, visibleStream stack k = some V ∧ V.pktsRev = R[k]!.pktsRev ∧
    ∃ more, R[k]!.dataRev = more ++ V.dataRev
  next : nextStreamID stack = R.size

theorem StackInv.empty : StackInv [] #[] :=
  ⟨(by intro ix h; cases h), (by intro k h; simp at h), rfl⟩

theorem StackInv.sext {stack : List Index} {R : Array Import.Stream} (hI : StackInv stack R) {k : Nat} {V : Import.Stream}
    (h : visibleStream stack k = some V) : k < R.size ∧ SExt [] V R[k]! := by
  obtain ⟨ix, hm, he⟩ := visibleStream_mem h
  have hk := (hI.entries ix hm (k, V) he).1
  obtain ⟨V', h1, h2, h3⟩ := hI.vis k hk
  cases h.symm.trans h1
  exact ⟨hk, h2.symm, h3⟩

theorem StackInv.ids {stack : List Index} {R : Array Import.Stream} (hI : StackInv stack R) :
    visibleIDs stack = List.range R.size := by
  refine visibleIDs_range stack R.size (fun ix hm e he => (hI.entries ix hm e he).1) fun k hk => ?_
  obtain ⟨V, hv, _⟩ := hI.vis k hk
  obtain ⟨ix, hm, he⟩ := visibleStream_mem hv
  exact ⟨ix, hm, (k, V), he, rfl⟩

theorem StackInv.noDouble {stack : List Index} {R : Array Import.Stream} {F : List Pkt} (hI : StackInv stack R)
    (hk : KeyDisj F R) (i j : Nat) (hij : i ≠ j) : NoDoubleIdAt stack i j := by
  unfold NoDoubleIdAt doubleIdAt
  cases hi : visibleStream stack i with
  | none => rfl
  | some s =>
    cases hj : visibleStream stack j with
    | none => rfl
    | some t =>
      simp only
      obtain ⟨_, hs, _⟩ := hI.sext hi
      obtain ⟨_, ht, _⟩ := hI.sext hj
      cases hsp : sharePacket s t with
      | false => rfl
      | true =>
        exfalso
        unfold sharePacket at hsp
        rw [List.any_eq_true] at hsp
        obtain ⟨x, hx, hx'⟩ := hsp
        rw [List.any_eq_true] at hx'
        obtain ⟨y, hy, hxy⟩ := hx'
        have exy : x.1 = y.1 := by simpa using hxy
        exact hij (hk.disj i j x (hs ▸ List.mem_reverse.mp hx) y (ht ▸ List.mem_reverse.mp hy) (by rw [exy]))

structure RGood (R : Array Stream) : Prop where
  ne : ∀ k : Nat, k < R.size → R[k]!.pktsRev ≠ []
  inj : ∀ i j : Nat, i < R.size → j < R.size → firstKey R[i]! = firstKey R[j]! → i = j

theorem RGood.of_keyDisj {F : List Pkt} {R : Array Import.Stream} (hne : ∀ k : Nat, k < R.size → R[k]!.pktsRev ≠ [])
    (hk : KeyDisj F R) : RGood R := by
  refine ⟨hne, ?_⟩
  intro i j hi hj h
  unfold firstKey at h
  cases h1 : R[i]!.pktsRev.getLast? with
  | none => exact absurd (List.getLast?_eq_none_iff.mp h1) (hne i hi)
  | some x =>
    cases h2 : R[j]!.pktsRev.getLast? with
    | none => exact absurd (List.getLast?_eq_none_iff.mp h2) (hne j hj)
    | some y =>
      rw [h1, h2] at h
      exact hk.disj i j x (List.mem_of_getLast? h1) y (List.mem_of_getLast? h2) (Option.some.inj h)

/-- one chronological import: `G` the new packets, `R`/`R'` the streams before/after feeding them -/
structure StepHyp (nf : List String) (G : List Pkt) (stack : List Index) (R R' : Array Stream) : Prop where
  inv : StackInv stack R
  good : RGood R
  ext : ReasmExt G R R'
  hG : ∀ q ∈ G, q.file ∈ nf
  hR : ∀ k : Nat, ∀ x ∈ R[k]!.pktsRev, x.1.file ∉ nf

variable {nf : List String} {G : List Pkt} {stack : List Index} {R R' : Array Stream}

theorem StepHyp.firstKey_keep (H : StepHyp nf G stack R R') (k : Nat) (hk : k < R.size) :
    firstKey R'[k]! = firstKey R[k]! := by
  obtain ⟨np, ⟨hp, _⟩, _⟩ := H.ext.ext k
  unfold firstKey
  rw [hp, List.getLast?_append]
  cases h : R[k]!.pktsRev.getLast? with
  | none => exact absurd (List.getLast?_eq_none_iff.mp h) (H.good.ne k hk)
  | some y => rfl

theorem StepHyp.lookup (H : StepHyp nf G stack R R') (k : Nat) (hk : k < R.size) (r : PRef) (d : Bool)
    (hl : R[k]!.pktsRev.getLast? = some (r, d)) : lookupFirst stack r.file r.idx = some k := by
  have hfk : firstKey R[k]! = some (r.file, r.idx) := by unfold firstKey; rw [hl]; rfl
  apply lookupFirst_eq
  · obtain ⟨V, hv, hp, _⟩ := H.inv.vis k hk
    obtain ⟨ix, hm, he⟩ := visibleStream_mem hv
    refine ⟨ix, hm, (k, V), he, ?_⟩
    show firstKey V = _
    unfold firstKey
    rw [hp, hl]; rfl
  · intro ix hm e he hke
    obtain ⟨h1, h2⟩ := H.inv.entries ix hm e he
    exact H.good.inj e.1 k h1 hk (by rw [← h2, hke, hfk])

/-- the stream at position `i` got a packet (or is new) -/
def changed (R R' : Array Stream) (i : Nat) : Prop := R'[i]!.pktsRev ≠ R[i]!.pktsRev

theorem StepHyp.changed_new (H : StepHyp nf G stack R R') {i : Nat} (hge : R.size ≤ i) (hi : i < R'.size) :
    changed R R' i := by
  unfold changed
  rw [array_get!_default R i hge]
  exact H.ext.new i hge hi

theorem StepHyp.walk (H : StepHyp nf G stack R R') (i : Nat) :
    idOf nf stack R'[i]! = (if i < R.size then some i else none) ∧
    (touchedOf nf stack R'[i]! = true ↔ changed R R' i) := by
  obtain ⟨np, ⟨hp, _⟩, hq⟩ := H.ext.ext i
  have hnpf : ∀ x ∈ np.reverse, x.1.file ∈ nf := by
    intro x hx
    obtain ⟨q, hqG, hqr⟩ := hq x (List.mem_reverse.mp hx)
    rw [← hqr]; exact H.hG q hqG
  have hch : changed R R' i ↔ np ≠ [] := by unfold changed; rw [hp, Ne, List.append_left_eq_self]
  unfold idOf touchedOf Stream.pkts
  rw [hch, hp, List.reverse_append]
  by_cases hlt : i < R.size
  · -- the old packets: first packet, rest
    obtain ⟨⟨r, d⟩, old, hold⟩ := List.exists_cons_of_ne_nil
      (mt List.reverse_eq_nil_iff.mp (H.good.ne i hlt))
    have hlast : R[i]!.pktsRev.getLast? = some (r, d) := by rw [← List.head?_reverse, hold]; rfl
    have hmemR : ∀ y ∈ (r, d) :: old, y.1.file ∉ nf := by
      intro y hy
      rw [← hold] at hy
      exact H.hR i y (List.mem_reverse.mp hy)
    rw [hold, if_pos hlt, cw_continued nf stack i r d old np.reverse (hmemR _ (List.mem_cons_self ..))
      (fun y hy => hmemR y (List.mem_cons_of_mem _ hy)) hnpf (H.lookup i hlt r d hlast)]
    exact ⟨rfl, by simp⟩
  · have hdef : R[i]!.pktsRev = [] := by rw [array_get!_default R i (Nat.not_lt.mp hlt)]; rfl
    rw [hdef, if_neg hlt, List.reverse_nil, List.nil_append, cw_new nf stack np.reverse false hnpf]
    exact ⟨rfl, by simp⟩

theorem StepHyp.classify (H : StepHyp nf G stack R R') (i : Nat) (hi : i < R'.size) :
    (i < R.size ∧
      ((touchedOf nf stack R'[i]! = false ∧ R'[i]!.pktsRev = R[i]!.pktsRev) ∨
       (touchedOf nf stack R'[i]! = true ∧ idOf nf stack R'[i]! = some i ∧ R'[i]!.pktsRev ≠ R[i]!.pktsRev))) ∨
    (R.size ≤ i ∧ touchedOf nf stack R'[i]! = true ∧ idOf nf stack R'[i]! = none ∧ R'[i]!.pktsRev ≠ R[i]!.pktsRev) := by
  obtain ⟨hid, ht⟩ := H.walk i
  by_cases hlt : i < R.size
  · rw [if_pos hlt] at hid
    by_cases hc : changed R R' i
    · exact Or.inl ⟨hlt, Or.inr ⟨ht.mpr hc, hid, hc⟩⟩
    · exact Or.inl ⟨hlt, Or.inl ⟨Bool.eq_false_iff.mpr (mt ht.mp hc), Classical.not_not.mp hc⟩⟩
  · rw [if_neg hlt] at hid
    have hc := H.changed_new (Nat.not_lt.mp hlt) hi
    exact Or.inr ⟨Nat.not_lt.mp hlt, ht.mpr hc, hid, hc⟩

theorem StepHyp.assign (H : StepHyp nf G stack R R') :
    (assignIDs nf stack R'.toList (nextStreamID stack)).next = R'.size ∧
    ∀ e, e ∈ (assignIDs nf stack R'.toList (nextStreamID stack)).index ↔
      ∃ i : Nat, i < R'.size ∧ changed R R' i ∧ e = (i, R'[i]!) := by
  unfold assignIDs
  rw [Array.foldl_toList]
  -- after `k` streams: the next ID, and what has been written
  refine (fun h => ⟨h.1.trans (Nat.max_eq_right H.ext.size_le), h.2⟩) (Array.foldl_induction (as := R')
    (motive := fun k (a : Assigned) => a.next = max R.size k ∧
      ∀ e, e ∈ a.index ↔ ∃ i : Nat, i < k ∧ changed R R' i ∧ e = (i, R'[i]!)) ?_ ?_)
  · exact ⟨H.inv.next.trans (Nat.max_eq_left (Nat.zero_le _)).symm, fun e => ⟨nofun, fun ⟨i, hi, _⟩ => absurd hi (Nat.not_lt_zero i)⟩⟩
  · intro i a ⟨ha, hidx⟩
    obtain ⟨hid, ht⟩ := H.walk i
    rw [Fin.getElem_fin, ← getElem!_pos R' i.1 i.2]
    obtain ⟨r1, r2⟩ := assignStep_at ha (fun _ => hid) (fun hge => ht.mpr (H.changed_new hge i.2))
    refine ⟨r1, fun e => ?_⟩
    rw [r2, List.mem_append, hidx]
    constructor
    · rintro (⟨j, hj, r⟩ | he)
      · exact ⟨j, Nat.lt_succ_of_lt hj, r⟩
      · split at he
        · exact ⟨i, Nat.lt_succ_self _, ht.mp ‹_›, List.mem_singleton.mp he⟩
        · cases he
    · rintro ⟨j, hj, hc, rfl⟩
      rcases Nat.lt_succ_iff_lt_or_eq.mp hj with hj | rfl
      · exact Or.inl ⟨j, hj, hc, rfl⟩
      · exact Or.inr (by rw [if_pos (ht.mpr hc)]; exact List.mem_singleton.mpr rfl)

theorem importArr_eq (nf : List String) (R' : Array Import.Stream) (stack : List Index) :
    importArr nf R' stack = if (assignIDs nf stack R'.toList (nextStreamID stack)).index.isEmpty then stack
      else stack ++ [{ streams := (assignIDs nf stack R'.toList (nextStreamID stack)).index }] := rfl

theorem visibleStream_importArr (nf : List String) (R' : Array Import.Stream) (stack : List Index) (k : Nat) :
    visibleStream (importArr nf R' stack) k =
      match (assignIDs nf stack R'.toList (nextStreamID stack)).index.find? (fun e => e.1 = k) with
      | some e => some e.2
      | none => visibleStream stack k := by
  rw [importArr_eq]
  by_cases hemp : (assignIDs nf stack R'.toList (nextStreamID stack)).index.isEmpty = true
  · rw [if_pos hemp, List.isEmpty_iff.mp hemp]; rfl
  · rw [if_neg hemp, visibleStream_append]; rfl

theorem StepHyp.visible (H : StepHyp nf G stack R R') (k : Nat) :
    (k < R'.size → changed R R' k → visibleStream (importArr nf R' stack) k = some R'[k]!) ∧
    (¬ (k < R'.size ∧ changed R R' k) → visibleStream (importArr nf R' stack) k = visibleStream stack k) := by
  obtain ⟨_, hidx⟩ := H.assign
  rw [visibleStream_importArr]
  refine ⟨fun hk hc => ?_, fun hn => ?_⟩
  · rw [find_id ((hidx _).mpr ⟨k, hk, hc, rfl⟩)]
    intro e he hek
    obtain ⟨i, _, _, rfl⟩ := (hidx e).mp he
    rw [← hek]
  · rw [find_id_none]
    intro e he hek
    obtain ⟨i, hi, hc, rfl⟩ := (hidx e).mp he
    exact hn ⟨hek ▸ hi, hek ▸ hc⟩

/-- the next ID after an import that wrote `idx` on top of a stack with next ID `n`: all written
    IDs are below `m`, and if `n < m` the ID `m - 1` is among them -/
theorem nextStreamID_written {stack : List Index} {idx : List (Nat × Import.Stream)} {n m : Nat}
    (hn : nextStreamID stack = n) (hnm : n ≤ m) (ha : ∀ e ∈ idx, e.1 < m) (hb : n < m → ∃ e ∈ idx, m ≤ e.1 + 1) :
    nextStreamID (if idx.isEmpty then stack else stack ++ [{ streams := idx }]) = m := by
  by_cases hemp : idx.isEmpty = true
  · rw [if_pos hemp, hn]
    refine Nat.le_antisymm hnm (Nat.not_lt.mp fun hlt => ?_)
    obtain ⟨e, he, _⟩ := hb hlt
    exact List.ne_nil_of_mem he (List.isEmpty_iff.mp hemp)
  · rw [if_neg hemp, Proofs.Import.nextStreamID_append, hn]
    obtain ⟨e, l, hl⟩ := List.exists_cons_of_ne_nil (mt List.isEmpty_iff.mpr hemp)
    have hM : Index.maxID ⟨idx⟩ < m := (Proofs.Import.foldl_max_iff (P := (· < m)) (fun _ _ => Nat.max_lt) idx 0).mpr
      ⟨Nat.zero_lt_of_lt (ha e (hl ▸ List.mem_cons_self ..)), ha⟩
    by_cases h : n < m
    · obtain ⟨e', he', h1⟩ := hb h
      have h2 : m ≤ Index.maxID ⟨idx⟩ + 1 := Nat.le_trans h1 (Nat.succ_le_succ (Proofs.Import.le_maxID ⟨idx⟩ e' he'))
      rw [if_pos (Nat.le_of_lt_succ (Nat.lt_of_lt_of_le h h2))]
      exact Nat.le_antisymm hM h2
    · have hnm' : n = m := Nat.le_antisymm hnm (Nat.not_lt.mp h)
      rw [if_neg (Nat.not_le.mpr (hnm' ▸ hM)), hnm']

theorem StepHyp.next (H : StepHyp nf G stack R R') : nextStreamID (importArr nf R' stack) = R'.size := by
  obtain ⟨_, hidx⟩ := H.assign
  refine nextStreamID_written H.inv.next H.ext.size_le (fun e he => ?_) (fun hlt => ?_)
  · obtain ⟨i, hi, _, rfl⟩ := (hidx e).mp he
    exact hi
  · -- a new stream is always written: the last one
    obtain ⟨n, hn⟩ := Nat.exists_eq_add_one_of_ne_zero (Nat.ne_zero_of_lt hlt)
    have hi : n < R'.size := hn ▸ Nat.lt_succ_self n
    exact ⟨_, (hidx _).mpr ⟨n, hi, H.changed_new (Nat.le_of_lt_add_one (hn ▸ hlt)) hi, rfl⟩, Nat.le_of_eq hn⟩

theorem StepHyp.unchanged (H : StepHyp nf G stack R R') {k : Nat} (hk : k < R'.size) (hc : ¬ changed R R' k) :
    k < R.size ∧ R'[k]!.pktsRev = R[k]!.pktsRev :=
  ⟨Nat.not_le.mp fun hge => hc (H.changed_new hge hk), Classical.not_not.mp hc⟩

theorem StepHyp.inv' (H : StepHyp nf G stack R R') : StackInv (importArr nf R' stack) R' := by
  obtain ⟨_, hidx⟩ := H.assign
  refine ⟨?_, ?_, H.next⟩
  · intro ix hm e he
    have hmem : ix ∈ stack ∨ ix.streams = (assignIDs nf stack R'.toList (nextStreamID stack)).index := by
      rw [importArr_eq] at hm
      split at hm
      · exact Or.inl hm
      · exact (List.mem_append.mp hm).imp_right fun hm => by rw [List.mem_singleton.mp hm]
    rcases hmem with hm | hm
    · obtain ⟨h1, h2⟩ := H.inv.entries ix hm e he
      exact ⟨Nat.lt_of_lt_of_le h1 H.ext.size_le, by rw [h2, H.firstKey_keep e.1 h1]⟩
    · rw [hm] at he
      obtain ⟨i, hi, _, rfl⟩ := (hidx e).mp he
      exact ⟨hi, rfl⟩
  · intro k hk
    by_cases hc : changed R R' k
    · exact ⟨R'[k]!, (H.visible k).1 hk hc, rfl, [], rfl⟩
    · obtain ⟨hlt, heq⟩ := H.unchanged hk hc
      obtain ⟨V, h1, h2, more, h3⟩ := H.inv.vis k hlt
      obtain ⟨np, ⟨_, more', hd⟩, _⟩ := H.ext.ext k
      exact ⟨V, by rw [(H.visible k).2 (fun h => hc h.2), h1], by rw [h2, heq], more' ++ more,
        by rw [hd, h3, List.append_assoc]⟩

theorem StepHyp.stable {nf : List String} {G : List Pkt} {stack : List Index} {R R' : Array Stream}
    (H : StepHyp nf G stack R R') (k : Nat) (V : Stream) (hv : visibleStream stack k = some V) :
    ∃ V' np nd, visibleStream (importArr nf R' stack) k = some V' ∧
      V'.pkts = V.pkts ++ np ∧ V'.data = V.data ++ nd ∧ (∀ x ∈ np, ∃ q ∈ G, q.ref = x.1) := by
  obtain ⟨hk, hV⟩ := H.inv.sext hv
  obtain ⟨np, hs, hq⟩ := H.ext.ext k
  by_cases hc : changed R R' k
  · obtain ⟨e1, nd, e2⟩ := (hV.trans hs).fwd
    rw [List.append_nil] at e1
    exact ⟨R'[k]!, np.reverse, nd, (H.visible k).1 (Nat.lt_of_lt_of_le hk H.ext.size_le) hc, e1, e2,
      fun x hx => hq x (List.mem_reverse.mp hx)⟩
  · refine ⟨V, [], [], ?_, (List.append_nil _).symm, (List.append_nil _).symm, fun x hx => nomatch hx⟩
    rw [(H.visible k).2 (fun h => hc h.2), hv]

/-- Every stream of `R` is visible in its current version (not only a data prefix, as in
    `StackInv.vis`).  Preserved inside one inactivity window, where `hframe` of `StepHyp.cur` is
    `reasm_window_frame`; across the timeout a flush breaks it (`C08.finding_F34`). -/
def StackCur (stack : List Index) (R : Array Import.Stream) : Prop :=
  ∀ k : Nat, k < R.size → visibleStream stack k = some R[k]!

theorem visible_of_cur {stack : List Index} {R : Array Import.Stream} (hI : StackInv stack R) (hC : StackCur stack R) :
    visible stack = (List.range R.size).map (fun k => (k, R[k]!)) := by
  unfold visible
  rw [hI.ids]
  apply Lib.filterMap_eq_map
  intro k hk
  rw [hC k (List.mem_range.mp hk)]; rfl

theorem StepHyp.cur (H : StepHyp nf G stack R R') (hc : StackCur stack R)
    (hframe : ∀ k : Nat, k < R.size → R'[k]!.pktsRev = R[k]!.pktsRev → R'[k]! = R[k]!) :
    StackCur (importArr nf R' stack) R' := by
  intro k hk
  by_cases hch : changed R R' k
  · exact (H.visible k).1 hk hch
  · obtain ⟨hlt, heq⟩ := H.unchanged hk hch
    rw [(H.visible k).2 (fun h => hch h.2), hc k hlt, hframe k hlt heq]

end Pk.Proofs.ImportChrono
