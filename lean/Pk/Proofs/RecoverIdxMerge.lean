/- The core of `merge_crash_safe` (Props/C12Idx).  Every disk of the form "disk minus some inputs, plus
   some of the outputs (complete or not); inputs are missing only if all outputs are complete" serves
   every id in the same version and has the same next id (`shape_visibleVer`, `shape_nextID`), and every
   prefix of a merge leaves a disk of that form (`merge_prefix_shape`).  At the end the import side: the prefixes of
   an import (`import_prefix_cases`) and `visibleIn`/`nextID` under files appended to the disk. -/
import Pk.Model.RecoverIdx
import Pk.Props.RecoverSpec
import Pk.Proofs.RecoverIdx
import Pk.Proofs.RecoverIdxOps
namespace Pk.Proofs.RecoverIdx
open Pk.Recover Pk.Props.C12Idx

theorem holds_filter (d : List IndexFile) (p : IndexFile → Bool) (id n : Nat) :
    Holds (d.filter p) id n ↔ ∃ f ∈ d, p f = true ∧ serves f id = true ∧ f.name = n := by
  simp only [Holds, List.mem_filter, and_assoc]

theorem filter_not_nil_contains (d : List IndexFile) :
    d.filter (fun f => !(([] : List Nat).contains f.name)) = d :=
  List.filter_eq_self.mpr (fun _ _ => by simp)

theorem newestInput_isSome (d : List IndexFile) (ins : List Nat)
    (hcomplete : ∀ f ∈ d, f.name ∈ ins → f.complete = true) (id : Nat) (hin : InputId d ins id) :
    ∃ n0, newestInput d ins id = some n0 := by
  obtain ⟨f0, hf0, hn, hi⟩ := hin
  exact Option.isSome_iff_exists.mp ((visibleIn_isSome_iff _ _).mpr ⟨f0.name, (holds_filter _ _ _ _).mpr
    ⟨f0, hf0, by simpa using hn, (serves_iff _ _).mpr ⟨hcomplete f0 hf0 hn, hi⟩, rfl⟩⟩)

/-- under the no-newer-outsider condition the newest input is what the disk serves -/
theorem visibleIn_eq_newestInput (d : List IndexFile) (ins : List Nat)
    (hcomplete : ∀ f ∈ d, f.name ∈ ins → f.complete = true) (hout : NoNewerOutsider d ins)
    (id n0 : Nat) (h : newestInput d ins id = some n0) :
    visibleIn d id = some n0 := by
  rw [newestInput, visibleIn_some_iff] at h
  obtain ⟨hH, hmax⟩ := h
  rw [visibleIn_some_iff]
  obtain ⟨f0, hf0, hp0, hs0, hn0⟩ := (holds_filter _ _ _ _).mp hH
  refine ⟨⟨f0, hf0, hs0, hn0⟩, ?_⟩
  rintro m ⟨g, hg, hsg, rfl⟩
  by_cases hgi : g.name ∈ ins
  · exact hmax _ ((holds_filter _ _ _ _).mpr ⟨g, hg, by simpa using hgi, hsg, rfl⟩)
  · obtain ⟨hgc, hgid⟩ := (serves_iff _ _).mp hsg
    obtain ⟨f, hf, hfi, hfid, hlt⟩ := hout g hg hgc hgi id hgid
      ⟨f0, hf0, by simpa using hp0, ((serves_iff _ _).mp hs0).2⟩
    have := hmax f.name ((holds_filter _ _ _ _).mpr
      ⟨f, hf, by simpa using hfi, (serves_iff _ _).mpr ⟨hcomplete f hf hfi, hfid⟩, rfl⟩)
    omega

section core
variable {ver : Nat → Nat → Nat} {d : List IndexFile} {ins : List Nat} {os : List (Nat × List Nat)}
  {D : List Nat} {E : List IndexFile}
  (hD : ∀ n ∈ D, n ∈ ins)
  (hE : ∀ e ∈ E, ∃ o ∈ os, e.name = o.1 ∧ e.ids = o.2)
  (hall : D ≠ [] → ∀ o ∈ os, mkOut o ∈ E)
include hD hE hall

theorem shape_visibleVer (h : MergeOK ver d ins os) (id : Nat) :
    visibleVer (d.filter (fun f => !(D.contains f.name)) ++ E) ver id = visibleVer d ver id := by
  by_cases hE1 : ∃ e ∈ E, serves e id = true
  · -- an output serves the id: it is the newest file, and has the version of the newest input
    obtain ⟨e, he, hse⟩ := hE1
    obtain ⟨o, ho, hen, hei⟩ := hE e he
    have hid : id ∈ o.2 := hei ▸ ((serves_iff _ _).mp hse).2
    have hin := (h.cover id).mp ⟨o, ho, hid⟩
    obtain ⟨n0, hn0⟩ := newestInput_isSome d ins h.inputs_complete id hin
    have hvd := visibleIn_eq_newestInput d ins h.inputs_complete h.no_newer_outsider id n0 hn0
    have hHe : Holds (d.filter (fun f => !(D.contains f.name)) ++ E) id e.name :=
      (holds_append _ _ _ _).mpr (Or.inr ⟨e, he, hse, rfl⟩)
    obtain ⟨m, hm⟩ := Option.isSome_iff_exists.mp ((visibleIn_isSome_iff _ _).mpr ⟨_, hHe⟩)
    have ⟨hHm, hmaxm⟩ := (visibleIn_some_iff _ _ _).mp hm
    have hem : e.name ≤ m := hmaxm _ hHe
    rcases (holds_append _ _ _ _).mp hHm with hH | hH
    · obtain ⟨g, hg, _, _, hgn⟩ := (holds_filter _ _ _ _).mp hH
      have := h.fresh o ho g hg
      omega
    · obtain ⟨g, hg, hsg, hgn⟩ := hH
      obtain ⟨o', ho', hgn', hgi'⟩ := hE g hg
      have hid' : id ∈ o'.2 := hgi' ▸ ((serves_iff _ _).mp hsg).2
      have := h.version o' ho' id hid' n0 hn0
      simp only [visibleVer, hm, hvd, Option.map_some, Option.some.injEq]
      rw [← hgn, hgn', this]
  ·
    have hnoE : ∀ n, ¬ Holds E id n := fun n ⟨e, he, hse, _⟩ => hE1 ⟨e, he, hse⟩
    simp only [visibleVer]
    congr 1
    apply visibleIn_congr
    intro n
    rw [holds_append]
    constructor
    · rintro (h | h)
      · obtain ⟨f, hf, _, hs, hn⟩ := (holds_filter _ _ _ _).mp h
        exact ⟨f, hf, hs, hn⟩
      · exact absurd h (hnoE n)
    · rintro ⟨f, hf, hs, hn⟩
      left
      refine (holds_filter _ _ _ _).mpr ⟨f, hf, ?_, hs, hn⟩
      -- f is not deleted: otherwise all outputs are complete and one of them serves the id
      cases hc : D.contains f.name with
      | false => rfl
      | true =>
        exfalso
        have hfD : f.name ∈ D := by simpa using hc
        obtain ⟨o, ho, hid⟩ := (h.cover id).mpr ⟨f, hf, hD _ hfD, ((serves_iff _ _).mp hs).2⟩
        exact hE1 ⟨mkOut o, hall (List.ne_nil_of_mem hfD) o ho, (serves_iff _ _).mpr ⟨rfl, hid⟩⟩

theorem shape_nextID (h : MergeBase ver d ins os) :
    nextID (d.filter (fun f => !(D.contains f.name)) ++ E) = nextID d := by
  apply nextID_congr
  intro i
  constructor
  · rintro ⟨f, hf, hc, hi⟩
    rcases List.mem_append.mp hf with hf | hf
    · exact ⟨f, (List.mem_filter.mp hf).1, hc, hi⟩
    · obtain ⟨o, ho, _, hei⟩ := hE f hf
      obtain ⟨g, hg, hgi, hig⟩ := (h.cover i).mp ⟨o, ho, hei ▸ hi⟩
      exact ⟨g, hg, h.inputs_complete g hg hgi, hig⟩
  · rintro ⟨g, hg, hc, hi⟩
    cases hcD : D.contains g.name with
    | false =>
      exact ⟨g, List.mem_append.mpr (Or.inl (List.mem_filter.mpr ⟨hg, by rw [hcD]; rfl⟩)), hc, hi⟩
    | true =>
      have hgD : g.name ∈ D := by simpa using hcD
      obtain ⟨o, ho, hid⟩ := (h.cover i).mpr ⟨g, hg, hD _ hgD, hi⟩
      exact ⟨mkOut o, List.mem_append.mpr (Or.inr (hall (List.ne_nil_of_mem hgD) o ho)), rfl, hid⟩

end core

theorem merge_prefix_shape (d : List IndexFile) (ins : List Nat) (os : List (Nat × List Nat))
    (hfresh : ∀ o ∈ os, ∀ f ∈ d, f.name < o.1)
    (hexist : ∀ n ∈ ins, ∃ f ∈ d, f.name = n) {p : List IdxOp} (h : p <+: mergeOps ins os) :
    ∃ D E, applyOps d p = d.filter (fun f => !(D.contains f.name)) ++ E ∧
      (∀ n ∈ D, n ∈ ins) ∧ (∀ e ∈ E, ∃ o ∈ os, e.name = o.1 ∧ e.ids = o.2) ∧
      (D ≠ [] → ∀ o ∈ os, mkOut o ∈ E) := by
  have hne : ∀ o ∈ os, ∀ f ∈ d, f.name ≠ o.1 := fun o ho f hf => Nat.ne_of_lt (hfresh o ho f hf)
  have hout : ∀ l : List (Nat × List Nat), (∀ o ∈ l, o ∈ os) →
      ∀ e ∈ l.map mkOut, ∃ o ∈ os, e.name = o.1 ∧ e.ids = o.2 := by
    intro l hl e he
    obtain ⟨o, ho, rfl⟩ := List.mem_map.mp he
    exact ⟨o, hl o ho, rfl, rfl⟩
  rcases merge_prefix_cases d ins os hne h with ⟨a, rest, rfl, _, h⟩ | ⟨a, o, rest, rfl, _, h⟩ | ⟨b, rest, rfl, _, _, h⟩
  · refine ⟨[], a.map mkOut, ?_, (fun _ h => nomatch h), hout _ fun _ => List.mem_append_left _, fun h => absurd rfl h⟩
    rw [h, filter_not_nil_contains]
  · refine ⟨[], a.map mkOut ++ [mkPart o], ?_, (fun _ h => nomatch h), ?_, fun h => absurd rfl h⟩
    · rw [h, filter_not_nil_contains, List.append_assoc]
    · intro x hx
      rcases List.mem_append.mp hx with hx | hx
      · exact hout _ (fun _ => List.mem_append_left _) x hx
      · cases List.mem_singleton.mp hx
        exact ⟨o, List.mem_append_right _ List.mem_cons_self, rfl, rfl⟩
  · refine ⟨b, os.map mkOut, ?_, fun n => List.mem_append_left _, hout _ fun _ h => h,
      fun _ o ho => List.mem_map.mpr ⟨o, ho, rfl⟩⟩
    -- the outputs are not deleted: their names are not names of the disk, the inputs' are
    rw [h, List.filter_append]
    congr 1
    apply List.filter_eq_self.mpr
    intro x hx
    obtain ⟨o, ho, rfl⟩ := List.mem_map.mp hx
    have : o.1 ∉ b := fun hmem =>
      have ⟨f, hf, hfn⟩ := hexist _ (List.mem_append_left _ hmem)
      hne o ho f hf hfn
    simpa [mkOut] using this

theorem import_prefix_cases (d : List IndexFile) (name : Nat) (ids : List Nat)
    (hne : ∀ f ∈ d, f.name ≠ name) (k : Nat) :
    (k < 2 ∧ ∃ E, (∀ e ∈ E, e.complete = false) ∧ applyOps d ((importOps name ids).take k) = d ++ E) ∨
    (2 ≤ k ∧ applyOps d ((importOps name ids).take k) = d ++ [mkOut (name, ids)]) := by
  match k with
  | 0 => exact .inl ⟨by decide, [], fun _ h => absurd h List.not_mem_nil, (List.append_nil d).symm⟩
  | 1 => exact .inl ⟨by decide, [mkPart (name, ids)], fun e he => by cases List.mem_singleton.mp he; rfl, rfl⟩
  | k + 2 =>
    refine .inr ⟨Nat.le_add_left 2 k, ?_⟩
    have : (importOps name ids).take (k + 2) = [.create name ids, .finish name] := by
      simp [importOps]
    rw [this]
    exact write_one d (name, ids) (fun f hf hn => absurd hn (hne f hf))

theorem visibleIn_append_not_serving (d E : List IndexFile) (id : Nat)
    (h : ∀ e ∈ E, serves e id = false) : visibleIn (d ++ E) id = visibleIn d id := by
  apply visibleIn_congr
  intro n
  rw [holds_append]
  refine ⟨fun h' => h'.resolve_right fun ⟨e, he, hs, _⟩ => ?_, Or.inl⟩
  rw [h e he] at hs
  cases hs

theorem visibleIn_append_incomplete (d E : List IndexFile) (id : Nat)
    (h : ∀ e ∈ E, e.complete = false) : visibleIn (d ++ E) id = visibleIn d id :=
  visibleIn_append_not_serving d E id fun e he => by simp [serves, h e he]

theorem nextID_append_incomplete (d E : List IndexFile)
    (h : ∀ e ∈ E, e.complete = false) : nextID (d ++ E) = nextID d := by
  apply nextID_congr
  intro i
  constructor
  · rintro ⟨f, hf, hc, hi⟩
    rcases List.mem_append.mp hf with hf | hf
    · exact ⟨f, hf, hc, hi⟩
    · rw [h f hf] at hc; cases hc
  · rintro ⟨f, hf, hc, hi⟩
    exact ⟨f, List.mem_append.mpr (Or.inl hf), hc, hi⟩

theorem visibleIn_append_newer (d : List IndexFile) (o : Nat × List Nat) (id : Nat)
    (hnew : ∀ f ∈ d, f.name < o.1) :
    visibleIn (d ++ [mkOut o]) id = if id ∈ o.2 then some o.1 else visibleIn d id := by
  split
  · rename_i hid
    rw [visibleIn_some_iff]
    refine ⟨(holds_append _ _ _ _).mpr (Or.inr ⟨mkOut o, by simp, (serves_iff _ _).mpr ⟨rfl, hid⟩, rfl⟩), ?_⟩
    intro m hm
    rcases (holds_append _ _ _ _).mp hm with ⟨f, hf, _, rfl⟩ | ⟨f, hf, _, rfl⟩
    · exact Nat.le_of_lt (hnew f hf)
    · cases List.mem_singleton.mp hf
      exact Nat.le_refl _
  · rename_i hid
    exact visibleIn_append_not_serving d _ id fun e he => by
      cases List.mem_singleton.mp he
      simpa [serves, mkOut] using hid

end Pk.Proofs.RecoverIdx
