/-
  Search engine model (property C02) — core Lean only.

  Transliterates, from internal/index/search.go:
    * the sort comparators `sorterFunctions` and their composition `sortingLess`   (820–960)
    * the result accumulator `filterAndAddToResult` of `searchStreams`             (1144–1402)
      restricted to the main query without grouping: limit pre-checks, sorted insertion by binary
      search (`sort.Search`), replacement of the last slot, the dropped counter
    * the scan loops of `searchStreams` (file order without early exit / sorted lookup with early
      exit)                                                                           (1420–1549)
    * the superseding filter of `buildSearchObjects` (122–132) and the newest-first iteration over
      index files and the final paging of `SearchStreams` (1079–1133)
  and states the SPEC of a search result as an executable checker `validPage`.

  What is abstracted: the per-condition filters and the lookup intersection are a predicate
  `q : Rec → Bool` evaluated on every stored stream version (the harness computes it with the plain
  semantics of the query); a lookup can only remove streams for which `q` is false.

  The early exit of the sorted scan is modelled as it is in the repaired code (fix F21): the scan stops
  only at a stream that is strictly worse than the last kept one on the PRIMARY key, the key the lookup
  section is ordered by.  `searchFullKeyExit` keeps the rule of the unrepaired code (stop at the
  first stream that does not beat the last kept one under the FULL key list) for `finding_F21`.
-/
namespace Pk.Search

/-- what the sort comparators look at (times as absolute values, hosts as address bytes) -/
structure Rec where
  id : Nat
  ftime : Nat
  ltime : Nat
  cbytes : Nat
  sbytes : Nat
  cport : Nat
  sport : Nat
  chost : List Nat
  shost : List Nat
deriving Repr, DecidableEq, Inhabited

inductive Field where
  | id | cbytes | sbytes | ftime | ltime | chost | shost | cport | sport
deriving Repr, DecidableEq, Inhabited

structure SortKey where
  field : Field
  desc : Bool
deriving Repr, DecidableEq, Inhabited

/-- `bytes.Compare(a, b) < 0` -/
def bytesLt : List Nat → List Nat → Bool
  | [], [] => false
  | [], _ :: _ => true
  | _ :: _, [] => false
  | a :: as, b :: bs => if a < b then true else if b < a then false else bytesLt as bs

/-- `sorterFunctions[key](a, b)` -/
def fieldLt (f : Field) (a b : Rec) : Bool :=
  match f with
  | .id => a.id < b.id
  | .cbytes => a.cbytes < b.cbytes
  | .sbytes => a.sbytes < b.sbytes
  | .ftime => a.ftime < b.ftime
  | .ltime => a.ltime < b.ltime
  | .chost => bytesLt a.chost b.chost
  | .shost => bytesLt a.shost b.shost
  | .cport => a.cport < b.cport
  | .sport => a.sport < b.sport

def keyLt (k : SortKey) (a b : Rec) : Bool :=
  if k.desc then fieldLt k.field b a else fieldLt k.field a b

/-- `sortingLess` for a key list -/
def less : List SortKey → Rec → Rec → Bool
  | [], _, _ => false
  | k :: ks, a, b => if keyLt k a b then true else if keyLt k b a then false else less ks a b

/-- default search order is `-ftime` -/
def effKeys (keys : List SortKey) : List SortKey :=
  if keys.isEmpty then [⟨.ftime, true⟩] else keys

/-- comparator of the first key only: the order of the lookup section used by the sorted scan -/
def primLess (keys : List SortKey) : Rec → Rec → Bool := less (keys.take 1)

/-! ### SPEC: what a search result has to be -/

/-- no element strictly below an earlier one -/
def sortedBy (lt : Rec → Rec → Bool) : List Rec → Bool
  | [] => true
  | a :: rest => rest.all (fun b => !lt b a) && sortedBy lt rest

def findRec (ms : List Rec) (id : Nat) : Option Rec := ms.find? (fun r => r.id == id)

def nodupIds : List Nat → Bool
  | [] => true
  | a :: rest => !rest.contains a && nodupIds rest

/-- the page of a sorted arrangement: `limit = 0` means no limit -/
def pageOf (limit skip : Nat) (arr : List Rec) : List Rec :=
  if limit = 0 then arr.drop skip else (arr.drop skip).take limit

def moreOf (limit skip n : Nat) : Bool := limit != 0 && decide (skip + limit < n)

/--
  Executable checker.  `ms`: the matches (visible streams satisfying the query, distinct ids) with their
  sort-relevant data; `res`: returned stream ids in order; `more`: returned flag.

  res has no duplicates, every element is a match, res is sorted, it has the length of the page
  `[skip, skip+limit)`, and it can be completed to a sorted arrangement of all matches: the matches
  outside res that must precede the page's last element (strictly below it) fit in front of the page
  (at most `skip`, none strictly above the first element), those that must follow its first element
  (strictly above it) fit behind it; `more` iff more than skip+limit matches exist.
-/
def validPage (ms : List Rec) (keys : List SortKey) (limit skip : Nat) (res : List Nat) (more : Bool) : Bool :=
  let lt := less keys
  let n := ms.length
  let want := if limit = 0 then n - skip else min limit (n - skip)
  match res.mapM (findRec ms) with
  | none => false
  | some rs =>
    nodupIds res && sortedBy lt rs && decide (rs.length = want) && (more == moreOf limit skip n) &&
    (match rs.head?, rs.getLast? with
     | some first, some last =>
       let rest := ms.filter (fun m => !res.contains m.id)
       let before := rest.filter (fun m => lt m last)      -- cannot stand behind the page
       let after := rest.filter (fun m => lt first m)      -- cannot stand in front of the page
       before.all (fun m => !lt first m) && after.all (fun m => !lt m last) &&
       decide (before.length ≤ skip) && decide (after.length ≤ n - skip - rs.length)
     | _, _ => true)

/-! ### ENGINE: result accumulator -/

/-- `sort.Search(n, f)`: smallest index in `[0,n)` at which `f` holds (binary search; `n` if none). -/
def sortSearchAux (f : Nat → Bool) : Nat → Nat → Nat → Nat
  | 0, i, _ => i
  | fuel + 1, i, j =>
    if i < j then
      let h := (i + j) / 2
      if !f h then sortSearchAux f fuel (h + 1) j else sortSearchAux f fuel i h
    else i

def sortSearch (n : Nat) (f : Nat → Bool) : Nat := sortSearchAux f (n + 1) 0 n

/-- `result.streams` (without the free slot) and `result.resultDropped` -/
structure Acc where
  streams : List Rec := []
  dropped : Nat := 0
deriving Repr, DecidableEq, Inhabited

/-- place `s` into the free slot at the end and move it to its sorted position (1290–1310) -/
def insertSorted (lt : Rec → Rec → Bool) (s : Rec) (l : List Rec) : List Rec :=
  let pos := sortSearch l.length (fun i => match l[i]? with | some x => lt s x | none => true)
  l.take pos ++ s :: l.drop pos

/--
  One call of `filterAndAddToResult` for the stream `s`; `m` says whether some query part matches it
  (the filters are only evaluated after the limit pre-check).  Returns the new accumulator and the
  value handed back to the scan loop ("limit reached, the scan may stop").
  `stopLt last s` is the early-exit test.
-/
def step (lt stopLt : Rec → Rec → Bool) (limit : Nat) (a : Acc) (s : Rec) (m : Bool) : Acc × Bool :=
  let limitReached := a.dropped != 0 && limit != 0 && decide (limit ≤ a.streams.length)
  match a.streams[limit - 1]? with
  | some last =>
    if limitReached && !lt s last then (a, stopLt last s)
    else if !m then (a, false)
    else if limit == 0 || decide (a.streams.length < limit) then
      ({ a with streams := insertSorted lt s a.streams }, false)
    else if lt s last then
      ({ streams := insertSorted lt s a.streams.dropLast, dropped := a.dropped + 1 }, false)
    else ({ a with dropped := a.dropped + 1 }, stopLt last s)
  | none =>
    -- fewer than `limit` entries (or limit = 0 and the list is empty): nothing to compare with
    if !m then (a, false)
    else ({ a with streams := insertSorted lt s a.streams }, false)

/-- scan of one index file: `evs` are the streams in scan order with their match flag;
    `sorted` = the sorting lookup is used, so the loop honours the stop signal -/
def scan (lt stopLt : Rec → Rec → Bool) (limit : Nat) (sorted : Bool) (a : Acc) : List (Rec × Bool) → Acc
  | [] => a
  | (s, m) :: rest =>
    let r := step lt stopLt limit a s m
    if sorted && r.2 then r.1 else scan lt stopLt limit sorted r.1 rest

/-! ### shadowing and the whole search -/

/-- the superseding filter: no newer index file contains the stream's id -/
def notSuperseded (newer : List (List (Rec × Bool))) (s : Rec) : Bool :=
  newer.all (fun f => f.all (fun e => e.1.id != s.id))

/-- newest-first iteration over the index files; `newer` = files already searched -/
def searchFiles (lt stopLt : Rec → Rec → Bool) (limit : Nat) (sorted : Bool) :
    List (List (Rec × Bool)) → List (List (Rec × Bool)) → Acc → Acc
  | _, [], a => a
  | newer, f :: older, a =>
    let evs := f.map (fun e => (e.1, e.2 && notSuperseded newer e.1))
    searchFiles lt stopLt limit sorted (newer ++ [f]) older (scan lt stopLt limit sorted a evs)

/-- `SearchStreams` for the main query: files newest first, each in scan order with the truth value of
    the query on every stored version.  Returns (ids of the page, more flag). -/
def search (keys : List SortKey) (limit skip : Nat) (sorted : Bool) (files : List (List (Rec × Bool))) :
    List Nat × Bool :=
  let ks := effKeys keys
  let lt := less ks
  let total := limit + skip
  let a := searchFiles lt (primLess ks) total (sorted && total != 0) [] files {}
  if a.streams.length ≤ skip then ([], false)
  else ((a.streams.drop skip).map (·.id), a.dropped != 0)

/-- the rule of the unrepaired code: stop as soon as a stream does not beat the last kept one under the
    full key list -/
def searchFullKeyExit (keys : List SortKey) (limit skip : Nat) (sorted : Bool) (files : List (List (Rec × Bool))) :
    List Nat × Bool :=
  let ks := effKeys keys
  let lt := less ks
  let total := limit + skip
  let a := searchFiles lt (fun _ _ => true) total (sorted && total != 0) [] files {}
  if a.streams.length ≤ skip then ([], false)
  else ((a.streams.drop skip).map (·.id), a.dropped != 0)

/-- the visible streams: the newest stored version of every id (files newest first) -/
def visible : List (List (Rec × Bool)) → List (List (Rec × Bool)) → List (Rec × Bool)
  | _, [] => []
  | newer, f :: older => f.filter (fun e => notSuperseded newer e.1) ++ visible (newer ++ [f]) older

/-- all scan events of a stack with the superseding filter applied to the match flag -/
def flagged : List (List (Rec × Bool)) → List (List (Rec × Bool)) → List (Rec × Bool)
  | _, [] => []
  | newer, f :: older =>
    f.map (fun e => (e.1, e.2 && notSuperseded newer e.1)) ++ flagged (newer ++ [f]) older

/-- the match set the spec talks about -/
def matchesOf (files : List (List (Rec × Bool))) : List Rec :=
  ((visible [] files).filter (·.2)).map (·.1)

end Pk.Search

namespace Pk.Search

/-! ### per-condition filters that are simple enough to transliterate completely -/

/-- `TagCondition` filter of `buildSearchObjects` (149–193): the special cases of the switch on
    `cc.Accept` and the generic default.  Accept bits: 1 matching, 2 failing, 4 uncertain+matching,
    8 uncertain+failing. -/
def tagAccept (accept : Nat) (uncertain matching : Bool) : Bool :=
  if accept = 0 then false
  else if accept = 15 then true
  else if accept = 12 then uncertain
  else if accept = 3 then !uncertain
  else if accept = 5 then matching
  else if accept = 10 then !matching
  else
    let a := if uncertain then accept &&& 12 else accept &&& 3
    let a := if matching then a &&& 5 else a &&& 10
    a != 0

/-- what the accept mask means: the bit of the stream's (uncertain, matching) state is set -/
def tagAcceptSpec (accept : Nat) (uncertain matching : Bool) : Bool :=
  let bit := match uncertain, matching with
    | false, true => 1 | false, false => 2 | true, true => 4 | true, false => 8
  accept &&& bit != 0

/-- `Conditions.inlineTagFilter` (internal/query/conditions.go) seen from one stream, for ONE tag filter with accept
    mask `accept` on a tag that has undecided streams (`tagHasUndecided`): a mask that accepts both or neither of
    the undecided states is kept; a mask with exactly one undecided bit is replaced by two alternatives — the
    decided part of the mask (`accept &&& 3`), or "undecided (mask 12) and the tag's definition holds" (the
    definition negated when the mask accepts undecided-failing only). `recorded` is the answer stored for the
    stream, `defTruth` what the tag's definition says about it now. -/
def inlinedAccept (tagHasUndecided : Bool) (accept : Nat) (uncertain recorded defTruth : Bool) : Bool :=
  let unc := accept &&& 12
  if !tagHasUndecided || unc = 0 || unc = 12 then tagAccept accept uncertain recorded
  else
    tagAccept (accept &&& 3) uncertain recorded ||
      (tagAccept 12 uncertain recorded && (if unc = 8 then !defTruth else defTruth))

/-- `TimeCondition` filter for the main query (616–623), everything in ns as integers:
    `d = Duration + (f+l)*(r.ReferenceTime - refTime) + f*FirstPacketTimeNS + l*LastPacketTimeNS ≥ 0` -/
def timeFilter (duration f l refTime fileRef firstNS lastNS : Int) : Bool :=
  decide (0 ≤ duration + (f + l) * (fileRef - refTime) + f * firstNS + l * lastNS)

/-- the parser's encoding of an absolute lower bound `ftime:A:` parsed at reference time `ref`
    (conditions.go 772, 833): `Duration = -(A - ref)`, ftime factor +1 -/
def lowerBoundDuration (A ref : Int) : Int := -(A - ref)
/-- … and of an absolute upper bound `ftime::B`: `Duration = B - ref`, ftime factor -1 -/
def upperBoundDuration (B ref : Int) : Int := B - ref

/-- `NumberCondition` filter without sub-queries (485–493): `Number + Σ factor·value ≥ 0` -/
def numberFilter (number : Int) (terms : List (Int × Int)) : Bool :=
  decide (0 ≤ number + (terms.map (fun t => t.1 * t.2)).foldl (· + ·) 0)

/-- `FlagCondition` filter with one sub-query (221–225) -/
def flagFilter (flags mask value : Nat) : Bool := flags &&& mask != value

end Pk.Search
