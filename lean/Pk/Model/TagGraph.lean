/-
  TagGraph — self-contained model of the tag management API of
  internal/index/manager/manager.go (property C11):

    AddTag, DelTag, UpdateTag{query, color, name, converters, mark add, mark del},
    inheritTagUncertainty, startTaggingJobIfNeeded (its dereferences only),
    the start-up validation of tags in New, makeTagInfo/ListTags.

  Transliteration rules
  * `mgr.tags` (a Go map of pointers) is an association list `List (Name × Tag)`; lookups are
    `tget`, stores are `tset`, `delete` is `tdel`.  Map iteration order is the list order (the code's
    results do not depend on it where they are observed).
  * `query.Parse(def)`, `Conditions.Features()` and `Conditions.StreamIDs(n)` are NOT modelled:
    their results are an input of every op (`Facts`), supplied by the harness from the real parser.
  * a dereference of `mgr.tags[x]` for a missing `x` is `Outcome.panic site`;
    a `for len(resolved) != len(tags)` walk that can not finish is `Outcome.diverged site`
    (fuel = |tags|+1 rounds; a round without progress repeats for ever in the code).
  * bitmasks are sorted duplicate-free `List Nat`.
  * the background tagging job is represented only by `settle` (what the service has computed once
    `Status().TaggingJobRunning = false` and all `UncertainCount = 0`): for a definition that is a
    plain id filter the job's result is `StreamIDs`, for anything else the match set is outside this
    model (`known := false`).
  Core Lean only (linked into `pkmodel`).
-/
namespace Pk.TagGraph

abbrev Name := String

/-! ### finite sets of stream ids -/

def insertNat (x : Nat) : List Nat → List Nat
  | [] => [x]
  | y :: ys => if x < y then x :: y :: ys else if x = y then y :: ys else y :: insertNat x ys

def unionNat (a b : List Nat) : List Nat := b.foldl (fun acc x => insertNat x acc) a
def diffNat (a b : List Nat) : List Nat := a.filter (fun x => !b.contains x)
def interNat (a b : List Nat) : List Nat := a.filter (fun x => b.contains x)
def normNat (a : List Nat) : List Nat := unionNat [] a

/-! ### inputs -/

/-- what `query.Parse(def)`, `.Conditions.Features()`, `.Grouping` and `.Conditions.StreamIDs(next)`
    answered for a definition (computed by the harness with the real code) -/
structure Facts where
  parseErr : Bool := false
  grouping : Bool := false
  mainTags : List Name := []
  subTags : List Name := []
  mainFeat : Nat := 0
  subFeat : Nat := 0
  idsOk : Bool := false
  ids : List Nat := []
  deriving Repr, DecidableEq, Inhabited

def featID : Nat := 1
def featTimeRelative : Nat := 32
def featData : Nat := 128

def Facts.relTime (p : Facts) : Bool := (p.mainFeat ||| p.subFeat) &&& featTimeRelative != 0
def Facts.refs (p : Facts) : List Name := p.mainTags ++ p.subTags

structure Tag where
  definition : String := ""
  mainTags : List Name := []
  subTags : List Name := []
  mainFeat : Nat := 0
  subFeat : Nat := 0
  /-- abstraction of `TagDetails.Conditions`: `StreamIDs(next)` if it is a plain id filter -/
  cond : Option (List Nat) := none
  matched : List Nat := []
  /-- model bookkeeping: `false` once `matched` depends on query evaluation (outside this model) -/
  known : Bool := true
  uncertain : List Nat := []
  color : String := ""
  converters : List Name := []
  referencedBy : List Name := []
  deriving Repr, DecidableEq, Inhabited

/-- `tag.referencedTags()` (a set in the code; duplicates are harmless here) -/
def Tag.refs (t : Tag) : List Name := t.mainTags ++ t.subTags

abbrev TagMap := List (Name × Tag)

structure State where
  tags : TagMap := []
  nextStreamID : Nat := 0
  /-- names of the converters known to the manager (fixed during a run) -/
  convs : List Name := []
  deriving Repr, DecidableEq, Inhabited

inductive Outcome where
  | ok
  | err
  | panic (site : String)
  | diverged (site : String)
  deriving Repr, DecidableEq, Inhabited

/-! ### the tag table -/

def tget : TagMap → Name → Option Tag
  | [], _ => none
  | (k, v) :: m, n => if k = n then some v else tget m n

def tset : TagMap → Name → Tag → TagMap
  | [], n, t => [(n, t)]
  | (k, v) :: m, n, t => if k = n then (k, t) :: m else (k, v) :: tset m n t

def tdel : TagMap → Name → TagMap
  | [], _ => []
  | (k, v) :: m, n => if k = n then tdel m n else (k, v) :: tdel m n

def tkeys (m : TagMap) : List Name := m.map (·.1)

def thas (m : TagMap) (n : Name) : Bool := (tget m n).isSome

/-- `t := mgr.tags[n]; f(t)` for an existing `n` (no effect otherwise) -/
def tmod (m : TagMap) (n : Name) (f : Tag → Tag) : TagMap :=
  match tget m n with
  | some t => tset m n (f t)
  | none => m

def addRef (x : Name) (l : List Name) : List Name := if l.contains x then l else l ++ [x]
def delRef (x : Name) (l : List Name) : List Name := l.filter (· != x)

def State.allStreams (st : State) : List Nat := List.range st.nextStreamID

/-! ### names -/

def cutSlash (s : String) : Option (String × String) :=
  match s.splitOn "/" with
  | [] => none
  | [_] => none
  | typ :: rest => some (typ, "/".intercalate rest)

/-- `parseTagName` -/
def parseTagName (full : String) : String × String × Bool :=
  match cutSlash full with
  | none => ("", "", false)
  | some (typ, sub) =>
    let isMark := typ == "mark" || typ == "generated"
    if typ != "tag" && typ != "service" && !isMark then ("", "", false) else (typ, sub, isMark)

def markPrefix (n : Name) : Bool := n.startsWith "mark/" || n.startsWith "generated/"

/-! ### dependency-ordered elimination
   (control skeleton of `inheritTagUncertainty`, of the start-up cycle check in `New`, and of the
    cycle check of `UpdateTag`) -/

/-- one pass over `names`; `res` holds the resolved names, most recent first -/
def elimRound (refs : Name → List Name) : List Name → List Name → List Name
  | [], res => res
  | n :: ns, res =>
    if res.contains n then elimRound refs ns res
    else if (refs n).all (fun r => res.contains r) then elimRound refs ns (n :: res)
    else elimRound refs ns res

/-- repeat passes until every name is resolved; `none` when the fuel runs out -/
def elim (refs : Name → List Name) (names : List Name) : Nat → List Name → Option (List Name)
  | fuel, res =>
    if names.all (fun n => res.contains n) then some res
    else match fuel with
      | 0 => none
      | f + 1 => elim refs names f (elimRound refs names res)

def refsOf (m : TagMap) (n : Name) : List Name :=
  match tget m n with
  | some t => t.refs
  | none => []

/-- resolution order of the whole table (oldest first), `none` = the walk never finishes -/
def resolveOrder (m : TagMap) : Option (List Name) :=
  (elim (refsOf m) (tkeys m) ((tkeys m).length + 1) []).map List.reverse

/-! ### inheritTagUncertainty -/

def uncertainOf (m : TagMap) (n : Name) : List Nat :=
  match tget m n with
  | some t => t.uncertain
  | none => []

/-- body of the walk for one resolved tag -/
def inheritOne (all : List Nat) (m : TagMap) (n : Name) : TagMap :=
  tmod m n fun ti =>
    if ti.mainTags.isEmpty && ti.subTags.isEmpty then ti
    else if ti.subTags.any (fun r => !(uncertainOf m r).isEmpty) then { ti with uncertain := all }
    else { ti with uncertain := ti.mainTags.foldl (fun acc r => unionNat acc (uncertainOf m r)) ti.uncertain }

def inheritApply (all : List Nat) (m : TagMap) (order : List Name) : TagMap :=
  order.foldl (inheritOne all) m

/-- `mgr.inheritTagUncertainty()`; `none` = diverged -/
def inherit (st : State) : Option State :=
  match resolveOrder st.tags with
  | none => none
  | some order => some { st with tags := inheritApply st.allStreams st.tags order }

/-! ### startTaggingJobIfNeeded: only its dereferences of `mgr.tags[tn]` matter here -/

def tagJobPanics (m : TagMap) : Bool :=
  (tkeys m).any fun n =>
    match tget m n with
    | some t => !t.uncertain.isEmpty && t.refs.any (fun r => !thas m r)
    | none => false

/-! ### AddTag -/

def mkTag (color definition : String) (p : Facts) : Tag :=
  { definition := definition, mainTags := p.mainTags, subTags := p.subTags,
    mainFeat := p.mainFeat, subFeat := p.subFeat,
    cond := if p.idsOk then some p.ids else none, color := color }

def addReferrer (name : Name) (m : TagMap) (rs : List Name) : TagMap :=
  rs.foldl (fun m r => tmod m r fun t => { t with referencedBy := addRef name t.referencedBy }) m
def delReferrer (name : Name) (m : TagMap) (rs : List Name) : TagMap :=
  rs.foldl (fun m r => tmod m r fun t => { t with referencedBy := delRef name t.referencedBy }) m

/-- pre-checks of a definition shared by AddTag and UpdateTag(query), done outside the service loop -/
def defRejected (name : Name) (p : Facts) (needIds : Bool) : Bool :=
  p.parseErr || p.relTime || p.grouping || p.refs.contains name || (needIds && !p.idsOk)

def addTag (st : State) (name color definition : String) (p : Facts) : Outcome × State :=
  let (typ, sub, isMark) := parseTagName name
  if typ == "" || sub == "" then (.err, st) else
  if defRejected name p isMark then (.err, st) else
  if thas st.tags name then (.err, st) else
  if p.refs.any (fun r => !thas st.tags r) then (.err, st) else
  let nt := mkTag color definition p
  let nt := if isMark then { nt with matched := p.ids } else { nt with uncertain := st.allStreams }
  let m := tset st.tags name nt
  if !isMark && tagJobPanics m then (.panic "startTaggingJobIfNeeded", st) else
  (.ok, { st with tags := addReferrer name m p.refs })

/-! ### DelTag -/

def delTag (st : State) (name : Name) : Outcome × State :=
  match tget st.tags name with
  | none => (.err, st)
  | some t =>
    if !t.referencedBy.isEmpty then (.err, st) else
    let m := tdel st.tags name
    if t.refs.any (fun r => !thas m r) then (.panic "DelTag.referencedTags", st) else
    (.ok, { st with tags := delReferrer name m t.refs })

/-! ### UpdateTag -/

/-- an operation that sets nothing (`color ""`, `name ""`, empty id list) -/
def updNothing (st : State) (name : Name) : Outcome × State :=
  if thas st.tags name then (.ok, st) else (.err, st)

def updColor (st : State) (name color : String) : Outcome × State :=
  if color == "" then updNothing st name else
  match tget st.tags name with
  | none => (.err, st)
  | some t => (.ok, { st with tags := tset st.tags name { t with color := color } })

/-- does replacing the references of `name` by `rs` leave the table eliminable (no cycle, nothing missing)? -/
def eliminable (m : TagMap) (name : Name) (rs : List Name) : Bool :=
  let refs := fun n => if n = name then rs else refsOf m n
  (elim refs (tkeys m) ((tkeys m).length + 1) []).isSome

/-- the tag's query is "too complex" for a converter (`attachConverterToTag`) -/
def Tag.complex (t : Tag) : Bool :=
  t.mainFeat &&& featData != 0 || t.subFeat &&& featData != 0 || !t.mainTags.isEmpty || !t.subTags.isEmpty

def updQuery (st : State) (name definition : String) (p : Facts) : Outcome × State :=
  if defRejected name p (markPrefix name) then (.err, st) else
  match tget st.tags name with
  | none => (.err, st)
  | some t =>
    -- validation (the same as AddTag, plus the cycle check)
    if p.refs.any (fun r => !thas st.tags r) then (.err, st) else
    if !eliminable st.tags name p.refs then (.err, st) else
    -- a tag with converters attached keeps a query converters can be attached to
    if !t.converters.isEmpty && (mkTag t.color definition p).complex then (.err, st) else
    let nt := { mkTag t.color definition p with
                converters := t.converters, referencedBy := t.referencedBy, uncertain := st.allStreams }
    let onlyBefore := t.refs.filter (fun r => !p.refs.contains r)
    let onlyAfter := p.refs.filter (fun r => !t.refs.contains r)
    if onlyBefore.any (fun r => !thas st.tags r) then (.panic "UpdateTag.onlyBefore", st) else
    let m := delReferrer name st.tags onlyBefore
    if onlyAfter.any (fun r => !thas m r) then (.panic "UpdateTag.onlyAfter", st) else
    let m := addReferrer name m onlyAfter
    let m := tset m name nt
    match inherit { st with tags := m } with
    | none => (.diverged "inheritTagUncertainty", st)
    | some st' =>
      if tagJobPanics st'.tags then (.panic "startTaggingJobIfNeeded", st) else (.ok, st')

def updName (st : State) (name newName : String) : Outcome × State :=
  if newName == "" then updNothing st name else
  match tget st.tags name with
  | none => (.err, st)
  | some t =>
    let (oldTyp, _, _) := parseTagName name
    let (newTyp, newSub, _) := parseTagName newName
    if newTyp != oldTyp then (.err, st) else
    if newSub == "" then (.err, st) else
    if thas st.tags newName then (.err, st) else
    if !t.referencedBy.isEmpty then (.err, st) else
    let m := tset (tdel st.tags name) newName t
    if t.refs.any (fun r => !thas m r) then (.panic "UpdateTag.rename", st) else
    let m := t.refs.foldl (fun m r => tmod m r fun rt =>
      { rt with referencedBy := addRef newName (delRef name rt.referencedBy) }) m
    (.ok, { st with tags := m })

def updConverters (st : State) (name : Name) (names : List Name) : Outcome × State :=
  match tget st.tags name with
  | none => (.err, st)
  | some t =>
    -- validation before anything is changed
    let fresh := names.filter (fun c => !t.converters.contains c)
    if fresh.any (fun c => !st.convs.contains c) then (.err, st) else
    if !fresh.isEmpty && t.complex then (.err, st) else
    -- detach deselected converters, attach new ones in the order given
    let kept := t.converters.filter (fun c => names.contains c)
    let cs := fresh.foldl (fun acc c => if acc.contains c then acc else acc ++ [c]) kept
    (.ok, { st with tags := tset st.tags name { t with converters := cs } })

def joinIds (ids : List Nat) : String := ",".intercalate (ids.map toString)

/-- `maxUsedStreamID` of UpdateTag: one more than the largest id named, 0 for none -/
def maxUsed (ids : List Nat) : Nat := ids.foldl (fun m s => if m ≤ s then s + 1 else m) 0

/-- `^id:\d+(,\d+)*$` on the characters after `id:` -/
def digitsCsv : List Char → Bool → Bool
  | [], saw => saw
  | c :: cs, saw =>
    if c.isDigit then digitsCsv cs true else if c == ',' && saw then digitsCsv cs false else false

def plainIdList (s : String) : Bool := s.startsWith "id:" && digitsCsv (s.toList.drop 3) false

def markAddApply (t : Tag) (ids : List Nat) : Tag :=
  let added := (ids.foldl (fun (acc : List Nat × List Nat) s =>
      if acc.1.contains s then acc else (insertNat s acc.1, acc.2 ++ [s])) (t.matched, [])).2
  let t1 := { t with matched := unionNat t.matched added, uncertain := unionNat t.uncertain added }
  if added.isEmpty then t1 else
  { t1 with
    cond := t.cond.map (fun c => unionNat c added),
    definition := if t.definition == "id:-1" then "id:" ++ joinIds added
                  else if plainIdList t.definition then t.definition ++ "," ++ joinIds added
                  else "(" ++ t.definition ++ ") or id:" ++ joinIds added }

def markDelApply (t : Tag) (ids : List Nat) : Tag :=
  let removed := normNat (ids.filter (fun s => t.matched.contains s))
  let ms := diffNat t.matched removed
  { t with matched := ms, uncertain := unionNat t.uncertain removed,
           cond := some ms,
           definition := if ms.isEmpty then "id:-1" else "id:" ++ joinIds ms }

/-- mark add (`add = true`) / mark del of a non-empty id list -/
def updMark (st : State) (name : Name) (add : Bool) (ids : List Nat) : Outcome × State :=
  if ids.isEmpty then updNothing st name else
  if !markPrefix name then (.err, st) else
  match tget st.tags name with
  | none => (.err, st)
  | some t =>
    if maxUsed ids > st.nextStreamID then (.err, st) else
    let nt :=
      if t.known then (if add then markAddApply t ids else markDelApply t ids)
      else { t with definition := "<unknown>", cond := none }
    -- `newTag.Uncertain` = old pending set ∪ changed ids while `inheritTagUncertainty` runs, then
    -- `mgr.tags[name].Uncertain = prevUncertain`: the mark's own pending set is put back as it was
    match inherit { st with tags := tset st.tags name nt } with
    | none => (.diverged "inheritTagUncertainty", st)
    | some st' =>
      let m := tmod st'.tags name fun x => { x with uncertain := t.uncertain }
      if tagJobPanics m then (.panic "startTaggingJobIfNeeded", st) else (.ok, { st' with tags := m })

/-! ### the API as one step function -/

inductive Op where
  | add (name color definition : String) (p : Facts)
  | del (name : Name)
  | color (name color : String)
  | query (name definition : String) (p : Facts)
  | rename (name newName : String)
  | converters (name : Name) (names : List Name)
  | markAdd (name : Name) (ids : List Nat)
  | markDel (name : Name) (ids : List Nat)
  deriving Repr, Inhabited

def step (st : State) : Op → Outcome × State
  | .add n c d p => addTag st n c d p
  | .del n => delTag st n
  | .color n c => updColor st n c
  | .query n d p => updQuery st n d p
  | .rename n n' => updName st n n'
  | .converters n cs => updConverters st n cs
  | .markAdd n ids => updMark st n true ids
  | .markDel n ids => updMark st n false ids

def run (st : State) (ops : List Op) : State := ops.foldl (fun s o => (step s o).2) st

/-! ### what the tagging jobs leave behind once the service is quiet -/

def settleTag (t : Tag) : Tag :=
  if t.uncertain.isEmpty then t else
  match t.cond with
  | some ids =>
    { t with matched := unionNat (diffNat t.matched t.uncertain) (interNat ids t.uncertain), uncertain := [] }
  | none => { t with known := false, uncertain := [] }

def settle (st : State) : State := { st with tags := st.tags.map fun (n, t) => (n, settleTag t) }

/-! ### start-up validation of a state file's tags (`New`) -/

structure Saved where
  name : Name
  definition : String
  color : String
  facts : Facts
  deriving Repr, Inhabited

def loadTag (all : List Nat) (s : Saved) : Tag :=
  let t := mkTag s.color s.definition s.facts
  if markPrefix s.name then { t with matched := s.facts.ids } else { t with uncertain := all }

/-- the tag part of `New`: `none` = the state file is rejected -/
def loadTags (next : Nat) (convs : List Name) (saved : List Saved) : Option State :=
  let all := List.range next
  let build := saved.foldl (fun (acc : Option TagMap) s =>
    match acc with
    | none => none
    | some m =>
      if s.facts.parseErr then none
      else if thas m s.name then none
      else if markPrefix s.name && !s.facts.idsOk then none
      else some (tset m s.name (loadTag all s))) (some [])
  match build with
  | none => none
  | some m =>
    if m.any (fun (n, t) => t.refs.contains n || t.refs.any (fun r => !thas m r)) then none else
    let m := m.foldl (fun acc (n, t) => addReferrer n acc t.refs) m
    if (elim (refsOf m) (tkeys m) ((tkeys m).length + 1) []).isNone then none else
    some { tags := m, nextStreamID := next, convs := convs }

/-! ### ListTags -/

structure TagInfo where
  name : Name
  definition : String
  color : String
  matchingCount : Nat
  uncertainCount : Nat
  referenced : Bool
  converters : List Name
  deriving Repr, DecidableEq

def makeTagInfo (name : Name) (t : Tag) : TagInfo :=
  { name := name,
    definition := if (parseTagName name).2.2 then "..." else t.definition,
    color := t.color,
    matchingCount := (diffNat t.matched t.uncertain).length,
    uncertainCount := t.uncertain.length,
    referenced := !t.referencedBy.isEmpty,
    converters := t.converters }

def insertByName (x : TagInfo) : List TagInfo → List TagInfo
  | [] => [x]
  | y :: ys => if x.name < y.name then x :: y :: ys else y :: insertByName x ys

def listTags (st : State) : List TagInfo :=
  (st.tags.map fun (n, t) => makeTagInfo n t).foldl (fun acc x => insertByName x acc) []

end Pk.TagGraph
