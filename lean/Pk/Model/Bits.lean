/-
  Pk.Model.Bits — executable transliteration of the three bitmask containers of
  /repo/internal/tools/bitmask:

    connectedBitmask.go  ->  Conn  (sorted list of closed runs [lo,hi])
    longBitmask.go       ->  Long  (list of 64-bit words)
    shortBitmask.go      ->  Short (non-empty linked list of 64-bit words)

  Core Lean only (this file is linked into the `pkmodel` executable).
  Mutation through a pointer receiver becomes a returned value; Go loops become
  structural or well-founded recursion.  Bit positions are `Nat` (the Go code uses
  `uint`; positions stay far below 2^63 — stated in DESIGN.md §5 C17 Limits).
-/
namespace Pk.Bits

/-! ## ConnectedBitmask -/

structure Run where
  lo : Nat
  hi : Nat
deriving DecidableEq, Repr, Inhabited

abbrev Conn := List Run

namespace Conn

def make (lo hi : Nat) : Conn := [⟨lo, hi⟩]

/-- `IsSet` -/
def isSet : Conn → Nat → Bool
  | [], _ => false
  | e :: es, b => if b < e.lo then false else if b ≤ e.hi then true else isSet es b

/-- `OnesCount` -/
def onesCount : Conn → Nat
  | [] => 0
  | e :: es => (1 + e.hi - e.lo) + onesCount es

/-- `Len` -/
def len (c : Conn) : Nat :=
  match c.getLast? with
  | some e => e.hi + 1
  | none => 0

/-- `IsZero` -/
def isZero (c : Conn) : Bool := c.isEmpty

/-- `Set` -/
def set : Conn → Nat → Conn
  | [], b => [⟨b, b⟩]
  | e :: es, b =>
    if b < e.lo then
      if b + 1 = e.lo then ⟨e.lo - 1, e.hi⟩ :: es else ⟨b, b⟩ :: e :: es
    else if b ≤ e.hi then e :: es
    else if b = e.hi + 1 then
      match es with
      | [] => [⟨e.lo, e.hi + 1⟩]
      | e2 :: es' =>
        if b + 1 = e2.lo then ⟨e.lo, e2.hi⟩ :: es' else ⟨e.lo, e.hi + 1⟩ :: e2 :: es'
    else e :: set es b

/-- `Unset` -/
def unset : Conn → Nat → Conn
  | [], _ => []
  | e :: es, b =>
    if b < e.lo then e :: es
    else if b = e.lo ∨ b = e.hi then
      if e.lo = e.hi then es
      else if b = e.lo then ⟨e.lo + 1, e.hi⟩ :: es
      else ⟨e.lo, e.hi - 1⟩ :: es
    else if b < e.hi then ⟨e.lo, b - 1⟩ :: ⟨b + 1, e.hi⟩ :: es
    else e :: unset es b

/-- `Flip` -/
def flip (c : Conn) (b : Nat) : Conn := if c.isSet b then c.unset b else c.set b

/-- `Equal` : entry-wise comparison of the run lists. -/
def equal (a b : Conn) : Bool := decide (a = b)

/-- `OrCopy`. `cur = none`: top of the outer loop (both operands non-empty, else the rests are
    appended); `cur = some n`: inside the inner `for`, absorbing following runs of either operand
    that touch or overlap `n`. -/
def orGo (cur : Option Run) (as bs : Conn) : Conn :=
  match cur, as, bs with
  | none, [], bs => bs
  | none, a :: as', [] => a :: as'
  | none, a :: as', b :: bs' =>
    if a.hi < b.lo then orGo (some a) as' (b :: bs')
    else if b.hi < a.lo then orGo (some b) (a :: as') bs'
    else orGo (some ⟨if b.lo < a.lo then b.lo else a.lo, if b.hi > a.hi then b.hi else a.hi⟩) as' bs'
  | some n, a :: as', bs =>
    if n.hi + 1 ≥ a.lo then orGo (some ⟨n.lo, if n.hi < a.hi then a.hi else n.hi⟩) as' bs
    else match bs with
      | b :: bs' =>
        if n.hi + 1 ≥ b.lo then orGo (some ⟨n.lo, if n.hi < b.hi then b.hi else n.hi⟩) (a :: as') bs'
        else n :: orGo none (a :: as') (b :: bs')
      | [] => n :: orGo none (a :: as') []
  | some n, [], b :: bs' =>
    if n.hi + 1 ≥ b.lo then orGo (some ⟨n.lo, if n.hi < b.hi then b.hi else n.hi⟩) [] bs'
    else n :: orGo none [] (b :: bs')
  | some n, [], [] => [n]
termination_by 2 * (as.length + bs.length) + (if cur.isSome then 1 else 0)
decreasing_by all_goals (simp; try omega)

def or (as bs : Conn) : Conn := orGo none as bs

/-- `AndCopy` -/
def and (as bs : Conn) : Conn :=
  match as, bs with
  | [], _ => []
  | _, [] => []
  | a :: as', b :: bs' =>
    if a.hi < b.lo then and as' (b :: bs')
    else if b.hi < a.lo then and (a :: as') bs'
    else
      let n : Run := ⟨if a.lo < b.lo then b.lo else a.lo, if a.hi > b.hi then b.hi else a.hi⟩
      if n.hi = a.hi then
        if n.hi = b.hi then n :: and as' bs' else n :: and as' (b :: bs')
      else
        if n.hi = b.hi then n :: and (a :: as') bs'
        else [n]  -- unreachable (n.hi is one of the two); the Go loop would spin
termination_by as.length + bs.length

/-- the two nested loops of `XorCopy` as one recursion: the heads of the two lists are the
    current (possibly trimmed) runs `a`, `b` of the Go code.  (On a `break` the Go code re-reads
    the untrimmed entry; for sorted disjoint operands a trimmed run is never the one re-read, so
    the two coincide — the tie checks exactly this on every run.) -/
def xorGo (as bs : Conn) : Conn :=
  match as, bs with
  | [], bs => bs
  | a :: as', [] => a :: as'
  | a :: as', b :: bs' =>
    if a.hi < b.lo then a :: xorGo as' (b :: bs')
    else if b.hi < a.lo then b :: xorGo (a :: as') bs'
    else
      let pre : Conn :=
        if a.lo ≠ b.lo then
          (if a.lo < b.lo then [⟨a.lo, b.lo - 1⟩] else [⟨b.lo, a.lo - 1⟩])
        else []
      if a.hi = b.hi then pre ++ xorGo as' bs'
      else if b.hi < a.hi then pre ++ xorGo (⟨b.hi + 1, a.hi⟩ :: as') bs'
      else pre ++ xorGo as' (⟨a.hi + 1, b.hi⟩ :: bs')
termination_by as.length + bs.length
decreasing_by all_goals (simp; try omega)

/-- `appendMerged` applied along the emitted run sequence: a run is merged into the previous
    one when they touch. -/
def mergeTouching : Conn → Conn
  | [] => []
  | [e] => [e]
  | e :: e2 :: es =>
    if e.hi + 1 = e2.lo then mergeTouching (⟨e.lo, e2.hi⟩ :: es) else e :: mergeTouching (e2 :: es)
termination_by c => c.length

/-- `XorCopy` (every append goes through `appendMerged`). -/
def xor (as bs : Conn) : Conn := mergeTouching (xorGo as bs)

/-- inner `for bIdx < len(other)` of `SubCopy` for one (trimmed) run `a`; returns emitted runs
    and the remaining `bs` (the Go `bIdx` persists across outer iterations). -/
def subInner (a : Run) (bs : Conn) : Conn × Conn :=
  match bs with
  | [] => ([a], [])
  | b :: bs' =>
    if b.hi < a.lo then subInner a bs'
    else if a.hi < b.lo then ([a], b :: bs')
    else
      let pre : Conn := if a.lo < b.lo then [⟨a.lo, b.lo - 1⟩] else []
      if a.hi ≤ b.hi then (pre, b :: bs')
      else
        let r := subInner ⟨b.hi + 1, a.hi⟩ bs'
        (pre ++ r.1, r.2)

/-- `SubCopy` -/
def sub : Conn → Conn → Conn
  | [], _ => []
  | a :: as', bs =>
    let r := subInner a bs
    r.1 ++ sub as' r.2

/-- `Copy` -/
def copy (c : Conn) : Conn := c

/-- the reverse loop of `Inject`, on the reversed run list (back first): stop at the first run
    entirely below `bit`; shift runs at/above `bit` up, widen the run that contains it. -/
def injectRev : List Run → Nat → List Run
  | [], _ => []
  | e :: rest, bit =>
    if bit > e.hi then e :: rest
    else (if bit ≤ e.lo then ⟨e.lo + 1, e.hi + 1⟩ else ⟨e.lo, e.hi + 1⟩) :: injectRev rest bit

def injectShift (c : Conn) (bit : Nat) : Conn := (injectRev c.reverse bit).reverse

/-- `Inject` -/
def inject (c : Conn) (bit : Nat) (v : Bool) : Conn :=
  let s := injectShift c bit
  if v then set s bit else unset s bit

/-- one step of the reverse loop of `Extract`, processing the list from the back.
    `go rev acc` where `rev` is the reversed prefix still to visit and `acc` the already
    processed suffix (in forward order). Returns (result list, returned bit). -/
def extractGo : List Run → Conn → Nat → Conn × Bool
  | [], acc, _ => (acc, false)
  | e :: rev, acc, bit =>
    if e.hi < bit then ((e :: rev).reverse ++ acc, false)
    else if e.lo = bit ∧ e.hi = bit then (rev.reverse ++ acc, true)   -- {bit,bit}: removed
    else
      let e1 : Run := ⟨e.lo, e.hi - 1⟩
      if e1.lo ≤ bit then (rev.reverse ++ e1 :: acc, true)
      else
        let e2 : Run := ⟨e1.lo - 1, e1.hi⟩
        if bit = e2.lo then
          match rev with
          | [] => (e2 :: acc, false)
          | p :: rev' =>
            if p.hi + 1 ≠ e2.lo then ((p :: rev').reverse ++ e2 :: acc, false)
            else (rev'.reverse ++ ⟨p.lo, e2.hi⟩ :: acc, false)
        else extractGo rev (e2 :: acc) bit

/-- `Extract` -/
def extract (c : Conn) (bit : Nat) : Conn × Bool := extractGo c.reverse [] bit

end Conn

/-! ## LongBitmask -/

abbrev W := BitVec 64
abbrev Long := List W

namespace Long

def word (l : Long) (i : Nat) : W := l.getD i 0#64

/-- `IsSet` -/
def isSet (l : Long) (bit : Nat) : Bool :=
  if bit / 64 < l.length then (word l (bit / 64)).getLsbD (bit % 64) else false

def popcount (w : W) : Nat := (List.range 64).countP (fun i => w.getLsbD i)

/-- `bits.Len64` -/
def len64 (w : W) : Nat := Nat.log2 w.toNat + (if w = 0#64 then 0 else 1)

/-- `OnesCount` -/
def onesCount (l : Long) : Nat := (l.map popcount).sum

/-- `Len`: scans from the back for the last non-zero word. -/
def lenAux : List W → Nat → Nat
  | [], _ => 0
  | w :: ws, idx =>
    let r := lenAux ws (idx + 1)
    if r ≠ 0 then r else if w ≠ 0#64 then idx * 64 + len64 w else 0
def len (l : Long) : Nat := lenAux l 0

/-- `IsZero` -/
def isZero (l : Long) : Bool := l.all (· == 0#64)

def grow (l : Long) (idx : Nat) : Long :=
  if idx ≥ l.length then l ++ List.replicate (idx + 1 - l.length) 0#64 else l

def bitW (lbit : Nat) : W := 1#64 <<< lbit

/-- `Set` -/
def set (l : Long) (bit : Nat) : Long :=
  let l := grow l (bit / 64)
  List.set l (bit / 64) (word l (bit / 64) ||| bitW (bit % 64))

/-- `Unset` -/
def unset (l : Long) (bit : Nat) : Long :=
  if bit / 64 ≥ l.length then l
  else List.set l (bit / 64) (word l (bit / 64) &&& ~~~ bitW (bit % 64))

/-- `Flip` -/
def flip (l : Long) (bit : Nat) : Long :=
  let l := grow l (bit / 64)
  List.set l (bit / 64) (word l (bit / 64) ^^^ bitW (bit % 64))

/-- `Equal` -/
def equal : Long → Long → Bool
  | [], bs => bs.all (· == 0#64)
  | as, [] => as.all (· == 0#64)
  | a :: as, b :: bs => a == b && equal as bs

/-- `Or` -/
def or : Long → Long → Long
  | [], bs => bs
  | as, [] => as
  | a :: as, b :: bs => (a ||| b) :: or as bs

/-- `And` (result is truncated to the shorter operand *only if* the receiver is longer). -/
def and : Long → Long → Long
  | [], _ => []
  | _, [] => []
  | a :: as, b :: bs => (a &&& b) :: and as bs

/-- `Xor` -/
def xor : Long → Long → Long
  | [], bs => bs
  | as, [] => as
  | a :: as, b :: bs => (a ^^^ b) :: xor as bs

/-- `Sub` -/
def sub : Long → Long → Long
  | [], _ => []
  | as, [] => as
  | a :: as, b :: bs => (a &&& ~~~ b) :: sub as bs

/-- `Shrink` -/
def shrink (l : Long) : Long := (l.reverse.dropWhile (· == 0#64)).reverse

/-- `TrailingZerosFrom` / `Next`: least set bit ≥ `bit`, as `Next` reports it. -/
def nextAux (l : Long) (bit : Nat) : Nat → Option Nat
  | 0 => none
  | fuel + 1 => if isSet l bit then some bit else nextAux l (bit + 1) fuel
def next (l : Long) (bit : Nat) : Option Nat :=
  if bit / 64 ≥ l.length then none else nextAux l bit (l.length * 64 - bit)

/-- the word update of `Inject`. -/
def injectWord (m : W) (bit : Nat) (v : Bool) : W :=
  let low := (1#64 <<< bit) - 1#64
  let r := (m &&& low) ||| ((m &&& ~~~ low) <<< 1)
  if v then r ||| (1#64 <<< bit) else r

/-- `Inject` on the suffix of words starting at the word that contains the bit. -/
def injectWords : List W → Nat → Bool → List W
  | [], _, v => if v then [1#64] else []      -- `Set(idx*64+64)` one past the end
  | m :: ms, bit, v =>
    let carry := m.getLsbD 63
    injectWord m bit v :: injectWords ms 0 carry

/-- `Inject` -/
def inject (l : Long) (bit : Nat) (v : Bool) : Long :=
  if bit / 64 ≥ l.length then (if v then set l bit else l)
  else l.take (bit / 64) ++ injectWords (l.drop (bit / 64)) (bit % 64) v

end Long

/-! ## ShortBitmask -/

inductive Short where
  | last (m : W)
  | cons (m : W) (next : Short)
deriving Repr, Inhabited, DecidableEq

namespace Short

def make (m : W) : Short := .last m

def words : Short → List W
  | .last m => [m]
  | .cons m n => m :: words n

def ofWords : W → List W → Short
  | m, [] => .last m
  | m, m2 :: ms => .cons m (ofWords m2 ms)

def head : Short → W
  | .last m => m
  | .cons m _ => m

/-- `IsSet` -/
def isSet : Short → Nat → Bool
  | .last m, bit => if bit < 64 then m.getLsbD bit else false
  | .cons m n, bit => if bit < 64 then m.getLsbD bit else isSet n (bit - 64)

/-- `OnesCount` -/
def onesCount : Short → Nat
  | .last m => Long.popcount m
  | .cons m n => Long.popcount m + onesCount n

/-- `Len` -/
def len : Short → Nat
  | .last m => Long.len64 m
  | .cons m n => let l := len n; if l ≠ 0 then l + 64 else Long.len64 m

/-- `IsZero` -/
def isZero : Short → Bool
  | .last m => m == 0#64
  | .cons m n => m == 0#64 && isZero n

/-- `Set`/`Unset`/`Flip`/`Inject(…, true)` on a fresh all-zero chain hanging off the last word. -/
def freshModify (f : W → W → W) (bit : Nat) : Short :=
  if bit < 64 then .last (f 0#64 (Long.bitW bit)) else .cons 0#64 (freshModify f (bit - 64))
termination_by bit

/-- shared shape of `Set`/`Unset`/`Flip` (all three extend the chain while walking). -/
def modify (f : W → W → W) : Short → Nat → Short
  | .last m, bit =>
    if bit < 64 then .last (f m (Long.bitW bit)) else .cons m (freshModify f (bit - 64))
  | .cons m n, bit =>
    if bit < 64 then .cons (f m (Long.bitW bit)) n else .cons m (modify f n (bit - 64))

def set (s : Short) (bit : Nat) : Short := modify (fun m b => m ||| b) s bit
def unset (s : Short) (bit : Nat) : Short := modify (fun m b => m &&& ~~~ b) s bit
def flip (s : Short) (bit : Nat) : Short := modify (fun m b => m ^^^ b) s bit

/-- `Equal` -/
def equal : Short → Short → Bool
  | .last a, .last b => a == b
  | .last a, .cons b bn => a == b && isZero bn
  | .cons a an, .last b => a == b && isZero an
  | .cons a an, .cons b bn => a == b && equal an bn

/-- `Or` / `Xor` share the walk: extend the receiver while the operand has more words. -/
def zipExtend (f : W → W → W) : Short → Short → Short
  | .last a, .last b => .last (f a b)
  | .cons a an, .last b => .cons (f a b) an
  | .last a, .cons b bn => .cons (f a b) (zipExtend f (.last 0#64) bn)
  | .cons a an, .cons b bn => .cons (f a b) (zipExtend f an bn)

def or (a b : Short) : Short := zipExtend (fun x y => x ||| y) a b
def xor (a b : Short) : Short := zipExtend (fun x y => x ^^^ y) a b

/-- `And`: walks while both have a successor, then cuts the receiver. -/
def and : Short → Short → Short
  | .cons a an, .cons b bn => .cons (a &&& b) (and an bn)
  | .cons a _, .last b => .last (a &&& b)
  | .last a, .cons b _ => .last (a &&& b)
  | .last a, .last b => .last (a &&& b)

/-- `Sub` -/
def sub : Short → Short → Short
  | .cons a an, .cons b bn => .cons (a &&& ~~~ b) (sub an bn)
  | .cons a an, .last b => .cons (a &&& ~~~ b) an
  | .last a, .cons b _ => .last (a &&& ~~~ b)
  | .last a, .last b => .last (a &&& ~~~ b)

/-- `Shrink`: drop trailing zero words after the head (the head always stays). -/
def shrink (s : Short) : Short :=
  match words s with
  | [] => s
  | m :: ms => ofWords m ((ms.reverse.dropWhile (· == 0#64)).reverse)

/-- `Inject` -/
def inject : Short → Nat → Bool → Short
  | .last m, bit, v =>
    if bit ≥ 64 then
      if !v then .last m else .cons m (freshModify (fun m b => m ||| b) (bit - 64))
    else
      let carry := m.getLsbD 63
      let m' := Long.injectWord m bit v
      if carry then .cons m' (.last 1#64) else .last m'
  | .cons m n, bit, v =>
    if bit ≥ 64 then .cons m (inject n (bit - 64) v)
    else
      let carry := m.getLsbD 63
      .cons (Long.injectWord m bit v) (inject n 0 carry)

def extractWord (m : W) (bit : Nat) : W :=
  let low := (1#64 <<< bit) - 1#64
  (m &&& low) ||| ((m >>> 1) &&& ~~~ low)

/-- `Extract` -/
def extract : Short → Nat → Short × Bool
  | .last m, bit =>
    if bit ≥ 64 then (.last m, false)
    else (.last (extractWord m bit), m.getLsbD bit)
  | .cons m n, bit =>
    if bit ≥ 64 then
      let r := extract n (bit - 64)
      (.cons m r.1, r.2)
    else
      let res := m.getLsbD bit
      let m' := extractWord m bit
      let r := extract n 0
      (.cons (if r.2 then m' ||| (1#64 <<< 63) else m') r.1, res)

def copy (s : Short) : Short := s

end Short

end Pk.Bits
