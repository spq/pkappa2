/-
  Payload filter model (property C04) — core Lean only.

  Transliterates, from internal/index/search_data.go:
    * `progressVariant.find` (as repaired by fix F7): minimum length check, literal prefix skip, last-suffix cut,
      fixed-length sliding window, as a function of the facts (prefix, suffix, minLen, maxLen) and
      an ABSTRACT matcher (the regular expression engine is third-party; `Matcher` is what
      `Regexp.FindSubmatchIndex` returns for the bytes it is given: start and end of the leftmost match)
    * the offset update after a match and the chunk-boundary rule (893–906): `advance`
    * the progress of one condition (a THEN chain) on one data source (829–910, per condition)
    * success/fail accounting over the data sources and the final decision (912–1052, without
      sub-query variants)
  What is NOT modelled: sub-query variants and precondition states, variables bound by captures, the
  regex-major evaluation order with `recheckRegexes` (expression sharing): the model evaluates every
  condition on its own, element by element, and never retries a failed element.
-/
namespace Pk.DataSearch

abbrev Bytes := List Nat

/-- `Regexp.FindSubmatchIndex(b)[0:2]` -/
abbrev Matcher := Bytes → Option (Nat × Nat)

/-- facts `finalize` derives from an expression (LiteralPrefix, ConstantSuffix, AcceptedLength) -/
structure Facts where
  pre : Bytes
  suf : Bytes
  minLen : Nat
  maxLen : Nat
  /-- `contextSensitive`: the expression contains an empty-width assertion (^ $ \A \z \b \B); the real code
      then derives no prefix, no suffix and the lengths 0..MaxUint (fix F7), and `find` does not discard
      the buffer after a miss -/
  ctx : Bool := false
deriving Repr, DecidableEq, Inhabited

/-- `bytes.HasPrefix` -/
def hasPrefix : Bytes → Bytes → Bool
  | _, [] => true
  | [], _ :: _ => false
  | a :: as, b :: bs => a == b && hasPrefix as bs

/-- `bytes.Index(hay, needle)` for a non-empty needle -/
def indexOf (hay needle : Bytes) : Option Nat :=
  match hay with
  | [] => if needle.isEmpty then some 0 else none
  | _ :: rest =>
    if hasPrefix hay needle then some 0
    else match indexOf rest needle with
      | some i => some (i + 1)
      | none => none

/-- `bytes.LastIndex(hay, needle)` for a non-empty needle -/
def lastIndexOf (hay needle : Bytes) : Option Nat :=
  match hay with
  | [] => if needle.isEmpty then some 0 else none
  | _ :: rest =>
    match lastIndexOf rest needle with
    | some i => some (i + 1)
    | none => if hasPrefix hay needle then some 0 else none

/-- result of `find`: the submatch indexes relative to the (skipped) buffer, and the new stream offset -/
structure Found where
  res : Option (Nat × Nat)
  off : Nat
deriving Repr, DecidableEq, Inhabited

/-- the fixed-length sliding window loop (615–632). `buffer` is already cut behind the last suffix. -/
def window (m : Matcher) (f : Facts) (total : Nat) : Nat → Bytes → Nat → Found
  | 0, _, off => ⟨none, off⟩
  | fuel + 1, buffer, off =>
    match indexOf (buffer.drop (f.minLen - f.suf.length)) f.suf with
    | none => ⟨none, total⟩
    | some pos =>
      let off := off + pos
      let buffer := buffer.drop pos
      match m (buffer.take f.minLen) with
      | some r => ⟨some r, off⟩
      | none => window m f total fuel (buffer.drop 1) (off + 1)

/-- `progressVariant.find(buffers, dir)`: `buf = buffers[dir]`, `off = p.streamOffset[dir]` -/
def find (m : Matcher) (f : Facts) (buf : Bytes) (off : Nat) : Found :=
  let buffer := buf.drop off
  if buffer.length < f.minLen then ⟨none, off⟩ else
  -- literal prefix skip
  let afterPrefix : Option (Bytes × Nat) :=
    if f.pre.isEmpty then some (buffer, off) else
    match indexOf buffer f.pre with
    | none => none
    | some pos => some (buffer.drop pos, off + pos)
  match afterPrefix with
  | none => ⟨none, buf.length⟩
  | some (buffer, off) =>
  if buffer.length < f.minLen then ⟨none, off⟩ else
  -- cut behind the last occurrence of the suffix
  let afterSuffix : Option Bytes :=
    if f.suf.isEmpty then some buffer else
    match lastIndexOf buffer f.suf with
    | none => none
    | some pos => some (buffer.take (pos + f.suf.length))
  match afterSuffix with
  | none => ⟨none, buf.length⟩
  | some buffer =>
  if buffer.length < f.minLen then ⟨none, off⟩ else
  if f.minLen == f.maxLen && f.pre.isEmpty && !f.suf.isEmpty then
    window m f buf.length (buffer.length + 1) buffer off
  else
    match m buffer with
    | some r => ⟨some r, off⟩
    | none => ⟨none, if f.ctx then off else buf.length⟩

/-- the facts the repaired code uses for an expression with empty-width assertions: no shortcut at all -/
def Facts.noShortcuts : Facts := { pre := [], suf := [], minLen := 0, maxLen := 2 ^ 64 - 1, ctx := true }

/-- a context-free leftmost-first matcher, given by its ANCHORED candidates: `cands u` lists, in priority
    order, the lengths `n` such that the expression matches the first `n` bytes of `u`.  This is what a
    regular expression without empty-width assertions is: whether and with which priority a path matches
    depends only on the bytes it consumes. -/
def matcherOf (cands : Bytes → List Nat) : Matcher
  | [] => (cands []).head?.map (fun n => (0, n))
  | a :: rest =>
    match (cands (a :: rest)).head? with
    | some n => some (0, n)
    | none => (matcherOf cands rest).map (fun r => (r.1 + 1, r.2 + 1))

/-- `bytes.HasSuffix` -/
def hasSuffix (b suf : Bytes) : Bool := hasPrefix b.reverse suf.reverse

/-- the unoptimised scan the property compares with: the matcher on the rest of the buffer -/
def plainFind (m : Matcher) (buf : Bytes) (off : Nat) : Found :=
  match m (buf.drop off) with
  | some r => ⟨some r, off⟩
  | none => ⟨none, buf.length⟩

/-! ### offsets and the chunk-boundary rule -/

/-- cumulative chunk sizes `bufferLengths`: entry i = (client bytes, server bytes) in chunks 1..i; entry 0 = (0,0) -/
abbrev ChunkSizes := List (Nat × Nat)

def sel (d : Nat) (p : Nat × Nat) : Nat := if d = 0 then p.1 else p.2
def upd (d : Nat) (p : Nat × Nat) (v : Nat) : Nat × Nat := if d = 0 then (v, p.2) else (p.1, v)

/-- the loop `for i := len-1; ; i-- { if bufferLengths[i-1][dir] < offset { return bufferLengths[i][other] } }` -/
def boundary (bl : ChunkSizes) (dir offset : Nat) : Nat → Option Nat
  | 0 => none
  | i + 1 =>
    match bl[i]?, bl[i + 1]? with
    | some prev, some cur => if sel dir prev < offset then some (sel (1 - dir) cur) else boundary bl dir offset i
    | _, _ => boundary bl dir offset i

/-- offsets after a match ending at `e` (relative to the current offset of `dir`): 893–906 -/
def advance (bl : ChunkSizes) (dir : Nat) (offs : Nat × Nat) (e : Nat) : Nat × Nat :=
  if e = 0 then offs else
  let o := sel dir offs + e
  let offs := upd dir offs o
  match boundary bl dir o (bl.length - 1) with
  | some v => upd (1 - dir) offs v
  | none => offs

/-! ### one condition on one data source -/

structure Elem where
  dir : Nat
  m : Matcher
  facts : Facts

structure Source where
  client : Bytes
  server : Bytes
  sizes : ChunkSizes

def Source.buf (s : Source) (d : Nat) : Bytes := if d = 0 then s.client else s.server

/-- number of elements of the chain that match one after the other (`nSuccessful`), with the scan `fnd` -/
def progressWith (fnd : Matcher → Facts → Bytes → Nat → Found) (s : Source) : List Elem → Nat × Nat → Nat
  | [], _ => 0
  | e :: rest, offs =>
    let r := fnd e.m e.facts (s.buf e.dir) (sel e.dir offs)
    match r.res with
    | none => 0
    | some (_, en) =>
      let offs := upd e.dir offs r.off
      1 + progressWith fnd s rest (advance s.sizes e.dir offs en)

/-- the engine: shortcut scan -/
def progress (s : Source) (els : List Elem) : Nat := progressWith find s els (0, 0)
/-- the spec: plain scan -/
def plainProgress (s : Source) (els : List Elem) : Nat := progressWith (fun m _ b o => plainFind m b o) s els (0, 0)

/-! ### accounting over data sources, decision -/

structure Cond where
  els : List Elem
  inverted : Bool

/-- 931: does the condition fail on a source where `n` elements matched -/
def failsOn (c : Cond) (n : Nat) : Bool :=
  let un := c.els.length - n
  decide (2 ≤ un) || ((un != 0) != c.inverted)

/-- 967–985 for one condition, given the progress on every evaluated source -/
def condDecision (c : Cond) (ns : List Nat) : Bool :=
  let fails := (ns.filter (failsOn c)).length
  let succ := ns.length - fails
  if succ = 0 then false
  else if fails = 0 then true
  else !c.inverted

/-- the data filter of one query part: all its conditions on the evaluated data sources -/
def filterWith (prog : Source → List Elem → Nat) (conds : List Cond) (srcs : List Source) : Bool :=
  -- no evaluated source: only negated single-element conditions hold (a negated chain `a > !b` needs `a`)
  if srcs.isEmpty then conds.all (fun c => c.inverted && decide (c.els.length ≤ 1))
  else conds.all (fun c => condDecision c (srcs.map (fun s => prog s c.els)))

def filter (conds : List Cond) (srcs : List Source) : Bool := filterWith progress conds srcs
def plainFilter (conds : List Cond) (srcs : List Source) : Bool := filterWith plainProgress conds srcs

/-- a stream is selected iff some query part accepts it -/
def selected (parts : List (List Cond)) (srcs : List Source) : Bool := parts.any (fun p => filter p srcs)
def plainSelected (parts : List (List Cond)) (srcs : List Source) : Bool := parts.any (fun p => plainFilter p srcs)

end Pk.DataSearch
