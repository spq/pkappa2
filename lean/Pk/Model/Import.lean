/-
  Pk.Model.Import — executable transliteration of the pcap import path of /repo:

    internal/index/builder/builder.go     New, FromPcap (packet ordering, replay of older captures,
                                          snapshot choice/creation, ID assignment, classification)
    internal/index/builder/packet.go      readPackets (PcapInfo: min/max timestamp, count)
    internal/index/builder/snapshots.go   snapshot = timestamp + referenced packets (save/load is the
                                          identity on what the builder uses)
    internal/index/streams/streams.go     StreamFactory, Stream.Accept / ReassembledSG / AddUDPPacket
    internal/index/udpreassembly/...      UDP flow table, FlushCloseOlderThan
  and a *reference reassembler* for TCP that follows github.com/gopacket/gopacket/reassembly
  (AssembleWithContext, handleBytes, checkOverlap, overlapExisting, sendToConnection,
  addContiguous, closeHalfConnection, FlushWithOptions, TCPSimpleFSM.CheckState,
  Sequence.Add/Difference) closely enough to be compared with it on all generated traffic.
  gopacket is third party: the theorems in Props/C05, C08 treat it through assumption records,
  this reference is what those assumptions are validated against by the correspondence check.

  Core Lean only (linked into `pkmodel`).  Conventions:
    * time is `Nat` microseconds (pcap resolution); `0` plays the role of Go's zero `time.Time`
      (all generated timestamps are > 0); `x.Before(ts.Add(-5min))` is written `x + timeout < ts`;
    * a `*PcapInfo` is identified by its file name (the builder never holds two different infos
      for one name: names come from one directory listing / one FromPcap argument list);
    * mutation becomes a returned value, Go loops become structural recursion;
    * `streamFactory.Streams` is an `Array Stream`; a stream keeps its packet and data lists
      newest-first (`pktsRev`, `dataRev`) together with the packet count, so that appending is O(1);
    * not modelled (flagged at run time through `RState.unmodelled`, so that the correspondence
      check cannot silently agree): payloads larger than one reassembly page (1900 bytes);
      IPv4 fragments are not generated.
-/
namespace Pk.Import

abbrev Bytes := List UInt8

/-- `streams.InactivityTimeout` (5 minutes) in microseconds -/
def timeout : Nat := 300000000
/-- packets between two reassembly snapshots (builder.go:299) -/
def snapshotEvery : Nat := 100000

/-! ## packets -/

/-- a decoded packet of a capture file (`builder.Packet` + what the layers expose) -/
structure Pkt where
  ts : Nat
  file : String
  idx : Nat
  udp : Bool
  src : String
  dst : String
  sport : Nat
  dport : Nat
  syn : Bool := false
  ack : Bool := false
  fin : Bool := false
  rst : Bool := false
  seq : Nat := 0
  payload : Bytes := []
deriving Repr, Inhabited, DecidableEq

/-- `comparePackets` (builder.go:206-216): timestamp, then file name, then index -/
def pktLt (a b : Pkt) : Bool :=
  if a.ts ≠ b.ts then a.ts < b.ts
  else if a.file ≠ b.file then a.file < b.file
  else a.idx < b.idx

def pktLe (a b : Pkt) : Bool := !pktLt b a

/-- `sortPackets`: `sort.Slice` with a strict total order — the sorted permutation -/
def sortPkts (ps : List Pkt) : List Pkt := ps.mergeSort pktLe

/-! ## capture metadata (`pcapmetadata.PcapInfo`, readPackets) -/

structure PcapInfo where
  name : String
  tmin : Nat
  tmax : Nat
  count : Nat
deriving Repr, Inhabited, DecidableEq

/-- the update loop of `readPackets` (packet.go:79-88) -/
def infoOf (name : String) (ps : List Pkt) : PcapInfo :=
  ps.foldl (fun i p =>
    { i with tmin := if i.tmin = 0 ∨ i.tmin > p.ts then p.ts else i.tmin,
             tmax := if i.tmax < p.ts then p.ts else i.tmax,
             count := i.count + 1 })
    { name := name, tmin := 0, tmax := 0, count := 0 }

/-! ## TCP sequence numbers (gopacket/reassembly Sequence) -/

def uint32Max : Nat := 0xFFFFFFFF

/-- `Sequence.Add`: `(s + t) & uint32Max` -/
def seqAdd (s t : Nat) : Nat := (s + t) % 4294967296

/-- `Sequence.Difference` — transliterated including its use of `uint32Max` (2^32 - 1, not 2^32)
    as the wrap correction -/
def seqDiff (s t : Nat) : Int :=
  if s > uint32Max - uint32Max / 4 ∧ t < uint32Max / 4 then ((t + uint32Max : Nat) : Int) - s
  else if t > uint32Max - uint32Max / 4 ∧ s < uint32Max / 4 then (t : Int) - ((s + uint32Max : Nat) : Int)
  else (t : Int) - s

/-! ## streams (streams.go) -/

structure PRef where
  ts : Nat
  file : String
  idx : Nat
deriving Repr, Inhabited, DecidableEq

def Pkt.ref (p : Pkt) : PRef := ⟨p.ts, p.file, p.idx⟩

inductive TcpState | closed | synSent | established | closeWait | lastAck | reset
deriving Repr, Inhabited, DecidableEq

/-- `reassembly.TCPSimpleFSM` with `SupportMissingEstablishment = false`; `dir = false` is client→server -/
structure Fsm where
  state : TcpState := .closed
  dir : Bool := false
deriving Repr, Inhabited, DecidableEq

/-- `TCPSimpleFSM.CheckState` -/
def Fsm.check (f : Fsm) (p : Pkt) (dir : Bool) : Fsm × Bool :=
  match f.state with
  | .closed =>
    if p.syn ∧ ¬ p.ack then ({ state := .synSent, dir := dir }, true) else (f, false)
  | .synSent =>
    if p.rst then ({ f with state := .reset }, true)
    else if p.syn ∧ p.ack ∧ dir = !f.dir then ({ f with state := .established }, true)
    else if p.syn ∧ ¬ p.ack ∧ dir = f.dir then (f, true)
    else (f, false)
  | .established =>
    if p.rst then ({ f with state := .reset }, true)
    else if p.fin then ({ state := .closeWait, dir := dir }, true)
    else (f, true)
  | .closeWait =>
    if p.rst then ({ f with state := .reset }, true)
    else if p.fin ∧ p.ack ∧ dir = !f.dir then ({ f with state := .lastAck }, true)
    else if p.ack then (f, true)
    else (f, false)
  | .lastAck =>
    if p.rst then ({ f with state := .reset }, true)
    else if p.ack ∧ f.dir = dir then ({ f with state := .closed }, true)
    else (f, false)
  | .reset => (f, false)

/-- `streams.Stream` -/
structure Stream where
  caddr : String
  saddr : String
  cport : Nat
  sport : Nat
  udp : Bool
  /-- `Packets` / `PacketDirections`, newest first; direction `false` = client→server -/
  pktsRev : List (PRef × Bool) := []
  npkts : Nat := 0
  /-- `Data` (PacketIndex, Bytes), newest first -/
  dataRev : List (Nat × Bytes) := []
  /-- `Flags & StreamFlagsComplete` -/
  complete : Bool := false
  fsm : Fsm := {}
deriving Repr, Inhabited

def Stream.pkts (s : Stream) : List (PRef × Bool) := s.pktsRev.reverse
def Stream.data (s : Stream) : List (Nat × Bytes) := s.dataRev.reverse

/-- append to `Packets` and `PacketDirections` (first two lines of Accept / AddUDPPacket) -/
def Stream.addPkt (s : Stream) (r : PRef) (dir : Bool) : Stream :=
  { s with pktsRev := (r, dir) :: s.pktsRev, npkts := s.npkts + 1 }

/-- the backwards search of ReassembledSG / AddUDPPacket: index of the latest packet equal to `r`.
    `n` is the index of the head of the newest-first list. -/
def findPktIdx (r : PRef) : List (PRef × Bool) → Nat → Option Nat
  | [], _ => none
  | (q, _) :: rest, n => if q = r then some n else findPktIdx r rest (n - 1)

/-- append a data chunk attributed to packet `r` (the Go loop does not terminate when the packet is
    absent; that cannot happen because the packet was appended before) -/
def Stream.addData (s : Stream) (r : PRef) (b : Bytes) : Stream :=
  match findPktIdx r s.pktsRev (s.npkts - 1) with
  | some i => { s with dataRev := (i, b) :: s.dataRev }
  | none => s

/-- direction of packet number `i` -/
def Stream.dirOf (s : Stream) (i : Nat) : Bool :=
  match s.pktsRev[s.npkts - 1 - i]? with
  | some (_, d) => d
  | none => false

/-! ## UDP flow table (udpreassembly.go) -/

structure UdpConn where
  lastActivity : Nat
  stream : Nat
deriving Repr, Inhabited, DecidableEq

/-- classification of a datagram against one open flow (udpreassembly.go:71-84):
    `none` = not this flow, `some false` = client→server, `some true` = server→client -/
def udpMatch (s : Stream) (p : Pkt) : Option Bool :=
  let aIsClient := s.caddr = p.src ∧ s.cport = p.sport
  let aIsServer := s.saddr = p.src ∧ s.sport = p.sport
  let bIsClient := s.caddr = p.dst ∧ s.cport = p.dport
  let bIsServer := s.saddr = p.dst ∧ s.sport = p.dport
  let isC2S : Bool := aIsClient ∧ bIsServer
  let isS2C : Bool := bIsClient ∧ aIsServer
  if isC2S = isS2C then none else some (decide aIsServer)

/-- search of the open flows (all flows with the same endpoints share one hash bucket and keep
    their creation order; flows in other buckets never match): position, direction -/
def udpLookup (streams : Array Stream) (p : Pkt) : List UdpConn → Nat → Option (Nat × Bool)
  | [], _ => none
  | c :: cs, i =>
    match udpMatch (streams[c.stream]!) p with
    | some d => some (i, d)
    | none => udpLookup streams p cs (i + 1)

/-! ## TCP reassembly (reference model of gopacket/reassembly) -/

/-- an out-of-order page (one page per packet: payload ≤ 1900 bytes) -/
structure Page where
  seq : Nat
  bytes : Bytes
  ref : PRef
  fin : Bool
deriving Repr, Inhabited, DecidableEq

structure Half where
  nextSeq : Option Nat := none
  closed : Bool := false
  lastSeen : Nat := 0
  queue : List Page := []
deriving Repr, Inhabited

structure TcpConn where
  /-- index of the assembler (`0xff & (k ^ k>>8)`, k = sport xor dport) -/
  k : Nat
  src : String
  dst : String
  sport : Nat
  dport : Nat
  c2s : Half
  s2c : Half
  stream : Nat
deriving Repr, Inhabited

structure RState where
  streams : Array Stream := #[]
  tcp : List TcpConn := []
  udp : List UdpConn := []
  unmodelled : Bool := false
deriving Repr, Inhabited

def assemblerIndex (p : Pkt) : Nat :=
  let k := p.sport ^^^ p.dport
  (k ^^^ (k >>> 8)) &&& 0xff

/-- `checkOverlap` walk from the last queued page backwards.  `revq` = pages not yet visited
    (newest first), `after` = pages already passed (in order).  Returns the pages that stay before
    the insertion point (in order), those after it, and the remaining new bytes. -/
def overlapWalk (start end_ : Nat) : List Page → List Page → Bytes → List Page × List Page × Bytes
  | [], after, bytes => ([], after, bytes)
  | cur :: prev, after, bytes =>
    if seqDiff end_ cur.seq > 0 then overlapWalk start end_ prev (cur :: after) bytes       -- (5)
    else
      let curEnd := seqAdd cur.seq cur.bytes.length
      if seqDiff start curEnd ≤ 0 then ((cur :: prev).reverse, after, bytes)                -- (1)
      else
        let diffStart := seqDiff start cur.seq
        let diffEnd := seqDiff end_ curEnd
        if diffEnd ≤ 0 ∧ diffStart ≥ 0 then overlapWalk start end_ prev after bytes          -- (3) drop cur
        else if diffEnd < 0 ∧ seqDiff start curEnd > 0 then                                 -- (2) cut cur's end
          let cur' := { cur with bytes := cur.bytes.take (-(seqDiff start cur.seq)).toNat }
          ((cur' :: prev).reverse, after, bytes)
        else if diffStart > 0 ∧ seqDiff end_ cur.seq < 0 then                               -- (4) cut cur's start
          let n := (-(seqDiff end_ cur.seq)).toNat
          let cur' := { cur with bytes := cur.bytes.drop n, seq := seqAdd cur.seq n }
          overlapWalk start end_ prev (cur' :: after) bytes
        else if diffEnd ≥ 0 ∧ diffStart ≤ 0 then                                            -- (6) overwrite inside cur
          let off := (-diffStart).toNat
          let cur' := { cur with bytes := cur.bytes.take off ++ bytes ++ cur.bytes.drop (off + bytes.length) }
          overlapWalk start end_ prev (cur' :: after) []
        else overlapWalk start end_ prev (cur :: after) bytes

/-- `checkOverlap`: returns the new queue and the (possibly emptied) bytes -/
def checkOverlap (h : Half) (queue : Bool) (seq : Nat) (bytes : Bytes) (ref : PRef) (fin : Bool) : Half × Bytes :=
  let (before, after, bytes') := overlapWalk seq (seqAdd seq bytes.length) h.queue.reverse [] bytes
  if bytes'.length > 0 ∧ queue then
    ({ h with queue := before ++ [{ seq := seq, bytes := bytes', ref := ref, fin := fin }] ++ after }, bytes')
  else ({ h with queue := before ++ after }, bytes')

/-- `overlapExisting` -/
def overlapExisting (h : Half) (start : Nat) (bytes : Bytes) : Bytes × Nat :=
  match h.nextSeq with
  | none => (bytes, start)
  | some nx =>
    let diff := seqDiff start nx
    if diff = 0 then (bytes, start)
    else
      let s := if diff.toNat ≥ bytes.length then bytes.length else diff.toNat
      (bytes.drop s, nx)

/-- `addContiguous`: pages at the head of the queue that continue `lastSeq` -/
def addContiguous : List Page → Nat → List Page × List Page × Nat
  | [], last => ([], [], last)
  | pg :: rest, last =>
    if seqDiff last pg.seq = 0 then
      let (taken, left, last') := addContiguous rest (seqAdd last pg.bytes.length)
      (pg :: taken, left, last')
    else ([], pg :: rest, last)

def firstNonEmptyRef : List (Bytes × PRef) → Option PRef
  | [] => none
  | (b, r) :: rest => if b.length > 0 then some r else firstNonEmptyRef rest

/-- `sendToConnection` for `a.ret = [live packet]`: buildSG (addContiguous), Stream.ReassembledSG,
    cleanSG, closeHalfConnection.  Returns stream, half (closed if this was the end), next sequence number. -/
def sendToConnection (st : Stream) (h : Half) (seq : Nat) (bytes : Bytes) (ref : PRef) (fin : Bool) :
    Stream × Half × Nat :=
  let last := seqAdd seq bytes.length
  let (taken, left, nextSeq) := addContiguous h.queue last
  let all : List (Bytes × PRef) := (bytes, ref) :: taken.map (fun pg => (pg.bytes, pg.ref))
  let total : Bytes := all.foldr (fun x acc => x.1 ++ acc) []
  let st' := if total.length = 0 then st else
    match firstNonEmptyRef all with
    | some r => st.addData r total
    | none => st
  let isEnd := match taken.getLast? with
    | some pg => pg.fin
    | none => fin
  let h' := { h with queue := left }
  let h'' := if isEnd then { h' with closed := true, queue := [] } else h'
  (st', h'', nextSeq)

/-- `Assembler.AssembleWithContext` on the half `h` of the sender (after `Stream.Accept` said yes) -/
def assembleHalf (st : Stream) (h : Half) (p : Pkt) : Stream × Half :=
  if h.closed then (st, h) else
  let (seq, h, queue) : Nat × Half × Bool :=
    match h.nextSeq with
    | none =>
      if p.syn then (seqAdd p.seq 1, { h with nextSeq := some (seqAdd p.seq 1) }, false)
      else (p.seq, h, true)
    | some nx => if seqDiff nx p.seq > 0 then (p.seq, h, true) else (p.seq, h, false)
  let isEnd := p.rst || p.fin
  if queue then
    let (h', _) := checkOverlap h true seq p.payload p.ref isEnd
    (st, h')
  else
    let (bytes, seq') := overlapExisting h seq p.payload
    let (h', bytes') := checkOverlap h false seq' bytes p.ref isEnd
    if bytes'.length ≠ 0 ∨ isEnd ∨ p.syn then
      let (st', h'', nextSeq) := sendToConnection st h' seq' bytes' p.ref isEnd
      (st', { h'' with nextSeq := some (if p.fin then seqAdd nextSeq 1 else nextSeq) })
    else (st, h')

def TcpConn.lastSeen (c : TcpConn) : Nat := max c.c2s.lastSeen c.s2c.lastSeen

/-- `flushClose`, first part: while the oldest out-of-order page has waited longer than the
    timeout, `skipFlush` delivers it (and what follows contiguously), skipping the missing bytes.
    `fuel` = number of queued pages (each round consumes at least one). -/
def skipFlushLoop (ts : Nat) : Nat → Stream → Half → Stream × Half
  | 0, st, h => (st, h)
  | fuel + 1, st, h =>
    if h.closed then (st, h) else
    match h.queue with
    | [] => (st, h)
    | pg :: rest =>
      if pg.ref.ts + timeout < ts then
        let (st', h', nextSeq) := sendToConnection st { h with queue := rest } pg.seq pg.bytes pg.ref pg.fin
        skipFlushLoop ts fuel st' { h' with nextSeq := some nextSeq }
      else (st, h)

/-- `FlushCloseOlderThan(ts - 5min)` on assembler `k` (`FlushWithOptions`, halves in the order
    s2c, c2s): returns remaining connections and streams (data flushed, Complete flags) -/
def tcpFlush (k ts : Nat) : List TcpConn → Array Stream → Bool → List TcpConn × Array Stream × Bool
  | [], ss, u => ([], ss, u)
  | c :: cs, ss, u =>
    if c.k ≠ k then
      let (cs', ss', u') := tcpFlush k ts cs ss u
      (c :: cs', ss', u')
    else
      let old : Bool := c.lastSeen + timeout < ts
      let st0 := ss[c.stream]!
      let wasClosed := c.c2s.closed && c.s2c.closed
      -- flushClose(s2c)
      let (st1, s2c) := skipFlushLoop ts c.s2c.queue.length st0 c.s2c
      let s2c := if ¬ s2c.closed ∧ s2c.queue.isEmpty ∧ old then { s2c with closed := true, queue := [] } else s2c
      -- flushClose(c2s)
      let (st2, c2s) := skipFlushLoop ts c.c2s.queue.length st1 c.c2s
      let c2s := if ¬ c2s.closed ∧ c2s.queue.isEmpty ∧ old then { c2s with closed := true, queue := [] } else c2s
      let closedNow := (c2s.closed && s2c.closed) && !wasClosed
      let st3 := if closedNow then { st2 with complete := true } else st2
      let ss1 := ss.set! c.stream st3
      let remove : Bool := c2s.closed ∧ s2c.closed ∧ c.c2s.lastSeen + timeout < ts ∧ c.s2c.lastSeen + timeout < ts
      let (cs', ss', u') := tcpFlush k ts cs ss1 u
      if remove then (cs', ss', u') else ({ c with c2s := c2s, s2c := s2c } :: cs', ss', u')

def tcpFind (p : Pkt) : List TcpConn → Nat → Option (Nat × Bool)
  | [], _ => none
  | c :: cs, i =>
    if c.src = p.src ∧ c.dst = p.dst ∧ c.sport = p.sport ∧ c.dport = p.dport then some (i, false)
    else if c.src = p.dst ∧ c.dst = p.src ∧ c.sport = p.dport ∧ c.dport = p.sport then some (i, true)
    else tcpFind p cs (i + 1)

/-- builder.go:417-426 — one TCP packet -/
def tcpPacket (r : RState) (p : Pkt) : RState :=
  let k := assemblerIndex p
  let (conns, streams, u) := tcpFlush k p.ts r.tcp r.streams r.unmodelled
  let r := { r with tcp := conns, streams := streams, unmodelled := u || p.payload.length > 1900 }
  -- getConnection: existing connection (either orientation) or StreamFactory.New
  let (r, i, dir) : RState × Nat × Bool :=
    match tcpFind p r.tcp 0 with
    | some (i, dir) => (r, i, dir)
    | none =>
      let s : Stream := { caddr := p.src, saddr := p.dst, cport := p.sport, sport := p.dport, udp := false }
      let base : Half := { lastSeen := p.ts }
      let c : TcpConn := { k := k, src := p.src, dst := p.dst, sport := p.sport, dport := p.dport,
                           c2s := base, s2c := base, stream := r.streams.size }
      ({ r with streams := r.streams.push s, tcp := r.tcp ++ [c] }, r.tcp.length, false)
  match r.tcp[i]? with
  | none => r
  | some c =>
    let half := if dir then c.s2c else c.c2s
    let half := if half.lastSeen < p.ts then { half with lastSeen := p.ts } else half
    let st := r.streams[c.stream]!
    -- Stream.Accept: record the packet, then the TCP state check
    let st := st.addPkt p.ref dir
    let (fsm, ok) := st.fsm.check p dir
    let st := { st with fsm := fsm }
    let (st, half) := if ok then assembleHalf st half p else (st, half)
    let c := if dir then { c with s2c := half } else { c with c2s := half }
    -- closeHalfConnection: both halves closed -> ReassemblyComplete (the connection stays in the pool)
    let st := if c.c2s.closed ∧ c.s2c.closed then { st with complete := true } else st
    { r with streams := r.streams.set! c.stream st, tcp := r.tcp.set i c }

/-- `udpreassembly.Assembler.FlushCloseOlderThan(ts - 5min)` -/
def udpFlush (ts : Nat) : List UdpConn → Array Stream → List UdpConn × Array Stream
  | [], ss => ([], ss)
  | c :: cs, ss =>
    if c.lastActivity + timeout < ts then
      udpFlush ts cs (ss.modify c.stream (fun s => { s with complete := true }))
    else
      let (cs', ss') := udpFlush ts cs ss
      (c :: cs', ss')

/-- builder.go:427-433 + `udpreassembly.Assembler.AssembleWithContext` + `Stream.AddUDPPacket` -/
def udpPacket (r : RState) (p : Pkt) : RState :=
  let (conns, streams) := udpFlush p.ts r.udp r.streams
  let r := { r with udp := conns, streams := streams }
  match udpLookup r.streams p r.udp 0 with
  | some (i, dir) =>
    match r.udp[i]? with
    | none => r
    | some c =>
      let st := (r.streams[c.stream]!).addPkt p.ref dir
      let st := if p.payload.length = 0 then st else st.addData p.ref p.payload
      { r with streams := r.streams.set! c.stream st, udp := r.udp.set i { c with lastActivity := p.ts } }
  | none =>
    let s : Stream := { caddr := p.src, saddr := p.dst, cport := p.sport, sport := p.dport, udp := true }
    let st := s.addPkt p.ref false
    let st := if p.payload.length = 0 then st else st.addData p.ref p.payload
    { r with streams := r.streams.push st, udp := r.udp ++ [{ lastActivity := p.ts, stream := r.streams.size }] }

def reasmPacket (r : RState) (p : Pkt) : RState :=
  if p.udp then udpPacket r p else tcpPacket r p

/-- the reference reassembler: feed a packet sequence, obtain `streamFactory.Streams` -/
def reasm (ps : List Pkt) : Array Stream := (ps.foldl reasmPacket {}).streams

/-! ## snapshots (snapshots.go, builder.go:146-203, 297-358) -/

structure Snapshot where
  ts : Nat := 0
  chunkCount : Nat := 0
  /-- referencedPackets: file ↦ packet indexes (files in first-reference order) -/
  refs : List (String × List Nat) := []
deriving Repr, Inhabited, DecidableEq

def Snapshot.refsOf (s : Snapshot) (file : String) : List Nat :=
  match s.refs.find? (fun e => e.1 = file) with
  | some e => e.2
  | none => []

/-- builder.go:146-158: the last snapshot that is not older than the best so far and not younger
    than the oldest new packet -/
def chooseSnapshot (snaps : List Snapshot) (oldestTs : Nat) : Snapshot :=
  snaps.foldl (fun best ss =>
    if best.ts > ss.ts then best
    else if oldestTs < ss.ts then best
    else ss) {}

/-- `referencedPackets[file] = append(referencedPackets[file], idx)`; the per-file lists are kept
    newest-first while collecting -/
def addRefRev (refs : List (String × List Nat)) (file : String) (idx : Nat) : List (String × List Nat) :=
  match refs with
  | [] => [(file, [idx])]
  | (f, l) :: rest => if f = file then (f, idx :: l) :: rest else (f, l) :: addRefRev rest file idx

/-- builder.go:305-338: packets of the streams that are neither complete nor timed out
    (files in first-reference order, indexes in stream order, then packet order) -/
def snapshotRefs (streams : Array Stream) (ts : Nat) : List (String × List Nat) :=
  let acc := streams.foldl (fun (acc : List (String × List Nat)) (s : Stream) =>
    if s.complete then acc else
    match s.pktsRev with
    | [] => acc
    | (lastP, _) :: _ =>
      if lastP.ts + timeout < ts then acc
      else s.pkts.foldl (fun a (pr : PRef × Bool) => addRefRev a pr.1.file pr.1.idx) acc) []
  acc.map (fun e => (e.1, e.2.reverse))

/-! ## feeding order (builder.go:205-296) -/

/-- an older capture that has to be replayed: its `PacketTimestampMin` and the packets to replay
    (after the snapshot filter of builder.go:236-250) -/
structure OldPcap where
  tmin : Nat
  pkts : List Pkt
deriving Repr, Inhabited

/-- `loadNextTimestamp.IsZero() || loadNextTimestamp.After(ts)` -/
def beforeLimit (limit : Option Nat) (ts : Nat) : Bool :=
  match limit with
  | some l => decide (l > ts)
  | none => true

/-- the inner loop (builder.go:270-296, ordering part): merge `old` and `new` while the next packet
    is older than `limit` (`loadNextTimestamp`, `none` = zero time).  Returns the packets handed to
    the reassemblers and the unconsumed rests. -/
def mergeUntil (limit : Option Nat) : List Pkt → List Pkt → List Pkt × List Pkt × List Pkt
  | [], [] => ([], [], [])
  | o :: os, [] =>
    if beforeLimit limit o.ts then
      let (out, os', ns') := mergeUntil limit os []
      (o :: out, os', ns')
    else ([], o :: os, [])
  | [], n :: ns =>
    if beforeLimit limit n.ts then
      let (out, os', ns') := mergeUntil limit [] ns
      (n :: out, os', ns')
    else ([], [], n :: ns)
  | o :: os, n :: ns =>
    if pktLt o n then
      if beforeLimit limit o.ts then
        let (out, os', ns') := mergeUntil limit os (n :: ns)
        (o :: out, os', ns')
      else ([], o :: os, n :: ns)
    else
      if beforeLimit limit n.ts then
        let (out, os', ns') := mergeUntil limit (o :: os) ns
        (n :: out, os', ns')
      else ([], o :: os, n :: ns)
termination_by os ns => os.length + ns.length

/-- the outer loop (builder.go:225-266): before capture `i+1` is loaded, packets older than its
    first packet are processed; then it is loaded, appended to the unconsumed old packets and the
    whole is sorted again. -/
def feedLoop : List OldPcap → List Pkt → List Pkt → List Pkt
  | [], old, new => (mergeUntil none old new).1
  | pc :: rest, old, new =>
    let (out, old', new') := mergeUntil (some pc.tmin) old new
    out ++ feedLoop rest (sortPkts (old' ++ pc.pkts)) new'

/-- `feedOrder`: the sequence of packets handed to the reassemblers by one FromPcap call -/
def feedOrder (olds : List OldPcap) (new : List Pkt) : List Pkt :=
  feedLoop olds [] (sortPkts new)

/-- `sort.Slice(allNeededPcaps, PacketTimestampMin)` — insertion into a list sorted by tmin -/
def insertByTmin (x : PcapInfo) : List PcapInfo → List PcapInfo
  | [] => [x]
  | y :: ys => if x.tmin < y.tmin then x :: y :: ys else y :: insertByTmin x ys

def sortByTmin (l : List PcapInfo) : List PcapInfo := l.foldr insertByTmin []

/-! ## index files as far as the builder looks at them -/

/-- one written index file: (stream ID, stream) in `AddStream` order -/
structure Index where
  streams : List (Nat × Stream)
deriving Repr, Inhabited

def Index.maxID (i : Index) : Nat := i.streams.foldl (fun m e => max m e.1) 0

/-- `Reader.StreamByFirstPacketSource` -/
def Index.byFirstPacket (i : Index) (file : String) (idx : Nat) : Option Nat :=
  match i.streams.find? (fun e => match e.2.pktsRev.getLast? with
                                   | some (r, _) => r.file = file ∧ r.idx = idx
                                   | none => false) with
  | some e => some e.1
  | none => none

/-- builder.go:444-452 -/
def nextStreamID (existing : List Index) : Nat :=
  existing.foldl (fun n i => if n ≤ i.maxID then i.maxID + 1 else n) 0

/-- builder.go:481-490: first existing index that knows a stream starting with this packet -/
def lookupFirst (existing : List Index) (file : String) (idx : Nat) : Option Nat :=
  match existing with
  | [] => none
  | i :: rest =>
    match i.byFirstPacket file idx with
    | some id => some id
    | none => lookupFirst rest file idx

inductive Category | added | updated | reset
deriving Repr, Inhabited, DecidableEq

/-- builder.go:466-495, the walk over the packets of one stream.
    State: current id (`none` = still `nextStreamID`), touchedByNewPcaps.
    Result: id (`none` = fresh), category, touched. -/
def classifyWalk (newFiles : List String) (existing : List Index) :
    List (PRef × Bool) → Option Nat → Bool → Option Nat × Category × Bool
  | [], id, touched => (id, .added, touched)
  | (r, _) :: rest, id, touched =>
    if newFiles.contains r.file then
      if id.isSome then (id, .updated, true)
      else classifyWalk newFiles existing rest id true
    else if id.isSome then classifyWalk newFiles existing rest id touched
    else
      let id' := lookupFirst existing r.file r.idx
      if touched then (id', .reset, touched)
      else classifyWalk newFiles existing rest id' touched

structure Assigned where
  next : Nat
  index : List (Nat × Stream) := []
  added : List Nat := []
  updated : List Nat := []
  reset : List Nat := []
deriving Repr, Inhabited

/-- one iteration of the loop over `streamFactory.Streams` (builder.go:461-521) -/
def assignStep (newFiles : List String) (existing : List Index) (a : Assigned) (s : Stream) : Assigned :=
  match classifyWalk newFiles existing s.pkts none false with
  | (_, _, false) => a
  | (some id, cat, true) =>
    let a := { a with index := a.index ++ [(id, s)] }
    match cat with
    | .added => { a with added := a.added ++ [id] }
    | .updated => { a with updated := a.updated ++ [id] }
    | .reset => { a with reset := a.reset ++ [id] }
  | (none, cat, true) =>
    let id := a.next
    let a := { a with next := a.next + 1, index := a.index ++ [(id, s)] }
    match cat with
    | .added => { a with added := a.added ++ [id] }
    | .updated => { a with updated := a.updated ++ [id] }
    | .reset => { a with reset := a.reset ++ [id] }

/-- `assignIDs`: builder.go:461-521 over `streamFactory.Streams` in creation order -/
def assignIDs (newFiles : List String) (existing : List Index) (streams : List Stream) (next : Nat) : Assigned :=
  streams.foldl (assignStep newFiles existing) { next := next }

/-! ## the builder -/

/-- a capture file in the capture directory -/
structure Capture where
  name : String
  pkts : List Pkt
deriving Repr, Inhabited

structure Builder where
  known : List PcapInfo := []
  snapshots : List Snapshot := []
deriving Repr, Inhabited

/-- insertion sort of directory entries by name (`os.ReadDir` returns them sorted) -/
def insertByName (c : Capture) : List Capture → List Capture
  | [] => [c]
  | d :: ds => if c.name < d.name then c :: d :: ds else d :: insertByName c ds

/-- `builder.New`: every capture in the directory is known (with or without cached info the
    resulting `PcapInfo` is the same); captures without packets are known too (count 0);
    the snapshots are those saved by the last successful import. -/
def Builder.new (dir : List Capture) (savedSnapshots : List Snapshot) : Builder :=
  { known := (dir.foldr insertByName []).map (fun c => infoOf c.name c.pkts), snapshots := savedSnapshots }

structure ProcState where
  r : RState := {}
  nAfter : Nat := 0
  prevTs : Nat := 0
  snaps : List Snapshot := []
deriving Repr, Inhabited

/-- builder.go:297-437 for one packet -/
def processPkt (best : Snapshot) (st : ProcState) (p : Pkt) : ProcState :=
  let st :=
    if st.nAfter ≥ snapshotEvery ∧ p.ts ≠ st.prevTs then
      -- flush everything, then record what is still open
      let (uc, ss) := udpFlush p.ts st.r.udp st.r.streams
      let (tc, ss, u) := (List.range 256).foldl (fun (acc : List TcpConn × Array Stream × Bool) k =>
        tcpFlush k p.ts acc.1 acc.2.1 acc.2.2) (st.r.tcp, ss, st.r.unmodelled)
      let r := { st.r with udp := uc, tcp := tc, streams := ss, unmodelled := u }
      { st with r := r, snaps := st.snaps ++ [{ ts := p.ts, chunkCount := 1, refs := snapshotRefs ss p.ts }], nAfter := 0 }
    else st
  let st := if st.nAfter ≠ 0 ∨ ¬ (best.ts > p.ts) then { st with prevTs := p.ts, nAfter := st.nAfter + 1 } else st
  { st with r := reasmPacket st.r p }

structure ImportResult where
  processed : Nat
  used : Nat := 0
  created : List Index := []
  added : List Nat := []
  updated : List Nat := []
  reset : List Nat := []
  fed : List Pkt := []
  /-- a situation outside the reference reassembler was met (see header) -/
  unmodelled : Bool := false
deriving Repr, Inhabited

def getCapture (dir : List Capture) (name : String) : Option Capture := dir.find? (fun c => c.name = name)

/-- builder.go:236-250: packets of an older capture that have to be replayed under snapshot `best` -/
def replayPkts (best : Snapshot) (info : PcapInfo) (pkts : List Pkt) : List Pkt :=
  if best.ts > info.tmin then
    let needed := (best.refsOf info.name).filterMap (fun i => pkts[i]?)
    if ¬ (best.ts > info.tmax) then needed ++ pkts.filter (fun p => ¬ (best.ts > p.ts)) else needed
  else pkts

/-- `Builder.FromPcap` (error paths are not modelled: every named capture exists and is readable) -/
def Builder.fromPcap (b : Builder) (dir : List Capture) (names : List String) (existing : List Index) :
    ImportResult × Builder :=
  -- builder.go:104-144
  let loaded := names.filterMap (fun n => (getCapture dir n))
  let nProcessed := loaded.length
  let nonEmpty := loaded.filter (fun c => ¬ c.pkts.isEmpty)
  let newInfos := nonEmpty.map (fun c =>
    match b.known.find? (fun i => i.name = c.name) with
    | some i => i
    | none => infoOf c.name c.pkts)
  let newPackets := nonEmpty.foldr (fun c acc => c.pkts ++ acc) []
  if newPackets.isEmpty then ({ processed := nProcessed }, b) else
  let oldestTs := newInfos.foldl (fun o i => if o = 0 ∨ o > i.tmin then i.tmin else o) 0
  let best := chooseSnapshot b.snapshots oldestTs
  -- builder.go:165-182
  let needed := sortByTmin (b.known.filter (fun pc =>
    ¬ newInfos.any (fun n => n.name = pc.name) ∧ (¬ (best.ts > pc.tmax) ∨ (best.refsOf pc.name).length ≠ 0)))
  let keptSnaps := b.snapshots.filter (fun s => ¬ (best.ts < s.ts))
  let olds : List OldPcap := needed.map (fun pc =>
    { tmin := pc.tmin, pkts := replayPkts best pc (match getCapture dir pc.name with | some c => c.pkts | none => []) })
  let fed := feedOrder olds newPackets
  let st := fed.foldl (processPkt best) { snaps := keptSnaps }
  -- builder.go:444-521
  let next := nextStreamID existing
  let a := assignIDs (newInfos.map (·.name)) existing st.r.streams.toList next
  let created := if a.index.isEmpty then [] else [{ streams := a.index : Index }]
  -- builder.go:561-574 (after 2bb2653 "fix: ... no longer registers an already known pcap a second time")
  let b' : Builder := { known := b.known ++ newInfos.filter (fun n => ¬ b.known.any (fun k => k.name = n.name)),
                        snapshots := st.snaps }
  ({ processed := nProcessed, used := a.next - next, created := created, added := a.added, updated := a.updated,
     reset := a.reset, fed := fed, unmodelled := st.r.unmodelled }, b')

/-! ## what is visible through a stack of index files (manager.View.Stream: last index wins) -/

def visibleIDs (stack : List Index) : List Nat :=
  let ids := stack.foldl (fun acc i => i.streams.foldl (fun acc e => if acc.contains e.1 then acc else acc ++ [e.1]) acc) []
  ids.mergeSort (fun a b => a ≤ b)

def visibleStream (stack : List Index) (id : Nat) : Option Stream :=
  stack.foldl (fun acc i => match i.streams.find? (fun e => e.1 = id) with
                            | some e => some e.2
                            | none => acc) none

def visible (stack : List Index) : List (Nat × Stream) :=
  (visibleIDs stack).filterMap (fun id => (visibleStream stack id).map (fun s => (id, s)))

end Pk.Import
