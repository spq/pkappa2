/-
  Query model, part 2: simplification (`clean*`, `Conditions.clean`, `Conditions.and`,
  `ConditionsSet.Clean`, `cleanSimpleIDFilter`) of internal/query/conditions.go:1018-1776.

  Transliteration notes
  * `sort.Slice` → stable insertion sort `isort`.  Every comparator of the Go code is total on all
    fields except `cleanDataConditions` (ignores `Inverted`); there a tie is either a contradiction
    or a duplicate, so the order of ties is unobservable.
  * in-place loops with index adjustments (`i--` after removal) → structural recursion over the list
    (documented at each function).
  * uint16 flag values are `Nat` < 2^16.  `cleanFlagConditions` enumerates all 65536 values of the
    forbidden bitmap; the model enumerates only the sub-masks of the union `U` of the masks of a
    group (the bitmap depends on `v &&& U` only).  This is the single place where the model is an
    optimisation rather than a transliteration; it is covered by the correspondence check.
  * Go `int` is `Int` (no overflow; the generator keeps numbers below 2^40).
  * the model follows the tree with the `fix:` commits applied (F2 `j++` in the common-factor loop,
    F3 negated proper prefix is a contradiction, F50 converter name is part of a data element).
-/
import Pk.Model.Query.Ast

namespace Pk.Query

/-! ### generic helpers -/

/-- insert `x` before the first element that is not smaller than `x` (stable w.r.t. `foldr`). -/
def insertBy {α : Type} (lt : α → α → Bool) (x : α) : List α → List α
  | [] => [x]
  | y :: ys => if lt y x then y :: insertBy lt x ys else x :: y :: ys

def isort {α : Type} (lt : α → α → Bool) (l : List α) : List α :=
  l.foldr (insertBy lt) []

/-- lexicographic comparison with a per-element three-way comparison; a proper prefix is smaller
    (this is `bytes.Compare` for byte lists). -/
def lexCmp {α : Type} (cmp : α → α → Ordering) : List α → List α → Ordering
  | [], [] => .eq
  | [], _ :: _ => .lt
  | _ :: _, [] => .gt
  | a :: as, b :: bs =>
    match cmp a b with
    | .eq => lexCmp cmp as bs
    | o => o

def cmpString (a b : String) : Ordering :=
  if a < b then .lt else if a = b then .eq else .gt
def cmpBool (a b : Bool) : Ordering :=   -- false < true
  if a = b then .eq else if b then .lt else .gt

def iabs (x : Int) : Nat := x.natAbs

/-! ### tags (cleanTagConditions) -/

/-- the Go map `m[key]` with insertion/update, as an association list -/
def tagMerge : List TagC → TagC → Option (List TagC)
  | [], lc => some [lc]
  | e :: es, lc =>
    if e.sq = lc.sq ∧ e.name = lc.name then
      let a := e.acc &&& lc.acc
      if a = 0 then none else some ({ e with acc := a } :: es)
    else (tagMerge es lc).map (e :: ·)

def tagFold : List TagC → List TagC → Option (List TagC)
  | m, [] => some m
  | m, lc :: rest =>
    if lc.acc = 0 then none else
    match tagMerge m lc with
    | none => none
    | some m' => tagFold m' rest

def tagLt (a b : TagC) : Bool :=
  if a.sq ≠ b.sq then a.sq < b.sq else a.name < b.name

/-- `none` = impossible -/
def cleanTag (lcs : List TagC) : Option (List TagC) :=
  (tagFold [] lcs).map (isort tagLt)

/-! ### flags (cleanFlagConditions) -/

/-- `sort.Strings` followed by the removal of adjacent equal pairs.  The Go loop
    (`i -= 2` after a removal) panics with index -1 when a pair is removed in front of a
    remaining element; the parser only produces lists of ≤ 2 distinct names, where it is the
    identity after sorting.  Model: cancel pairs left to right. -/
def cancelPairs : List String → List String
  | a :: b :: rest => if a = b then cancelPairs rest else a :: cancelPairs (b :: rest)
  | l => l

/-- site predicate: the Go loop would index `SubQueries[-1]` -/
def flagDedupPanics (sqs : List String) : Bool :=
  let s := isort (fun a b => decide (a < b)) sqs
  s.length ≥ 3 ∧ cancelPairs s ≠ s ∧ cancelPairs s ≠ []

/-- all sub-masks of the bits `bs` (given most significant first), in descending order -/
def subMasksOfBits : List Nat → List Nat
  | [] => [0]
  | b :: bs => (subMasksOfBits bs).map (· + 2 ^ b) ++ subMasksOfBits bs

def bitsDesc (mask : Nat) : List Nat :=
  ((List.range 16).reverse).filter (fun b => mask.testBit b)

/-- `for v := mask; ; v = (v-1) & mask { …; if v == 0 { break } }` -/
def subMasksDesc (mask : Nat) : List Nat := subMasksOfBits (bitsDesc mask)

structure FlagInfo where
  sqs : List String
  conds : List FlagC      -- the conditions whose forbidden bitmaps were or-ed into this info
  deriving Repr

def FlagInfo.forbidden (i : FlagInfo) (v : Nat) : Bool :=
  i.conds.any (fun fc => v &&& fc.mask = fc.value)

def flagInfoAdd : List FlagInfo → List String → FlagC → List FlagInfo
  | [], sqs, fc => [{ sqs := sqs, conds := [fc] }]
  | i :: is, sqs, fc =>
    if i.sqs = sqs then { i with conds := i.conds ++ [fc] } :: is
    else i :: flagInfoAdd is sqs fc

/-- first loop of cleanFlagConditions; `none` = impossible -/
def flagCollect : List FlagInfo → List FlagC → Option (List FlagInfo)
  | infos, [] => some infos
  | infos, fc :: rest =>
    let sqs := cancelPairs (isort (fun a b => decide (a < b)) fc.sqs)
    if sqs = [] then
      if fc.value &&& fc.mask = 0 then none else flagCollect infos rest
    else flagCollect (flagInfoAdd infos sqs fc) rest

def FlagInfo.union (i : FlagInfo) : Nat :=
  i.conds.foldl (fun u fc => u ||| (fc.mask % 65536)) 0

/-- bit `b` is relevant when flipping it changes the forbidden bitmap somewhere -/
def FlagInfo.relevant (i : FlagInfo) (b : Nat) : Bool :=
  (subMasksDesc i.union).any (fun v => i.forbidden v != i.forbidden (v ^^^ 2 ^ b))

def FlagInfo.mask (i : FlagInfo) : Nat :=
  ((List.range 16).filter (fun b => i.union.testBit b && i.relevant b)).foldl (fun m b => m ||| 2 ^ b) 0

def flagLt (a b : FlagC) : Bool :=
  if a.sqs.length ≠ b.sqs.length then a.sqs.length < b.sqs.length else
  match lexCmp cmpString a.sqs b.sqs with
  | .lt => true
  | .gt => false
  | .eq => if a.mask ≠ b.mask then a.mask < b.mask else a.value < b.value

def flagEmit : List FlagInfo → Option (List FlagC)
  | [] => some []
  | i :: is =>
    let mask := i.mask
    if mask = 0 then
      if i.forbidden 0 then none else flagEmit is
    else
      (flagEmit is).map (fun tl =>
        ((subMasksDesc mask).filter i.forbidden).map (fun v => ({ sqs := i.sqs, value := v, mask := mask } : FlagC)) ++ tl)

def cleanFlag (fcs : List FlagC) : Option (List FlagC) :=
  match flagCollect [] fcs with
  | none => none
  | some infos => (flagEmit infos).map (isort flagLt)

/-! ### hosts (cleanHostConditions) -/

def hcsLess (a b : HostSrc) : Bool :=
  if a.sq ≠ b.sq then a.sq < b.sq
  else if a.server ≠ b.server then !a.server
  else false

def cmpHostSrc (a b : HostSrc) : Ordering :=
  if hcsLess a b then .lt else if hcsLess b a then .gt else .eq

/-- `for j := 1; j < len(s); j++ { if s[j-1] == s[j] { s = append(s[:j-1], s[j+1:]...) } }` -/
def hostSrcLoop : Nat → Nat → List HostSrc → List HostSrc
  | 0, _, s => s
  | fuel + 1, j, s =>
    if j < s.length then
      if s[j - 1]! = s[j]! then hostSrcLoop fuel (j + 1) (s.take (j - 1) ++ s.drop (j + 1))
      else hostSrcLoop fuel (j + 1) s
    else s

def andBytes : List Nat → List Nat → List Nat
  | a :: as, m :: ms => (a &&& m) :: andBytes as ms
  | _, _ => []

/-- per-condition part: sorted/cancelled sources, masked host -/
def hostNorm (h : HostC) : HostC :=
  let srcs := isort hcsLess h.srcs
  let srcs := hostSrcLoop srcs.length 1 srcs
  let host := if h.host.length = 4 then andBytes h.host h.m4
              else if h.host.length = 16 then andBytes h.host h.m6 else h.host
  { h with srcs := srcs, host := host }

/-- the `zeroHost` flag (only computed for 4/16 byte hosts, true otherwise) -/
def hostZero (h : HostC) : Bool :=
  if h.host.length = 4 ∨ h.host.length = 16 then h.host.all (· = 0) else true

/-- first loop; `none` = impossible -/
def hostFirst : List HostC → Option (List HostC)
  | [] => some []
  | h :: rest =>
    let h' := hostNorm h
    if h'.srcs ≠ [] then (hostFirst rest).map (h' :: ·)
    else if hostZero h' = h'.inv then none
    else hostFirst rest

def cmpBytes : List Nat → List Nat → Ordering := lexCmp (fun a b => compare a b)

def hostLt (a b : HostC) : Bool :=
  if a.srcs.length ≠ b.srcs.length then a.srcs.length < b.srcs.length else
  match lexCmp cmpHostSrc a.srcs b.srcs with
  | .lt => true
  | .gt => false
  | .eq =>
    match cmpBytes a.host b.host with
    | .lt => true
    | .gt => false
    | .eq =>
      match cmpBytes a.m4 b.m4 with
      | .lt => true
      | .gt => false
      | .eq =>
        match cmpBytes a.m6 b.m6 with
        | .lt => true
        | .gt => false
        | .eq => b.inv && !a.inv

def hostSameKey (a b : HostC) : Bool :=
  a.srcs.length = b.srcs.length ∧ lexCmp cmpHostSrc a.srcs b.srcs = .eq ∧
    a.host = b.host ∧ a.m4 = b.m4 ∧ a.m6 = b.m6

/-- adjacent duplicate removal of the sorted list: on equal keys either a contradiction
    (`Invert` differs) or the second is dropped and the first is compared with the next. -/
def hostDedup : HostC → List HostC → Option (List HostC)
  | a, [] => some [a]
  | a, b :: rest =>
    if hostSameKey a b then
      if a.inv ≠ b.inv then none else hostDedup a rest
    else (hostDedup b rest).map (a :: ·)

def cleanHost (hcs : List HostC) : Option (List HostC) :=
  match hostFirst hcs with
  | none => none
  | some l =>
    match isort hostLt l with
    | [] => some []
    | a :: rest => hostDedup a rest

/-! ### numbers (cleanNumberConditions) -/

def numSumLt (a b : NumSummand) : Bool :=
  if a.sq ≠ b.sq then a.sq < b.sq else a.ty < b.ty

/-- the merge loop `for j := 1; j < len; { … }`: `a` is `Summands[j-1]`, the list is `Summands[j:]` -/
def numMerge : NumSummand → List NumSummand → List NumSummand
  | a, [] => [a]
  | a, b :: rest =>
    if a.sq = b.sq ∧ a.ty = b.ty then numMerge { a with factor := a.factor + b.factor } rest
    else if a.factor = 0 then numMerge b rest
    else a :: numMerge b rest

/-- `for cf--; cf > 1; cf-- { if old%cf == 0 && f%cf == 0 { break } }` started with `cf = d + 1` -/
def searchDown (old f : Nat) : Nat → Nat
  | 0 => 0
  | 1 => 1
  | d + 2 => if old % (d + 2) = 0 ∧ f % (d + 2) = 0 then d + 2 else searchDown old f (d + 1)

/-- one step of the common-factor loop for the summand factor `f` (absolute value) -/
def cfStep (cf f : Nat) : Nat :=
  if f % cf = 0 then cf
  else if cf % f = 0 then f
  else searchDown cf f (cf - 1)

/-- `for j := 1; commonFactor != 1 && j < len(nc.Summands); j++` (with the `fix:` increment) -/
def cfLoop : Nat → List NumSummand → Nat
  | cf, [] => cf
  | cf, s :: rest => if cf = 1 then 1 else cfLoop (cfStep cf (iabs s.factor)) rest

/-- site predicate: `f % commonFactor` with `commonFactor == 0` (integer divide by zero) -/
def numDivZeroSite (sum : List NumSummand) : Bool :=
  match sum with
  | [] => false
  | s :: _ => s.factor = 0

/-- per-condition normalisation; a condition left without summands is handled by the caller (`numFirst`) -/
def numNorm (nc : NumC) : NumC :=
  match isort numSumLt nc.sum with
  | [] => { nc with sum := [] }
  | a :: rest =>
    let sum := numMerge a rest
    match sum with
    | [] => { nc with sum := [] }
    | s0 :: more =>
      -- Go panics here ("integer divide by zero" in `f % commonFactor`) when the first summand has
      -- factor 0 (site predicate `numDivZeroSite`); the model keeps the merged condition, which has
      -- the same meaning, and `clean_total` (Props/C14) shows the site is unreachable from the parser.
      if s0.factor = 0 then { sum := sum, n := nc.n } else
      let cf := cfLoop (iabs s0.factor) more
      if cf = 1 then { sum := sum, n := nc.n }
      else
        let f := iabs nc.n
        let cf := if f % cf ≠ 0 then searchDown cf f (cf - 1) else cf
        { sum := sum.map (fun s => { s with factor := s.factor.tdiv cf }), n := nc.n.tdiv cf }

/-- first loop; `none` = impossible -/
def numFirst : List NumC → Option (List NumC)
  | [] => some []
  | nc :: rest =>
    let nc' := numNorm nc
    if nc'.sum = [] then
      if nc'.n < 0 then none else numFirst rest
    else (numFirst rest).map (nc' :: ·)

def cmpNumSummand (a b : NumSummand) : Ordering :=
  if a.sq ≠ b.sq then cmpString a.sq b.sq
  else if a.ty ≠ b.ty then compare a.ty b.ty
  else compare a.factor b.factor

def numLt (a b : NumC) : Bool :=
  if a.sum.length ≠ b.sum.length then a.sum.length < b.sum.length else
  match lexCmp cmpNumSummand a.sum b.sum with
  | .lt => true
  | .gt => false
  | .eq => a.n < b.n

/-- drop the later of two neighbours with identical summands -/
def numDedup : NumC → List NumC → List NumC
  | a, [] => [a]
  | a, b :: rest =>
    if a.sum = b.sum then numDedup a rest else a :: numDedup b rest

def numAllPositive (nc : NumC) : Bool := nc.n ≥ 0 ∧ nc.sum.all (fun s => ¬ s.factor < 0)
def numAllNegative (nc : NumC) : Bool := nc.n < 0 ∧ nc.sum.all (fun s => ¬ s.factor > 0)

def numSigns : List NumC → Option (List NumC)
  | [] => some []
  | nc :: rest =>
    if numAllPositive nc then numSigns rest
    else if numAllNegative nc then none
    else (numSigns rest).map (nc :: ·)

def cleanNumber (ncs : List NumC) : Option (List NumC) :=
  match numFirst ncs with
  | none => none
  | some l =>
    match isort numLt l with
    | [] => some []
    | a :: rest => numSigns (numDedup a rest)

/-! ### times (cleanTimeConditions) -/

def timeSumLt (a b : TimeSummand) : Bool :=
  if a.sq ≠ b.sq then a.sq < b.sq
  else if a.f ≠ b.f then a.f < b.f
  else a.l < b.l

def timeMerge : TimeSummand → List TimeSummand → List TimeSummand
  | a, [] => [a]
  | a, b :: rest =>
    if a.sq = b.sq then timeMerge { a with f := a.f + b.f, l := a.l + b.l } rest
    else if a.f = 0 ∧ a.l = 0 then timeMerge b rest
    else a :: timeMerge b rest

def dropLastZero (l : List TimeSummand) : List TimeSummand :=
  match l.getLast? with
  | some s => if s.f = 0 ∧ s.l = 0 then l.dropLast else l
  | none => l

def timeNorm (tc : TimeC) : TimeC :=
  match isort timeSumLt tc.sum with
  | [] => { tc with sum := [] }
  | a :: rest => { tc with sum := dropLastZero (timeMerge a rest) }

/-- first loop; `none` = impossible -/
def timeFirst : List TimeC → Option (List TimeC)
  | [] => some []
  | tc :: rest =>
    let tc' := timeNorm tc
    match tc'.sum with
    | [] => if tc'.dur < 0 then none else timeFirst rest
    | [s] =>
      if s.f + s.l ≠ 0 then (timeFirst rest).map (tc' :: ·)
      else if s.f > 0 then
        if tc'.dur < 0 then none else (timeFirst rest).map (tc' :: ·)
      else
        if tc'.dur ≥ 0 then timeFirst rest else (timeFirst rest).map (tc' :: ·)
    | _ => (timeFirst rest).map (tc' :: ·)

def cmpTimeSummand (a b : TimeSummand) : Ordering :=
  if a.sq ≠ b.sq then cmpString a.sq b.sq
  else if a.f ≠ b.f then compare a.f b.f
  else compare a.l b.l

def timeLt (a b : TimeC) : Bool :=
  if a.sum.length ≠ b.sum.length then a.sum.length < b.sum.length else
  match lexCmp cmpTimeSummand a.sum b.sum with
  | .lt => true
  | .gt => false
  | .eq => if a.rtf ≠ b.rtf then a.rtf < b.rtf else a.dur < b.dur

def timeDedup : TimeC → List TimeC → List TimeC
  | a, [] => [a]
  | a, b :: rest =>
    if a.sum = b.sum ∧ a.rtf = b.rtf then timeDedup a rest else a :: timeDedup b rest

def cleanTime (tcs : List TimeC) : Option (List TimeC) :=
  match timeFirst tcs with
  | none => none
  | some l =>
    match isort timeLt l with
    | [] => some []
    | a :: rest => some (timeDedup a rest)

/-! ### data chains (cleanDataConditions) -/

def cmpDataVar (a b : DataVar) : Ordering :=
  if a.pos ≠ b.pos then compare a.pos b.pos
  else if a.sq ≠ b.sq then cmpString a.sq b.sq
  else cmpString a.name b.name

/-- comparison of the variable lists: common prefix element-wise, then by length -/
def cmpDataEl (a b : DataEl) : Ordering :=
  if a.sq ≠ b.sq then cmpString a.sq b.sq
  else if a.flags ≠ b.flags then compare a.flags b.flags
  else if a.regex ≠ b.regex then cmpString a.regex b.regex
  else if a.conv ≠ b.conv then cmpString a.conv b.conv
  else lexCmp cmpDataVar a.vars b.vars

def dataLt (a b : DataC) : Bool :=
  match lexCmp cmpDataEl a.els b.els with
  | .lt => true
  | _ => false

/-- `a.els` and `b.els` agree on their common length -/
def dataCompat : List DataEl → List DataEl → Bool
  | a :: as, b :: bs => cmpDataEl a b = .eq && dataCompat as bs
  | _, _ => true

/-- adjacent pass over the sorted list: when the earlier chain `a` agrees with `b` on their common
    length, `a` is dropped (it is implied by `b`) unless they contradict each other: same length
    with different `Inverted`, or (fix F3) `a` is a negated proper prefix of `b`. -/
def dataDedup : DataC → List DataC → Option (List DataC)
  | a, [] => some [a]
  | a, b :: rest =>
    if dataCompat a.els b.els then
      if a.els.length = b.els.length ∧ a.inv ≠ b.inv then none
      else if a.inv ∧ a.els.length < b.els.length then none
      else dataDedup b rest
    else (dataDedup b rest).map (a :: ·)

def cleanData (dcs : List DataC) : Option (List DataC) :=
  match isort dataLt dcs with
  | [] => some []
  | a :: rest => dataDedup a rest

/-! ### Conditions.clean / Conditions.and / ConditionsSet.Clean -/

def Cond.tag? : Cond → Option TagC | .tag c => some c | _ => none
def Cond.flag? : Cond → Option FlagC | .flag c => some c | _ => none
def Cond.host? : Cond → Option HostC | .host c => some c | _ => none
def Cond.time? : Cond → Option TimeC | .time c => some c | _ => none
def Cond.num? : Cond → Option NumC | .num c => some c | _ => none
def Cond.data? : Cond → Option DataC | .data c => some c | _ => none

def impossibleConj : Conj := [Cond.impossible]

def Conj.clean (c : Conj) : Conj :=
  if c.any (· = Cond.impossible) then impossibleConj else
  match cleanTag (c.filterMap Cond.tag?), cleanFlag (c.filterMap Cond.flag?),
        cleanHost (c.filterMap Cond.host?), cleanNumber (c.filterMap Cond.num?),
        cleanTime (c.filterMap Cond.time?), cleanData (c.filterMap Cond.data?) with
  | some lcs, some fcs, some hcs, some ncs, some tcs, some dcs =>
    lcs.map Cond.tag ++ fcs.map Cond.flag ++ hcs.map Cond.host ++ ncs.map Cond.num ++
      tcs.map Cond.time ++ dcs.map Cond.data
  | _, _, _, _, _, _ => impossibleConj

def Conj.isImpossible (c : Conj) : Bool := c = impossibleConj

def CSet.isImpossible (c : CSet) : Bool :=
  match c with
  | [x] => Conj.isImpossible x
  | _ => false

def Conj.and (a b : Conj) : Conj := Conj.clean (a ++ b)

/-! simple-ID fast path -/

def maxUint : Nat := 2 ^ 64 - 1

/-- `extractSimpleIDFilter` on the conditions of a conjunct: (min, max) accumulators -/
def extractLoop : List Cond → Nat → Nat → Option (Nat × Nat)
  | [], mn, mx => some (mn, mx)
  | .num nc :: rest, mn, mx =>
    match nc.sum with
    | [s] =>
      if s.ty ≠ NumType.id ∨ s.sq ≠ "" then none
      else if s.factor = 1 then
        let mn' := if nc.n ≤ 0 ∧ mn < (-nc.n).toNat then (-nc.n).toNat else mn
        extractLoop rest mn' mx
      else if s.factor = -1 then
        if nc.n < 0 then none
        else extractLoop rest mn (if mx > nc.n.toNat then nc.n.toNat else mx)
      else none
    | _ => none
  | _ :: _, _, _ => none

def Conj.extractSimpleID (c : Conj) : Option (Nat × Nat) :=
  if c = [] then none else extractLoop c 0 maxUint

/-- ids of the conjuncts when every conjunct is `id:n` -/
def simpleIDs : CSet → Option (List Nat)
  | [] => some []
  | cc :: rest =>
    match Conj.extractSimpleID (Conj.clean cc) with
    | some (mn, mx) => if mn ≠ mx then none else (simpleIDs rest).map (mn :: ·)
    | none => none

/-- sorted distinct ids → maximal runs of consecutive ids -/
def idRuns : Nat → Nat → List Nat → List (Nat × Nat)
  | lo, hi, [] => [(lo, hi)]
  | lo, hi, x :: rest => if x = hi + 1 then idRuns lo (x) rest else (lo, hi) :: idRuns x x rest

def dedupSorted : List Nat → List Nat
  | a :: b :: rest => if a = b then dedupSorted (b :: rest) else a :: dedupSorted (b :: rest)
  | l => l

def idRangeConj (lo hi : Nat) : Conj :=
  [ .num { sum := [{ sq := "", factor := 1, ty := NumType.id }], n := -(lo : Int) },
    .num { sum := [{ sq := "", factor := -1, ty := NumType.id }], n := (hi : Int) } ]

def CSet.cleanSimpleID (c : CSet) : Option CSet :=
  if c = [] then none else
  match simpleIDs c with
  | none => none
  | some ids =>
    match dedupSorted (isort (fun a b => decide (a < b)) ids) with
    | [] => some []
    | x :: rest => some ((idRuns x x rest).map (fun r => idRangeConj r.1 r.2))

/-- position of the absorption decision for a new conjunct `cc` against the kept list -/
def absorb (cc : Conj) : List Conj → Option (List Conj)
  | [] => none                                   -- not absorbed: caller appends
  | cc2 :: rest =>
    if cc2 = cc then some (cc2 :: rest)
    else
      let anded := Conj.clean (Conj.and cc cc2)
      if anded = cc then some (cc2 :: rest)      -- cc implies cc2: drop cc
      else if anded = cc2 then some (cc :: rest) -- cc2 implies cc: replace
      else (absorb cc rest).map (cc2 :: ·)

def cleanLoop : List Conj → List Conj → List Conj
  | new, [] => new
  | new, cc :: rest =>
    let cc := Conj.clean cc
    if Conj.isImpossible cc then cleanLoop new rest
    else match absorb cc new with
      | some new' => cleanLoop new' rest
      | none => cleanLoop (new ++ [cc]) rest

def CSet.Clean (c : CSet) : CSet :=
  match CSet.cleanSimpleID c with
  | some r => r
  | none =>
    let new := cleanLoop [] c
    if new = [] ∧ c ≠ [] then [impossibleConj] else new

end Pk.Query
