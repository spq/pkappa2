/-
  Query model, part 5: semantics.

  * `Stream` / `Env`: what the engine can observe of a stream (internal/index/search.go:141-742,
    documented meaning of every condition type in conditions.go:60-108), `Env` maps a sub-query
    name to the stream bound to it (`""` = the stream under test);
  * `evalCond / evalConj / evalSet / evalParsed`: meaning of normalised conditions;
  * `evalTerm / evalExpr`: meaning of the *surface* expression, written from the help text
    (web/src/components/Home.vue): AND/OR/NOT are Boolean, a term denotes the disjunction over its
    value list (and over client/server for the `port`/`host`/`bytes`/`data` shorthands), a range is
    a pair of optional bounds.  `evalExpr` does not mention conjuncts, DNF or inversion of
    conditions: it is the independent side of `normalise_sound_partial`.
-/
import Pk.Model.Query.Translate

namespace Pk.Query

structure Stream where
  id : Nat
  cport : Nat
  sport : Nat
  cbytes : Nat
  sbytes : Nat
  chost : List Nat
  shost : List Nat
  flags : Nat
  ftime : Int            -- ns relative to the query's reference time
  ltime : Int
  tagMatch : String → Bool
  tagUncertain : String → Bool
  /-- deterministic payload oracle: leftmost-first match of an element from a position -/
  step : DataEl → Nat → Option Nat

abbrev Env := String → Stream

/-! ### conditions -/

def tagBit (m u : Bool) : Nat :=
  if u then (if m then accUncertainMatching else accUncertainFailing)
  else (if m then accMatching else accFailing)

def evalTag (c : TagC) (ρ : Env) : Bool :=
  (c.acc &&& tagBit ((ρ c.sq).tagMatch c.name) ((ρ c.sq).tagUncertain c.name)) != 0

def xorFlags (ρ : Env) (sqs : List String) : Nat :=
  sqs.foldl (fun x s => x ^^^ (ρ s).flags) 0

def evalFlag (c : FlagC) (ρ : Env) : Bool :=
  ((xorFlags ρ c.sqs ^^^ c.value) &&& c.mask) != 0

def srcHost (ρ : Env) (s : HostSrc) : List Nat :=
  if s.server then (ρ s.sq).shost else (ρ s.sq).chost

def xorBytes : List Nat → List Nat → List Nat
  | a :: as, b :: bs => (a ^^^ b) :: xorBytes as bs
  | _, _ => []

/-- operands of a host comparison: the constant (when present) and the addressed stream hosts -/
def hostOperands (c : HostC) (ρ : Env) : List (List Nat) :=
  (if c.host = [] then [] else [c.host]) ++ c.srcs.map (srcHost ρ)

/-- address families must agree (otherwise `Invert` decides, search.go:343-347, 376-380); then the
    masked xor of all operands is zero (xor `Invert`) -/
def evalHost (c : HostC) (ρ : Env) : Bool :=
  match hostOperands c ρ with
  | [] => !c.inv
  | h0 :: rest =>
    if rest.all (fun h => h.length = h0.length) then
      let x := rest.foldl xorBytes h0
      let m := if h0.length = 16 then c.m6 else c.m4
      ((andBytes x m).all (· = 0)) != c.inv
    else c.inv

def numVar (s : Stream) (ty : NumType) : Int :=
  if ty = NumType.id then s.id
  else if ty = NumType.cbytes then s.cbytes
  else if ty = NumType.sbytes then s.sbytes
  else if ty = NumType.cport then s.cport
  else if ty = NumType.sport then s.sport
  else 0

def numSumVal (ρ : Env) (sum : List NumSummand) : Int :=
  (sum.map (fun s => s.factor * numVar (ρ s.sq) s.ty)).sum

def evalNum (c : NumC) (ρ : Env) : Bool := decide (c.n + numSumVal ρ c.sum ≥ 0)

def timeSumVal (ρ : Env) (sum : List TimeSummand) : Int :=
  (sum.map (fun s => s.f * (ρ s.sq).ftime + s.l * (ρ s.sq).ltime)).sum

def evalTime (c : TimeC) (ρ : Env) : Bool := decide (c.dur + timeSumVal ρ c.sum ≥ 0)

/-- `e1 > e2 > … > en` from position `p`; with `inv` the last element must *fail* after the others
    succeeded -/
def chain (ρ : Env) (inv : Bool) : List DataEl → Nat → Bool
  | [], _ => !inv
  | [e], p => ((ρ e.sq).step e p).isSome != inv
  | e :: es, p =>
    match (ρ e.sq).step e p with
    | none => false
    | some p' => chain ρ inv es p'

def evalData (c : DataC) (ρ : Env) : Bool := chain ρ c.inv c.els 0

def evalCond (c : Cond) (ρ : Env) : Bool :=
  match c with
  | .tag c => evalTag c ρ
  | .flag c => evalFlag c ρ
  | .host c => evalHost c ρ
  | .time c => evalTime c ρ
  | .num c => evalNum c ρ
  | .data c => evalData c ρ
  | .impossible => false

def evalConj (c : Conj) (ρ : Env) : Bool := c.all (fun x => evalCond x ρ)
def evalSet (cs : CSet) (ρ : Env) : Bool := cs.any (fun c => evalConj c ρ)

/-- the set-level value of a translation result: nil ("no condition") is true -/
def evalGSet (g : GSet) (ρ : Env) : Bool :=
  match g with
  | none => true
  | some cs => evalSet cs ρ

def evalParsed (p : Parsed) (ρ : Env) : Bool :=
  match p with
  | .nothing => false
  | .set cs => evalSet cs ρ

/-- environments the engine can produce: first packet not after last packet; both hosts of a
    stream in the same family (4 or 16 bytes) -/
def Env.WF (ρ : Env) : Prop :=
  ∀ sq, (ρ sq).ftime ≤ (ρ sq).ltime ∧ (ρ sq).chost.length = (ρ sq).shost.length ∧
    ((ρ sq).chost.length = 4 ∨ (ρ sq).chost.length = 16)

/-! ### surface expressions -/

def evalTagTerm (t : Term) (names : List String) (ρ : Env) : Bool :=
  names.any (fun v => (ρ t.sq).tagMatch (t.key ++ "/" ++ v.trimAscii.copy))

def evalProto (t : Term) (ρ : Env) : ProtoEntry → Bool
  | .token tok =>
    match protoValue tok with
    | some f => ((ρ t.sq).flags &&& 3) = f
    | none => false
  | .var v => ((ρ t.sq).flags &&& 3) = ((ρ v.sub).flags &&& 3)

def maskedEq (a b m : List Nat) : Bool :=
  a.length = b.length ∧ (andBytes (xorBytes a b) m).all (· = 0)

def evalHostEntry (t : Term) (server : Bool) (ρ : Env) (e : HostEntry) : Bool :=
  match hostMasks e.masks with
  | .ok (m4, m6) =>
    let mine := srcHost ρ { sq := t.sq, server := server }
    let other := match e.var with
      | none => normHost e.host
      | some v => srcHost ρ { sq := v.sub, server := decide (v.name = "shost") }
    maskedEq mine other (if mine.length = 16 then m6 else m4)
  | _ => false

def numPartVal (ρ : Env) : NumPart → Int
  | .num ops n => opsFactor ops * (n : Int)
  | .var ops v =>
    match numVarType v.name with
    | some ty => opsFactor ops * numVar (ρ v.sub) ty
    | none => 0

def numPartsVal (ρ : Env) (ps : List NumPart) : Int := (ps.map (numPartVal ρ)).sum

/-- `lo:hi`, either side may be empty (open); a single value is `v:v` -/
def inRange (x : Int) (lo hi : Option Int) : Bool :=
  (match lo with | some l => decide (l ≤ x) | none => true) &&
  (match hi with | some h => decide (x ≤ h) | none => true)

def optVal {α : Type} (val : List α → Int) (ps : List α) : Option Int :=
  if ps.isEmpty then none else some (val ps)

def evalNumEntry (t : Term) (ρ : Env) (ty : NumType) (ranges : List (List NumPart)) : Bool :=
  match ranges with
  | [r] => inRange (numVar (ρ t.sq) ty) (optVal (numPartsVal ρ) r) (optVal (numPartsVal ρ) r)
  | [r0, r1] => inRange (numVar (ρ t.sq) ty) (optVal (numPartsVal ρ) r0) (optVal (numPartsVal ρ) r1)
  | _ => false

def timePartVal (ref : Int) (ρ : Env) : TimePart → Int
  | .dur ops ns => opsFactor ops * ns
  | .abs ops c => opsFactor ops * (civilNs c - ref)
  | .var ops v =>
    if v.name = "ftime" then opsFactor ops * (ρ v.sub).ftime
    else if v.name = "ltime" then opsFactor ops * (ρ v.sub).ltime
    else 0

def timePartsVal (ref : Int) (ρ : Env) (ps : List TimePart) : Int := (ps.map (timePartVal ref ρ)).sum

/-- `ftime`/`ltime`: that packet time lies in the range; `time`: the stream's life span
    [ftime, ltime] meets the range (last packet not before the lower, first not after the upper bound) -/
def evalTimeEntry (t : Term) (ref : Int) (ρ : Env) (ranges : List (List TimePart)) : Bool :=
  let s := ρ t.sq
  let go := fun (lo hi : Option Int) =>
    if t.key = "ftime" then inRange s.ftime lo hi
    else if t.key = "ltime" then inRange s.ltime lo hi
    else inRange s.ltime lo none && inRange s.ftime none hi
  match ranges with
  | [r] => go (optVal (timePartsVal ref ρ) r) (optVal (timePartsVal ref ρ) r)
  | [r0, r1] => go (optVal (timePartsVal ref ρ) r0) (optVal (timePartsVal ref ρ) r1)
  | _ => false

def evalTerm (ref : Int) (t : Term) (ρ : Env) : Bool :=
  match t.value with
  | .tags names => evalTagTerm t names ρ
  | .protos l => l.any (evalProto t ρ)
  | .hosts l => (hostTypes t.key).any (fun server => l.any (evalHostEntry t server ρ))
  | .nums l => l.any (fun ranges => (numKeyTypes t.key).any (fun ty => evalNumEntry t ρ ty ranges))
  | .times l => l.any (evalTimeEntry t ref ρ)
  | .data content vars =>
    (dataFlags t.key).any (fun f =>
      ((ρ t.sq).step { sq := t.sq, regex := content, vars := vars, flags := f, conv := t.conv } 0).isSome)
  | .other => true

/-- Boolean meaning of a surface expression.  `seq` (THEN) is given its AND meaning here, which is
    its meaning exactly when at most one operand contains payload filters; the sequencing meaning
    of a THEN node with several operands is `evalExprT` in Pk/Proofs/Query/SetLevel.lean. -/
def evalExpr (ref : Int) (ρ : Env) : Expr → Bool
  | .term t => evalTerm ref t ρ
  | .aux => true
  | .not e => !evalExpr ref ρ e
  | .grp e => evalExpr ref ρ e
  | .and es => evalExprAll ref ρ es
  | .or es => evalExprAny ref ρ es
  | .seq es => evalExprAll ref ρ es
where
  evalExprAll (ref : Int) (ρ : Env) : List Expr → Bool
    | [] => true
    | e :: es => evalExpr ref ρ e && evalExprAll ref ρ es
  evalExprAny (ref : Int) (ρ : Env) : List Expr → Bool
    | [] => false
    | e :: es => evalExpr ref ρ e || evalExprAny ref ρ es

end Pk.Query
